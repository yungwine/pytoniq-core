import TonVerif.Basic
import TonVerif.Sha256
import TonVerif.Spec.Crc
import TonVerif.Spec.Cell
import TonVerif.Generated.Crc
import TonVerif.Model.Crc
import TonVerif.Model.Cell
import TonVerif.Model.PCell
import TonVerif.Model.Builder
import TonVerif.Proofs.Crc
import TonVerif.Proofs.CellSpec
import TonVerif.Proofs.OrdCell
import TonVerif.Properties.C01
import TonVerif.Properties.C02
import TonVerif.Properties.C18
import TonVerif.Spec.TlbPrim
import TonVerif.Spec.TlbVal
import TonVerif.Proofs.Bits
import TonVerif.Proofs.Builder
import TonVerif.Proofs.Slice
import TonVerif.Proofs.Typed
import TonVerif.Properties.C06
import TonVerif.Properties.C07
import TonVerif.Proofs.Snake
import TonVerif.Model.BocParse
import TonVerif.Spec.BocEncode
import TonVerif.Proofs.CrcFlip
import TonVerif.Proofs.BocParse
import TonVerif.Properties.C05
import TonVerif.Model.Proof
import TonVerif.Proofs.Prune
import TonVerif.Proofs.Merkle
import TonVerif.Proofs.Pad
import TonVerif.Proofs.Binding
import TonVerif.Proofs.PruneWF
import TonVerif.Properties.C11
import TonVerif.Spec.Tlb.Message
import TonVerif.Model.Message
import TonVerif.Proofs.MsgBits
import TonVerif.Proofs.Message
import TonVerif.Proofs.MessageRT
import TonVerif.Proofs.MessageRef
import TonVerif.Properties.C15
import TonVerif.Spec.Tlb.Codec
import TonVerif.Spec.Tlb.Block
import TonVerif.Proofs.Codec
import TonVerif.Properties.C16
import TonVerif.Model.Sig
import TonVerif.Proofs.Sig
import TonVerif.Properties.C12
import TonVerif.Model.Adnl
import TonVerif.Proofs.Adnl
import TonVerif.Properties.C20
import TonVerif.Model.Heap
import TonVerif.Proofs.Heap
import TonVerif.Properties.C08
import TonVerif.Model.Base64
import TonVerif.Model.Address
import TonVerif.Properties.C13
import TonVerif.Proofs.Base64
import TonVerif.Proofs.Address
import TonVerif.Spec.Tlb.VmStack
import TonVerif.Model.VmStack
import TonVerif.Proofs.VmStack
import TonVerif.Properties.C17
import TonVerif.Model.Cost
import TonVerif.Proofs.Cost
import TonVerif.Properties.C19
import TonVerif.Spec.Tl
import TonVerif.Model.Tl
import TonVerif.Generated.TlTable
import TonVerif.Proofs.Tl
import TonVerif.Proofs.TlTable
import TonVerif.Properties.C14
import TonVerif.Spec.Hashmap
import TonVerif.Generated.LabelFns
import TonVerif.Model.Hashmap
import TonVerif.Proofs.Hashmap
import TonVerif.Properties.C09
import TonVerif.Properties.C10
import TonVerif.Proofs.VmStackRT
import TonVerif.Proofs.VmStackInv
import TonVerif.Spec.Tlb.Wrappers
import TonVerif.Model.Wrappers
import TonVerif.Proofs.Wrappers
import TonVerif.Model.BocEmit
import TonVerif.Spec.Boc
import TonVerif.Model.BocForms
import TonVerif.Proofs.BocForms
import TonVerif.Proofs.BocEmit
import TonVerif.Proofs.BocOrder
import TonVerif.Proofs.BocOrderAux
import TonVerif.Proofs.BocConform
import TonVerif.Proofs.BocSem
import TonVerif.Proofs.BocSemEval
import TonVerif.Proofs.BocSemTree
import TonVerif.Proofs.BocSemFinal
import TonVerif.Properties.C03
import TonVerif.Properties.C04
import TonVerif.PyInt
import TonVerif.Generated.LevelMask
import TonVerif.Generated.CellArith
import TonVerif.Generated.VarLen
import TonVerif.Generated.Capacity
import TonVerif.Generated.BocWidths
import TonVerif.Proofs.SrcArith
import TonVerif.Proofs.SrcBocWidths
import TonVerif.Proofs.CostTl
import TonVerif.Generated.TlCostTable
import TonVerif.Model.BocEntry
import TonVerif.Proofs.BocRoundTrip
import TonVerif.PyBytes
import TonVerif.Generated.SigCheck
import TonVerif.Generated.ProofChecks
import TonVerif.Proofs.SrcArith2
import TonVerif.Generated.AddrTags
import TonVerif.Proofs.SrcB64
import TonVerif.Generated.DictKey
import TonVerif.Generated.VmStackTests
import TonVerif.Generated.TlFraming
import TonVerif.Proofs.SrcTl
import TonVerif.Generated.MsgLayout
import TonVerif.Model.TlNorm
import TonVerif.Proofs.TlAuto
import TonVerif.Proofs.TlFuel
import TonVerif.Proofs.TlBare
import TonVerif.Proofs.SnakeDepth
import TonVerif.Proofs.TlVec
import TonVerif.Proofs.TlMono
import TonVerif.Model.Locate
import TonVerif.Proofs.Locate
import TonVerif.Proofs.LocateBind
import TonVerif.PyBytes2
import TonVerif.Generated.BocHeader
import TonVerif.Model.BocHeaderView
import TonVerif.Proofs.SrcBytes
import TonVerif.Proofs.BocHeaderPath
import TonVerif.Proofs.SrcBocHeader
import TonVerif.Proofs.SrcBocCell
import TonVerif.Generated.BocCells
import TonVerif.Model.BocCellsView
import TonVerif.Proofs.SrcLoops
import TonVerif.Proofs.SrcBocCells
import TonVerif.Proofs.BocDeserLoops
import TonVerif.Proofs.SrcBocDeser
import TonVerif.PyObj
import TonVerif.Generated.CellCtor
import TonVerif.Proofs.SrcObj
import TonVerif.Proofs.SrcCellCtor
import TonVerif.Model.CellCtorView
import TonVerif.Generated.SigFull
import TonVerif.Proofs.SrcFunc
import TonVerif.Proofs.SrcSig
import TonVerif.Generated.ProofFull
import TonVerif.Proofs.SrcProof
import TonVerif.PyStr
import TonVerif.Generated.AddrFull
import TonVerif.Proofs.SrcAddr
import TonVerif.PyHm
import TonVerif.Generated.HashmapSrc
import TonVerif.Proofs.SrcHashmap
import TonVerif.PyTl
import TonVerif.Generated.TlEngine
import TonVerif.Proofs.SrcTlEngine
import TonVerif.PyDict
import TonVerif.Generated.BocEmitSrc
import TonVerif.Proofs.SrcDict
import TonVerif.Proofs.SrcBocEmit
import TonVerif.PyTlb
import TonVerif.Generated.VmStackSrc
import TonVerif.Proofs.SrcSOp
import TonVerif.Proofs.SrcVmStack
import TonVerif.Proofs.SrcVmStackDe
import TonVerif.Generated.MsgSrc
import TonVerif.Proofs.SrcMsg
import TonVerif.Model.TlbRd
import TonVerif.Spec.Tlb.PyView
import TonVerif.Generated.TlbParsers
import TonVerif.Proofs.SrcTlb
import TonVerif.Proofs.SrcTlbParsers
import TonVerif.Drv.TlbSrc
import TonVerif.PyBits
import TonVerif.Generated.BuilderOps
import TonVerif.Generated.SliceOps
import TonVerif.Proofs.SrcBuilder
import TonVerif.Proofs.SrcSlice
import TonVerif.Proofs.SrcTyped
import TonVerif.PyCrypto
import TonVerif.Generated.AdnlSrc
import TonVerif.Proofs.SrcAdnl
import TonVerif.Generated.MnemonicNew
import TonVerif.PyHeap
import TonVerif.Generated.HeapSrc
import TonVerif.Proofs.SrcHeap
import TonVerif.Proofs.SrcOrderAny
import TonVerif.Proofs.SrcBocAny
import TonVerif.Proofs.SrcBocOrderEq
import TonVerif.Proofs.BocRoundTripAny
import TonVerif.Properties.C04Model
import TonVerif.Model.TlbRdTx
import TonVerif.Spec.Tlb.PyViewTx
import TonVerif.Generated.TlbParsersTx
import TonVerif.Proofs.SrcTlbTx
import TonVerif.Proofs.SrcTlbParsersTx
import TonVerif.Drv.TlbSrcTx
import TonVerif.Proofs.SrcMsgSer
import TonVerif.Generated.WrapSrc
import TonVerif.Proofs.SrcWrap
import TonVerif.Proofs.SrcHashmapSer
import TonVerif.PyGlue
import TonVerif.Generated.HashmapGlue
import TonVerif.Proofs.SrcHashmapGlue
import TonVerif.PyCnt
import TonVerif.Generated.HashmapCnt
import TonVerif.Proofs.SrcHashmapCnt
import TonVerif.PyW
import TonVerif.Generated.BocCnt
import TonVerif.Proofs.SrcW
import TonVerif.Proofs.SrcBocCnt
import TonVerif.Proofs.SrcTlParser
import TonVerif.Generated.SnakeOps
import TonVerif.Proofs.SrcSnake
import TonVerif.Generated.CellCtorCnt
import TonVerif.Proofs.SrcCtorCnt
import TonVerif.Generated.CellEntry
import TonVerif.Proofs.SrcCellEntry
import TonVerif.PyEntry
import TonVerif.Generated.EntrySrc
import TonVerif.Proofs.SrcEntry
import TonVerif.Proofs.SrcLoadAddress
import TonVerif.Properties.C16Addr
import TonVerif.Generated.ArgForms
import TonVerif.Proofs.SrcForms
import TonVerif.Generated.BocEmitCnt
import TonVerif.Proofs.SrcEmitCnt
import TonVerif.Properties.C19Tl
import TonVerif.PyRand
import TonVerif.Proofs.SrcAdnlLoop
import TonVerif.Spec.Tlb.PyViewBlk
import TonVerif.Generated.TlbParsersBlk
import TonVerif.Proofs.SrcTlbBlk
import TonVerif.Proofs.SrcTlbParsersBlk
import TonVerif.Drv.TlbSrcBlk
import TonVerif.Model.TlbRdBlk
import TonVerif.Generated.LocateSrc
import TonVerif.Model.LocateSrc
import TonVerif.Drv.LocateSrc
import TonVerif.Properties.C06NonCanon
import TonVerif.Properties.C16NonCanon
import TonVerif.Proofs.CrcFramed
import TonVerif.Proofs.SrcLocate
import TonVerif.Proofs.SrcLocateLabel
import TonVerif.Proofs.SrcLocateWalk
import TonVerif.Proofs.CellTwins
import TonVerif.Proofs.SrcHeapOps
import TonVerif.Properties.C08Typed
import TonVerif.Proofs.SrcLocateDict
import TonVerif.Proofs.SrcLocateAccounts
import TonVerif.Proofs.SrcLocateHeader
import TonVerif.Properties.C19Hash
import TonVerif.Proofs.ProofAccept
import TonVerif.Proofs.SrcCellArith
