/-
C16, NON-CANONICAL `VarUInteger` / `Grams` encodings.

block.tlb: `var_uint$_ {n:#} len:(#< n) value:(uint (len * 8)) = VarUInteger n; nanograms$_ amount:(VarUInteger 16) = Grams;`
`len` is a field of its own: every `len < n` with `value < 2^(8·len)` is a valid serialisation of `value`.  The spec ENCODER
(`varUInt k`.enc, like every value-driven encoder) writes the minimal `len`; the round-trip law `Lawful (varUInt k)` therefore
speaks about minimal encodings only.  The spec DECODER accepts every legal `len`; this file proves that it reads each of them
as the value and consumes exactly the `len` field and `len` bytes - the statement the harness relies on when it rewrites the
VarUIntegers of a spec-encoded value with non-minimal lengths (harness/gen/noncanon.py) and asks the library parsers for the
same fields and the same remainder.
-/
import TonVerif.Proofs.Codec

namespace TonVerif.Tlb
open TonVerif

/-- EVERY legal encoding of a `VarUInteger k`: the length field (`bitLen (k-1)` bits) holding any `len < k`, then `v` as an
unsigned `8·len`-bit number (`v < 2^(8·len)`, `len` need not be minimal), followed by ANY continuation bits and references `c`:
the spec decoder returns `v` and leaves exactly `c`. -/
theorem c16_var_uint_any_len (k len v : Nat) (hlen : len < k) (hv : v < 2 ^ (8 * len)) (c : Frag) :
    (varUInt k).dec (Frag.ofBits (natToBits (bitLen (k - 1)) len ++ natToBits (8 * len) v) ++ c) = some (.int (v : Int), c) :=
  read_varUInt k len v hlen hv c

/-- `Grams` = `VarUInteger 16`: any `len ≤ 15` that holds the amount. -/
theorem c16_grams_any_len (len v : Nat) (hlen : len < 16) (hv : v < 2 ^ (8 * len)) (c : Frag) :
    grams.dec (Frag.ofBits (natToBits 4 len ++ natToBits (8 * len) v) ++ c) = some (.int (v : Int), c) := by
  have h := c16_var_uint_any_len 16 len v hlen hv c
  have hb : bitLen (16 - 1) = 4 := by decide
  rw [hb] at h
  exact h

/-- the decoder is STRICT about the schema's bound: `len ≥ k` (e.g. `len = 7` in a `VarUInteger 7`, whose length field could
hold it) is refused, whatever follows. -/
theorem c16_var_uint_len_bound (k len : Nat) (hk : k ≤ len) (hw : len < 2 ^ bitLen (k - 1)) (rest : Bits) (refs : List Cell) :
    (varUInt k).dec ⟨natToBits (bitLen (k - 1)) len ++ rest, refs⟩ = none := by
  rw [← Frag.ofBits_app _ ⟨rest, refs⟩, varUInt_dec, readBits_app _ _ (natToBits_length _ len), Option.bind_some]
  simp only [natOfBits_natToBits _ _ hw]
  exact if_pos hk

/-- non-vacuity: 5 nanograms with `len = 3` followed by the bit `1` and a reference; the minimal encoding has `len = 1`
(what the spec encoder writes), so this is a different bit string denoting the same value. -/
example :
    grams.dec (Frag.ofBits (natToBits 4 3 ++ natToBits (8 * 3) 5) ++ ⟨[true], [Cell.mk false [] []]⟩)
      = some (.int ((5 : Nat) : Int), ⟨[true], [Cell.mk false [] []]⟩) ∧
    (grams.enc (.int 5)).map (·.bits) = some (natToBits 4 1 ++ natToBits 8 5) ∧
    (varUInt 7).dec ⟨natToBits 3 7 ++ List.replicate 56 false, []⟩ = none :=
  ⟨c16_grams_any_len 3 5 (by omega) (by omega) _, by decide, by decide⟩

end TonVerif.Tlb
