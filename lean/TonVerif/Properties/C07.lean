/-
C07 — cell capacity, value ranges and read bounds are enforced.

Same model and spec as C06 (`Model/Builder.lean`, `Spec/TlbVal.lean`).  `Inv b` := `b` holds at most
1023 data bits and at most 4 references.  `Op` = every builder operation: the typed stores (`TVal`),
`store_cell`, `store_slice` (with the slice's REMAINING bits / refs) and `store_snake_bytes`;
`Op.run op b` = (builder after the call — partial writes of a raising call included, returned normally?).
-/
import TonVerif.Proofs.Typed
import TonVerif.Proofs.OrdCell
import TonVerif.Proofs.SrcArith
import TonVerif.Generated.Capacity
import TonVerif.Proofs.SrcTyped
import TonVerif.Proofs.SrcSnake
import TonVerif.Proofs.SrcForms

namespace TonVerif.Properties.C07
open TonVerif TonVerif.Model TonVerif.Spec.Tlb TonVerif.Proofs.Builder TonVerif.Proofs.Slice
  TonVerif.Proofs.Typed TonVerif.Proofs.OrdCell
variable {R : Type}

/-- capacity invariant: the empty builder is within capacity; EVERY operation — whether it returns
normally or raises after a partial write — keeps the builder within 1023 bits / 4 refs; hence so does
every finite history of operations (induction over the list, `List.foldl`). -/
theorem c07_invariant :
    Proofs.Builder.Inv (Builder.empty : Builder R) ∧
    (∀ (op : Op R) (b : Builder R), Proofs.Builder.Inv b → Proofs.Builder.Inv (op.run b).1) ∧
    (∀ (ops : List (Op R)), Proofs.Builder.Inv (runAll ops (Builder.empty : Builder R))) :=
  ⟨inv_empty, fun op b hb => safe_run op b hb, fun ops => inv_runAll ops _ inv_empty⟩

/-- spelled out: after any history the builder holds at most 1023 bits and 4 references. -/
theorem c07_history_bounds (ops : List (Op R)) :
    (runAll ops (Builder.empty : Builder R)).bits.length ≤ 1023 ∧
    (runAll ops (Builder.empty : Builder R)).refs.length ≤ 4 :=
  inv_runAll ops _ inv_empty

/-- `end_cell` on any within-capacity builder whose references are ordinary cell trees: the cell is
produced exactly when its depth is at most 1023 (`Cell.info` = the constructor's hash/depth
computation of C01, `none` = raises).  With the capacity bounds `hb` (which `c07_history_bounds` gives for every history)
a produced cell thus has at most 1023 bits, 4 refs and depth 1023. -/
theorem c07_end_cell_depth (H : Bytes → Bytes) (b : Builder Cell) (hb : Proofs.Builder.Inv b) (hr : OrdWFs b.refs) :
    (Cell.info H (.mk (-1) b.bits b.refs)).isSome ↔ ordDepth (.mk (-1) b.bits b.refs) ≤ 1023 := by
  have wf : OrdWF (.mk (-1) b.bits b.refs) := by
    unfold OrdWF; exact ⟨rfl, hb.1, hb.2, hr⟩
  constructor
  · intro h
    by_cases hd : ordDepth (.mk (-1) b.bits b.refs) ≤ 1023
    · exact hd
    · have := ord_too_deep H _ wf (by omega)
      simp [this] at h
  · intro hd
    obtain ⟨i, h1, _⟩ := ord_info H _ wf hd
    simp [h1]

/-- refusal, both directions, for every typed store: on a within-capacity builder the call raises
EXACTLY when the value is out of range for its stated width or its encoding does not fit the remaining
bits / references. (⇒: a store that fits is never refused; ⇐: overflow / out-of-range is always refused.) -/
theorem c07_refuse_iff (tv : TVal R) (b : Builder R) (hb : Proofs.Builder.Inv b) :
    (tv.store b).2 = false ↔ ¬ Fits tv b := by
  have := ((store_spec tv).1 b hb).1
  unfold Fits
  rw [← this]
  cases (tv.store b).2 <;> simp

/-- the same for the composite stores: `store_cell(c)` and `store_slice(s)` raise exactly when the
cell's bits / refs — for a slice its REMAINING bits / refs — do not fit. -/
theorem c07_refuse_iff_composite (bits : Bits) (refs : List R) (b : Builder R) (hb : Proofs.Builder.Inv b) :
    ((BOp.storeCell bits refs b).2 = false ↔ ¬ (b.bits.length + bits.length ≤ 1023 ∧ b.refs.length + refs.length ≤ 4)) ∧
    ((BOp.storeSlice bits refs b).2 = false ↔ ¬ (b.bits.length + bits.length ≤ 1023 ∧ b.refs.length + refs.length ≤ 4)) := by
  have h1 := ((opSpec_storeCell bits refs).1 b hb).1
  have h2 := ((opSpec_storeSlice bits refs).1 b hb).1
  simp only [true_and] at h1 h2
  constructor
  · rw [← h1]; cases (BOp.storeCell bits refs b).2 <;> simp
  · rw [← h2]; cases (BOp.storeSlice bits refs b).2 <;> simp

/-- and when they do not raise, they append exactly those bits and references. -/
theorem c07_composite_exact (bits : Bits) (refs : List R) (b : Builder R) (hb : Proofs.Builder.Inv b) :
    ((BOp.storeCell bits refs b).2 = true → (BOp.storeCell bits refs b).1 = ⟨b.bits ++ bits, b.refs ++ refs⟩) ∧
    ((BOp.storeSlice bits refs b).2 = true → (BOp.storeSlice bits refs b).1 = ⟨b.bits ++ bits, b.refs ++ refs⟩) :=
  ⟨((opSpec_storeCell bits refs).1 b hb).2, ((opSpec_storeSlice bits refs).1 b hb).2⟩

/-- read bounds for the primitive consuming reads (`load_bits`, `load_uint`, `load_int`, `load_bytes`,
`skip_bits`, `load_bit`, `load_ref`): asking for more than remains raises and leaves the slice
unchanged; otherwise the result is exactly the next bits (as a bit string / the number they denote /
the bytes they form) and the slice advances by exactly that many bits.  (Width 0 of `load_uint` /
`load_int` raises: `ba2int` of an empty string.) -/
theorem c07_read_bounds (n : Nat) (bits : Bits) (refs : List R) :
    (SOp.loadBits n ⟨bits, refs⟩ = if bits.length < n then (⟨bits, refs⟩, none)
        else (⟨bits.drop n, refs⟩, some (bits.take n))) ∧
    (SOp.loadUint n ⟨bits, refs⟩ = if n = 0 ∨ bits.length < n then (⟨bits, refs⟩, none)
        else (⟨bits.drop n, refs⟩, some (bitsVal (bits.take n) : Int))) ∧
    (SOp.loadInt n ⟨bits, refs⟩ = if n = 0 ∨ bits.length < n then (⟨bits, refs⟩, none)
        else (⟨bits.drop n, refs⟩, some (bitsValS (bits.take n)))) ∧
    (SOp.loadBytes n ⟨bits, refs⟩ = if bits.length < n * 8 then (⟨bits, refs⟩, none)
        else (⟨bits.drop (n * 8), refs⟩, some (bitsToBytes (bits.take (n * 8))))) ∧
    (SOp.skipBits n ⟨bits, refs⟩ = if bits.length < n then (⟨bits, refs⟩, none)
        else (⟨bits.drop n, refs⟩, some ())) ∧
    (SOp.loadBit ⟨bits, refs⟩ = match bits with
        | [] => (⟨bits, refs⟩, none) | b :: rest => (⟨rest, refs⟩, some b)) ∧
    (SOp.loadRef ⟨bits, refs⟩ = match refs with
        | [] => (⟨bits, refs⟩, none) | r :: rest => (⟨bits, rest⟩, some r)) := by
  refine ⟨loadBits_eq n bits refs, ?_, ?_, loadBytes_eq n bits refs, skipBits_eq n bits refs, ?_, ?_⟩
  · rw [loadUint_eq, TonVerif.Proofs.Bits.natOfBits_eq_bitsVal]
  · rw [loadInt_eq]
    split
    · rfl
    · rename_i hc
      rw [ba2intS_eq_bitsValS]
      exact take_isEmpty_false (by omega) (by omega)
  · cases bits <;> rfl
  · cases refs <;> rfl

/-- every typed read (the composite ones included: var-ints, coins, maybe-refs, dicts, addresses,
strings) — whether it returns or raises — leaves a SUFFIX of the slice it was given: it never re-reads,
reorders or invents bits or references, and (being a sequence of the primitive reads above) raises
as soon as one of its parts needs more than remains. -/
theorem c07_read_suffix (k : Kind) (s : Slice R) :
    ∃ pb pr, s.bits = pb ++ (k.load s).1.bits ∧ s.refs = pr ++ (k.load s).1.refs :=
  mono_load k s

/-! ### non-vacuity -/

/-- a builder at 1020 bits / 4 refs: `store_uint(5, 3)` fits and is accepted, `store_uint(5, 4)`
overflows, `store_uint(8, 3)` is out of range, `store_ref` has no room: the right-hand sides of
`c07_refuse_iff` take both truth values. -/
example : let b : Builder Nat := ⟨List.replicate 1020 false, [1, 2, 3, 4]⟩
    Proofs.Builder.Inv b ∧ Fits (.uint 3 5) b ∧ ¬ Fits (.uint 4 5) b ∧ ¬ Fits (.uint 3 8) b ∧ ¬ Fits (.ref 9) b := by
  simp only [Proofs.Builder.Inv, Fits, InRange, FitsUint, enc, refsOf, List.length_replicate,
    TonVerif.Proofs.Bits.uintBits_length, List.length_cons, List.length_nil]
  omega

/-- a history with failing and succeeding operations (hypothesis-free theorem, shown on an instance) -/
example : (runAll [Op.val (.uint 8 300), Op.val (.uint 8 200), Op.cell [true] [1, 2, 3, 4, 5], Op.val (.ref 1)]
    (Builder.empty : Builder Nat)).refs.length ≤ 4 := (c07_history_bounds _).2

/-! ## Source-regenerated arithmetic (`Generated/Capacity.lean`: re-translated from tvm_bitarray.py / builder.py on every run)

`Generated.bitsOverflow / bitsUnderflow` are `TvmBitarray.check_overflow / check_underflow` read as "raises";
`sizeTooLarge` is the constructor's size test; `refsFull`, `cellRefsOverflow`, `sliceRefsOverflow` are the reference
capacity tests of `Builder.store_ref / store_cell / store_slice`. -/
section Src
open TonVerif.Proofs.SrcArith
set_option linter.unusedSimpArgs false

/-- data capacity: `check_overflow` raises exactly when the bits would exceed 1023 — so an accepted write keeps
`used + length ≤ 1023` (the bound of `c07_invariant`) and a refused one would have broken it. -/
theorem c07_src_bits_capacity (used length : Nat) :
    Generated.bitsOverflow_sideOk used length ∧
    (Generated.bitsOverflow used length = false ↔ used + length ≤ 1023) ∧
    Generated.bitsOverflow used length = decide (used + length > 1023) := by
  refine ⟨by simp only [Generated.bitsOverflow_sideOk]; src_arith, ?_, ?_⟩
  · simp only [Generated.bitsOverflow, decide_eq_false_iff_not]; split <;> simp <;> omega
  · simp only [Generated.bitsOverflow, decide_eq_decide]; split <;> simp <;> omega

/-- reference capacity: `store_ref` raises exactly at 4 references, `store_cell` / `store_slice` exactly when the total
would exceed 4. -/
theorem c07_src_refs_capacity (refs more : Nat) :
    (Generated.refsFull_sideOk refs ∧ Generated.cellRefsOverflow_sideOk refs more ∧ Generated.sliceRefsOverflow_sideOk refs more) ∧
    (Generated.refsFull refs = false ↔ refs + 1 ≤ 4) ∧
    (Generated.cellRefsOverflow refs more = false ↔ refs + more ≤ 4) ∧
    (Generated.sliceRefsOverflow refs more = false ↔ refs + more ≤ 4) := by
  refine ⟨⟨?_, ?_, ?_⟩, ?_, ?_, ?_⟩
  · simp only [Generated.refsFull_sideOk]; src_arith
  · simp only [Generated.cellRefsOverflow_sideOk]; src_arith
  · simp only [Generated.sliceRefsOverflow_sideOk]; src_arith
  · simp only [Generated.refsFull, decide_eq_false_iff_not] <;> omega
  · simp only [Generated.cellRefsOverflow, decide_eq_false_iff_not] <;> omega
  · simp only [Generated.sliceRefsOverflow, decide_eq_false_iff_not] <;> omega

/-- read bound and constructor bound: `check_underflow` raises exactly when more bits are requested than remain;
`TvmBitarray(size)` refuses exactly sizes above 1023. -/
theorem c07_src_read_bound (remaining length size : Nat) :
    (Generated.bitsUnderflow_sideOk remaining length ∧ Generated.sizeTooLarge_sideOk size) ∧
    (Generated.bitsUnderflow remaining length = false ↔ length ≤ remaining) ∧
    (Generated.sizeTooLarge size = false ↔ size ≤ 1023) := by
  refine ⟨⟨?_, ?_⟩, ?_, ?_⟩
  · simp only [Generated.bitsUnderflow_sideOk]; src_arith
  · simp only [Generated.sizeTooLarge_sideOk]; src_arith
  · simp only [Generated.bitsUnderflow, decide_eq_false_iff_not]; split <;> simp <;> omega
  · simp only [Generated.sizeTooLarge, decide_eq_false_iff_not] <;> omega

/-- the hand model's capacity tests (what `c07_invariant`, `c07_refuse_iff`, `c07_read_bounds` are proved about) are the
source's tests: `extend`, `storeRef`, `storeCell`, `storeSlice`, `delBits`. -/
theorem c07_src_model_tests (xs : Bits) (r : R) (crefs : List R) (n : Nat) (b : Builder R) (s : Slice R) :
    BOp.extend xs b = (if Generated.bitsOverflow b.bits.length xs.length then (b, false)
                       else ({ b with bits := b.bits ++ xs }, true)) ∧
    BOp.storeRef r b = (if Generated.refsFull b.refs.length then (b, false) else ({ b with refs := b.refs ++ [r] }, true)) ∧
    (Generated.cellRefsOverflow b.refs.length crefs.length = true → BOp.storeCell xs crefs b = (b, false)) ∧
    (Generated.sliceRefsOverflow b.refs.length crefs.length = true → BOp.storeSlice xs crefs b = (b, false)) ∧
    (n ≠ 0 → Generated.bitsUnderflow s.bits.length n = true → SOp.delBits n s = (s, none)) := by
  have h1 := (c07_src_bits_capacity b.bits.length xs.length).2.2
  refine ⟨?_, ?_, ?_, ?_, ?_⟩
  · rw [h1]; unfold BOp.extend; by_cases h : b.bits.length + xs.length > 1023 <;> simp [h]
  · have : Generated.refsFull b.refs.length = decide (b.refs.length ≥ 4) := by
      simp only [Generated.refsFull, decide_eq_decide] <;> omega
    rw [this]; unfold BOp.storeRef; by_cases h : b.refs.length ≥ 4 <;> simp [h]
  · intro h
    have : b.refs.length + crefs.length > 4 := by
      have := (c07_src_refs_capacity b.refs.length crefs.length).2.2.1; simp [h] at this; omega
    simp [BOp.storeCell, this]
  · intro h
    have : b.refs.length + crefs.length > 4 := by
      have := (c07_src_refs_capacity b.refs.length crefs.length).2.2.2; simp [h] at this; omega
    simp [BOp.storeSlice, this]
  · intro hn h
    have : s.bits.length < n := by
      have := (c07_src_read_bound s.bits.length n 0).2.1; simp [h] at this; omega
    simp [SOp.delBits, hn, this]

/-- concrete values of the regenerated tests at the capacity boundary (hypotheses of `c07_src_model_tests` are met: a full
builder, an over-read). -/
example : Generated.bitsOverflow 1000 23 = false ∧ Generated.bitsOverflow 1000 24 = true ∧ Generated.refsFull 3 = false ∧
    Generated.refsFull 4 = true ∧ Generated.cellRefsOverflow 2 3 = true ∧ Generated.bitsUnderflow 3 4 = true := by decide

end Src

/-! ## Source-regenerated METHODS (`Generated/BuilderOps.lean`, `Generated/SliceOps.lean`: the whole `store_*` / `load_*` methods
and the `TvmBitarray` methods `extend / append / frombytes / check_overflow / check_underflow / __delitem__` they call,
re-translated from the source on every run; see `C06.c06_src_store`, `c06_src_load` for the ties to the hand model) -/
section SrcMethods
open TonVerif.Proofs.SrcBuilder TonVerif.Proofs.SrcSlice TonVerif.Proofs.SrcTyped

/-- `c07_invariant` for the regenerated methods: every regenerated builder operation (the typed stores, `store_cell`,
`store_slice`; `MkOk`: see `C06`) maps a builder within capacity to a builder within capacity — whether it returns or raises after a partial
write; hence so does every finite history of them. -/
theorem c07_src_invariant :
    ∀ (mk : Bits → List R → Option (Py.CellV R)), MkOk mk →
    (∀ (op : Op R) (f : Builder R → Builder R × Option Unit), srcOp? mk op = some f →
        ∀ b, Proofs.Builder.Inv b → Proofs.Builder.Inv (f b).1) ∧
    (∀ (fs : List (Builder R → Builder R × Option Unit)), (∀ f ∈ fs, ∃ op : Op R, srcOp? mk op = some f) →
        Proofs.Builder.Inv (fs.foldl (fun b f => (f b).1) (Builder.empty : Builder R))) := by
  intro mk hmk
  have step : ∀ (op : Op R) (f : Builder R → Builder R × Option Unit), srcOp? mk op = some f →
      ∀ b, Proofs.Builder.Inv b → Proofs.Builder.Inv (f b).1 := by
    intro op f hf b hb
    rw [srcOp_eq mk hmk op f hf b]
    exact safe_run op b hb
  refine ⟨step, ?_⟩
  intro fs
  suffices h : ∀ (b : Builder R), Proofs.Builder.Inv b → (∀ f ∈ fs, ∃ op : Op R, srcOp? mk op = some f) →
      Proofs.Builder.Inv (fs.foldl (fun b f => (f b).1) b) from h _ inv_empty
  induction fs with
  | nil => intro b hb _; exact hb
  | cons f rest ih =>
    intro b hb hall
    obtain ⟨op, hop⟩ := hall f (List.mem_cons_self)
    exact ih _ (step op f hop b hb) (fun g hg => hall g (List.mem_cons_of_mem _ hg))

/-- `c07_refuse_iff` for the regenerated methods: on a within-capacity builder a regenerated typed store raises EXACTLY when the
value is out of range for its width or its encoding does not fit the remaining bits / references. -/
theorem c07_src_refuse_iff (mk : Bits → List R → Option (Py.CellV R)) (hmk : MkOk mk) (tv : TVal R)
    (b : Builder R) (hb : Proofs.Builder.Inv b) : (srcStore mk tv b).2 = none ↔ ¬ Fits tv b := by
  rw [srcStore_eq mk hmk tv b, ← c07_refuse_iff tv b hb, ofFlag_none]

/-- the same for the regenerated composite stores: `store_cell(c)` / `store_slice(s)` raise exactly when the cell's bits / refs —
for a slice its REMAINING refs `refs[ref_offset:]` — do not fit; when they return they append exactly those. -/
theorem c07_src_refuse_iff_composite (c : Py.CellV R) (s : Py.SliceSt R) (hs : s.ref_offset ≤ s.refs.length)
    (b : Builder R) (hb : Proofs.Builder.Inv b) :
    ((Generated.BuilderOps.store_cell c b).2 = none ↔
        ¬ (b.bits.length + c.bits.length ≤ 1023 ∧ b.refs.length + c.refs.length ≤ 4)) ∧
    ((Generated.BuilderOps.store_slice s b).2 = none ↔
        ¬ (b.bits.length + s.bits.length ≤ 1023 ∧ b.refs.length + (s.refs.length - s.ref_offset) ≤ 4)) ∧
    ((Generated.BuilderOps.store_cell c b).2 = some () →
        (Generated.BuilderOps.store_cell c b).1 = ⟨b.bits ++ c.bits, b.refs ++ c.refs⟩) ∧
    ((Generated.BuilderOps.store_slice s b).2 = some () →
        (Generated.BuilderOps.store_slice s b).1 = ⟨b.bits ++ s.bits, b.refs ++ s.refs.drop s.ref_offset⟩) := by
  have hc := c07_refuse_iff_composite c.bits c.refs b hb
  have hsl := c07_refuse_iff_composite s.bits (s.refs.drop s.ref_offset) b hb
  have he := c07_composite_exact c.bits c.refs b hb
  have hes := c07_composite_exact s.bits (s.refs.drop s.ref_offset) b hb
  rw [List.length_drop] at hsl
  rw [src_store_cell_eq, src_store_slice_eq s hs]
  refine ⟨?_, ?_, ?_, ?_⟩
  · rw [← hc.1, ofFlag_none]
  · rw [← hsl.2, ofFlag_none]
  · intro h; rw [ofFlag_some] at h; rw [ofFlag_fst]; exact he.1 h
  · intro h; rw [ofFlag_some] at h; rw [ofFlag_fst]; exact hes.2 h

/-- `c07_read_bounds` for the regenerated methods: the regenerated `load_bits / load_uint / load_int / load_bytes / skip_bits /
load_bool / load_ref` (with `TvmBitarray.__delitem__` and its `check_underflow`), seen through `view`: asking for more than
remains raises and leaves the slice unchanged; otherwise the result is exactly the next bits (the number they denote / the bytes
they form) and the slice advances by exactly that many bits / one reference. -/
theorem c07_src_read_bounds (n : Nat) (s : Py.SliceSt R) :
    (viewR id (Generated.SliceOps.load_bits n s) = if s.bits.length < n then (view s, none)
        else (⟨s.bits.drop n, (view s).refs⟩, some (s.bits.take n))) ∧
    (viewR (fun (v : Nat) => (v : Int)) (Generated.SliceOps.load_uint n s) = if n = 0 ∨ s.bits.length < n then (view s, none)
        else (⟨s.bits.drop n, (view s).refs⟩, some (bitsVal (s.bits.take n) : Int))) ∧
    (viewR id (Generated.SliceOps.load_int n s) = if n = 0 ∨ s.bits.length < n then (view s, none)
        else (⟨s.bits.drop n, (view s).refs⟩, some (bitsValS (s.bits.take n)))) ∧
    (viewR id (Generated.SliceOps.load_bytes n s) = if s.bits.length < n * 8 then (view s, none)
        else (⟨s.bits.drop (n * 8), (view s).refs⟩, some (bitsToBytes (s.bits.take (n * 8))))) ∧
    (viewR id (Generated.SliceOps.skip_bits n s) = if s.bits.length < n then (view s, none)
        else (⟨s.bits.drop n, (view s).refs⟩, some ())) ∧
    (viewR id (Generated.SliceOps.load_bool s) = match s.bits with
        | [] => (view s, none) | b :: rest => (⟨rest, (view s).refs⟩, some b)) ∧
    (viewR id (Generated.SliceOps.load_ref s) = match s.refs.drop s.ref_offset with
        | [] => (view s, none) | r :: rest => (⟨s.bits, rest⟩, some r)) ∧
    -- and what `view` does not show: the bit reads leave the reference list and the offset alone
    ((Generated.SliceOps.load_uint n s).1.refs = s.refs ∧ (Generated.SliceOps.load_uint n s).1.ref_offset = s.ref_offset) := by
  have h := c07_read_bounds n s.bits (s.refs.drop s.ref_offset)
  have hv : view s = ⟨s.bits, s.refs.drop s.ref_offset⟩ := rfl
  rw [src_load_bits_eq, src_load_uint_eq, src_load_int_eq, src_load_bytes_eq, src_skip_bits_eq, src_load_bool_eq, src_load_ref_eq, hv]
  refine ⟨h.1, h.2.1, h.2.2.1, h.2.2.2.1, h.2.2.2.2.1, ?_, ?_, (src_refs_untouched n s).1⟩
  · have := h.2.2.2.2.2.1
    rw [this]
  · have := h.2.2.2.2.2.2
    rw [this]

/-- the regenerated methods at the capacity boundary: a builder at 1020 bits / 4 refs accepts `store_uint(5, 3)`, refuses
`store_uint(5, 4)` (overflow), `store_uint(8, 3)` (range) and `store_ref` (the hypotheses of `c07_src_refuse_iff` are met, both
outcomes occur); an over-read through the regenerated `load_uint` raises and leaves the slice as it was. -/
example : let b : Builder Nat := ⟨List.replicate 1020 false, [1, 2, 3, 4]⟩
    (Generated.BuilderOps.store_uint 5 3 b).2 = some () ∧ (Generated.BuilderOps.store_uint 5 4 b).2 = none ∧
    (Generated.BuilderOps.store_uint 8 3 b).2 = none ∧ (Generated.BuilderOps.store_ref 9 b).2 = none ∧
    (Generated.SliceOps.load_uint 5 (⟨[true, false], [7], 0⟩ : Py.SliceSt Nat)).2 = none ∧
    (Generated.SliceOps.load_uint 5 (⟨[true, false], [7], 0⟩ : Py.SliceSt Nat)).1.bits = [true, false] := by
  intro b
  have hl : b.bits.length = 1020 := List.length_replicate
  refine ⟨?_, ?_, ?_, ?_, by decide, by decide⟩
  · rw [src_store_uint_eq, ofFlag_some, BOp.storeUint, show BOp.int2baU 5 3 = some [true, false, true] by decide]
    show (BOp.extend [true, false, true] b).2 = true
    rw [BOp.extend, if_neg (by rw [hl]; decide)]
  · rw [src_store_uint_eq, ofFlag_none, BOp.storeUint, show BOp.int2baU 5 4 = some [false, true, false, true] by decide]
    show (BOp.extend [false, true, false, true] b).2 = false
    rw [BOp.extend, if_pos (by rw [hl]; decide)]
  · rw [src_store_uint_eq, ofFlag_none, BOp.storeUint, show BOp.int2baU 8 3 = none by decide]; rfl
  · rw [src_store_ref_eq, ofFlag_none]; rfl

end SrcMethods

/-! ## Source-regenerated snake store (`Generated/SnakeOps.lean`, re-translated from builder.py on every run) -/
section SrcSnake
open TonVerif.Proofs.SrcBuilder TonVerif.Proofs.SrcSnake TonVerif.Generated.SnakeOps

/-- capacity of the regenerated snake store, for EVERY byte string, EVERY cell constructor `mk` (= `Cell(..)` as `end_cell` calls
it) and EVERY within-capacity builder: (1, 2) `store_snake_bytes` / `store_snake_string` leave the builder they are called on
within 1023 bits / 4 references whether they return or raise; (3) they never ask for a cell of more than 1023 bits or more than
4 references: replacing the constructor by `guardCap mk` - which REFUSES such a cell - changes neither the outcome nor the state,
so every tail cell of the chain (127 bytes = 1016 bits, at most one reference) is within capacity. -/
theorem c07_src_snake_capacity (mk : Bits → List R → Option R) (bs : Bytes) (p : Bool) (b : Builder R)
    (hb : Proofs.Builder.Inv b) :
    Proofs.Builder.Inv (store_snake_bytes mk bs b).1 ∧
    Proofs.Builder.Inv (store_snake_string mk bs p b).1 ∧
    store_snake_bytes (guardCap mk) bs b = store_snake_bytes mk bs b := by
  refine ⟨?_, ?_, src_snake_guard mk bs b⟩
  · rw [src_store_snake_bytes_eq, ofFlag_fst]
    exact Proofs.SnakeDepth.safe_storeSnake mk bs b hb
  · rw [src_store_snake_string_eq, ofFlag_fst]
    exact Proofs.SnakeDepth.safe_storeSnake mk _ b hb

/-- `guardCap` does refuse: a 1024-bit cell and a 5-reference cell are not built (so (3) above is not vacuous), while a
within-capacity request reaches `mk`; a builder at 1020 bits / 3 refs meets the hypothesis and the regenerated store of 200 bytes
into it leaves 1020 bits / 4 refs. -/
example : guardCap (fun _ (_ : List Nat) => some 0) (List.replicate 1024 false) [] = none ∧
    guardCap (fun _ (_ : List Nat) => some 0) [] [1, 2, 3, 4, 5] = none ∧
    guardCap (fun _ (_ : List Nat) => some 0) (List.replicate 1023 false) [1, 2, 3, 4] = some 0 ∧
    Proofs.Builder.Inv (⟨List.replicate 1020 false, [1, 2, 3]⟩ : Builder Nat) ∧
    (store_snake_bytes (fun _ (_ : List Nat) => some 0) (List.replicate 200 7) ⟨List.replicate 1020 false, [1, 2, 3]⟩).1.refs.length = 4 := by
  refine ⟨?_, by decide, ?_, ⟨?_, by decide⟩, by decide +kernel⟩
  · rw [guardCap, if_neg (by rw [List.length_replicate]; decide)]
  · rw [guardCap, if_pos (by rw [List.length_replicate]; decide)]
  · show (List.replicate 1020 false).length ≤ 1023
    rw [List.length_replicate]; decide

end SrcSnake

/-! ## Source-regenerated argument forms (`Generated/ArgForms.lean`) -/
section SrcForms
open TonVerif.Proofs.SrcBuilder TonVerif.Proofs.SrcForms TonVerif.Generated.ArgForms

/-- NO argument form of `store_bit` / `store_bits` / `store_address` bypasses the capacity test: for every argument of every form
(bool, text, TvmBitarray, plain bitarray, list / tuple of ints, iterator; a textual address with any `Address(text)` parser) the
regenerated method maps a builder within 1023 bits / 4 refs to a builder within 1023 bits / 4 refs, whether it returns or raises. -/
theorem c07_src_forms_capacity (addrOfStr : Bytes → Option Py.AddrV) (v : Bool) (s : Bytes) (x : Bits) (xs : List Int)
    (b : Builder R) (hb : Proofs.Builder.Inv b) :
    ∀ f ∈ [store_bit_bool v, store_bit_str s, store_bit_bits x, store_bit_bitarray x, store_bit_ints xs, store_bits_str s,
           store_bits_ints xs, store_bits_bitarray x, store_bits_iter (), store_address_str addrOfStr s],
      Proofs.Builder.Inv (f b).1 := by
  have hext : ∀ bs : Bits, Proofs.Builder.Inv (BOp.extend bs b).1 := fun bs => safe_extend bs b hb
  intro f hf
  simp only [List.mem_cons, List.mem_nil_iff, or_false] at hf
  rcases hf with rfl | rfl | rfl | rfl | rfl | rfl | rfl | rfl | rfl | rfl
  · rw [src_store_bit_bool_eq, ofFlag_fst]; exact hext _
  · rw [src_store_bit_str_eq]
    cases Py.intOfStr? s with
    | none => exact hb
    | some i => by_cases hi : i = 0 ∨ i = 1
                · simp only [hi, if_true, ofFlag_fst]; exact hext _
                · simp only [hi, if_false]; exact hb
  · rw [src_store_bit_tvm_eq, ofFlag_fst]; exact hext _
  · exact hb
  · exact hb
  · rw [src_store_bits_str_eq]
    by_cases h : b.bits.length + Py.strLen s > 1023
    · rw [if_pos h]; exact hb
    · rw [if_neg h]
      cases hs : Py.bitsOfStr? s with
      | none => exact hb
      | some bs =>
        have := bitsOfStr_len s bs hs
        exact ⟨by simp only [List.length_append]; omega, hb.2⟩
  · rw [src_store_bits_ints_eq]
    by_cases h : b.bits.length + xs.length > 1023
    · rw [if_pos h]; exact hb
    · rw [if_neg h]
      cases hs : Py.bitsOfInts? xs with
      | none => exact hb
      | some bs =>
        have := bitsOfInts_len xs bs hs
        exact ⟨by simp only [List.length_append]; omega, hb.2⟩
  · rw [src_store_bits_bitarray_eq, ofFlag_fst]; exact hext _
  · exact hb
  · rw [src_store_address_str_eq]
    cases addrOfStr s with
    | none => exact hb
    | some a =>
      simp only
      rw [src_store_address_std_eq, ofFlag_fst]
      exact safe_run (.val (.addr (addrOf a))) b hb

/-- the hypothesis is met at the boundary and both outcomes occur: at 1023 bits every storing form is refused and the builder
stays at 1023 bits; at 1022 bits `store_bit(True)` is accepted. -/
example : let b : Builder Nat := ⟨List.replicate 1023 false, []⟩
    Proofs.Builder.Inv b ∧ (store_bit_bool true b).2 = none ∧ (store_bits_str [49] b).2 = none ∧ (store_bits_ints [1] b).2 = none ∧
    (store_bit_bits [true] b).2 = none ∧ (store_bits_str [49] b).1.bits.length = 1023 ∧
    (store_bit_bool true (⟨List.replicate 1022 false, []⟩ : Builder Nat)).2 = some () := by
  intro b
  have hl : b.bits.length = 1023 := List.length_replicate
  have full : ∀ xs : Bits, xs.length = 1 → BOp.extend xs b = (b, false) := fun xs h => if_pos (by omega)
  refine ⟨⟨Nat.le_of_eq hl, by decide⟩, ?_, ?_, ?_, ?_, ?_, ?_⟩
  · rw [src_store_bit_bool_eq, ofFlag_none, BOp.storeBit, full _ rfl]
  · rw [src_store_bits_str_eq, if_pos (by rw [hl]; decide)]
  · rw [src_store_bits_ints_eq, if_pos (by rw [hl]; decide)]
  · rw [src_store_bit_tvm_eq, ofFlag_none, BOp.storeBits, full _ rfl]
  · rw [src_store_bits_str_eq, if_pos (by rw [hl]; decide)]; exact hl
  · rw [src_store_bit_bool_eq, ofFlag_some, BOp.storeBit, BOp.extend, if_neg (by rw [List.length_replicate]; decide)]

end SrcForms

end TonVerif.Properties.C07
