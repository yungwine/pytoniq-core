/-
C18 — CRC-16/XMODEM and CRC-32C equal their bitwise definitions.

The statements are about `Model.crc16`/`Model.crc32c`, whose integer loop is the
mechanical translation of `pytoniq_core/crypto/crc.py` (regenerated on every run),
for EVERY byte string; the framed-record theorems (`c18_*_framed`) are stated for the bitwise
definition `Spec.crc16` / `Spec.crc32c` first and carried to the model (`c18_*_framed_code`).
-/
import TonVerif.Model.Crc
import TonVerif.Proofs.Crc
import TonVerif.Proofs.CrcFramed

namespace TonVerif.Properties.C18
open TonVerif TonVerif.Spec TonVerif.Proofs.Crc TonVerif.Proofs.CrcFramed

/-- the integer computed by the translated Python loop is the bitwise CRC-16/XMODEM. -/
theorem c18_crc16_value (data : Bytes) (h : Bytes.WF data) :
    Generated.crc16 data = (Spec.crc16 (data.map (BitVec.ofNat 8))).toNat := by
  unfold Generated.crc16 Spec.crc16
  exact foldl_toNat gen16_step data h 0#16

/-- the integer computed by the translated Python loop is the bitwise CRC-32C. -/
theorem c18_crc32c_value (data : Bytes) (h : Bytes.WF data) :
    Generated.crc32c data = (Spec.crc32c (data.map (BitVec.ofNat 8))).toNat := by
  unfold Generated.crc32c Spec.crc32c
  rw [BitVec.toNat_xor]
  exact congrArg (· ^^^ 4294967295) (foldl_toNat gen32_step data h 0xFFFFFFFF#32)

theorem natToBE2 (v : Nat) : natToBE 2 v = [(v / 256) % 256, v % 256] := by
  simp [natToBE]

theorem natToBE4 (v : Nat) :
    natToBE 4 v = [(v / 16777216) % 256, (v / 65536) % 256, (v / 256) % 256, v % 256] := by
  simp [natToBE, Nat.div_div_eq_div_mul]

/-- `crc16` never raises and returns the big-endian bytes of CRC-16/XMODEM. -/
theorem c18_crc16 (data : Bytes) (h : Bytes.WF data) :
    Model.crc16 data = some ((be16 (Spec.crc16 (data.map (BitVec.ofNat 8)))).map BitVec.toNat) := by
  unfold Model.crc16 Model.crcToBytes
  rw [c18_crc16_value data h]
  generalize Spec.crc16 _ = V
  have hV : V.toNat < 65536 := V.isLt
  simp only [show Generated.crc16_width = 2 from rfl, show Generated.crc16_bigEndian = some true from rfl,
    toBytesBE?, if_true]
  rw [if_pos (by omega), natToBE2]
  simp [be16, BitVec.toNat_ushiftRight, BitVec.toNat_setWidth, Nat.shiftRight_eq_div_pow]

/-- `crc32c` never raises and returns CRC-32C in the requested byte order. -/
theorem c18_crc32c (data : Bytes) (h : Bytes.WF data) (big : Bool) :
    Model.crc32c data big = some
      ((if big then be32 (Spec.crc32c (data.map (BitVec.ofNat 8)))
        else le32 (Spec.crc32c (data.map (BitVec.ofNat 8)))).map BitVec.toNat) := by
  unfold Model.crc32c Model.crcToBytes
  rw [c18_crc32c_value data h]
  generalize Spec.crc32c _ = V
  have hV : V.toNat < 4294967296 := V.isLt
  simp only [show Generated.crc32c_width = 4 from rfl, show Generated.crc32c_bigEndian = none from rfl,
    toBytesBE?, toBytesLE?]
  cases big <;> simp only [Bool.false_eq_true, if_false, if_true] <;>
    rw [if_pos (by omega)] <;>
    simp [natToBE4, be32, le32, BitVec.toNat_ushiftRight, BitVec.toNat_setWidth,
      Nat.shiftRight_eq_div_pow]

/-! ### framed records: messages that drive the register to zero (the class the harness samples, for ALL inputs) -/

/-- CRC-16/XMODEM of `record ‖ crc16(record) ‖ any number of zero bytes` is 0, for EVERY record: the two big-endian CRC bytes clear the
shift register wherever they stand, and zero bytes keep it clear (bitwise definition). -/
theorem c18_crc16_framed (m : List (BitVec 8)) (k : Nat) :
    Spec.crc16 (m ++ be16 (Spec.crc16 m) ++ List.replicate k 0#8) = 0#16 := by
  unfold Spec.crc16
  rw [List.foldl_append, List.foldl_append]
  generalize List.foldl byte16 0#16 m = c
  simp only [be16, List.foldl_cons, List.foldl_nil]
  rw [(byte16_pair_eq_zero_iff c _ _).mpr rfl]
  exact foldl_replicate_fixed (by decide) k

/-- CRC-32C of `record ‖ little-endian UN-INVERTED register of the record ‖ any number of zero bytes` is 0xFFFFFFFF (register 0), for
EVERY record (bitwise definition). -/
theorem c18_crc32c_framed (m : List (BitVec 8)) (k : Nat) :
    Spec.crc32c (m ++ le32 (Spec.crc32c m ^^^ 0xFFFFFFFF#32) ++ List.replicate k 0#8) = 0xFFFFFFFF#32 := by
  unfold Spec.crc32c
  rw [List.foldl_append, List.foldl_append]
  generalize List.foldl byte32 0xFFFFFFFF#32 m = c
  rw [BitVec.xor_assoc, BitVec.xor_self, BitVec.xor_zero]
  simp only [le32, List.foldl_cons, List.foldl_nil]
  rw [byte32_self c]
  rw [show (c >>> 16) = (c >>> 8) >>> 8 by rw [← BitVec.shiftRight_add], byte32_self (c >>> 8)]
  rw [show (c >>> 24) = ((c >>> 8) >>> 8) >>> 8 by rw [← BitVec.shiftRight_add, ← BitVec.shiftRight_add],
    byte32_self ((c >>> 8) >>> 8)]
  rw [byte32_self (((c >>> 8) >>> 8) >>> 8)]
  rw [show (((c >>> 8) >>> 8) >>> 8) >>> 8 = 0#32 by
    rw [← BitVec.shiftRight_add, ← BitVec.shiftRight_add, ← BitVec.shiftRight_add]; ext i hi; simp]
  rw [foldl_replicate_fixed (show byte32 0#32 0#8 = 0#32 by decide)]
  rfl

/-- the same for the CODE of `crc16` (translated from crc.py): if `crc16(data)` returns `c`, then `crc16(data + c + bytes(k))` returns
`b'\x00\x00'`, for every byte string `data` and every `k` - whatever fast path the code takes, the register must pass through 0. -/
theorem c18_crc16_framed_code (data : Bytes) (h : Bytes.WF data) (k : Nat) (c : Bytes)
    (hc : Model.crc16 data = some c) :
    Model.crc16 (data ++ c ++ List.replicate k 0) = some [0, 0] := by
  rw [c18_crc16 data h] at hc
  injection hc with hc
  subst hc
  rw [c18_crc16 _ (wf_framed _ _ k h (wf_map_toNat _))]
  simp only [List.map_append, map_ofNat_toNat, List.map_replicate]
  rw [show BitVec.ofNat 8 0 = 0#8 from rfl, c18_crc16_framed]
  rfl

/-- the same for the CODE of `crc32c`: if `crc32c(data)` (little-endian, the default) returns `c`, then
`crc32c(data + bytes(b ^ 0xff for b in c) + bytes(k), byteorder)` returns `b'\xff\xff\xff\xff'` in either byte order. -/
theorem c18_crc32c_framed_code (data : Bytes) (h : Bytes.WF data) (k : Nat) (c : Bytes) (big : Bool)
    (hc : Model.crc32c data false = some c) :
    Model.crc32c (data ++ c.map (fun b => b ^^^ 255) ++ List.replicate k 0) big = some [255, 255, 255, 255] := by
  rw [c18_crc32c data h] at hc
  injection hc with hc
  subst hc
  simp only [Bool.false_eq_true, if_false]
  rw [map_xor255, ← le32_inv]
  rw [c18_crc32c _ (wf_framed _ _ k h (wf_map_toNat _))]
  simp only [List.map_append, map_ofNat_toNat, List.map_replicate]
  rw [show BitVec.ofNat 8 0 = 0#8 from rfl, c18_crc32c_framed]
  cases big <;> rfl

/-- non-vacuity: the hypotheses of the two `_framed_code` theorems are met by a concrete record, and the conclusion is what the
evaluated code gives on the framed message. -/
example : Model.crc16 [49, 50, 51] = some [151, 82] := by decide +kernel
example : Model.crc16 ([49, 50, 51] ++ [151, 82] ++ List.replicate 3 0) = some [0, 0] := by decide +kernel
example : Model.crc32c [49, 50, 51] false = some [178, 47, 123, 16] := by decide +kernel
example : Model.crc32c ([49, 50, 51] ++ [178, 47, 123, 16].map (fun b => b ^^^ 255) ++ List.replicate 5 0) true
    = some [255, 255, 255, 255] := by decide +kernel

/-! Sanity of the spec itself: the standard check values (tests, not proofs). -/
def check9 : List (BitVec 8) := "123456789".toList.map (fun c => BitVec.ofNat 8 c.toNat)
example : Spec.crc16 check9 = 0x31C3#16 := by decide +kernel
example : Spec.crc32c check9 = 0xE3069283#32 := by decide +kernel
/-- non-vacuity: `Bytes.WF` is satisfiable by a non-trivial input. -/
example : Bytes.WF [0, 255, 17] := by decide

end TonVerif.Properties.C18
