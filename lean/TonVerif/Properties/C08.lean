/-
C08 — cells are immutable values; derived objects are isolated snapshots.

The model is the abstract heap of `Model/Heap.lean`: bit containers, list containers, and one record per
Python object (`Cell`, `Slice`, `Builder`, an array / list held by the caller) naming the containers its
`.bits` / `.refs` attributes point to.  `step H σ op` is one API call (which containers it allocates,
aliases, mutates - read off the code), `run H σ ops` a finite history.  `H` (SHA-256) is arbitrary.

PARTIAL in one respect, stated once: mutation through the public attributes by USER code
(`cell.bits.append(1)`) is not a transition of the model; the theorems cover every aliasing the
LIBRARY calls create.

First the theorems about the hand model (`c08_separation` ... `c08_refines_value_semantics`); then, from "The copy /
isolation glue" on, the methods of boc/cell.py, slice.py, builder.py regenerated as heap transformers
(`Generated/HeapSrc.lean`), each proved equal to the model step it stands for (`c08_src_*`), and the invariant along
histories of regenerated calls (`c08_src_history`).  The transitions with no regenerated counterpart (the cells of
`Boc.deserialize`, `hash` / `to_boc`, the caller creating arrays and lists) are tied to the code by sampled
alias-graph correspondence only.
-/
import TonVerif.Proofs.Heap
import TonVerif.Proofs.SrcHeap

namespace TonVerif.Properties.C08
open TonVerif TonVerif.Model TonVerif.Model.Heap TonVerif.Proofs.Heap

/-- SEPARATION.  In the empty heap, and after every finite history of API calls: the bit container and the
list a Slice or Builder points to (the only containers the library mutates in place) are pointed to by NO other
object - no Cell, no other Slice/Builder, no array or list the caller passed in (`Sep`); every container id is
allocated and lists hold live cells (`WF`); what each Cell cached at construction is what the heap holds (`Coh`).
The one aliasing the code does create - `Cell(bits, refs)` keeps the caller's own array and list, and two cells
built from the same array share it - is between objects none of which mutates the container, so it is allowed by `Sep`. -/
theorem c08_separation (H : Bytes → Bytes) (ops : List Op) :
    Sep (run H init ops) ∧ WF (run H init ops) ∧ Coh H (run H init ops) :=
  let h := inv_run (inv_init H) ops
  ⟨h.sep, h.wf, h.coh⟩

/-- one transition preserves the invariant from ANY state satisfying it (the inductive step of `c08_separation`) -/
theorem c08_separation_step (H : Bytes → Bytes) (σ : State) (h : Inv H σ) (op : Op) : Inv H (step H σ op).1 :=
  inv_step h op

/-- IMMUTABILITY.  Take any reachable heap `σ` (after history `pre`) and any Cell object `i` in it.  After ANY further
history `ops` - loads on slices derived from it, stores into the builder it came from or into builders derived from
it, copies, constructions of other cells, ... - the cell record (attribute pointers, type, cached hashes and depths,
hence `hash`), the content of the bit container its `.bits` points to and the content of the list its `.refs` points
to are exactly what they were; the referenced cells are cells of `σ` to which the same applies.  Moreover the cached
hash is at all times the hash of the CURRENT content (`Coh`), and the value (tree) read off the heap is the value at
creation, so every function of the value (`to_boc` bytes, `order`) is unchanged too. -/
theorem c08_immutable (H : Bytes → Bytes) (pre ops : List Op) (i : Nat)
    (hi : i < (run H init pre).nObj) (ht : ((run H init pre).obj i).tag = .cell) :
    let σ := run H init pre
    let σ' := run H σ ops
    cellObs σ' i = cellObs σ i ∧
    (σ'.obj i).val = .mk (σ.obj i).kind (σ'.bitBuf (σ.obj i).bitsId) (vals σ' (σ'.refBuf (σ.obj i).refsId)) ∧
    Cell.info H (σ'.obj i).val = some (σ.obj i).info ∧
    (∀ j ∈ σ.refBuf (σ.obj i).refsId, j < σ.nObj ∧ (σ.obj j).tag = .cell) := by
  intro σ σ'
  have h : Inv H σ := inv_run (inv_init H) pre
  have h' : Inv H σ' := inv_run h ops
  obtain ⟨e, hi'⟩ := cell_frame_run h ops i hi ht
  have eo : σ'.obj i = σ.obj i := congrArg Prod.fst e
  have ht' : (σ'.obj i).tag = .cell := by rw [eo]; exact ht
  refine ⟨e, ?_, ?_, ?_⟩
  · have := h'.coh.coh i hi' ht'; rw [eo] at this ⊢; exact this
  · have := h'.coh.cohInfo i hi' ht'; rw [eo] at this ⊢; exact this
  · exact cellsAt_refBuf h hi (by show (σ.obj i).tag.hasRefs = true; rw [ht]; rfl)

/-! Non-vacuity: a history with aliasing pressure.  A caller array `10110` and list are used for TWO cells (they share
both containers); a slice of the first is consumed; a builder derived from the slice gets a ref and more bits, is
turned into a cell (object 6) and then stores that cell into itself; cell 6 is parsed and a reference loaded from the
slice; the first cell is copied. -/
def H0 : Bytes → Bytes := fun b => [b.length % 256]
def demo : List Op :=
  [.newBits [true, false, true, true, false], .newRefs [], .cellCtor 0 1 (-1), .cellCtor 0 1 (-1),
   .derive 2 .slice, .dropBits 4 2 false, .derive 4 .builder, .storeRef 5 2, .storeBits 5 [true, true],
   .derive 5 .cell, .storeFrom 5 6, .derive 6 .slice, .loadRef 7, .derive 2 .cell, .observe 2]

/-- the two cells built from the same array share both containers, the slice and the builder own theirs -/
example : let σ := run H0 init demo
    (σ.obj 2).bitsId = (σ.obj 3).bitsId ∧ (σ.obj 2).refsId = (σ.obj 3).refsId ∧
    (σ.obj 4).bitsId ≠ (σ.obj 2).bitsId ∧ (σ.obj 5).bitsId ≠ (σ.obj 4).bitsId ∧ σ.nObj = 9 := by decide +kernel

/-- slice 4 was consumed and builder 5 grew, yet cell 2 holds `10110` as at construction -/
example : let σ := run H0 init demo
    σ.bitsOf 4 = [true, true, false] ∧ σ.bitsOf 5 = [true, true, false, true, true, true, true, false, true, true] ∧
    σ.refsOf 5 = [2, 2] ∧ σ.bitsOf 2 = [true, false, true, true, false] ∧ σ.refsOf 6 = [2] ∧ σ.refsOf 7 = [] := by decide +kernel

example : (run H0 init (demo.take 4)).nObj = 4 ∧ ((run H0 init (demo.take 4)).obj 2).tag = .cell := by decide +kernel

/-- ISOLATION ("derived objects are isolated snapshots").  In any reachable heap, a call changes the VALUE (`valOf`:
cell = tree; slice = type, remaining bits, remaining referenced trees; builder = bits, referenced trees; caller-held
array = its bits; caller-held list = its trees) of NO live object other than its own `self` (`recvOf op`: the slice
being loaded from / the builder being stored to) - in particular never of a cell, of the object it was derived from,
of its argument (`store_slice(s)` leaves `s`, `Cell(bits, refs)` leaves the caller's array and list), and `self` only
when the call succeeds (a raising call changes nothing). -/
theorem c08_isolated (H : Bytes → Bytes) (pre : List Op) (op : Op)
    (hid : ∀ i ∈ opIds op, i < (run H init pre).nObj) (i : Nat) (hi : i < (run H init pre).nObj)
    (hne : recvOf op = some i → (sem H (valOf (run H init pre)) op).2 = none) :
    valOf (step H (run H init pre) op).1 i = valOf (run H init pre) i :=
  step_isolated (inv_run (inv_init H) pre) op hid i hi hne

/-- HISTORY INDEPENDENCE.  Every call's result VALUE and the new value of its `self` are `sem` - a function of the
call and of the VALUES of its argument objects only (`sem_congr`).  Hence: take two arbitrary histories `h1`, `h2`
and the same call applied to argument objects (`ρ` maps the object names of the first heap to those of the second)
whose values agree - then the two results have equal values and `self` ends with equal values.  Nothing else of the
heap (which calls came before, which containers are shared, ids, ...) can influence a result: no state is carried
between calls. -/
theorem c08_history_independent (H : Bytes → Bytes) (h1 h2 : List Op) (op : Op) (ρ : Nat → Nat)
    (hid1 : ∀ i ∈ opIds op, i < (run H init h1).nObj) (hid2 : ∀ i ∈ opIds op, ρ i < (run H init h2).nObj)
    (hv : ∀ i ∈ opIds op, valOf (run H init h1) i = valOf (run H init h2) (ρ i)) :
    let r1 := step H (run H init h1) op
    let r2 := step H (run H init h2) (renameOp ρ op)
    outVal r1.1 r1.2 = outVal r2.1 r2.2 ∧ ∀ r, recvOf op = some r → valOf r1.1 r = valOf r2.1 (ρ r) :=
  hist_indep (inv_run (inv_init H) h1) (inv_run (inv_init H) h2) op ρ hid1 hid2 hv

/-- the result of every call is `sem` of the argument values (the refinement statement behind the previous theorem) -/
theorem c08_refines_value_semantics (H : Bytes → Bytes) (pre : List Op) (op : Op)
    (hid : ∀ i ∈ opIds op, i < (run H init pre).nObj) :
    let σ := run H init pre
    outVal (step H σ op).1 (step H σ op).2 = (sem H (valOf σ) op).1 ∧
    (∀ w, (sem H (valOf σ) op).2 = some w → ∃ r, recvOf op = some r ∧ valOf (step H σ op).1 r = w) := by
  intro σ
  have r := step_sem (inv_run (inv_init H) pre) op hid
  exact ⟨r.out, fun w hw => let ⟨r', a, _, b⟩ := r.recv w hw; ⟨r', a, b⟩⟩

/-- HASHING / SERIALISING IS READ-ONLY AND IDEMPOTENT.  `hash`, `to_boc`, `order`, `serialize` (`observe`) leave the
whole heap exactly as it was - every container, including the plain array a cell was constructed from - and calling
them again gives the same result; the result is the hash of the cell's current tree value. -/
theorem c08_observe_pure (H : Bytes → Bytes) (pre : List Op) (c : Nat) :
    let σ := run H init pre
    (step H σ (.observe c)).1 = σ ∧
    (step H (step H σ (.observe c)).1 (.observe c)).2 = (step H σ (.observe c)).2 ∧
    (c < σ.nObj → (σ.obj c).tag = .cell →
      (step H σ (.observe c)).2 = .hash (σ.obj c).info.hash ∧ Cell.info H (σ.obj c).val = some (σ.obj c).info) := by
  intro σ
  have e : (step H σ (.observe c)).1 = σ := by simp only [step]; split <;> rfl
  refine ⟨e, by rw [e], ?_⟩
  intro hc ht
  have hhas : σ.has c .cell = true := has_iff.mpr ⟨hc, ht⟩
  exact ⟨by simp only [step, hhas, if_true], (inv_run (inv_init H) pre).coh.cohInfo c hc ht⟩

/-- INPUTS UNTOUCHED.  An array or list the caller created (and possibly handed to `Cell(bits, refs)`, which keeps the
very object as the cell's `.bits` / `.refs` - aliasing by design - or to `store_bits`), and likewise every cell,
keeps its value through every later history: no transition writes a container pointed to by a cell or by a
caller-held object.  (User code writing to it is outside the model.) -/
theorem c08_inputs_untouched (H : Bytes → Bytes) (pre ops : List Op) (u : Nat)
    (hu : u < (run H init pre).nObj) (ht : ((run H init pre).obj u).tag.owner = false) :
    valOf (run H (run H init pre) ops) u = valOf (run H init pre) u :=
  nonowner_run (inv_run (inv_init H) pre) ops u hu ht

/-! Non-vacuity of the hypotheses of `c08_history_independent`: two DIFFERENT histories reach cells of equal value
(`10110`, no refs) under different names (object 2 in the first heap, object 3 in the second, whose heap also holds a
consumed slice and a grown builder); `begin_parse` (`derive · slice`) on either gives equal results. -/
def hA : List Op := [.newBits [true, false, true, true, false], .newRefs [], .cellCtor 0 1 (-1)]
def hB : List Op := [.builderNew, .storeBits 0 [true, false, true], .derive 0 .cell, .derive 1 .slice, .dropBits 2 1 false,
  .storeBits 0 [true, false], .derive 0 .cell]
example : (∀ i ∈ opIds (.derive 2 .slice), i < (run H0 init hA).nObj) ∧
    (∀ i ∈ opIds (.derive 2 .slice), (fun _ => 3) i < (run H0 init hB).nObj) := by decide +kernel
theorem hA_hB_cells : ((run H0 init hA).obj 2).tag = .cell ∧ ((run H0 init hB).obj 3).tag = .cell ∧
    (run H0 init hA).bitsOf 2 = (run H0 init hB).bitsOf 3 ∧ (run H0 init hA).refsOf 2 = [] ∧ (run H0 init hB).refsOf 3 = [] ∧
    ((run H0 init hA).obj 2).kind = ((run H0 init hB).obj 3).kind := by decide +kernel
example : ((run H0 init hA).obj 2).tag = .cell ∧ ((run H0 init hB).obj 3).tag = .cell ∧
    (run H0 init hA).bitsOf 2 = (run H0 init hB).bitsOf 3 ∧ (run H0 init hA).refsOf 2 = [] ∧ (run H0 init hB).refsOf 3 = [] ∧
    ((run H0 init hA).obj 2).kind = ((run H0 init hB).obj 3).kind := hA_hB_cells
example : ∀ i ∈ opIds (.derive 2 .slice), valOf (run H0 init hA) i = valOf (run H0 init hB) ((fun _ => 3) i) := by
  intro i hi
  simp only [opIds, List.mem_singleton] at hi
  subst hi
  obtain ⟨e1, e2, a, b, c, d⟩ := hA_hB_cells
  -- both reference lists are empty: reduce `vals` so that the two heaps are not compared
  rw [valOf_eq, valOf_eq, e1, e2, a, b, c, d, vals, vals, List.map_nil, List.map_nil]

/-! The invariant has bite: a heap in which a slice shares a cell's bit container - what `begin_parse` WITHOUT the
`bits.copy()` would create - violates `Sep`, and one load on that slice then changes the cell's data bits. -/
def bad : State :=
  let σ := run H0 init hA
  σ.push { ObjRec.blank with tag := .slice, bitsId := (σ.obj 2).bitsId, refsId := (σ.obj 2).refsId }
example : ¬ Sep bad := by
  intro h
  exact h.sepB 3 2 (by decide +kernel) (by decide +kernel) (by decide) (by decide +kernel) (by decide +kernel) (by decide +kernel)
example : (step H0 bad (.dropBits 3 2 false)).1.bitsOf 2 = [true, true, false] ∧ bad.bitsOf 2 = [true, false, true, true, false] := by
  decide +kernel

/-! ## The copy / isolation glue REGENERATED from the Python source

`Generated/HeapSrc.lean` is rewritten on every run of the check from `Cell.begin_parse / to_slice / copy / to_builder` (boc/cell.py),
`Slice.copy / to_cell / to_builder / from_cell` (boc/slice.py) and `Builder.end_cell / to_cell / to_slice` (boc/builder.py) by the
alias-graph translator harness/translate/pyheap.py: each method is a transformer of the heap that says, for the new object, which
containers are COPIES (`x.copy()`, `x[k:]`) and which are the receiver's own (a bare `self.bits`).  `Proofs/SrcHeap.lean` proves each
equal to the model's `derive` transition on every well-formed heap, so the theorems of this file hold of the regenerated steps; a
`.copy()` dropped in the source makes the regenerated transformer alias a container and the equation unprovable. -/

open TonVerif.Generated.HeapSrc TonVerif.Proofs.SrcHeap in
/-- the regenerated methods applicable to object `self` of heap `σ`, as transitions (`Py.Heap.result`: a raising call leaves the heap
unchanged), each with the `derive` target the model assigns to it -/
def srcDerive (H : Bytes → Bytes) (σ : State) (self : Nat) : List (Kind × (State × Out)) :=
  if σ.has self .cell then
    [(.slice, Py.Heap.result σ (Cell_begin_parse H σ self)), (.slice, Py.Heap.result σ (Cell_to_slice H σ self)),
     (.slice, Py.Heap.result σ (Slice_from_cell H σ self)), (.cell, Py.Heap.result σ (Cell_copy H σ self)),
     (.builder, Py.Heap.result σ (Cell_to_builder H σ self))]
  else if σ.has self .slice then
    [(.slice, Py.Heap.result σ (Slice_copy H σ self)), (.cell, Py.Heap.result σ (Slice_to_cell H σ self)),
     (.builder, Py.Heap.result σ (Slice_to_builder H σ self))]
  else if σ.has self .builder then
    [(.cell, Py.Heap.result σ (Builder_end_cell H σ self)), (.cell, Py.Heap.result σ (Builder_to_cell H σ self)),
     (.slice, Py.Heap.result σ (Builder_to_slice H σ self))]
  else []

open TonVerif.Generated.HeapSrc TonVerif.Proofs.SrcHeap in
/-- REGENERATED STEP = MODEL STEP.  On every well-formed heap (`WF`: in particular every reachable one) and for every live cell,
slice or builder `self`, each of the eleven regenerated methods is exactly the transition `derive self dst` of `Model/Heap.lean`:
same decision to raise (exotic source of `to_builder`, more than 4 references / 1023 bits, the `Cell` constructor refusing the
content), same new object (type, `ref_offset = 0`, cached hashes of a new cell), a NEW bit container holding the receiver's
remaining bits and a NEW list holding its remaining references, nothing else touched. -/
theorem c08_src_step (H : Bytes → Bytes) (σ : State) (wf : WF σ) (self : Nat) :
    ∀ r ∈ srcDerive H σ self, r.2 = step H σ (.derive self r.1) := by
  unfold srcDerive
  repeat' split
  all_goals simp only [List.forall_mem_cons, List.not_mem_nil, false_imp_iff, implies_true, and_true]
  · rename_i hc
    exact ⟨Cell_begin_parse_eq H σ wf self hc, Cell_to_slice_eq H σ wf self hc, Slice_from_cell_eq H σ wf self hc,
      Cell_copy_eq H σ wf self hc, Cell_to_builder_eq H σ wf self hc⟩
  · rename_i hs
    exact ⟨Slice_copy_eq H σ self hs, Slice_to_cell_eq H σ self hs, Slice_to_builder_eq H σ wf self hs⟩
  · rename_i hb
    exact ⟨Builder_end_cell_eq H σ wf self hb, Builder_to_cell_eq H σ wf self hb, Builder_to_slice_eq H σ wf self hb⟩

theorem forall_mem_if {α : Type} {c : Prop} [Decidable c] {x : α} {P : α → Prop} :
    (∀ r ∈ (if c then [x] else []), P r) ↔ (c → P x) := by
  split <;> simp [*]

/-- whatever equals a model step inherits what `inv_step` and `cell_step` say of it -/
theorem of_step {H σ} (h : Inv H σ) {op : Op} {r : State × Out} (e : r = step H σ op) :
    Inv H r.1 ∧ ∀ i, i < σ.nObj → (σ.obj i).tag = .cell → cellObs r.1 i = cellObs σ i := by
  subst e; exact ⟨inv_step h op, fun i hi ht => (cell_step h op hi ht).1⟩

/-- ... and what `inv_run` and `cell_frame_run` say of every history after it -/
theorem of_step_run {H σ} (h : Inv H σ) {op : Op} {r : State × Out} (e : r = step H σ op) (post : List Op) {i : Nat}
    (hi : i < σ.nObj) (ht : (σ.obj i).tag = .cell) :
    Inv H (run H r.1 post) ∧ cellObs (run H r.1 post) i = cellObs σ i := by
  subst e
  obtain ⟨e1, hi', ht'⟩ := cell_step h op hi ht
  have h1 := inv_step h op
  exact ⟨inv_run h1 post, (cell_frame_run h1 post i hi' ht').1.trans e1⟩

/-- SEPARATION and IMMUTABILITY hold of the regenerated steps: from any heap satisfying the invariant (so: after every history),
every regenerated method call again yields a heap satisfying `Sep`, `WF`, `Coh` - the new slice / builder shares no container with
anything - and leaves every existing Cell exactly as it was (record, cached hashes, content of both containers). -/
theorem c08_src_separation (H : Bytes → Bytes) (σ : State) (h : Inv H σ) (self : Nat) :
    ∀ r ∈ srcDerive H σ self, Inv H r.2.1 ∧
      ∀ i, i < σ.nObj → (σ.obj i).tag = .cell → cellObs r.2.1 i = cellObs σ i :=
  fun r hr => of_step h (c08_src_step H σ h.wf self r hr)

/-- the same along histories: run any history, apply any regenerated method to any object, run any further history - the invariant
holds at the end and a cell of the first heap is unchanged. -/
theorem c08_src_immutable (H : Bytes → Bytes) (pre post : List Op) (self i : Nat)
    (hi : i < (run H init pre).nObj) (ht : ((run H init pre).obj i).tag = .cell) :
    ∀ r ∈ srcDerive H (run H init pre) self,
      Inv H (run H r.2.1 post) ∧ cellObs (run H r.2.1 post) i = cellObs (run H init pre) i := by
  intro r hr
  have h : Inv H (run H init pre) := inv_run (inv_init H) pre
  exact of_step_run h (c08_src_step H _ h.wf self r hr) post hi ht

open TonVerif.Generated.HeapSrc in
/-- non-vacuity: on the heap after `demo` (two cells sharing the caller's array, a consumed slice, a grown builder) the regenerated
`begin_parse` of cell 2 returns a new slice whose two containers are new (ids = the allocation counters) and hold the cell's bits and
references; the regenerated `to_builder` of the exotic-free slice 7 succeeds; `srcDerive` is non-empty for a cell, a slice, a builder. -/
example :
    (Cell_begin_parse H0 (run H0 init demo) 2).map (fun r => r.2) = some (run H0 init demo).nObj ∧
    (Cell_begin_parse H0 (run H0 init demo) 2).map (fun r => (r.1.obj r.2).bitsId) = some (run H0 init demo).nBit ∧
    (Cell_begin_parse H0 (run H0 init demo) 2).map (fun r => (r.1.obj r.2).refsId) = some (run H0 init demo).nRef ∧
    (Cell_begin_parse H0 (run H0 init demo) 2).map (fun r => (r.1.obj r.2).bitsId == ((run H0 init demo).obj 2).bitsId) = some false ∧
    (Cell_begin_parse H0 (run H0 init demo) 2).map (fun r => r.1.bitsOf r.2) = some ((run H0 init demo).bitsOf 2) ∧
    (Slice_to_builder H0 (run H0 init demo) 7).isSome = true ∧
    (srcDerive H0 (run H0 init demo) 2).length = 5 ∧ (srcDerive H0 (run H0 init demo) 7).length = 3 ∧
    (srcDerive H0 (run H0 init demo) 5).length = 3 := by
  decide +kernel

/-! ## Source tie of LOADS and STORES: `Builder.store_ref` and `Slice.load_ref` regenerated as heap transformers

The alias effect of the two reference-moving methods is read off the source: `store_ref` appends the VERY object it is given to
the builder's OWN list container, in place; `load_ref` hands out the VERY Cell object held by the list and changes only the slice's
`ref_offset`.  Each is the model transition (`storeRef` / `loadRef`), so the invariant and the immutability of cells hold of histories
that contain the regenerated steps. -/

open TonVerif.Generated.HeapSrc TonVerif.Proofs.SrcHeap in
/-- the regenerated mutating methods applicable to `self` (with argument `arg` where the method takes one), as transitions, each with the
model operation it is proved equal to -/
def srcMut (H : Bytes → Bytes) (σ : State) (self arg : Nat) : List (Op × (State × Out)) :=
  (if σ.has self .builder && σ.has arg .cell then [(Op.storeRef self arg, Py.Heap.resultUnit σ (Builder_store_ref H σ self arg))] else []) ++
  (if σ.has self .slice then [(Op.loadRef self, Py.Heap.result σ (Slice_load_ref H σ self))] else [])

open TonVerif.Generated.HeapSrc TonVerif.Proofs.SrcHeap in
/-- REGENERATED `Builder.store_ref(ref)` = MODEL `storeRef`, on every well-formed heap, for every live builder and live cell: it raises
exactly when the builder's list already holds 4 entries and changes nothing then; otherwise the ONLY change of the heap is that the
list container the builder points to holds one more entry, the object `ref` itself (no copy, no new container, no other object's
record touched). -/
theorem c08_src_store_step (H : Bytes → Bytes) (σ : State) (wf : WF σ) (self ref : Nat)
    (hb : σ.has self .builder = true) (hc : σ.has ref .cell = true) :
    Py.Heap.resultUnit σ (Builder_store_ref H σ self ref) = step H σ (.storeRef self ref) ∧
    (Builder_store_ref H σ self ref = none ↔ (σ.refBuf (σ.obj self).refsId).length ≥ 4) ∧
    (∀ σ' r, Builder_store_ref H σ self ref = some (σ', r) →
      r = self ∧ σ' = σ.setR (σ.obj self).refsId (σ.refBuf (σ.obj self).refsId ++ [ref])) := by
  refine ⟨Builder_store_ref_eq H σ wf self ref hb hc, ?_, ?_⟩
  · by_cases hl : (σ.refBuf (σ.obj self).refsId).length ≥ 4 <;> simp [Builder_store_ref, hl]
  · intro σ' r h
    by_cases hl : (σ.refBuf (σ.obj self).refsId).length ≥ 4
    · simp [Builder_store_ref, hl] at h
    · simp only [Builder_store_ref, hl, decide_false, Bool.false_eq_true, if_false, Option.some.injEq, Prod.mk.injEq] at h
      exact ⟨h.2.symm, h.1.symm⟩

open TonVerif.Generated.HeapSrc TonVerif.Proofs.SrcHeap in
/-- REGENERATED `Slice.load_ref()` = MODEL `loadRef`, on every heap, for every live slice: IndexError exactly when no reference
remains; otherwise the result is the object stored at `refs[ref_offset]` ITSELF (the caller receives the cell, not a copy), no
container changes and the only record that changes is the slice's own (`ref_offset + 1`). -/
theorem c08_src_load_step (H : Bytes → Bytes) (σ : State) (self : Nat) (hs : σ.has self .slice = true) :
    Py.Heap.result σ (Slice_load_ref H σ self) = step H σ (.loadRef self) ∧
    (∀ σ' c, Slice_load_ref H σ self = some (σ', c) →
      (σ.refBuf (σ.obj self).refsId)[(σ.obj self).off]? = some c ∧ σ'.bitBuf = σ.bitBuf ∧ σ'.refBuf = σ.refBuf ∧
      (∀ j, j ≠ self → σ'.obj j = σ.obj j) ∧ (σ'.obj self).off = (σ.obj self).off + 1 ∧
      (σ'.obj self).bitsId = (σ.obj self).bitsId ∧ (σ'.obj self).refsId = (σ.obj self).refsId) := by
  refine ⟨Slice_load_ref_eq H σ self hs, ?_⟩
  intro σ' c h
  simp only [Slice_load_ref, Py.Heap.refAt?, Py.Heap.setOff] at h
  cases hg : (σ.refBuf (σ.obj self).refsId)[(σ.obj self).off]? with
  | none => simp [hg] at h
  | some c0 =>
    simp only [hg, Option.bind_some, Option.some.injEq, Prod.mk.injEq] at h
    obtain ⟨rfl, rfl⟩ := h
    refine ⟨rfl, rfl, rfl, fun j hj => by simp [State.setObj, hj], by simp [State.setObj], by simp [State.setObj], by simp [State.setObj]⟩

/-- SEPARATION and IMMUTABILITY hold of the regenerated loads / stores: from any heap satisfying the invariant, a regenerated
`store_ref` / `load_ref` again yields `Sep ∧ WF ∧ Coh` and leaves every existing Cell exactly as it was — in particular the cell whose
object was appended to a builder or handed out by a slice. -/
theorem c08_src_separation_mut (H : Bytes → Bytes) (σ : State) (h : Inv H σ) (self arg : Nat) :
    ∀ r ∈ srcMut H σ self arg, r.2 = step H σ r.1 ∧ Inv H r.2.1 ∧
      ∀ i, i < σ.nObj → (σ.obj i).tag = .cell → cellObs r.2.1 i = cellObs σ i := by
  have e : ∀ r ∈ srcMut H σ self arg, r.2 = step H σ r.1 := by
    unfold srcMut
    simp only [List.forall_mem_append, forall_mem_if, Bool.and_eq_true]
    exact ⟨fun hb => (c08_src_store_step H σ h.wf self arg hb.1 hb.2).1, fun hs => (c08_src_load_step H σ self hs).1⟩
  exact fun r hr => ⟨e r hr, of_step h (e r hr)⟩

/-- along histories: any history, then a regenerated `store_ref` / `load_ref`, then any further history — the invariant holds at the end
and a cell of the first heap is unchanged (record, cached hashes, both containers). -/
theorem c08_src_immutable_mut (H : Bytes → Bytes) (pre post : List Op) (self arg i : Nat)
    (hi : i < (run H init pre).nObj) (ht : ((run H init pre).obj i).tag = .cell) :
    ∀ r ∈ srcMut H (run H init pre) self arg,
      Inv H (run H r.2.1 post) ∧ cellObs (run H r.2.1 post) i = cellObs (run H init pre) i := by
  intro r hr
  have h : Inv H (run H init pre) := inv_run (inv_init H) pre
  exact of_step_run h (c08_src_separation_mut H _ h self arg r hr).1 post hi ht

open TonVerif.Generated.HeapSrc in
/-- non-vacuity on the `demo` heap: builder 5 (references `[2, 2]`) takes cell 2: the regenerated `store_ref` returns the builder itself,
its list container ends with object 2 and no container was allocated; the regenerated `load_ref` of slice 4 (no references) raises;
`srcMut` has one entry for the builder 5 and one for the slice 7. -/
example :
    (Builder_store_ref H0 (run H0 init demo) 5 2).map (fun r => (r.2, (r.1.refBuf (r.1.obj 5).refsId).getLast?, r.1.nRef == (run H0 init demo).nRef))
      = some (5, some 2, true) ∧
    (Slice_load_ref H0 (run H0 init demo) 4).isNone = true ∧
    (srcMut H0 (run H0 init demo) 5 2).length = 1 ∧ (srcMut H0 (run H0 init demo) 7 0).length = 1 := by
  decide +kernel

/-! ## Source tie of the BIT-MOVING loads and stores, and one theorem over the whole regenerated alphabet

`Builder.store_bits / store_cell / store_slice / store_uint` and `Slice.preload_bits / load_bits / skip_bits / preload_uint / load_uint`
are regenerated from boc/builder.py / boc/slice.py as heap transformers too: which container is extended or shortened IN PLACE, which
array is NEW, that `store_cell` / `store_slice` append the ELEMENTS of the source list (and never keep the source's containers). -/

/-- the non-receiver arguments a source-level call may carry: an object, a length / size, an int, a literal bit string -/
structure SrcArgs where
  arg : Nat
  n : Nat
  v : Int
  bs : Bits

open TonVerif.Generated.HeapSrc TonVerif.Proofs.SrcHeap in
/-- the regenerated bit-moving methods applicable to `self` with arguments `a`, as transitions, each with the model operation it is
proved equal to.  `store_uint` whose `int2ba` raises and `load_uint(0)` (`ba2int` of nothing raises) are the failing transition
(`observe` of a non-cell: heap unchanged, `err`).  (`store_slice` needs `ref_offset ≤ len(refs)` of its argument: that is the
invariant `WF.offLe`, carried by every history.) -/
def srcBits (H : Bytes → Bytes) (σ : State) (self : Nat) (a : SrcArgs) : List (Op × (State × Out)) :=
  (if σ.has self .builder then
    [(Op.storeBits self a.bs, Py.Heap.resultUnit σ (Builder_store_bits H σ self a.bs)),
     ((match Py.Heap.int2baU? a.v a.n with | some e => Op.storeBits self e | none => Op.observe self),
        Py.Heap.resultUnit σ (Builder_store_uint H σ self a.v a.n))] ++
    (if σ.has a.arg .ubits then [(Op.storeFrom self a.arg, Py.Heap.resultUnit σ (Builder_store_bits H σ self (σ.bitsOf a.arg)))] else []) ++
    (if σ.has a.arg .cell then [(Op.storeFrom self a.arg, Py.Heap.resultUnit σ (Builder_store_cell H σ self a.arg))] else []) ++
    (if σ.has a.arg .slice then [(Op.storeFrom self a.arg, Py.Heap.resultUnit σ (Builder_store_slice H σ self a.arg))] else [])
   else []) ++
  (if σ.has self .slice then
    [(Op.peekBits self a.n, Py.Heap.resultBits σ (Slice_preload_bits H σ self a.n)),
     (Op.dropBits self a.n true, Py.Heap.resultBits σ (Slice_load_bits H σ self a.n)),
     (Op.dropBits self a.n false, Py.Heap.resultDrop σ ((σ.bitsOf self).take a.n) (Slice_skip_bits H σ self a.n)),
     ((if a.n = 0 then Op.observe self else Op.dropBits self a.n false),
        Py.Heap.resultDrop σ ((σ.bitsOf self).take a.n) (Slice_load_uint H σ self a.n))]
   else [])

open TonVerif.Generated.HeapSrc TonVerif.Proofs.SrcHeap in
/-- REGENERATED BIT-MOVING LOAD / STORE = MODEL STEP, on every heap satisfying the invariant (so: after every history):
`store_bits` / `store_uint` = `storeBits` (the builder's OWN array extended in place, overflow checked first, the argument only read);
`store_cell` / `store_slice` / `store_bits(array)` = `storeFrom` (own array and own list extended by the source's remaining bits and the
ELEMENTS of its remaining references - the source's containers are not kept); `preload_bits` = `peekBits` and `load_bits` =
`dropBits · true` (the result is a NEW array); `skip_bits` / `load_uint` = `dropBits · false` (only the slice's OWN array shrinks, underflow
checked first). -/
theorem c08_src_bits_step (H : Bytes → Bytes) (σ : State) (h : Inv H σ) (self : Nat) (a : SrcArgs) :
    ∀ r ∈ srcBits H σ self a, r.2 = step H σ r.1 := by
  have notCell : ∀ {t : Tag}, σ.has self t = true → t ≠ .cell → σ.has self .cell = false := by
    intro t hs ht; simp [State.has, (has_iff.1 hs).2, ht]
  unfold srcBits
  rw [List.forall_mem_append]
  constructor <;> split <;>
    simp only [List.forall_mem_append, List.forall_mem_cons, forall_mem_if, List.not_mem_nil, false_imp_iff, implies_true, and_true]
  · rename_i hb
    refine ⟨⟨⟨⟨Builder_store_bits_eq H σ self a.bs hb, ?_⟩, Builder_store_bits_array_eq H σ self a.arg hb⟩,
      Builder_store_cell_eq H σ h.wf self a.arg hb⟩, fun hs => ?_⟩
    · have := Builder_store_uint_eq H σ self a.v a.n hb
      cases he : Py.Heap.int2baU? a.v a.n with
      | none => simp only [he] at this ⊢; rw [this]; simp [step, notCell hb nofun]
      | some e => simp only [he] at this ⊢; exact this
    · obtain ⟨hbi, hbt⟩ := has_iff.1 hb
      obtain ⟨hsi, hst⟩ := has_iff.1 hs
      have hne : self ≠ a.arg := by intro e; rw [e, hst] at hbt; cases hbt
      exact Builder_store_slice_eq H σ h.wf self a.arg hb hs
        (h.sep.sepR self a.arg hbi hsi hne (by simp [hbt, Tag.owner]) (by simp [hst, Tag.hasRefs]))
  · rename_i hs
    refine ⟨Slice_preload_bits_eq H σ self a.n hs, Slice_load_bits_eq H σ h.wf self a.n hs, Slice_skip_bits_eq H σ self a.n hs, ?_⟩
    by_cases hn : a.n = 0
    · simp [hn, Slice_load_uint_zero, Py.Heap.resultDrop, step, notCell hs nofun]
    · simp only [hn, if_false]
      exact (Slice_load_uint_eq H σ self a.n (by omega) hs).1

open TonVerif.Generated.HeapSrc TonVerif.Proofs.SrcHeap in
/-- REGENERATED `Cell(bits, refs, cell_type)` = MODEL `cellCtor`, on every heap, for every caller-held array `ub` and list `ur`.
`Cell___init__` is read off boc/cell.py on every run: the two pointer stores (`self.bits = bits`, `self.refs = refs`, repeated by
`NullCell.__init__`) decide which containers the new object points to; every other attribute is a cache computed by methods that were
inspected to only READ `.bits` / `.refs` (`resolve_mask`, `calculate_hashes`, `get_descriptors`, `get_depth`, `get_hash` ...), except
`get_data_bytes`, which is translated and run as a scratch call.  The theorem: the call raises exactly when the model's constructor
refuses the content; otherwise the ONLY change of the heap is one new Cell record whose `.bits` / `.refs` are the caller's OWN two
containers (no copy), whose caches are what `construct` computes from their present content - no container is allocated that
survives the call, none is written, no other record changes. -/
theorem c08_src_ctor_step (H : Bytes → Bytes) (σ : State) (ub ur : Nat) (kind : Int)
    (hb : σ.has ub .ubits = true) (hr : σ.has ur .urefs = true) :
    Py.Heap.result σ (Cell___init__ H σ (σ.obj ub).bitsId (σ.obj ur).refsId kind) = step H σ (.cellCtor ub ur kind) ∧
    (∀ σ' c, Cell___init__ H σ (σ.obj ub).bitsId (σ.obj ur).refsId kind = some (σ', c) →
      c = σ.nObj ∧ (σ'.obj c).tag = .cell ∧ (σ'.obj c).bitsId = (σ.obj ub).bitsId ∧ (σ'.obj c).refsId = (σ.obj ur).refsId ∧
      σ'.bitBuf = σ.bitBuf ∧ σ'.refBuf = σ.refBuf ∧ σ'.nBit = σ.nBit ∧ σ'.nRef = σ.nRef ∧ σ'.nObj = σ.nObj + 1 ∧
      ∀ j, j ≠ c → σ'.obj j = σ.obj j) := by
  refine ⟨Cell___init___eq H σ ub ur kind hb hr, ?_⟩
  intro σ' c h
  simp only [Cell___init__, Py.Heap.newCell?] at h
  cases hm : mkCellRec H σ (σ.obj ub).bitsId (σ.obj ur).refsId kind (σ.bitBuf (σ.obj ub).bitsId) (σ.refBuf (σ.obj ur).refsId) with
  | none => simp [hm] at h
  | some rec =>
    simp only [hm, Option.map_some, Option.bind_some, scratch_get_data_bytes, Option.some.injEq, Prod.mk.injEq] at h
    obtain ⟨rfl, rfl⟩ := h
    simp only [mkCellRec, Option.map_eq_some_iff] at hm
    obtain ⟨info, _, rfl⟩ := hm
    refine ⟨rfl, by simp [State.push], by simp [State.push], by simp [State.push], rfl, rfl, rfl, rfl, rfl, ?_⟩
    intro j hj; simp [State.push, hj]

/-- EVERY regenerated call, as a transition tagged with the model operation it equals: the eleven copy / derive methods, `store_ref`,
`load_ref`, the bit-moving loads / stores, and the constructor `Cell(array self, list a.arg, a.v)`. -/
def srcCalls (H : Bytes → Bytes) (σ : State) (self : Nat) (a : SrcArgs) : List (Op × (State × Out)) :=
  (srcDerive H σ self).map (fun r => (Op.derive self r.1, r.2)) ++ srcMut H σ self a.arg ++ srcBits H σ self a ++
  (if σ.has self .ubits && σ.has a.arg .urefs then
    [(Op.cellCtor self a.arg a.v,
      Py.Heap.result σ (TonVerif.Generated.HeapSrc.Cell___init__ H σ (σ.obj self).bitsId (σ.obj a.arg).refsId a.v))] else [])

/-- every regenerated call is the model step it is tagged with -/
theorem c08_src_calls_step (H : Bytes → Bytes) (σ : State) (h : Inv H σ) (self : Nat) (a : SrcArgs) :
    ∀ r ∈ srcCalls H σ self a, r.2 = step H σ r.1 := by
  unfold srcCalls
  simp only [List.forall_mem_append, List.forall_mem_map, forall_mem_if, Bool.and_eq_true]
  exact ⟨⟨⟨c08_src_step H σ h.wf self, fun r hr => (c08_src_separation_mut H σ h self a.arg r hr).1⟩, c08_src_bits_step H σ h self a⟩,
    fun hc => (c08_src_ctor_step H σ self a.arg a.v hc.1 hc.2).1⟩

/-- a history over the WHOLE op alphabet: regenerated source calls (any of `srcCalls`, any receiver, any arguments) interleaved with
the transitions that have no regenerated counterpart (the cells of `Boc.deserialize`, `hash` / `to_boc`, the caller creating arrays and lists) -/
inductive SrcRun (H : Bytes → Bytes) : State → State → Prop where
  | done (σ : State) : SrcRun H σ σ
  | src (σ : State) (self : Nat) (a : SrcArgs) (r : Op × (State × Out)) (σ' : State) :
      r ∈ srcCalls H σ self a → SrcRun H r.2.1 σ' → SrcRun H σ σ'
  | model (σ : State) (op : Op) (σ' : State) : SrcRun H (step H σ op).1 σ' → SrcRun H σ σ'

/-- SEPARATION and IMMUTABILITY along every history over the whole alphabet of regenerated calls.  From any heap satisfying the
invariant (e.g. the empty heap), after any sequence of regenerated copy / derive / load / store calls and hand-model transitions:
`Sep ∧ WF ∧ Coh` holds again - no slice or builder shares a container with anything, in particular a builder filled by `store_cell` /
`store_slice` does not point into the source cell, an array returned by `load_bits` is not the slice's - and every cell of the first
heap is exactly as it was: record, cached hashes, content of its bit container and of its list. -/
theorem c08_src_history (H : Bytes → Bytes) (σ σ' : State) (h : Inv H σ) (r : SrcRun H σ σ') :
    Inv H σ' ∧ ∀ i, i < σ.nObj → (σ.obj i).tag = .cell → cellObs σ' i = cellObs σ i := by
  have key : ∀ (σ : State) (op : Op), Inv H σ → ∀ σ', (Inv H (step H σ op).1 →
      (Inv H σ' ∧ ∀ i, i < (step H σ op).1.nObj → ((step H σ op).1.obj i).tag = .cell → cellObs σ' i = cellObs (step H σ op).1 i)) →
      Inv H σ' ∧ ∀ i, i < σ.nObj → (σ.obj i).tag = .cell → cellObs σ' i = cellObs σ i := by
    intro σ op h σ' ih
    obtain ⟨a, b⟩ := ih (inv_step h op)
    refine ⟨a, fun i hi ht => ?_⟩
    obtain ⟨e, hi', ht'⟩ := cell_step h op hi ht
    exact (b i hi' ht').trans e
  induction r with
  | done σ => exact ⟨h, fun _ _ _ => rfl⟩
  | src σ self a r σ' hr _ ih =>
    have e := c08_src_calls_step H σ h self a r hr
    rw [e] at ih
    exact key σ r.1 h σ' ih
  | model σ op σ' _ ih => exact key σ op h σ' ih

theorem c08_src_history_init (H : Bytes → Bytes) (σ' : State) (r : SrcRun H init σ') : Inv H σ' :=
  (c08_src_history H init σ' (inv_init H) r).1

open TonVerif.Generated.HeapSrc in
/-- non-vacuity on the `demo` heap (builder 5, cells 2 / 3 / 6 / 8, slices 4 / 7): the regenerated `store_cell` of builder 5 with cell 6
returns the builder, whose two containers are still its own and differ from the cell's, its array ends
with the cell's bits and no container was allocated; `load_bits(2)` of slice 4 returns a container that did not exist before and is not
the slice's; `skip_bits(9)` raises; the alphabet is non-empty for a builder and for a slice, and a two-call `SrcRun` exists. -/
example :
    (Builder_store_cell H0 (run H0 init demo) 5 6).map (fun r => (r.2, (r.1.obj 5).bitsId == ((run H0 init demo).obj 5).bitsId,
        (r.1.obj 5).bitsId == (r.1.obj 6).bitsId, (r.1.obj 5).refsId == (r.1.obj 6).refsId, r.1.nBit == (run H0 init demo).nBit))
      = some (5, true, false, false, true) ∧
    (Slice_load_bits H0 (run H0 init demo) 4 2).map (fun r => (r.2 == (run H0 init demo).nBit, r.2 == (r.1.obj 4).bitsId, r.1.bitBuf r.2,
        r.1.bitsOf 4)) = some (true, false, [true, true], [false]) ∧
    (Slice_skip_bits H0 (run H0 init demo) 4 9).isNone = true ∧
    (srcBits H0 (run H0 init demo) 5 ⟨6, 3, 5, [true]⟩).length = 3 ∧ (srcBits H0 (run H0 init demo) 4 ⟨0, 2, 0, []⟩).length = 4 ∧
    (srcCalls H0 (run H0 init demo) 5 ⟨2, 3, 5, [true]⟩).length = 7 := by
  decide +kernel

open TonVerif.Generated.HeapSrc in
example : ∃ σ', SrcRun H0 (run H0 init demo) σ' ∧ σ'.nObj = (run H0 init demo).nObj + 1 := by
  have hs : (run H0 init demo).has 4 .slice = true := by decide +kernel
  have hb : (run H0 init demo).has 4 .builder = false := by decide +kernel
  refine ⟨(Py.Heap.resultBits (run H0 init demo) (Slice_load_bits H0 (run H0 init demo) 4 2)).1,
    .src (run H0 init demo) 4 ⟨0, 2, 0, []⟩
      (Op.dropBits 4 2 true, Py.Heap.resultBits (run H0 init demo) (Slice_load_bits H0 (run H0 init demo) 4 2)) _ ?_ (.done _), ?_⟩
  · simp [srcCalls, srcBits, hs, hb]
  · decide +kernel

/-! ### `Cell(bits, refs)`: the constructor's one heap-touching helper, `get_data_bytes`, on its own -/

open TonVerif.Generated.HeapSrc TonVerif.Proofs.SrcHeap in
/-- Beside `c08_src_ctor_step` (the whole regenerated `Cell.__init__` = `cellCtor`), two facts about the constructor stated on their own:
(model side) a successful `cellCtor` yields a cell whose `.bits` / `.refs` ARE the caller's two containers and changes no container;
(source side) `Cell.get_data_bytes` - regenerated from boc/cell.py; the only method `__init__` calls that touches a bit array (once per
hash level and once for `_data_bytes`) - run on that new cell PADS A COPY: every existing bit container (so the caller's array the cell
points to), every list and every object record is left as it was; it only allocates one scratch array.  That `__init__` stores the two
pointers it is given is checked on the source text by the translator (heapsrc.program). -/
theorem c08_src_ctor_step_partial (H : Bytes → Bytes) (σ σ' : State) (ub ur c : Nat) (kind : Int)
    (hstep : step H σ (.cellCtor ub ur kind) = (σ', .obj c)) :
    ((σ'.obj c).bitsId = (σ.obj ub).bitsId ∧ (σ'.obj c).refsId = (σ.obj ur).refsId ∧ σ'.bitBuf = σ.bitBuf ∧ σ'.refBuf = σ.refBuf) ∧
    ∃ σ'' v, Cell_get_data_bytes H σ' c = some (σ'', v) ∧ (∀ j, j < σ'.nBit → σ''.bitBuf j = σ'.bitBuf j) ∧
      σ''.refBuf = σ'.refBuf ∧ σ''.obj = σ'.obj ∧ σ''.nObj = σ'.nObj := by
  constructor
  · simp only [step] at hstep
    split at hstep
    · cases hm : mkCellRec H σ (σ.obj ub).bitsId (σ.obj ur).refsId kind (σ.bitBuf (σ.obj ub).bitsId) (σ.refBuf (σ.obj ur).refsId) with
      | none => simp [hm] at hstep
      | some rec =>
        simp only [hm, Prod.mk.injEq, Out.obj.injEq] at hstep
        obtain ⟨rfl, rfl⟩ := hstep
        simp only [mkCellRec, Option.map_eq_some_iff] at hm
        obtain ⟨info, _, rfl⟩ := hm
        simp [State.push]
    · simp at hstep
  · obtain ⟨bs, e⟩ := Cell_get_data_bytes_frame H σ' c
    exact ⟨_, _, e, fun j hj => by simp [Nat.ne_of_lt hj], rfl, rfl, rfl⟩

open TonVerif.Generated.HeapSrc in
/-- non-vacuity: on `demo` the regenerated constructor applied to the caller's array 0 and list 1 (already shared by cells 2 and 3) makes
object 9, a cell pointing at the very same two containers; nothing is allocated. -/
example :
    (Cell___init__ H0 (run H0 init demo) ((run H0 init demo).obj 0).bitsId ((run H0 init demo).obj 1).refsId (-1)).map
      (fun r => (r.2, (r.1.obj r.2).bitsId == (r.1.obj 2).bitsId, (r.1.obj r.2).refsId == (r.1.obj 2).refsId,
        r.1.nBit == (run H0 init demo).nBit, r.1.nRef == (run H0 init demo).nRef)) = some (9, true, true, true, true) ∧
    (run H0 init demo).has 0 .ubits = true ∧ (run H0 init demo).has 1 .urefs = true := by
  decide +kernel

open TonVerif.Generated.HeapSrc in
/-- non-vacuity: in `demo`, cell 2 was built by `Cell(array 0, list 1)`; the regenerated `get_data_bytes` on it returns `10110` padded to
`0xB4`, allocates one array, and the cell still points at the caller's array, which still holds `10110`. -/
example :
    (Cell_get_data_bytes H0 (run H0 init demo) 2).map (fun r => (r.2, r.1.nBit == (run H0 init demo).nBit + 1, r.1.bitsOf 2,
        (r.1.obj 2).bitsId == (r.1.obj 0).bitsId)) = some ([0xB4], true, [true, false, true, true, false], true) := by
  decide +kernel

end TonVerif.Properties.C08
