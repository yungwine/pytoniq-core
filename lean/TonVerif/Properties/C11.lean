/-
C11 — Merkle proof checks are complete and sound.

Model: Model/Proof.lean (`checkProof`, `checkBlockHeaderProof(State)`, `checkAccountProof`, `checkShardProof`
over constructed cell objects `PCell`) and Model/Locate.lean (`locateAccount`: the TL-B walk of `check_account_proof` to the
account cell, concrete; `lookupShardAccount`: the lookup-only reading of block.tlb / hashmap.tlb used in the statements).
Pruning: Proofs/Prune.lean (`PruneRel`).  Helper lemmas: Proofs/Merkle.lean, Proofs/Locate.lean, Proofs/LocateBind.lean.
`H` is SHA-256 as a parameter; completeness needs no property of `H` beyond 32-byte output (so that the hash fits
the proof cell's 256-bit field); soundness takes a LOCAL no-collision hypothesis on the representations at hand.

Up to "account proofs, end to end" the statements are about the hand model.  Then: the decision lines of check_proof.py regenerated
(section Src), the whole functions regenerated and proved equal to the model (SrcFull), and the TL-B walk on the regenerated
parsers, proved equal to `locateAccount` in part (SrcWalk: what is proved and what is left is said at its head).
-/
import TonVerif.Proofs.Merkle
import TonVerif.Proofs.ProofAccept
import TonVerif.Proofs.Binding
import TonVerif.Proofs.PruneWF
import TonVerif.Proofs.OrdCell
import TonVerif.Proofs.Locate
import TonVerif.Proofs.LocateBind
import TonVerif.Proofs.SrcArith2
import TonVerif.Generated.ProofChecks
import TonVerif.Proofs.SrcProof
import TonVerif.Proofs.SrcProofCtor
import TonVerif.Proofs.SrcLocate
import TonVerif.Proofs.SrcLocateWalk
import TonVerif.Proofs.SrcLocateAccounts
import TonVerif.Proofs.SrcLocateHeader

namespace TonVerif.Properties.C11
open TonVerif TonVerif.Model TonVerif.Proofs.CellSpec TonVerif.Proofs.Prune TonVerif.Proofs.Merkle

/-- COMPLETENESS (generic check and block-header check). Let `t` be any spec-valid tree of level 0 (a block, a shard
state, ...; inner Merkle cells and the pruned branches below them allowed) with spec values `s`, and `p` ANY pruning of
it (`PruneRel H 1 t p`: any set of subtrees replaced by pruned branches, deeper levels under inner Merkle cells).  Wrap
`p` in the Merkle proof cell naming `t`'s level-0 hash and depth.  Then that proof can be constructed,
`check_proof(proof, hash t)` returns, its only child is the object of `p`, and
`check_block_header_proof(proof[0], hash t)` returns.  Validity of the proof tree is DERIVED (`prune_treeWF`), not
assumed.  Remaining side conditions: the root hash is 32 valid bytes (true of SHA-256; nothing else about `H` is used)
and `depth t ≤ 1022` (the proof cell is one deeper than `t`, and cells deeper than 1023 cannot be built). -/
theorem c11_complete (H : Bytes → Bytes) (t p : Cell) (s : Spec.SInfo)
    (wft : TreeWF H t) (hs : specInfo H t = some s) (hlev : s.mask = 0) (hrel : PruneRel H 1 t p)
    (h32 : (s.hashAt 0).length = 32 ∧ Bytes.WF (s.hashAt 0)) (hd : s.depthAt 0 ≤ 1022) :
    ∃ c r, PCell.ofCell H (merkleProofCell (s.hashAt 0) (s.depthAt 0) p) = some c ∧ c.refs = [r] ∧
      PCell.ofCell H p = some r ∧
      checkProof c (s.hashAt 0) = true ∧ checkBlockHeaderProof r (s.hashAt 0) = true := by
  obtain ⟨sp, hsp, hinv⟩ := prune_invariant H 1 t p s hrel hs
  obtain ⟨h0, d0, _⟩ := hinv 0 (by omega)
  -- the pruned tree and the proof cell over it are spec-valid
  obtain ⟨wfc, hle⟩ := TonVerif.Proofs.PruneWF.prune_treeWF H 1 t p s (Nat.le_refl _) wft hs (by rw [hlev]; decide) hrel
  have wfp : TreeWF H (merkleProofCell (s.hashAt 0) (s.depthAt 0) p) := by
    unfold merkleProofCell
    rw [TreeWF]
    refine ⟨⟨wfc, trivial⟩, .merkleProof, [sp], by decide, by simp [specInfos, hsp], ?_⟩
    have hmask7 := TonVerif.Proofs.PruneWF.treeWF_mask_le H p sp wfc hsp
    refine ⟨?_, by simp, ?_, ?_, by simp, by simp, by simp, by simp⟩
    · rw [length_bytesToBits, mproofData_length _ _ h32.1]; omega
    · intro c hc; simp at hc; subst hc; exact hmask7
    · intro _ l
      rw [node_plain H .merkleProof _ _ (by decide)]
      show Spec.plainDepthAt .merkleProof [sp] _ l ≤ 1023
      obtain ⟨L, _, _, _, e⟩ := TonVerif.Proofs.PruneWF.plainDepthAt_top .merkleProof [sp]
        (Spec.nodeMask .merkleProof (bytesToBits (mproofData (s.hashAt 0) (s.depthAt 0))) [sp]) l
      rw [e, TonVerif.Proofs.PruneWF.depthOver_single]
      have h1 := hle sp hsp (L + Spec.Kind.mu .merkleProof)
      have h2 := TonVerif.Proofs.PruneWF.depth_level0 H t s hs hlev (L + Spec.Kind.mu .merkleProof)
      omega
  have hd : s.depthAt 0 < 65536 := by omega
  -- the proof cell and its child can be constructed
  obtain ⟨i, si, hi, hsi, hag⟩ := tree_agrees H _ wfp
  unfold merkleProofCell at hi
  obtain ⟨rs, hrs, hc, hinfos⟩ := ofCell_of_info H 3 _ [p] i hi
  obtain ⟨r, rfl, hr⟩ := ofCells_singleton H p rs hrs
  have hfields : i.kind = 3 ∧ i.bits = bytesToBits (mproofData (s.hashAt 0) (s.depthAt 0)) := by
    simp only [Cell.info, hinfos, Option.bind_eq_bind, Option.bind_some] at hi
    have := construct_fields H _ _ _ _ hi
    exact ⟨this.1, this.2.1⟩
  -- the child reports the spec values of `p`, which are those of `t` at level 0
  have hagp := (Proofs.Locate.ofCell_agrees H p r sp wfc hr hsp).2 0
  have hh : r.info.getHash 0 = some (s.hashAt 0) := by rw [hagp.1, h0]
  have hdp : r.info.getDepth 0 = some (s.depthAt 0) := by rw [hagp.2, d0]
  obtain ⟨a1, a2⟩ := checkProof_accepts (.mk i [r]) r (s.hashAt 0) (s.depthAt 0) hfields.1 hfields.2 rfl
    h32.1 h32.2 hd hh hdp
  exact ⟨.mk i [r], r, hc, rfl, hr, a1, a2⟩

/-- SOUNDNESS, structural part (no hash assumption). If `check_proof(c, h)` returns then `c` is a Merkle proof
cell with exactly one child, exactly 280 data bits `03 ++ h ++ depth`, and the child's level-0 hash is `h`.
Hence: a cell of any other type is rejected, and so is a proof whose stored hash or whose child's hash is not
the expected one. -/
theorem c11_sound_shape (c : PCell) (h : Bytes) (hacc : checkProof c h = true) :
    c.info.kind = kMerkleProof ∧ pySlice c.data 1 33 = h ∧ c.info.bits.length = 280 ∧
    ∃ r d, c.refs = [r] ∧ r.info.getHash 0 = some h ∧ r.info.getDepth 0 = some d ∧
      c.data = [3] ++ h ++ Spec.be2 d := by
  obtain ⟨hk, hs, hb, r, d, hr, hh, hd, _, hdata⟩ := (Proofs.ProofAccept.checkProof_iff c h).1 hacc
  exact ⟨hk, hs, hb, r, d, hr, hh, hd, hdata⟩

theorem c11_reject_not_proof (c : PCell) (h : Bytes) (hk : c.info.kind ≠ kMerkleProof) : checkProof c h = false :=
  Bool.eq_false_iff.2 fun hc => hk (c11_sound_shape c h hc).1

theorem c11_reject_wrong_hash (c : PCell) (h h' : Bytes) (hacc : checkProof c h = true) (hne : h' ≠ h) :
    checkProof c h' = false :=
  Bool.eq_false_iff.2 fun hc => hne ((c11_sound_shape c h' hc).2.1.symm.trans (c11_sound_shape c h hacc).2.1)

/-! ## block header: the returned state hash -/

/-- If `check_block_header_proof(root, h, True)` returns `sh` then `root.get_hash(0) = h`, `root[2]` is a Merkle
update cell, `sh` is the level-0 hash of its second child AND the new-state hash stored in the update cell's own
data (`data[33:65]`) — the only place the block hash commits to it (the child's level-0 hash alone could be named
by a level-2 pruned branch). -/
theorem c11_header_state_sound (root : PCell) (h sh : Bytes) (hacc : checkBlockHeaderProofState root h = some sh) :
    root.info.getHash 0 = some h ∧
    ∃ su c, root.refs[2]? = some su ∧ su.refs[1]? = some c ∧ su.info.kind = kMerkleUpdate ∧
      c.info.getHash 0 = some sh ∧ pySlice su.data 33 65 = sh :=
  (Proofs.ProofAccept.checkBlockHeaderProofState_iff root h sh).1 hacc

/-! ## account proofs

`check_account_proof(proof, shrd_blk, address, account_state_root)` is `checkAccountProof O roots blk addr state`
(`roots = Cell.from_boc(proof)`, `blk = shrd_blk.root_hash`, `addr = address.hash_part`).  The TL-B walk
`ShardStateUnsplit.deserialize(st).accounts[0][addr].cell[0]` is the CONCRETE function `locateAccount`
(Model/Locate.lean): state header fields, `load_hashmap_aug_e` over the whole `ShardAccounts` dictionary (C10 label
reader), `DepthBalanceInfo`, `ShardAccount`, the `^[…]` group, `custom`.  `O : Opaque` = the verdicts of the two
sub-parsers that are not modelled (`Account.deserialize` on an `account$1` cell, `McStateExtra.deserialize` on an
ordinary cell); every theorem below holds for ALL `O` and says so by quantifying over it. -/
open TonVerif.Proofs.Locate

/-- SOUNDNESS of the account check, composition (no hash assumption): if `check_account_proof` returns, there were
exactly two roots, both pass `check_proof` (against the block root hash resp. the state hash `sh` that the header's
Merkle update commits to), the state proof's child `st` has level-0 hash `sh`, the TL-B walk over `st` returned a cell
`acc`, and the REPRESENTATION hash (`Cell.hash`) of the supplied account state equals the level-0 hash of `acc`. -/
theorem c11_account_sound (O : Opaque) (roots : List PCell) (blk addr : Bytes) (state : PCell)
    (hacc : checkAccountProof O roots blk addr state = true) :
    ∃ p0 p1 hdr st acc sh, roots = [p0, p1] ∧ checkProof p0 blk = true ∧ p0.refs[0]? = some hdr ∧
      checkBlockHeaderProofState hdr blk = some sh ∧ p1.refs[0]? = some st ∧ st.info.getHash 0 = some sh ∧
      checkProof p1 sh = true ∧ locateAccount O st addr = some acc ∧ acc.info.getHash 0 = some state.info.hash :=
  (Proofs.ProofAccept.checkAccountProof_iff O roots blk addr state).1 hacc

/-- WHAT THE WALK FINDS.  If
`ShardStateUnsplit.deserialize(st.begin_parse()).accounts[0][int.from_bytes(addr,'big')].cell[0]` returns `acc` for a
32-byte address, then `st` is an ordinary cell carrying the `shard_state#9023afe2` tag and ≥ 361 data bits, and `acc` is
the cell that the lookup-only reading of block.tlb / hashmap.tlb designates (`lookupShardAccount`): `st[1]` is an
ordinary cell `ahme_root$1 root:^…`, the dictionary walk from `root = st[1][0]` along the 256 bits of `addr` (each
label a prefix of the remaining key, the next key bit choosing the left or right reference) ends in a leaf, and `acc`
is the `account:^Account` reference of that leaf's `ShardAccount` (the first reference after the `DepthBalanceInfo`
extra, 320 value bits present).  So the dictionary of the proved state maps `addr` to a `ShardAccount` whose account
cell is `acc` — for every behaviour `O` of the unmodelled sub-parsers and whatever is pruned off the path. -/
theorem c11_locate_sound (O : Opaque) (st : PCell) (addr : Bytes) (acc : PCell) (hl : addr.length = 32) (hw : Bytes.WF addr)
    (h : locateAccount O st addr = some acc) :
    st.info.kind = kOrdinary ∧ 361 ≤ st.info.bits.length ∧ st.info.bits.take 32 = shardStateTag ∧
    lookupShardAccount pcellView st (bytesToBits addr) = some acc := by
  obtain ⟨hk, hlen, htag, _⟩ := locateAccount_some h
  exact ⟨hk, hlen, htag, locateAccount_lookup O st addr acc hl hw h⟩

/-- SOUNDNESS of the account check down to the dictionary: acceptance for a 32-byte address implies everything
`c11_account_sound` lists AND that the `ShardAccounts` dictionary of the proved state cell `st` maps the address to a
`ShardAccount` whose account reference `acc` has as level-0 hash the representation hash of the supplied state. -/
theorem c11_account_sound_lookup (O : Opaque) (roots : List PCell) (blk addr : Bytes) (state : PCell)
    (hl : addr.length = 32) (hw : Bytes.WF addr) (hacc : checkAccountProof O roots blk addr state = true) :
    ∃ p0 p1 hdr st acc sh, roots = [p0, p1] ∧ checkProof p0 blk = true ∧ p0.refs[0]? = some hdr ∧
      checkBlockHeaderProofState hdr blk = some sh ∧ p1.refs[0]? = some st ∧ st.info.getHash 0 = some sh ∧
      checkProof p1 sh = true ∧ lookupShardAccount pcellView st (bytesToBits addr) = some acc ∧
      acc.info.getHash 0 = some state.info.hash := by
  obtain ⟨p0, p1, hdr, st, acc, sh, e, h0, hhdr, hsh, hst, hs, h1, hloc, hh⟩ := c11_account_sound O roots blk addr state hacc
  exact ⟨p0, p1, hdr, st, acc, sh, e, h0, hhdr, hsh, hst, hs, h1, (c11_locate_sound O st addr acc hl hw hloc).2.2.2, hh⟩

/-- A claimed account state whose own hash is not the committed one is rejected. -/
theorem c11_account_reject (O : Opaque) (roots : List PCell) (blk addr : Bytes) (state : PCell)
    (hne : ∀ st acc, locateAccount O st addr = some acc → acc.info.getHash 0 ≠ some state.info.hash) :
    checkAccountProof O roots blk addr state = false := by
  cases hc : checkAccountProof O roots blk addr state with
  | false => rfl
  | true =>
    obtain ⟨_, _, _, st, acc, _, _, _, _, _, _, _, _, hl, hh⟩ := c11_account_sound O roots blk addr state hc
    exact absurd hh (hne st acc hl)

/-- An address the dictionary of the proved state cell does not hold (the lookup-only walk fails: label mismatch,
pruned or malformed path, no `ShardAccounts` root) is rejected, whatever else the proof contains. -/
theorem c11_account_reject_absent (O : Opaque) (p0 p1 st : PCell) (blk addr : Bytes) (state : PCell)
    (hl : addr.length = 32) (hw : Bytes.WF addr) (hst : p1.refs[0]? = some st)
    (hno : lookupShardAccount pcellView st (bytesToBits addr) = none) :
    checkAccountProof O [p0, p1] blk addr state = false := by
  cases hc : checkAccountProof O [p0, p1] blk addr state with
  | false => rfl
  | true =>
    obtain ⟨q0, q1, _, st', acc, _, e, _, _, _, hst', _, _, hlk, _⟩ :=
      c11_account_sound_lookup O [p0, p1] blk addr state hl hw hc
    simp only [List.cons.injEq, and_true] at e
    obtain ⟨rfl, rfl⟩ := e
    rw [hst] at hst'; cases hst'
    rw [hlk] at hno; cases hno

/-- The F12 scenario: the supplied "state" is a spec-valid PRUNED-BRANCH cell (whatever hashes it carries, e.g. the
committed one as its level-0 hash).  Its `Cell.hash` is `H` of its own representation, whose first byte has the
exotic bit and a non-zero level mask.  If the account cell `acc` found in the proved state has as level-0 hash the
hash of a representation `d1 :: rest` of a NON-pruned cell (`d1 = r + 8e`, r ≤ 4, level part 0) and `H` does not
collide on these two representations, the check rejects. -/
theorem c11_account_reject_pruned (H : Bytes → Bytes) (O : Opaque) (roots : List PCell)
    (blk addr : Bytes) (bits : Bits) (i : CellInfo)
    (wf : NodeWF H .pruned bits []) (hc : construct H 1 bits [] = some i)
    (r : Nat) (e : Bool) (rest : Bytes) (hr : r ≤ 4)
    (hcommitted : ∀ st acc, locateAccount O st addr = some acc → acc.info.getHash 0 = some (H (Spec.d1 r e 0 :: rest)))
    (nocoll : H (Spec.d1 r e 0 :: rest) =
        H ([Spec.d1 0 true (Spec.nodeMask .pruned bits []), Spec.d2 bits.length] ++ Spec.dataBytes bits) →
      Spec.d1 r e 0 :: rest = [Spec.d1 0 true (Spec.nodeMask .pruned bits []), Spec.d2 bits.length] ++ Spec.dataBytes bits) :
    checkAccountProof O roots blk addr (.mk i []) = false := by
  apply c11_account_reject
  intro st acc hl
  rw [hcommitted st acc hl]
  intro heq
  have hh := construct_pruned_hash H bits wf i hc
  simp only [PCell.info, Option.some.injEq] at heq
  rw [hh] at heq
  have := nocoll heq
  simp only [List.cons_append, List.nil_append, List.cons.injEq] at this
  obtain ⟨_, _, h3, _⟩ := wf.pruned rfl
  have hd := this.1
  unfold Spec.d1 at hd
  cases e <;> simp at hd <;> omega

/-- COMPLETENESS of the account check, composition: if both roots pass `check_proof` (c11_complete gives this for every
pruning of the block header and of the shard state), the header's Merkle update commits to the state hash, the TL-B walk
over the (pruned) state cell returns `acc` (`c11_locate_complete`), and `acc` has as level-0 hash the representation hash
of the supplied state, then `check_account_proof` returns.  (The last hypothesis does not depend on whether the account cell is
present in full or pruned: `c02_prune_invariant`.) -/
theorem c11_account_complete (O : Opaque) (p0 p1 hdr st acc state : PCell) (blk addr sh : Bytes)
    (h0 : checkProof p0 blk = true) (hhdr : p0.refs[0]? = some hdr) (hsh : checkBlockHeaderProofState hdr blk = some sh)
    (hst : p1.refs[0]? = some st) (hs : st.info.getHash 0 = some sh) (h1 : checkProof p1 sh = true)
    (hl : locateAccount O st addr = some acc) (hh : acc.info.getHash 0 = some state.info.hash) :
    checkAccountProof O [p0, p1] blk addr state = true :=
  (Proofs.ProofAccept.checkAccountProof_iff O [p0, p1] blk addr state).2 ⟨p0, p1, hdr, st, acc, sh, rfl, h0, hhdr, hsh, hst, hs, h1, hl, hh⟩

/-- THE DICTIONARY PARSER OF THE WALK IS THE C10 PARSER MODEL.  `parseAugP` (Model/Locate.lean: `parse_aug` on constructed
cells, used by `locateAccount`) succeeds exactly when the C10 model `Hashmap.parseAugEdge` — the function the C10
correspondence and `c10_parse_any_aug` are about — succeeds on the underlying tree (`PCell.toCell`), and returns the same
keys in the same order, for any two pairs of extra/value deserialisers that succeed on the same slices and leave the same
rest (`DecCompat`).  So the only new hand-written parser pieces of the walk are the field readers (`readDepthBalance`,
`readShardAccount`, `stateRefGroup`, the state header). -/
theorem c11_parse_aug_is_c10 {X X' Y' : Type} (decY : PSlice → Option PSlice) (decX : PSlice → Option X)
    (D : Spec.Hashmap.AugDec X' Y') (hc : DecCompat decY decX D) (c : PCell) (keyLen : Int) (pfx : Bits) :
    (parseAugP decY decX c keyLen pfx).map (·.map Prod.fst) =
      (Hashmap.parseAugEdge D c.toCell keyLen pfx).map (·.1.map Prod.fst) :=
  parseAugP_c10 decY decX D hc c keyLen pfx

/-- non-vacuity of `DecCompat`: readers that only look at the bits (here: skip 2 extra bits, then require 3 value bits) -/
example : DecCompat (X := Unit) (X' := Unit) (Y' := Unit)
    (fun s => if s.1.length < 2 then none else some (s.1.drop 2, s.2))
    (fun s => if s.1.length < 3 then none else some ())
    ⟨fun s => if s.1.length < 2 then none else some ((), (s.1.drop 2, s.2)),
     fun s => if s.1.length < 3 then none else some ()⟩ := by
  constructor
  · intro rest refs
    by_cases h : rest.length < 2 <;> simp [h]
  · intro sl
    by_cases h : sl.1.length < 3 <;> simp [h]

/-- COMPLETENESS of the walk on HONEST state proofs (any pruning off the path).  Let the state cell `st` be an ordinary
cell with the `shard_state` tag, the `ShardIdent` tag `00` and ≥ 362 bits, references `omq :: accs :: grp :: …` (`omq` is
never parsed — any cell, e.g. a pruned branch); `accs` an ordinary cell `1 ++ extra` with references `root :: …` whose
top-level `extra:DepthBalanceInfo` is readable; `root` an ordinary cell that is a spec-valid `HashmapAug 256 ShardAccount
DepthBalanceInfo` — EVERY label in any of the constructors short/long/same that can express it, ANY edge replaced by a
non-ordinary cell (pruned branch), extras and leaves of the unpruned part readable (`ValidAugP`; for a leaf that
includes: its account cell is non-empty and, if it starts with bit 1, `Account.deserialize` accepts it) — whose unpruned
leaves `kv` still hold the address with account reference `acc`; the `^[…]` group `grp` pruned or readable
(`stateRefGroup`); `custom` absent (bit 361 = 0), or its cell pruned, or accepted by `McStateExtra.deserialize`.  Then
`ShardStateUnsplit.deserialize(st).accounts[0][addr].cell[0]` returns `acc`. -/
theorem c11_locate_complete (O : Opaque) (st omq accs grp root : PCell) (rest2 emore : List PCell) (erest : Bits)
    (kv : List (Bits × PCell)) (addr : Bytes) (acc : PCell)
    (hk : st.info.kind = -1) (hlen : 361 < st.info.bits.length) (htag : st.info.bits.take 32 = shardStateTag)
    (hsi : (st.info.bits.drop 64).take 2 = [false, false]) (hrefs : st.refs = omq :: accs :: grp :: rest2)
    (hak : accs.info.kind = -1) (hab : accs.info.bits = true :: erest) (har : accs.refs = root :: emore)
    (hext : ∃ sl, readDepthBalance (erest, emore) = some sl) (hrk : root.info.kind = -1)
    (hv : ValidAugP readDepthBalance (readShardAccount O) 256 root kv) (hmem : (bytesToBits addr, acc) ∈ kv)
    (hw : Bytes.WF addr) (hgrp : stateRefGroup grp = true)
    (hcu : st.info.bits[361]? = some false ∨
      ∃ cu more, rest2 = cu :: more ∧ (cu.info.kind ≠ -1 ∨ O.mcExtra cu = true)) :
    locateAccount O st addr = some acc :=
  locateAccount_complete O st omq accs grp root rest2 emore erest kv addr acc hk hlen htag hsi hrefs hak hab har hext hrk
    hv hmem hw hgrp hcu

/-! Non-vacuity of `c11_locate_complete` / `c11_locate_sound`: a one-account shard state (address 00…00; the leaf label
is `hml_same 0 × 256`, 12 bits; extras `split_depth 0, grams 0, no extra currencies`; `account_none`; out-queue and `^[…]`
group pruned; no `custom`) meets every hypothesis, for every `O`. -/
def exInfo (kind : Int) (bits : Bits) (n : Nat) : CellInfo := ⟨kind, bits, n, 0, [], []⟩
def exAcc : PCell := .mk (exInfo (-1) [false] 0) []
def exExtra : Bits := List.replicate 10 false
def exLabel : Bits := true :: true :: false :: natToBits 9 256
def exLeaf : PCell := .mk (exInfo (-1) (exLabel ++ (exExtra ++ List.replicate 320 false)) 1) [exAcc]
def exAccs : PCell := .mk (exInfo (-1) (true :: exExtra) 1) [exLeaf]
def exPruned : PCell := .mk (exInfo 1 [] 0) []
def exState : PCell := .mk (exInfo (-1) (shardStateTag ++ List.replicate 330 false) 3) [exPruned, exAccs, exPruned]
def exAddr : Bytes := List.replicate 32 0

theorem exExtra_reads (r : Bits) (refs : List PCell) : readDepthBalance (exExtra ++ r, refs) = some (r, refs) := by
  have h4 : ∀ n : Nat, ¬ (n + 1 + 1 + 1 + 1 + 1 < 4) := by intro n; omega
  simp [readDepthBalance, readCurrencyCollection, loadCoinsRest, readExtraCurrencies, exExtra, List.replicate, natOfBits, h4]

theorem exLeaf_valid (O : Opaque) :
    ValidAugP readDepthBalance (readShardAccount O) 256 exLeaf [(List.replicate 256 false, exAcc)] := by
  have hl : Spec.Hashmap.LabelEnc 256 (List.replicate 256 false) .same exLabel := by
    have := Spec.Hashmap.LabelEnc.same (m := 256) (s := List.replicate 256 false) false
      (by rw [List.length_replicate]) (by rw [List.length_replicate])
    have e : Spec.Hashmap.lenBits 256 = 9 := by decide +kernel
    rw [List.length_replicate, e] at this
    exact this
  refine ValidAugP.leaf hl (List.length_replicate ..) rfl rfl (exExtra_reads _ _) ?_
  unfold readShardAccount
  simp only [exAcc, exInfo, PCell.info, List.length_replicate]
  simp

example (O : Opaque) : locateAccount O exState exAddr = some exAcc ∧ exAddr.length = 32 ∧ Bytes.WF exAddr ∧
    lookupShardAccount pcellView exState (bytesToBits exAddr) = some exAcc := by
  have hbits : bytesToBits exAddr = List.replicate 256 false := by decide +kernel
  have hw : Bytes.WF exAddr := by intro b hb; simp [exAddr] at hb; omega
  have htl : shardStateTag.length = 32 := by decide +kernel
  have h : locateAccount O exState exAddr = some exAcc := by
    refine c11_locate_complete O exState exPruned exAccs exPruned exLeaf [] [] exExtra _ exAddr exAcc rfl
      ?_ ?_ (by decide +kernel) rfl rfl rfl rfl ⟨_, by simpa using exExtra_reads [] []⟩ rfl (exLeaf_valid O)
      (by rw [hbits]; exact List.mem_singleton.2 rfl) hw rfl (Or.inl (by decide +kernel))
    · show 361 < (shardStateTag ++ List.replicate 330 false).length
      rw [List.length_append, List.length_replicate, htl]; omega
    · show (shardStateTag ++ List.replicate 330 false).take 32 = shardStateTag
      exact List.take_left' htl
  exact ⟨h, rfl, hw, (c11_locate_sound O exState exAddr exAcc rfl hw h).2.2.2⟩

/-! ## binding: what an accepted hash pins down -/
open TonVerif.Proofs.Binding

/-- SOUNDNESS CORE (general: every level `l`, trees with ordinary, library, pruned-branch, Merkle proof and Merkle
update cells in any nesting).  Assume `H` has 32-byte output and does not collide between the representations
occurring in `p` and those occurring in `t` (`reprs`: of each non-pruned cell its representation at every significant
level, of each pruned branch its own representation — a LOCAL hypothesis on finitely many byte strings), and both trees
have the shape of valid bags (`Shape`: ≤ 4 references, exotic cells with their proper reference counts, pruned branches
with non-zero mask holding all hashes they declare).  If `p` and `t` have the same level-`l` hash then `Agree H l p t`:
going down from the roots, corresponding cells have the same hash at the level they are looked at (`L + μ` below a
cell hashed at level `L`; all significant `L ≤ l`, because level-`L` hashes are chained over the lower ones), and each
pair is either (a pruned branch answering with a STORED hash, the subtree whose hash that is) or two cells of the same
type with the same BIT STRING, the same number of references and pairwise agreeing children. -/
theorem c11_binding (H : Bytes → Bytes) (h32 : ∀ x, (H x).length = 32) (p t : Cell) (l : Nat) (sp st : Spec.SInfo)
    (shp : Shape p) (sht : Shape t) (hsp : specInfo H p = some sp) (hst : specInfo H t = some st)
    (nocoll : ∀ x y, x ∈ reprs H p → y ∈ reprs H t → H x = H y → x = y)
    (hh : sp.hashAt l = st.hashAt l) : Agree H l p t :=
  binding_aux H h32 p t l sp st shp sht hsp hst nocoll hh

/-- What `Agree` says about one pair of cells neither of which is a pruned branch answering with a stored hash:
same cell type, same bit string (not just the same padded bytes: `Pad.dataBytes_inj`), same number of references.
"Any change to the data or structure of an unpruned cell" therefore breaks `Agree`. -/
theorem c11_binding_bits (H : Bytes → Bytes) (l : Nat) (kp kt : Int) (bp bt : Bits) (rp rt : List Cell)
    (h : Agree H l (.mk kp bp rp) (.mk kt bt rt)) (hp : ¬ StoredAt kp bp l) (ht : ¬ StoredAt kt bt l) :
    kp = kt ∧ bp = bt ∧ rp.length = rt.length := by
  rw [Agree] at h
  rcases h.2 with h1 | h1 | h1
  · exact absurd h1 hp
  · exact absurd h1 ht
  · exact ⟨h1.1, h1.2.1, h1.2.2.1⟩

/-- ... and about the children: at every level `L ≤ l` at which the cell's hash is computed, the children agree
pairwise at level `L + μ` (μ = 1 below Merkle proof/update cells). In particular at `L = 0`. -/
theorem c11_binding_children (H : Bytes → Bytes) (l : Nat) (kp kt : Int) (bp bt : Bits) (rp rt : List Cell) (sp : Spec.SInfo)
    (h : Agree H l (.mk kp bp rp) (.mk kt bt rt)) (hp : ¬ StoredAt kp bp l) (ht : ¬ StoredAt kt bt l)
    (hsp : specInfo H (.mk kp bp rp) = some sp) (L : Nat) (hL : L ≤ l) (hs : sigB sp.mask L = true) :
    Agrees H (L + muOf kp) rp rt := by
  rw [Agree] at h
  rcases h.2 with h1 | h1 | h1
  · exact absurd h1 hp
  · exact absurd h1 ht
  · exact h1.2.2.2 sp hsp L hL hs

/-- any `p` that agrees with `t` at level `l` has `t`'s level-`l` hash; for a pruned `p` that hash is the stored one, so a
substituted pruned hash breaks `Agree` -/
theorem c11_binding_pruned_hash (H : Bytes → Bytes) (l : Nat) (p t : Cell) (sp st : Spec.SInfo)
    (h : Agree H l p t) (hsp : specInfo H p = some sp) (hst : specInfo H t = some st) : sp.hashAt l = st.hashAt l := by
  cases p with
  | mk kp bp rp =>
    cases t with
    | mk kt bt rt =>
      rw [Agree] at h
      obtain ⟨⟨sp', st', h1, h2, h3⟩, _⟩ := h
      rw [hsp] at h1; rw [hst] at h2
      cases h1; cases h2
      exact h3

/-- SOUNDNESS of `check_proof`: if the object of the spec-valid proof tree `.mk kind bits [p]` passes
`check_proof(·, h)`, then it is a well-formed Merkle proof cell naming `h`, and for EVERY tree `t` (any cell types)
whose level-0 hash is `h`, the proof body `p` agrees with `t` at level 0 (`Agree`, see `c11_binding`) — under the
local no-collision hypothesis.  Each listed rejection follows by contraposition: a changed bit / type / reference of
an unpruned cell (`c11_reject_changed`) or a substituted pruned hash (`c11_binding_pruned_hash`) contradicts `Agree`; a
different expected hash and a non-proof cell are `c11_reject_wrong_hash`, `c11_reject_not_proof`. -/
theorem c11_sound (H : Bytes → Bytes) (h32 : ∀ x, (H x).length = 32) (kind : Int) (bits : Bits) (p t : Cell)
    (c : PCell) (h : Bytes) (sp st : Spec.SInfo)
    (wf : TreeWF H (.mk kind bits [p])) (hc : PCell.ofCell H (.mk kind bits [p]) = some c)
    (hacc : checkProof c h = true)
    (shp : Shape p) (sht : Shape t) (hsp : specInfo H p = some sp) (hst : specInfo H t = some st) (ht : st.hashAt 0 = h)
    (nocoll : ∀ x y, x ∈ reprs H p → y ∈ reprs H t → H x = H y → x = y) :
    c.info.kind = kMerkleProof ∧ pySlice c.data 1 33 = h ∧ Agree H 0 p t := by
  obtain ⟨hk, hs, _, r, d, hr, hh, _, _⟩ := c11_sound_shape c h hacc
  refine ⟨hk, hs, ?_⟩
  -- the child object is the object of `p` and reports the spec hash of `p`
  obtain ⟨hrp, wfp⟩ := objOf_single H kind bits p c r ⟨hc, wf⟩ (by rw [hr]; rfl)
  rw [((ofCell_agrees H p r sp wfp hrp hsp).2 0).1] at hh
  simp only [Option.some.injEq] at hh
  exact c11_binding H h32 p t 0 sp st shp sht hsp hst nocoll (hh.trans ht.symm)

/-- SOUNDNESS at EVERY position: under the hypotheses of `c11_sound`, following any path of reference indices
simultaneously in the proof body `p` and in `t` — until a pruned branch answering with a stored hash is met — both trees
have the same number of references at each step and the cells reached `Agree` (so, when neither is such a pruned
branch: same type, same bit string, same reference count, `c11_binding_bits`).  Every unpruned cell of the proof is
reached by such a path: it IS the cell of `t` at that position. -/
theorem c11_sound_everywhere (H : Bytes → Bytes) (h32 : ∀ x, (H x).length = 32) (kind : Int) (bits : Bits) (p t : Cell)
    (c : PCell) (h : Bytes) (sp st : Spec.SInfo)
    (wf : TreeWF H (.mk kind bits [p])) (hc : PCell.ofCell H (.mk kind bits [p]) = some c)
    (hacc : checkProof c h = true)
    (shp : Shape p) (sht : Shape t) (hsp : specInfo H p = some sp) (hst : specInfo H t = some st) (ht : st.hashAt 0 = h)
    (nocoll : ∀ x y, x ∈ reprs H p → y ∈ reprs H t → H x = H y → x = y) (π : List Nat) :
    AgreeAlong H π 0 p t :=
  agree_along H π 0 p t (c11_sound H h32 kind bits p t c h sp st wf hc hacc shp sht hsp hst ht nocoll).2.2

/-- REJECTION of a changed unpruned cell (root of the proof body; deeper cells through `c11_binding_children`): if the
root of `p` and the root of `t` differ in type, in any data bit or in the number of references, and neither is a pruned
branch standing for the other, then `check_proof` raises for `hash t` (same hypotheses as `c11_sound`). -/
theorem c11_reject_changed (H : Bytes → Bytes) (h32 : ∀ x, (H x).length = 32) (kind : Int) (bits : Bits)
    (kp kt : Int) (bp bt : Bits) (rp rt : List Cell) (c : PCell) (sp st : Spec.SInfo)
    (wf : TreeWF H (.mk kind bits [.mk kp bp rp])) (hc : PCell.ofCell H (.mk kind bits [.mk kp bp rp]) = some c)
    (shp : Shape (.mk kp bp rp)) (sht : Shape (.mk kt bt rt))
    (hsp : specInfo H (.mk kp bp rp) = some sp) (hst : specInfo H (.mk kt bt rt) = some st)
    (nocoll : ∀ x y, x ∈ reprs H (.mk kp bp rp) → y ∈ reprs H (.mk kt bt rt) → H x = H y → x = y)
    (hp : ¬ StoredAt kp bp 0) (ht : ¬ StoredAt kt bt 0)
    (hdiff : kp ≠ kt ∨ bp ≠ bt ∨ rp.length ≠ rt.length) :
    checkProof c (st.hashAt 0) = false := by
  cases hacc : checkProof c (st.hashAt 0) with
  | false => rfl
  | true =>
    obtain ⟨_, _, hag⟩ := c11_sound H h32 kind bits _ _ c _ sp st wf hc hacc shp sht hsp hst rfl nocoll
    obtain ⟨e1, e2, e3⟩ := c11_binding_bits H 0 kp kt bp bt rp rt hag hp ht
    rcases hdiff with h | h | h
    · exact absurd e1 h
    · exact absurd e2 h
    · exact absurd e3 h

/-! Non-vacuity of the binding hypotheses: a toy hash with 32-byte output that is injective on the representations
at hand (it returns the first 32 bytes, zero padded); the tree has an inner Merkle proof cell whose child (looked at on
level 1) holds a pruned branch of mask 1, so a cell with two significant levels and a chained hash occurs
(`reprs toyH treeB` has 7 entries). -/
def toyH : Bytes → Bytes := fun x => (x ++ List.replicate 32 0).take 32
def leafA : Cell := .mk (-1) [true, false] []
def pbB : Cell := .mk 1 (bytesToBits ([1, 1] ++ List.replicate 32 7 ++ [0, 0])) []
def nodeB : Cell := .mk (-1) [false] [pbB, leafA]
def mB : Cell := .mk 3 [true, true] [nodeB]
def treeB : Cell := .mk (-1) [true] [mB, leafA]

theorem toyH_length (x : Bytes) : (toyH x).length = 32 := by simp [toyH]

/-- the example tree has the shape of a valid bag (hypothesis `Shape` of `c11_binding`) -/
theorem treeB_shape : Shape treeB := Proofs.Locate.shape_of_shapeB _ (by decide +kernel)

example : (∀ x, (toyH x).length = 32) ∧ Shape treeB ∧ (∃ s, specInfo toyH treeB = some s) ∧
    (reprs toyH treeB).length = 7 ∧
    (∀ x y, x ∈ reprs toyH treeB → y ∈ reprs toyH treeB → toyH x = toyH y → x = y) := by
  refine ⟨toyH_length, treeB_shape, Option.isSome_iff_exists.1 (by decide +kernel), by decide +kernel, ?_⟩
  have key : ∀ x ∈ reprs toyH treeB, ∀ y ∈ reprs toyH treeB, toyH x = toyH y → x = y := by decide +kernel
  exact fun x y hx hy => key x hx y hy

/-! Non-vacuity of `c11_complete`: the hypotheses hold for a concrete cell (pruning nothing) with the toy hash. -/
def sLeafA : Spec.SInfo := Spec.node toyH .ordinary [true, false] []

theorem leafA_nodeWF : NodeWF toyH .ordinary [true, false] [] := by
  refine ⟨by decide, by decide, by simp, ?_, by simp, by simp, by simp, by simp⟩
  intro _ l
  rw [node_plain toyH .ordinary _ _ (by decide)]
  have : Spec.nodeMask .ordinary [true, false] [] = 0 := rfl
  rw [this]
  show Spec.plainDepthAt .ordinary [] 0 l ≤ 1023
  rw [TonVerif.Proofs.OrdCell.plainDepthAt_zero]
  decide

example : TreeWF toyH leafA ∧ specInfo toyH leafA = some sLeafA ∧ sLeafA.mask = 0 ∧ PruneRel toyH 1 leafA leafA ∧
    ((sLeafA.hashAt 0).length = 32 ∧ Bytes.WF (sLeafA.hashAt 0)) ∧ sLeafA.depthAt 0 ≤ 1022 := by
  have hlen : (sLeafA.hashAt 0).length = 32 := by
    show (Spec.plainHashAt toyH .ordinary [true, false] [] (Spec.nodeMask .ordinary [true, false] []) 0).length = 32
    simp only [Spec.plainHashAt, toyH, List.length_take, List.length_append, List.length_replicate]
    omega
  have hwf : Bytes.WF (sLeafA.hashAt 0) := by decide +kernel
  refine ⟨?_, by simp [leafA, sLeafA, specInfo, specInfos, kindOf], rfl, ?_, ⟨hlen, hwf⟩, by decide +kernel⟩
  · unfold leafA
    rw [TreeWF]
    exact ⟨trivial, .ordinary, [], by decide, by simp [specInfos], leafA_nodeWF⟩
  · unfold leafA
    rw [PruneRel]
    exact Or.inr ⟨.ordinary, [], by decide, rfl, by rw [PruneRels]⟩

/-! ## account proofs, end to end: what acceptance says about the TRUE shard state -/

/-- SOUNDNESS OF `check_account_proof`, END TO END.  Let the second root of the bag be the object of a spec-valid tree
`.mk kind bits [p]` (`p` = the body of the state proof), the address 32 bytes, and `check_account_proof` return.  Then
the header proof passes `check_proof` against the block root hash, its block header commits (in the Merkle update
`root[2]`, `c11_header_state_sound`) to a state hash `sh`, and for EVERY tree `T` (any cell types; `Shape`) whose
level-0 hash is `sh` and in which pruned branches occur only below Merkle cells (`OrdUnpruned` — a genuine shard state),
under the LOCAL no-collision hypothesis between the representations of `p` and of `T` (as in `c11_sound`):
the lookup-only reading of block.tlb finds in `T` itself — `T[1]` an `ahme_root`, the dictionary walk from `T[1][0]`
along the 256 address bits, the leaf's `DepthBalanceInfo` skipped — a `ShardAccount` whose `account:^Account` cell
`aT` has level-0 hash equal to the REPRESENTATION hash of the supplied account state.  I.e. the block id binds the state
hash, the state hash binds the `ShardAccounts` dictionary path, and the dictionary of the true state maps the address
to the supplied state (up to `H`-collisions among the cells at hand).  Holds for every behaviour `O` of the two
unmodelled sub-parsers and whatever is pruned in the proof. -/
theorem c11_account_sound_state (H : Bytes → Bytes) (h32 : ∀ x, (H x).length = 32) (O : Opaque)
    (kind : Int) (bits : Bits) (p T : Cell) (c0 c1 : PCell) (blk addr : Bytes) (state : PCell) (sp sT : Spec.SInfo)
    (wf : TreeWF H (.mk kind bits [p])) (hc1 : PCell.ofCell H (.mk kind bits [p]) = some c1)
    (hl : addr.length = 32) (hw : Bytes.WF addr)
    (hacc : checkAccountProof O [c0, c1] blk addr state = true)
    (shp : Shape p) (shT : Shape T) (hsp : specInfo H p = some sp) (hsT : specInfo H T = some sT)
    (hu : OrdUnpruned T)
    (nocoll : ∀ x y, x ∈ reprs H p → y ∈ reprs H T → H x = H y → x = y) :
    ∃ hdr sh, checkProof c0 blk = true ∧ c0.refs[0]? = some hdr ∧ checkBlockHeaderProofState hdr blk = some sh ∧
      (sT.hashAt 0 = sh → ∃ aT sa, lookupShardAccount cellView T (bytesToBits addr) = some aT ∧
        specInfo H aT = some sa ∧ sa.hashAt 0 = state.info.hash) := by
  obtain ⟨p0, p1, hdr, st, acc, sh, e, h0, hhdr, hsh, hst, _, h1, hloc, hh⟩ := c11_account_sound O [c0, c1] blk addr state hacc
  simp only [List.cons.injEq, and_true] at e
  obtain ⟨rfl, rfl⟩ := e
  refine ⟨hdr, sh, h0, hhdr, hsh, ?_⟩
  intro hT
  obtain ⟨_, _, hag⟩ := c11_sound H h32 kind bits p T c1 sh sp sT wf hc1 h1 shp shT hsp hsT hT nocoll
  obtain ⟨hrp, wfp⟩ := objOf_single H kind bits p c1 st ⟨hc1, wf⟩ hst
  have hlk := locateAccount_lookup O st addr acc hl hw hloc
  obtain ⟨aT, sa, hlT, hsa, hha⟩ := lookup_transfer H p T st acc _ hrp wfp hag hu hlk
  rw [hh] at hha
  exact ⟨aT, sa, hlT, hsa, (Option.some.inj hha).symm⟩

/-- THE BLOCK ID BINDS THE STATE HASH.  Let the first root of the bag be the object of a spec-valid tree
`.mk kind bits [pb]` (`pb` = the body of the header proof) that passes `check_proof` against the block root hash `blk`,
and let `check_block_header_proof(pb, blk, True)` return `sh` (as `c11_account_sound_state` reports for an accepted account
proof).  Then for EVERY tree `TB` (`Shape`) whose level-0 hash is `blk` and in which pruned branches occur only below
Merkle cells (a genuine block), under the local no-collision hypothesis between the representations of `pb` and `TB`:
`TB`'s own third reference is a Merkle update cell whose data bytes 33..64 — the new-state hash of the `state_update` —
are `sh`.  So the state hash the account check goes on with is the one the true block with that id commits to. -/
theorem c11_header_binds_state (H : Bytes → Bytes) (h32 : ∀ x, (H x).length = 32) (kind : Int) (bits : Bits)
    (pb TB : Cell) (c0 hdr : PCell) (blk sh : Bytes) (sp sT : Spec.SInfo)
    (wf : TreeWF H (.mk kind bits [pb])) (hc0 : PCell.ofCell H (.mk kind bits [pb]) = some c0)
    (h0 : checkProof c0 blk = true) (hhdr : c0.refs[0]? = some hdr)
    (hsh : checkBlockHeaderProofState hdr blk = some sh)
    (shp : Shape pb) (shT : Shape TB) (hsp : specInfo H pb = some sp) (hsT : specInfo H TB = some sT)
    (hT : sT.hashAt 0 = blk) (hu : OrdUnpruned TB)
    (nocoll : ∀ x y, x ∈ reprs H pb → y ∈ reprs H TB → H x = H y → x = y) :
    ∃ suT, (cellView.refs TB)[2]? = some suT ∧ cellView.kind suT = kMerkleUpdate ∧
      pySlice (dataBytes (cellView.bits suT)) 33 65 = sh := by
  obtain ⟨_, _, hag⟩ := c11_sound H h32 kind bits pb TB c0 blk sp sT wf hc0 h0 shp shT hsp hsT hT nocoll
  obtain ⟨hrp, wfp⟩ := objOf_single H kind bits pb c0 hdr ⟨hc0, wf⟩ hhdr
  obtain ⟨_, su, c, h2, _, hk, _, hdata⟩ := c11_header_state_sound hdr blk sh hsh
  obtain ⟨suT, hsuT, hkT, hbT⟩ := header_transfer H pb TB hdr su hrp wfp hag hu shp h2 hk
  exact ⟨suT, hsuT, hkT, by rw [hbT]; exact hdata⟩

/-- COMPLETENESS of the state-hash read-out.  Let a spec-valid tree (a block header, pruned or not) have as third
reference a Merkle update cell `.mk 4 ub [o, n]` whose data bytes 33..64 are the level-0 hash of its second child `n` (what
block.tlb's `state_update:^(MERKLE_UPDATE ShardState)` is; `n` is normally the pruned branch of the new state, whose
level-0 hash is the state's), and let its object pass `check_block_header_proof(·, blk)`.  Then
`check_block_header_proof(·, blk, True)` returns that hash — the hypothesis `hhdr` of `c11_account_complete_honest`. -/
theorem c11_header_complete (H : Bytes → Bytes) (k : Int) (b ub : Bits) (x0 x1 o n : Cell) (rest : List Cell) (r0 : PCell)
    (blk : Bytes) (sn : Spec.SInfo)
    (wf : TreeWF H (.mk k b (x0 :: x1 :: .mk 4 ub [o, n] :: rest)))
    (hobj : PCell.ofCell H (.mk k b (x0 :: x1 :: .mk 4 ub [o, n] :: rest)) = some r0)
    (hblk : checkBlockHeaderProof r0 blk = true) (hsn : specInfo H n = some sn)
    (hdata : pySlice (dataBytes ub) 33 65 = sn.hashAt 0) :
    checkBlockHeaderProofState r0 blk = some (sn.hashAt 0) :=
  header_complete H k b ub x0 x1 o n rest r0 blk sn wf hobj (by simpa [checkBlockHeaderProof] using hblk) hsn hdata

/-- COMPLETENESS OF `check_account_proof`, END TO END, for honest proofs.  `tb` = the block (spec-valid, level 0), `ts` =
the shard state (spec-valid, level 0); `pb`, `ps` ANY prunings of them (`PruneRel … 1`: any set of subtrees replaced by
pruned branches, deeper levels below inner Merkle cells), each wrapped in the Merkle proof cell naming the level-0 hash
and depth of the original.  Provided
* the pruned header still shows the state commitment: `check_block_header_proof(pb, hash tb, True)` returns `hash ts`
  (`c11_header_complete`: `root[2]` is there as a Merkle update cell storing the level-0 hash of its second child),
* the pruned state still passes the TL-B walk for the address (`c11_locate_complete`: path to the account unpruned,
  everything off the path pruned or readable),
* the supplied account state has as representation hash the level-0 hash of the account cell `aT` that the FULL state's
  dictionary holds under the address,
both proof cells can be constructed and `check_account_proof` returns — whether the account cell is present in the state
proof in full or as a pruned branch (pruning invariance of the level-0 hash along the walk, `lookup_pruned`).  Side
conditions as in `c11_complete`: root hashes are 32 valid bytes, depths ≤ 1022.  No collision hypothesis. -/
theorem c11_account_complete_honest (H : Bytes → Bytes) (O : Opaque) (tb pb ts ps : Cell) (sb ss : Spec.SInfo)
    (addr : Bytes) (state : PCell)
    (wfb : TreeWF H tb) (hsb : specInfo H tb = some sb) (hlb : sb.mask = 0) (hrb : PruneRel H 1 tb pb)
    (h32b : (sb.hashAt 0).length = 32 ∧ Bytes.WF (sb.hashAt 0)) (hdb : sb.depthAt 0 ≤ 1022)
    (wfs : TreeWF H ts) (hss : specInfo H ts = some ss) (hls : ss.mask = 0) (hrs : PruneRel H 1 ts ps)
    (h32s : (ss.hashAt 0).length = 32 ∧ Bytes.WF (ss.hashAt 0)) (hds : ss.depthAt 0 ≤ 1022)
    (hhdr : ∀ r0, PCell.ofCell H pb = some r0 → checkBlockHeaderProofState r0 (sb.hashAt 0) = some (ss.hashAt 0))
    (hloc : ∀ st, PCell.ofCell H ps = some st → ∃ acc, locateAccount O st addr = some acc)
    (hl : addr.length = 32) (hw : Bytes.WF addr)
    (aT : Cell) (sa : Spec.SInfo) (hfull : lookupShardAccount cellView ts (bytesToBits addr) = some aT)
    (hsa : specInfo H aT = some sa) (hstate : state.info.hash = sa.hashAt 0) :
    ∃ c0 c1, PCell.ofCell H (merkleProofCell (sb.hashAt 0) (sb.depthAt 0) pb) = some c0 ∧
      PCell.ofCell H (merkleProofCell (ss.hashAt 0) (ss.depthAt 0) ps) = some c1 ∧
      checkAccountProof O [c0, c1] (sb.hashAt 0) addr state = true := by
  obtain ⟨c0, r0, hc0, hr0, hp0, hk0, _⟩ := c11_complete H tb pb sb wfb hsb hlb hrb h32b hdb
  obtain ⟨c1, r1, hc1, hr1, hp1, hk1, hh1⟩ := c11_complete H ts ps ss wfs hss hls hrs h32s hds
  obtain ⟨acc, hacc⟩ := hloc r1 hp1
  have wfp : TreeWF H ps :=
    (TonVerif.Proofs.PruneWF.prune_treeWF H 1 ts ps ss (Nat.le_refl _) wfs hss (by rw [hls]; decide) hrs).1
  have hlk := locateAccount_lookup O r1 addr acc hl hw hacc
  have hhash := lookup_pruned H ts ps r1 acc _ aT sa hp1 wfp hrs hlk hfull hsa
  refine ⟨c0, c1, hc0, hc1, ?_⟩
  apply c11_account_complete O c0 c1 r0 r1 acc state (sb.hashAt 0) addr (ss.hashAt 0) hk0 (by rw [hr0]; rfl)
    (hhdr r0 hp0) (by rw [hr1]; rfl) (by simpa [checkBlockHeaderProof] using hh1) hk1 hacc
  rw [hhash, hstate]

/-! Non-vacuity of the hypotheses of `c11_account_sound_state` about `T` (and `p`): a state-shaped tree (the tree of the
one-account example above, all cells ordinary) has the `Shape` of a valid bag, spec values, no pruned branch below
ordinary cells, the toy hash (32-byte output) is injective on its 6 representations, and its own dictionary holds the
address: the lookup finds the `account_none` cell. -/
def xAcc : Cell := .mk (-1) [false] []
def xLeaf : Cell := .mk (-1) (exLabel ++ (exExtra ++ List.replicate 320 false)) [xAcc]
def xAccs : Cell := .mk (-1) (true :: exExtra) [xLeaf]
def xOmq : Cell := .mk (-1) [true] []
def xGrp : Cell := .mk (-1) (List.replicate 140 false) []
def xState : Cell := .mk (-1) (shardStateTag ++ List.replicate 330 false) [xOmq, xAccs, xGrp]

theorem xState_lookup : (lookupShardAccount cellView xState (bytesToBits exAddr)).map cellView.bits = some [false] := by
  decide +kernel

example : (∀ x, (toyH x).length = 32) ∧ Shape xState ∧ (∃ s, specInfo toyH xState = some s) ∧ OrdUnpruned xState ∧
    (reprs toyH xState).length = 6 ∧
    (∀ x y, x ∈ reprs toyH xState → y ∈ reprs toyH xState → toyH x = toyH y → x = y) ∧
    (lookupShardAccount cellView xState (bytesToBits exAddr)).map cellView.bits = some [false] := by
  refine ⟨toyH_length, shape_of_shapeB _ (by decide +kernel), Option.isSome_iff_exists.1 (by decide +kernel), ?_,
    by decide +kernel, ?_, xState_lookup⟩
  · simp only [xState, xOmq, xAccs, xLeaf, xAcc, xGrp, OrdUnpruned, OrdUnprunedL]
    simp
  · have key : ∀ x ∈ reprs toyH xState, ∀ y ∈ reprs toyH xState, toyH x = toyH y → x = y := by decide +kernel
    exact fun x y hx hy => key x hx y hy

/-! Non-vacuity of the hypotheses of `c11_account_complete_honest` that are new with respect to `c11_complete`: for the
unpruned one-account state tree (`ps = ts = xState`), with the toy hash, the object can be built and passes the TL-B walk
(`hloc`, for the `O` that accepts everything), the full state's dictionary holds the address (`hfull`), and the tree is a
pruning of itself. -/
example : (match PCell.ofCell toyH xState with
      | some st => (locateAccount ⟨fun _ => true, fun _ => true⟩ st exAddr).isSome
      | none => false) = true ∧
    (lookupShardAccount cellView xState (bytesToBits exAddr)).isSome = true ∧ PruneRel toyH 1 xState xState := by
  refine ⟨by decide +kernel, ?_, ?_⟩
  · rw [← Option.isSome_map (f := cellView.bits), xState_lookup]; rfl
  exact pruneRel_ord_refl _ _ _ _ (pruneRels_cons _ _ _ _ (pruneRel_ord_refl _ _ _ _ (pruneRels_nil _ _))
    (pruneRels_cons _ _ _ _ (pruneRel_ord_refl _ _ _ _ (pruneRels_cons _ _ _ _ (pruneRel_ord_refl _ _ _ _
      (pruneRels_cons _ _ _ _ (pruneRel_ord_refl _ _ _ _ (pruneRels_nil _ _)) (pruneRels_nil _ _))) (pruneRels_nil _ _)))
    (pruneRels_cons _ _ _ _ (pruneRel_ord_refl _ _ _ _ (pruneRels_nil _ _)) (pruneRels_nil _ _))))

/-! Non-vacuity of the hypotheses of `c11_header_binds_state` about `TB`: a block-shaped tree — ordinary root whose third
reference is a Merkle update over two pruned branches (as in every real block) — has the `Shape` of a valid bag, spec values,
pruned branches only below its Merkle cell, and the toy hash is injective on its representations. -/
def pbC : Cell := .mk 1 (bytesToBits ([1, 1] ++ List.replicate 32 9 ++ [0, 0])) []
def updB : Cell := .mk 4 (bytesToBits ([4] ++ List.replicate 32 7 ++ List.replicate 32 9 ++ [0, 0, 0, 0])) [pbB, pbC]
def blkB : Cell := .mk (-1) [true, true, false] [leafA, leafA, updB]

/-- the data hypothesis of `c11_header_complete` on the same block-shaped tree: the Merkle update cell stores in bytes 33..64
the level-0 hash of its second child (a pruned branch: its stored hash) -/
example : ∃ sn, specInfo toyH pbC = some sn ∧
    pySlice (dataBytes (bytesToBits ([4] ++ List.replicate 32 7 ++ List.replicate 32 9 ++ [0, 0, 0, 0]))) 33 65 = sn.hashAt 0 :=
  ⟨Spec.node toyH .pruned (bytesToBits ([1, 1] ++ List.replicate 32 9 ++ [0, 0])) [],
    by simp [pbC, specInfo, specInfos, kindOf], by decide +kernel⟩

example : Shape blkB ∧ (∃ s, specInfo toyH blkB = some s) ∧ OrdUnpruned blkB ∧
    (∃ suT, (cellView.refs blkB)[2]? = some suT ∧ cellView.kind suT = kMerkleUpdate) ∧
    (∀ x y, x ∈ reprs toyH blkB → y ∈ reprs toyH blkB → toyH x = toyH y → x = y) := by
  refine ⟨Proofs.Locate.shape_of_shapeB _ (by decide +kernel), Option.isSome_iff_exists.1 (by decide +kernel), ?_,
    ⟨updB, rfl, rfl⟩, ?_⟩
  · simp only [blkB, updB, pbB, pbC, leafA, OrdUnpruned, OrdUnprunedL]
    simp
  · have key : ∀ x ∈ reprs toyH blkB, ∀ y ∈ reprs toyH blkB, toyH x = toyH y → x = y := by decide +kernel
    exact fun x y hx hy => key x hx y hy

/-! ## Source-regenerated decision lines (`Generated/ProofChecks.lean`: re-translated from proof/check_proof.py and the
`CellTypes` constants of boc/exotic.py on every run)

Every `if …: raise ProofError(…)` of `check_proof`, `check_block_header_proof`, `check_account_proof` (and the simple ones of
`check_shard_proof`) is translated as a Boolean function of the values it reads: cell type (an `Int`, ordinary = -1), reference
and bit counts, `cell.data` / hashes (`Bytes`), the child's level-0 depth.  `x[a:b]` is `Py.slice`, `d.to_bytes(2, 'big')` is
`Py.toBytes true 2 d` with the side condition `d < 256^2` (Python raises OverflowError beyond). -/
section Src
open TonVerif.Proofs.SrcArith2
set_option linter.unusedSimpArgs false

/-- the two cell-type constants the checks compare with are the model's. -/
theorem c11_src_cell_types :
    (Generated.cellTypeMerkleProof : Int) = kMerkleProof ∧ (Generated.cellTypeMerkleUpdate : Int) = kMerkleUpdate := by
  simp only [Generated.cellTypeMerkleProof, Generated.cellTypeMerkleUpdate, kMerkleProof, kMerkleUpdate] <;> src_prop

/-- the four tests of `check_proof`, for ALL values: wrong cell type; stored hash `data[1:33]` differs; the child's
level-0 hash differs; and the "malformed" test = not exactly one reference, or not exactly 280 bits, or the data is not
`03 ++ hash ++ depth(2 bytes, big endian)` (for every depth that has a 2-byte encoding).  `f_sideOk` is the condition the translator
emits beside each regenerated `f`: that no Python-int subtraction or division in it leaves `Nat` (`True` where there is none). -/
theorem c11_src_proof_tests (ty : Int) (refs bits d0 : Nat) (data h h0 : Bytes) :
    Generated.proofWrongType_sideOk ty Generated.cellTypeMerkleProof ∧ Generated.proofWrongStoredHash_sideOk data h ∧
    Generated.proofWrongChildHash_sideOk h0 h ∧ (d0 < 65536 → Generated.proofMalformed_sideOk refs bits data h d0) ∧
    Generated.proofWrongType ty Generated.cellTypeMerkleProof = (ty != kMerkleProof) ∧
    Generated.proofWrongStoredHash data h = (pySlice data 1 33 != h) ∧
    Generated.proofWrongChildHash h0 h = (h0 != h) ∧
    Generated.proofMalformed refs bits data h d0 = (refs != 1 || bits != 280 || data != [3] ++ h ++ natToBE 2 d0) := by
  refine ⟨by simp only [Generated.proofWrongType_sideOk], by simp only [Generated.proofWrongStoredHash_sideOk],
    by simp only [Generated.proofWrongChildHash_sideOk], ?_, ?_, ?_, ?_, ?_⟩
  · intro hd; simp only [Generated.proofMalformed_sideOk] <;> src_prop
  · simp only [Generated.proofWrongType, Generated.cellTypeMerkleProof, kMerkleProof] <;> src_bool
  · simp only [Generated.proofWrongStoredHash] <;> src_bool
  · simp only [Generated.proofWrongChildHash] <;> src_bool
  · simp only [Generated.proofMalformed] <;> src_bool

/-- `check_proof` of the hand model (what `c11_complete`, `c11_sound_shape`, `c11_sound` … are proved about) decides with
exactly the regenerated source tests, in the order of the code; a child depth without 2-byte encoding is a rejection
(OverflowError in `to_bytes`, or the earlier ProofError). -/
theorem c11_src_check_proof (c : PCell) (h : Bytes) :
    checkProof c h =
      (if Generated.proofWrongType c.info.kind Generated.cellTypeMerkleProof then false
       else if Generated.proofWrongStoredHash c.data h then false
       else match c.refs[0]? with
         | none => false
         | some r =>
           match r.info.getHash 0 with
           | none => false
           | some h0 =>
             if Generated.proofWrongChildHash h0 h then false
             else match r.info.getDepth 0 with
               | none => false
               | some d0 =>
                 if 65536 ≤ d0 then false
                 else !Generated.proofMalformed c.refs.length c.info.bits.length c.data h d0) := by
  have hT := fun ty => (c11_src_proof_tests ty 0 0 0 [] [] []).2.2.2.2.1
  have hS := fun data h => (c11_src_proof_tests 0 0 0 0 data h []).2.2.2.2.2.1
  have hC := fun h0 h => (c11_src_proof_tests 0 0 0 0 [] h h0).2.2.2.2.2.2.1
  have hM := fun refs bits d0 data h => (c11_src_proof_tests 0 refs bits d0 data h []).2.2.2.2.2.2.2
  simp only [hT, hS, hC, hM, checkProof, Proofs.ProofAccept.ne_some_ite]
  -- both sides agree down to the child's depth, which the model turns into two bytes before the last test
  cases c.refs[0]? with
  | none => rfl
  | some r =>
    simp only
    cases r.info.getHash 0 with
    | none => rfl
    | some h0 =>
      simp only
      cases r.info.getDepth 0 with
      | none => rfl
      | some d0 =>
        simp only [Option.bind_some, Proofs.ProofAccept.toBytesBE?_two]
        by_cases hd : 65536 ≤ d0
        · simp only [if_pos hd]
        · simp [hd, ← decide_ne_eq_bne]

/-- the tests of `check_block_header_proof`, for ALL values: root hash differs from the block hash; the state update
cell is not a Merkle update or its stored new hash `data[33:65]` is not the returned state hash. -/
theorem c11_src_header_tests (ty : Int) (rh bh data sh : Bytes) :
    (Generated.hdrWrongHash_sideOk rh bh ∧ Generated.hdrStateUncommitted_sideOk ty Generated.cellTypeMerkleUpdate data sh) ∧
    Generated.hdrWrongHash rh bh = (rh != bh) ∧
    Generated.hdrStateUncommitted ty Generated.cellTypeMerkleUpdate data sh =
      (ty != kMerkleUpdate || pySlice data 33 65 != sh) := by
  refine ⟨⟨by simp only [Generated.hdrWrongHash_sideOk], by simp only [Generated.hdrStateUncommitted_sideOk]⟩, ?_, ?_⟩
  · simp only [Generated.hdrWrongHash] <;> src_bool
  · simp only [Generated.hdrStateUncommitted, Generated.cellTypeMerkleUpdate, kMerkleUpdate] <;> src_bool

/-- `check_block_header_proof` of the hand model decides with exactly the regenerated tests. -/
theorem c11_src_header (root : PCell) (blockHash : Bytes) :
    checkBlockHeaderProof root blockHash =
      (match root.info.getHash 0 with
       | none => false
       | some rh => !Generated.hdrWrongHash rh blockHash) ∧
    checkBlockHeaderProofState root blockHash =
      (if checkBlockHeaderProof root blockHash then do
         let su ← root.refs[2]?
         let r21 ← su.refs[1]?
         let sh ← r21.info.getHash 0
         if Generated.hdrStateUncommitted su.info.kind Generated.cellTypeMerkleUpdate su.data sh then none else some sh
       else none) := by
  have hW := fun rh bh => (c11_src_header_tests 0 rh bh [] []).2.1
  have hU := fun ty data sh => (c11_src_header_tests ty [] [] data sh).2.2
  constructor
  · simp only [hW, checkBlockHeaderProof]
    cases root.info.getHash 0 with
    | none => simp
    | some rh => by_cases e : rh = blockHash <;> simp [e, bne]
  · simp only [hU, checkBlockHeaderProofState]

/-- the tests of `check_account_proof` (root count, state hash, account hash — compared with the supplied
state's own `.hash`) and of `check_shard_proof` (same block, masterchain, root count, state hash), for ALL values. -/
theorem c11_src_account_tests (n : Nat) (wc : Int) (same : Bool) (h0 sh ah : Bytes) :
    (Generated.acctWrongRootCount_sideOk n ∧ Generated.acctStateMismatch_sideOk h0 sh ∧ Generated.acctWrongAccount_sideOk h0 ah ∧
     Generated.shardSame_sideOk same ∧ Generated.shardNotMasterchain_sideOk wc ∧ Generated.shardWrongRootCount_sideOk n ∧
     Generated.shardStateMismatch_sideOk h0 sh) ∧
    Generated.acctWrongRootCount n = (n != 2) ∧ Generated.acctStateMismatch h0 sh = (h0 != sh) ∧
    Generated.acctWrongAccount h0 ah = (h0 != ah) ∧
    Generated.shardSame same = same ∧ Generated.shardNotMasterchain wc = (wc != -1) ∧
    Generated.shardWrongRootCount n = (n != 2) ∧ Generated.shardStateMismatch h0 sh = (h0 != sh) := by
  refine ⟨⟨by simp only [Generated.acctWrongRootCount_sideOk], by simp only [Generated.acctStateMismatch_sideOk],
    by simp only [Generated.acctWrongAccount_sideOk], by simp only [Generated.shardSame_sideOk],
    by simp only [Generated.shardNotMasterchain_sideOk], by simp only [Generated.shardWrongRootCount_sideOk],
    by simp only [Generated.shardStateMismatch_sideOk]⟩, ?_, ?_, ?_, ?_, ?_, ?_, ?_⟩
  · simp only [Generated.acctWrongRootCount] <;> src_bool
  · simp only [Generated.acctStateMismatch] <;> src_bool
  · simp only [Generated.acctWrongAccount] <;> src_bool
  · simp only [Generated.shardSame] <;> src_bool
  · simp only [Generated.shardNotMasterchain] <;> src_bool
  · simp only [Generated.shardWrongRootCount] <;> src_bool
  · simp only [Generated.shardStateMismatch] <;> src_bool

/-- `check_account_proof` of the hand model (what `c11_account_sound`, `c11_account_complete` … are proved about) decides
with exactly the regenerated tests, in the order of the code. -/
theorem c11_src_account (O : Opaque) (roots : List PCell) (blkRootHash addr : Bytes)
    (state : PCell) :
    checkAccountProof O roots blkRootHash addr state =
      (if Generated.acctWrongRootCount roots.length then false else
       match roots with
       | [p0, p1] =>
         if !checkProof p0 blkRootHash then false else
         match p0.refs[0]? with
         | none => false
         | some hdr =>
         match checkBlockHeaderProofState hdr blkRootHash with
         | none => false
         | some stateHash =>
         match p1.refs[0]? with
         | none => false
         | some st =>
         match st.info.getHash 0 with
         | none => false
         | some h0 =>
         if Generated.acctStateMismatch h0 stateHash then false else
         if !checkProof p1 stateHash then false else
         match locateAccount O st addr with
         | none => false
         | some acc =>
           match acc.info.getHash 0 with
           | none => false
           | some ha => !Generated.acctWrongAccount ha state.info.hash
       | _ => false) := by
  have hN := fun n => (c11_src_account_tests n 0 false [] [] []).2.1
  have hS := fun h0 sh => (c11_src_account_tests 0 0 false h0 sh []).2.2.1
  have hA := fun h0 ah => (c11_src_account_tests 0 0 false h0 [] ah).2.2.2.1
  simp only [hN, hS, hA, checkAccountProof, Proofs.ProofAccept.ne_some_ite, Proofs.ProofAccept.beq_some_match]
  match roots with
  | [] => rfl
  | [_] => rfl
  | _ :: _ :: _ :: _ => rfl
  | [p0, p1] => rfl

/-- the first three decisions of `check_shard_proof` in the hand model are the regenerated tests (`masterchain` is
`blk.workchain == -1`): equal block ids return at once; otherwise a non-masterchain block and a root count other than 2
are rejected. -/
theorem c11_src_shard (blockInfoOk findShard : PCell → Bool) (same : Bool) (wc : Int) (roots : List PCell) (h : Bytes) :
    (Generated.shardSame same = true → checkShardProof blockInfoOk findShard same (wc == -1) roots h = true) ∧
    (Generated.shardSame same = false → Generated.shardNotMasterchain wc = true →
      checkShardProof blockInfoOk findShard same (wc == -1) roots h = false) ∧
    (Generated.shardSame same = false → Generated.shardWrongRootCount roots.length = true →
      checkShardProof blockInfoOk findShard same (wc == -1) roots h = false) := by
  have hS := fun b => (c11_src_account_tests 0 0 b [] [] []).2.2.2.2.1
  have hM := fun wc => (c11_src_account_tests 0 wc false [] [] []).2.2.2.2.2.1
  have hN := fun n => (c11_src_account_tests n 0 false [] [] []).2.2.2.2.2.2.1
  simp only [hS, hM, hN]
  refine ⟨?_, ?_, ?_⟩
  · intro e; simp [checkShardProof, e]
  · intro e1 e2; simp only [bne_iff_ne, ne_eq] at e2; simp [checkShardProof, e1, e2]
  · intro e1 e2
    simp only [bne_iff_ne, ne_eq] at e2
    match roots with
    | [] => simp [checkShardProof, e1]
    | [_] => simp [checkShardProof, e1]
    | [_, _] => simp at e2
    | _ :: _ :: _ :: _ => simp [checkShardProof, e1]

/-- the regenerated tests on concrete values: a Merkle proof cell of type 3 with data `03 ++ h ++ 0005`, one reference and 280
bits passes all four tests of `check_proof` for child depth 5; the same data read for depth 1280 (= 0x0500), a 277-bit cell,
a second reference, an ordinary cell (type -1) or a 31-byte hash do not. -/
example : let h : Bytes := List.replicate 32 7
    Generated.proofWrongType 3 Generated.cellTypeMerkleProof = false ∧ Generated.proofWrongType (-1) Generated.cellTypeMerkleProof = true ∧
    Generated.proofWrongStoredHash ([3] ++ h ++ [0, 5]) h = false ∧ Generated.proofWrongStoredHash ([3] ++ h ++ [0, 5]) (h.take 31) = true ∧
    Generated.proofMalformed 1 280 ([3] ++ h ++ [0, 5]) h 5 = false ∧ Generated.proofMalformed 1 280 ([3] ++ h ++ [0, 5]) h 1280 = true ∧
    Generated.proofMalformed 1 277 ([3] ++ h ++ [0, 5]) h 5 = true ∧ Generated.proofMalformed 2 280 ([3] ++ h ++ [0, 5]) h 5 = true ∧
    Generated.acctWrongRootCount 2 = false ∧ Generated.acctWrongRootCount 3 = true ∧ Generated.shardNotMasterchain (-1) = false := by
  decide

end Src

/-! ## The WHOLE functions regenerated from the source (`Generated/ProofFull.lean`: `check_proof`, `check_block_header_proof` in
both modes and `check_account_proof` re-translated from proof/check_proof.py on every run by harness/translate/pyfunc.py)

`Generated.ProofFull.check_proof cell hash_ : Option Unit` is the function body statement by statement, with Python's order of
evaluation of the raising sub-expressions (`cell[0]` = IndexError, `get_hash` / `get_depth`, `to_bytes(2, 'big')` = OverflowError;
the operands of `or` only where Python reaches them); `some` = returns, `none` = raises.  `check_block_header_proof_False` /
`_True` are the function specialised to `store_state_hash`; `check_account_proof_False` to `return_account_descr=False`.  Declared
reading (harness/translate/prooffull.py): a constructed `Cell` is a `PCell`, `cell[i]` = `cell.refs[i]`, `get_hash` / `get_depth` =
`CellInfo.getHash` / `getDepth` (regenerated and proved in C02), `Cell.from_boc` and the TL-B deserialiser calls are parameters. -/
section SrcFull
open TonVerif.Generated.ProofFull TonVerif.Proofs.SrcProof

/-- the regenerated `check_proof` and `check_block_header_proof` ARE the hand model, for every constructed cell and hash:
same decision to raise, and in the `store_state_hash=True` mode the same returned state hash. -/
theorem c11_src_fn_check_proof (c : PCell) (h : Bytes) :
    check_proof c h = (if checkProof c h then some () else none) ∧
    check_block_header_proof_False c h = (if checkBlockHeaderProof c h then some () else none) ∧
    check_block_header_proof_True c h = checkBlockHeaderProofState c h :=
  ⟨src_check_proof_eq c h, src_header_eq c h, src_header_state_eq c h⟩

theorem check_proof_some_iff (c : PCell) (h : Bytes) : check_proof c h = some () ↔ checkProof c h = true := by
  rw [src_check_proof_eq]; cases checkProof c h <;> simp

/-- COMPLETENESS for the regenerated code (`c11_complete`): for every spec-valid level-0 tree `t` and ANY pruning `p` of it, the
Merkle proof cell over `p` can be constructed, the regenerated `check_proof(proof, hash t)` returns and the regenerated
`check_block_header_proof(proof[0], hash t)` returns. -/
theorem c11_src_complete (H : Bytes → Bytes) (t p : Cell) (s : Spec.SInfo)
    (wft : TreeWF H t) (hs : specInfo H t = some s) (hlev : s.mask = 0) (hrel : PruneRel H 1 t p)
    (h32 : (s.hashAt 0).length = 32 ∧ Bytes.WF (s.hashAt 0)) (hd : s.depthAt 0 ≤ 1022) :
    ∃ c r, PCell.ofCell H (merkleProofCell (s.hashAt 0) (s.depthAt 0) p) = some c ∧ c.refs = [r] ∧
      PCell.ofCell H p = some r ∧
      check_proof c (s.hashAt 0) = some () ∧ check_block_header_proof_False r (s.hashAt 0) = some () := by
  obtain ⟨c, r, h1, h2, h3, h4, h5⟩ := c11_complete H t p s wft hs hlev hrel h32 hd
  exact ⟨c, r, h1, h2, h3, by rw [src_check_proof_eq, h4]; rfl, by rw [src_header_eq, h5]; rfl⟩

/-- SOUNDNESS, structural part, for the regenerated code (`c11_sound_shape`): if the regenerated `check_proof(c, h)` returns then
`c` is a Merkle proof cell with exactly one child and exactly 280 data bits `03 ++ h ++ depth`, and the child's level-0 hash is
`h`.  In particular a proof cell of 288 bits, a cell of another type, a second reference, or a child hash / stored hash other than
`h` make it raise. -/
theorem c11_src_sound_shape (c : PCell) (h : Bytes) (hacc : check_proof c h = some ()) :
    c.info.kind = kMerkleProof ∧ pySlice c.data 1 33 = h ∧ c.info.bits.length = 280 ∧
    ∃ r d, c.refs = [r] ∧ r.info.getHash 0 = some h ∧ r.info.getDepth 0 = some d ∧
      c.data = [3] ++ h ++ Spec.be2 d :=
  c11_sound_shape c h ((check_proof_some_iff c h).1 hacc)

/-- BINDING over the hashes the REGENERATED constructor computes (`srcInfo` = `Cell.__init__` of cell.py, re-translated on every run
and applied bottom-up; gap (c) of design/translators-cell.md).  Two spec-valid trees of the shape of valid bags to which the
regenerated constructor assigns the same level-`l` hash `Agree` at level `l` (`c11_binding`: same type, same bit string, same
reference count, pairwise agreeing children, down to stored-hash pruned branches) - under the local no-collision hypothesis. -/
theorem c11_src_binding (H : Bytes → Bytes) (h32 : ∀ x, (H x).length = 32) (p t : Cell) (l : Nat) (ip it : CellInfo)
    (wfp : TreeWF H p) (wft : TreeWF H t) (shp : Shape p) (sht : Shape t)
    (hip : Proofs.SrcCellCtor.srcInfo H p = some ip) (hit : Proofs.SrcCellCtor.srcInfo H t = some it)
    (nocoll : ∀ x y, x ∈ reprs H p → y ∈ reprs H t → H x = H y → x = y)
    (hh : ip.getHash l = it.getHash l) : Agree H l p t := by
  rw [Proofs.SrcCellCtor.srcInfo_eq] at hip hit
  obtain ⟨ip', sp, hip', hsp, hagp⟩ := tree_agrees H p wfp
  obtain ⟨it', st, hit', hst, hagt⟩ := tree_agrees H t wft
  rw [hip] at hip'; cases hip'
  rw [hit] at hit'; cases hit'
  rw [(hagp.2 l).1, (hagt.2 l).1] at hh
  exact c11_binding H h32 p t l sp st shp sht hsp hst nocoll (Option.some.inj hh)

/-- SOUNDNESS for the regenerated code (`c11_sound`), end to end over regenerated definitions: the proof OBJECT is built by the
regenerated constructor (`srcPCell`: every cell of the proof tree through the regenerated `Cell.__init__`), the check is the
regenerated `check_proof`.  If it returns then the object is a Merkle proof cell naming `h` and, for EVERY tree `t` whose level-0
hash is `h`, the proof body `p` agrees with `t` at level 0 - under the local no-collision hypothesis. -/
theorem c11_src_sound (H : Bytes → Bytes) (h32 : ∀ x, (H x).length = 32) (kind : Int) (bits : Bits) (p t : Cell)
    (c : PCell) (h : Bytes) (sp st : Spec.SInfo)
    (wf : TreeWF H (.mk kind bits [p])) (hc : Proofs.SrcProofCtor.srcPCell H (.mk kind bits [p]) = some c)
    (hacc : check_proof c h = some ())
    (shp : Shape p) (sht : Shape t) (hsp : specInfo H p = some sp) (hst : specInfo H t = some st) (ht : st.hashAt 0 = h)
    (nocoll : ∀ x y, x ∈ reprs H p → y ∈ reprs H t → H x = H y → x = y) :
    c.info.kind = kMerkleProof ∧ pySlice c.data 1 33 = h ∧ Agree H 0 p t :=
  c11_sound H h32 kind bits p t c h sp st wf (by rw [← Proofs.SrcProofCtor.srcPCell_eq]; exact hc)
    ((check_proof_some_iff c h).1 hacc) shp sht hsp hst ht nocoll

/-- COMPLETENESS end to end over regenerated definitions: the Merkle proof object over ANY pruning of a spec-valid level-0 tree can be
built by the regenerated constructor and passes the regenerated `check_proof` and header check. -/
theorem c11_src_complete_ctor (H : Bytes → Bytes) (t p : Cell) (s : Spec.SInfo)
    (wft : TreeWF H t) (hs : specInfo H t = some s) (hlev : s.mask = 0) (hrel : PruneRel H 1 t p)
    (h32 : (s.hashAt 0).length = 32 ∧ Bytes.WF (s.hashAt 0)) (hd : s.depthAt 0 ≤ 1022) :
    ∃ c r, Proofs.SrcProofCtor.srcPCell H (merkleProofCell (s.hashAt 0) (s.depthAt 0) p) = some c ∧ c.refs = [r] ∧
      Proofs.SrcProofCtor.srcPCell H p = some r ∧
      check_proof c (s.hashAt 0) = some () ∧ check_block_header_proof_False r (s.hashAt 0) = some () := by
  obtain ⟨c, r, h1, h2, h3, h4, h5⟩ := c11_src_complete H t p s wft hs hlev hrel h32 hd
  exact ⟨c, r, by rw [Proofs.SrcProofCtor.srcPCell_eq]; exact h1, h2, by rw [Proofs.SrcProofCtor.srcPCell_eq]; exact h3, h4, h5⟩

/-- the regenerated `check_block_header_proof(root, h, True)` returning `sh` (`c11_header_state_sound`): `root.get_hash(0) = h`,
`root[2]` is a Merkle update cell, `sh` is the level-0 hash of its second child and the new-state hash stored in its data. -/
theorem c11_src_header_state_sound (root : PCell) (h sh : Bytes) (hacc : check_block_header_proof_True root h = some sh) :
    root.info.getHash 0 = some h ∧
    ∃ su c, root.refs[2]? = some su ∧ su.refs[1]? = some c ∧ su.info.kind = kMerkleUpdate ∧
      c.info.getHash 0 = some sh ∧ pySlice su.data 33 65 = sh :=
  c11_header_state_sound root h sh (by rw [← src_header_state_eq]; exact hacc)

/-- the regenerated `check_account_proof` IS the hand model on the roots `Cell.from_boc` returns — for ALL values of the declared
externals (`Cell.from_boc`, `ShardStateUnsplit.deserialize`, `.accounts[0][key]`, `.cell`) that compose to the model's TL-B walk
`locateAccount` (hypothesis `hwalk`; the walk on the regenerated parsers is section SrcWalk below). -/
theorem c11_src_fn_account {Shard ShardAccount : Type} (fromBoc : Bytes → Option (List PCell))
    (deser : PCell → Option Shard) (get : Shard → Nat → Option ShardAccount) (cellOf : ShardAccount → PCell)
    (O : Opaque) (proof blkRootHash addr : Bytes) (state : PCell)
    (hwalk : ∀ st, ((deser st).bind fun sh => (get sh (natOfBE addr)).bind fun sa => (cellOf sa).refs[0]?) = locateAccount O st addr) :
    check_account_proof_False fromBoc deser get cellOf proof blkRootHash addr state =
      (fromBoc proof).bind fun roots => if checkAccountProof O roots blkRootHash addr state then some () else none :=
  src_check_account_proof_eq fromBoc deser get cellOf O proof blkRootHash addr state hwalk

/-- SOUNDNESS of the regenerated account check (`c11_account_sound`): if it returns, `Cell.from_boc` gave exactly two roots, both
pass `check_proof`, the header commits to the state hash, the walk over the proved state cell returned a cell whose level-0 hash
is the REPRESENTATION hash of the supplied account state. -/
theorem c11_src_account_sound {Shard ShardAccount : Type} (fromBoc : Bytes → Option (List PCell))
    (deser : PCell → Option Shard) (get : Shard → Nat → Option ShardAccount) (cellOf : ShardAccount → PCell)
    (O : Opaque) (proof blk addr : Bytes) (state : PCell)
    (hwalk : ∀ st, ((deser st).bind fun sh => (get sh (natOfBE addr)).bind fun sa => (cellOf sa).refs[0]?) = locateAccount O st addr)
    (hacc : check_account_proof_False fromBoc deser get cellOf proof blk addr state = some ()) :
    ∃ p0 p1 hdr st acc sh, fromBoc proof = some [p0, p1] ∧ checkProof p0 blk = true ∧ p0.refs[0]? = some hdr ∧
      checkBlockHeaderProofState hdr blk = some sh ∧ p1.refs[0]? = some st ∧ st.info.getHash 0 = some sh ∧
      checkProof p1 sh = true ∧ locateAccount O st addr = some acc ∧ acc.info.getHash 0 = some state.info.hash := by
  rw [src_check_account_proof_eq fromBoc deser get cellOf O proof blk addr state hwalk] at hacc
  cases hb : fromBoc proof with
  | none => rw [hb] at hacc; cases hacc
  | some roots =>
    rw [hb, Option.bind_some] at hacc
    have hc : checkAccountProof O roots blk addr state = true := by
      cases h : checkAccountProof O roots blk addr state
      · rw [h] at hacc; cases hacc
      · rfl
    obtain ⟨p0, p1, hdr, st, acc, sh, hr, rest⟩ := c11_account_sound O roots blk addr state hc
    exact ⟨p0, p1, hdr, st, acc, sh, by rw [hr], rest⟩

/-- non-vacuity of `hwalk`: externals that compose to `locateAccount` exist for every `O` and address (the state cell as its own
deserialisation, the located account cell wrapped so that `.cell[0]` is it). -/
example (O : Opaque) (addr : Bytes) : ∀ st : PCell,
    (((some st : Option PCell)).bind fun sh => ((fun (s : PCell) (_ : Nat) => locateAccount O s addr) sh (natOfBE addr)).bind
      fun sa => ((fun (a : PCell) => PCell.mk a.info [a]) sa).refs[0]?) = locateAccount O st addr := by
  intro st
  simp only [Option.bind_some]
  cases h : locateAccount O st addr <;> simp [PCell.refs]

/-- non-vacuity: the regenerated `check_proof` evaluated on a hand-built proof cell (child with the stated hash and depth): returns;
with one more data byte (288 bits), with the child's hash off by one byte, or for another expected hash: raises. -/
def fnChild : PCell := .mk ⟨-1, [], 0, 0, [List.replicate 32 7], [5]⟩ []
def fnProof (bits : Bits) : PCell := .mk ⟨3, bits, 1, 0, [List.replicate 32 9], [6]⟩ [fnChild]
def fnBits : Bits := bytesToBits ([3] ++ List.replicate 32 7 ++ [0, 5])
example : check_proof (fnProof fnBits) (List.replicate 32 7) = some () ∧
    check_proof (fnProof (fnBits ++ List.replicate 8 false)) (List.replicate 32 7) = none ∧
    check_proof (fnProof fnBits) (List.replicate 32 8) = none ∧
    check_proof (.mk ⟨3, fnBits, 2, 0, [], []⟩ [fnChild, fnChild]) (List.replicate 32 7) = none ∧
    check_proof (.mk ⟨-1, fnBits, 1, 0, [], []⟩ [fnChild]) (List.replicate 32 7) = none ∧
    check_block_header_proof_False fnChild (List.replicate 32 7) = some () ∧
    check_block_header_proof_True fnChild (List.replicate 32 7) = none := by decide +kernel

/-- DESCRIPTOR MODE of the regenerated account check (`return_account_descr=True`): it returns a value EXACTLY when the plain mode
returns - the descriptor is handed out only after ALL the comparisons of the plain mode (two roots, both `check_proof`s, header
commitment, state hash, account state hash), made in the same order - and the value is the `ShardAccount` stored under the address
in the proved state cell.  For ALL values of the declared externals. -/
theorem c11_src_account_descr_mode {Shard ShardAccount : Type} (fromBoc : Bytes → Option (List PCell))
    (deser : PCell → Option Shard) (get : Shard → Nat → Option ShardAccount) (cellOf : ShardAccount → PCell)
    (proof blk addr : Bytes) (state : PCell) :
    check_account_proof_True fromBoc deser get cellOf proof blk addr state =
      ((check_account_proof_False fromBoc deser get cellOf proof blk addr state).bind fun _ =>
        (fromBoc proof).bind fun roots => (roots[1]?).bind fun sc => (sc.refs[0]?).bind fun st =>
          (deser st).bind fun sh => get sh (natOfBE addr)) ∧
    ((check_account_proof_True fromBoc deser get cellOf proof blk addr state).isSome =
      (check_account_proof_False fromBoc deser get cellOf proof blk addr state).isSome) :=
  ⟨src_account_descr_eq fromBoc deser get cellOf proof blk addr state,
   src_account_descr_isSome fromBoc deser get cellOf proof blk addr state⟩

/-- `check_shard_proof` AS A WHOLE FUNCTION, regenerated from the source (early `return`, `raise` for a non-masterchain block,
`Cell.from_boc`, the header comparison, both `check_proof`s and the state-hash commitment in source order, the `ShardHashes` lookup and
the loop over the descriptor's leaves with its `return` inside), equals the hand model `checkShardProof` whose two Boolean parameters
are READ FROM THE SOURCE (`shardBlockInfoOk`, `findShardDescr`), for ALL values of the declared externals; the returned value is
`none` for `blk == shrd_blk` and the descriptor found otherwise. -/
theorem c11_src_shard_full {Shard BlockInfo ShardDict ShardDescr ShardEntry : Type} (fromBoc : Bytes → Option (List PCell))
    (deser : PCell → Option Shard) (deserBlock : PCell → Option BlockInfo) (infoSeqno infoWorkchain : BlockInfo → Int)
    (shardHashes : Shard → Option ShardDict) (shardGet : ShardDict → Int → Option ShardDescr)
    (descrList : ShardDescr → List (Option ShardEntry)) (entryRootHash : ShardEntry → Bytes) (proof : Bytes) (blk shrd : BlkId) :
    check_shard_proof fromBoc deser deserBlock infoSeqno infoWorkchain shardHashes shardGet descrList entryRootHash proof blk shrd =
      if blk = shrd then some none
      else if blk.workchain ≠ -1 then none
      else (fromBoc proof).bind fun roots =>
        if checkShardProof (shardBlockInfoOk deserBlock infoSeqno infoWorkchain blk.seqno blk.workchain)
            (fun st => (findShardDescr deser shardHashes shardGet descrList entryRootHash shrd.workchain shrd.rootHash st).isSome)
            false true roots blk.rootHash
        then ((roots[1]?).bind fun s => (s.refs[0]?).bind fun st =>
          findShardDescr deser shardHashes shardGet descrList entryRootHash shrd.workchain shrd.rootHash st).map some
        else none :=
  src_check_shard_proof_eq fromBoc deser deserBlock infoSeqno infoWorkchain shardHashes shardGet descrList entryRootHash proof blk shrd

/-- SOUNDNESS read-out of the regenerated `check_shard_proof`: whenever it returns for two DIFFERENT block ids, `blk` is a masterchain
block, the hand model accepts the two roots (both Merkle proofs checked, header committed to the state hash: `checkShardProof`) and the
returned descriptor is one the masterchain state holds for `shrd_blk.workchain` with a leaf carrying `shrd_blk.root_hash`. -/
theorem c11_src_shard_sound {Shard BlockInfo ShardDict ShardDescr ShardEntry : Type} (fromBoc : Bytes → Option (List PCell))
    (deser : PCell → Option Shard) (deserBlock : PCell → Option BlockInfo) (infoSeqno infoWorkchain : BlockInfo → Int)
    (shardHashes : Shard → Option ShardDict) (shardGet : ShardDict → Int → Option ShardDescr)
    (descrList : ShardDescr → List (Option ShardEntry)) (entryRootHash : ShardEntry → Bytes) (proof : Bytes) (blk shrd : BlkId)
    (r : Option ShardDescr) (hne : blk ≠ shrd)
    (hacc : check_shard_proof fromBoc deser deserBlock infoSeqno infoWorkchain shardHashes shardGet descrList entryRootHash proof blk shrd = some r) :
    blk.workchain = -1 ∧ ∃ roots d st, fromBoc proof = some roots ∧ r = some d ∧
      checkShardProof (shardBlockInfoOk deserBlock infoSeqno infoWorkchain blk.seqno blk.workchain)
        (fun st => (findShardDescr deser shardHashes shardGet descrList entryRootHash shrd.workchain shrd.rootHash st).isSome)
        false true roots blk.rootHash = true ∧
      ((roots[1]?).bind fun s => s.refs[0]?) = some st ∧
      findShardDescr deser shardHashes shardGet descrList entryRootHash shrd.workchain shrd.rootHash st = some d ∧
      ∃ dd, shardGet dd shrd.workchain = some d ∧ ∃ e, some e ∈ descrList d ∧ entryRootHash e = shrd.rootHash := by
  rw [c11_src_shard_full, if_neg hne] at hacc
  by_cases hwc : blk.workchain = -1
  swap
  · rw [if_pos hwc] at hacc; cases hacc
  refine ⟨hwc, ?_⟩
  rw [if_neg (by simpa using hwc)] at hacc
  obtain ⟨roots, hb, hacc⟩ := Option.bind_eq_some_iff.1 hacc
  split at hacc
  swap
  · cases hacc
  rename_i hchk
  obtain ⟨d, hd, rfl⟩ := Option.map_eq_some_iff.1 hacc
  obtain ⟨s, hs, hd⟩ := Option.bind_eq_some_iff.1 hd
  obtain ⟨st, hst, hf⟩ := Option.bind_eq_some_iff.1 hd
  refine ⟨roots, d, st, hb, rfl, hchk, by rw [hs]; exact hst, hf, ?_⟩
  unfold findShardDescr at hf
  obtain ⟨shd, hds, hf⟩ := Option.bind_eq_some_iff.1 hf
  obtain ⟨dd, hsh, hf⟩ := Option.bind_eq_some_iff.1 hf
  obtain ⟨d', hg, hf⟩ := Option.bind_eq_some_iff.1 hf
  split at hf
  swap
  · cases hf
  rename_i hany
  cases hf
  refine ⟨dd, hg, ?_⟩
  rw [List.any_eq_true] at hany
  obtain ⟨x, hx, hm⟩ := hany
  cases x with
  | none => cases hm
  | some e => exact ⟨e, hx, by simpa [entryMatches] using hm⟩

/-- non-vacuity of the shard theorems: with concrete externals (the state cell as its own deserialisation, one descriptor with a pruned
leaf and a leaf carrying the shard block's root hash) the regenerated function returns `none` for equal ids, raises for a
non-masterchain block and for an empty bag, and the regenerated loop finds / does not find the leaf. -/
example :
    let blk : BlkId := ⟨-1, 0, 5, List.replicate 32 7, []⟩
    let shrd : BlkId := ⟨0, 0, 9, List.replicate 32 8, []⟩
    check_shard_proof (Shard := PCell) (BlockInfo := Int × Int) (ShardDict := Unit) (ShardDescr := Nat) (ShardEntry := Bytes)
        (fun _ => some []) some (fun _ => some (5, -1)) Prod.fst Prod.snd (fun _ => some ()) (fun _ _ => some 1)
        (fun _ => [none, some (List.replicate 32 8)]) id [] blk blk = some none ∧
    check_shard_proof (Shard := PCell) (BlockInfo := Int × Int) (ShardDict := Unit) (ShardDescr := Nat) (ShardEntry := Bytes)
        (fun _ => some []) some (fun _ => some (5, -1)) Prod.fst Prod.snd (fun _ => some ()) (fun _ _ => some 1)
        (fun _ => [none, some (List.replicate 32 8)]) id [] shrd blk = none ∧
    check_shard_proof (Shard := PCell) (BlockInfo := Int × Int) (ShardDict := Unit) (ShardDescr := Nat) (ShardEntry := Bytes)
        (fun _ => some []) some (fun _ => some (5, -1)) Prod.fst Prod.snd (fun _ => some ()) (fun _ _ => some 1)
        (fun _ => [none, some (List.replicate 32 8)]) id [] blk shrd = none ∧
    findShardDescr (Shard := PCell) (ShardDict := Unit) (ShardDescr := Nat) (ShardEntry := Bytes) some (fun _ => some ())
        (fun _ _ => some 1) (fun _ => [none, some (List.replicate 32 8)]) id 0 (List.replicate 32 8) fnChild = some 1 ∧
    findShardDescr (Shard := PCell) (ShardDict := Unit) (ShardDescr := Nat) (ShardEntry := Bytes) some (fun _ => some ())
        (fun _ _ => some 1) (fun _ => [none, some (List.replicate 32 8)]) id 0 (List.replicate 32 9) fnChild = none := by
  decide +kernel

end SrcFull

/-! ## The TL-B walk on the REGENERATED parsers

`Model.srcLocate c addr` (Model/LocateSrc.lean) is `ShardStateUnsplit.deserialize(c.begin_parse()).accounts[0][int(addr)].cell[0]` with the
parser classes `ShardStateUnsplit`, `ShardAccounts`, `ShardAccount` (constructor argument `cell=` kept), `DepthBalanceInfo`, `Account`,
`McStateExtra`, `ShardIdent`, `CurrencyCollection` ... re-translated from pytoniq_core/tlb/*.py on every run (Generated/LocateSrc.lean,
Generated/TlbParsers{,Tx,Blk}.lean); `Model.srcOpaque` are the two Boolean parameters of the hand walk read from the regenerated `Account` /
`McStateExtra`.  `WalkAgreeAt st addr` (Proofs/SrcLocate.lean): the regenerated walk and `locateAccount srcOpaque` agree on this cell -
same "raises" verdict, located account cell with the same `is_special()` flag, data bits and subtree.

FULL STATEMENT (NOT proved for all cells):   `∀ st addr, WalkAgreeAt st addr`.
It is a closed statement about regenerated definitions, DECIDED by evaluation per instance (driver op `srcloc`): every run evaluates it on
every state cell of the walk stream (≈ 250 synthetic shard states per seed: 1..8 accounts, every parser branch defective once, pruned off the
path, spec-encoded `Account` / `McStateExtra` cells) and requires `eq` AND the library's verdict / located cell.  Proved below for all
addresses: the cells on which `deserialize` returns `None` or stops at the tag.  Every callee of the `ShardStateUnsplit` header is proved equal
to its counterpart in the hand walk on all inputs (steps (a), (b), (c) below); missing for the all-cells proof is the composition of the
straight-line header reads (361 bits, the reference list) with them. -/
section SrcWalk
open TonVerif.Proofs.SrcLocate TonVerif.Generated.ProofFull TonVerif.Proofs.SrcProof

/-- the regenerated walk IS the hand model on every cell that is not an ordinary `shard_state#9023afe2` cell, for every address: a special
cell (`ShardStateUnsplit.deserialize` returns `None`, `.accounts` raises), fewer than 32 data bits or another tag (BlockError): both raise.
Partial: see the full statement above. -/
theorem c11_src_walk_partial (st : PCell) (addr : Bytes)
    (h : st.info.kind ≠ -1 ∨ st.info.bits.length < 32 ∨ st.info.bits.take 32 ≠ shardStateTag) : WalkAgreeAt st addr := by
  by_cases hk : st.info.kind = -1
  · rcases h with h | h
    · exact absurd hk h
    · exact walk_badtag st addr hk h
  · exact walk_special st addr hk

/-- non-vacuity, and one evaluated instance of the full statement: on the one-account state `exState` the regenerated walk returns the
`account_none` cell, as the hand model does (`c11_locate_complete` example above); a Merkle-proof cell and an untagged cell meet the
hypothesis of `c11_src_walk_partial`. -/
example : (match srcLocate (tcell exState) exAddr with | some a => tcellBeq a (tcell exAcc) | none => false) = true ∧
    exPruned.info.kind ≠ -1 ∧ exAcc.info.bits.length < 32 := by
  refine ⟨by decide +kernel, by decide, by decide⟩

/-- SOUNDNESS of the regenerated account check with the sub-parsers read from the source and the walk tied to the regenerated parsers.
`hwalk`: the declared externals compose to the hand walk AT `srcOpaque` (no Boolean parameter left: `Account.deserialize` /
`McStateExtra.deserialize` are the regenerated parsers); `hsrc`: the full statement above (`WalkAgreeAt`) at this state cell and address.  Acceptance then
implies the conclusion of `c11_account_sound_lookup` AND that the REGENERATED `ShardStateUnsplit.deserialize(..).accounts[0][addr].cell[0]`
returns, on the proved state cell, a cell with the flag, bits and subtree of the account cell whose level-0 hash was compared.
Partial: `hsrc` is proved only by `c11_src_walk_partial` + evaluation; `hwalk` stays because a parsed value (`Tlb.Val`) carries cells
without their cached hashes (`tcell` forgets them), so the located OBJECT cannot be read back from it. -/
theorem c11_src_account_sound_full_partial {Shard ShardAccount : Type} (fromBoc : Bytes → Option (List PCell))
    (deser : PCell → Option Shard) (get : Shard → Nat → Option ShardAccount) (cellOf : ShardAccount → PCell)
    (proof blk addr : Bytes) (state : PCell) (hl : addr.length = 32) (hw : Bytes.WF addr)
    (hwalk : ∀ st, ((deser st).bind fun sh => (get sh (natOfBE addr)).bind fun sa => (cellOf sa).refs[0]?) = locateAccount srcOpaque st addr)
    (hsrc : ∀ st, WalkAgreeAt st addr)
    (hacc : check_account_proof_False fromBoc deser get cellOf proof blk addr state = some ()) :
    ∃ p0 p1 hdr st acc sh, fromBoc proof = some [p0, p1] ∧ checkProof p0 blk = true ∧ p0.refs[0]? = some hdr ∧
      checkBlockHeaderProofState hdr blk = some sh ∧ p1.refs[0]? = some st ∧ st.info.getHash 0 = some sh ∧
      checkProof p1 sh = true ∧ srcLocate (tcell st) addr = some (tcell acc) ∧
      lookupShardAccount pcellView st (bytesToBits addr) = some acc ∧ acc.info.getHash 0 = some state.info.hash := by
  obtain ⟨p0, p1, hdr, st, acc, sh, hb, h0, hhdr, hsh, hst, hs, h1, hloc, hh⟩ :=
    c11_src_account_sound fromBoc deser get cellOf srcOpaque proof blk addr state hwalk hacc
  refine ⟨p0, p1, hdr, st, acc, sh, hb, h0, hhdr, hsh, hst, hs, h1, ?_, (c11_locate_sound srcOpaque st addr acc hl hw hloc).2.2.2, hh⟩
  have := hsrc st
  rw [WalkAgreeAt, hloc] at this
  exact this

/-- COMPLETENESS counterpart: two roots that pass `check_proof`, a header committing to the state hash, the REGENERATED walk returning on
the proved state cell, and the located account cell carrying the supplied state's hash make the regenerated `check_account_proof` return.
Same two hypotheses `hwalk`, `hsrc` as `c11_src_account_sound_full_partial`. -/
theorem c11_src_account_complete_full_partial {Shard ShardAccount : Type} (fromBoc : Bytes → Option (List PCell))
    (deser : PCell → Option Shard) (get : Shard → Nat → Option ShardAccount) (cellOf : ShardAccount → PCell)
    (proof blk addr sh : Bytes) (p0 p1 hdr st state : PCell) (tc : Tlb.Cell)
    (hwalk : ∀ st, ((deser st).bind fun sh => (get sh (natOfBE addr)).bind fun sa => (cellOf sa).refs[0]?) = locateAccount srcOpaque st addr)
    (hsrc : ∀ st, WalkAgreeAt st addr)
    (hb : fromBoc proof = some [p0, p1])
    (h0 : checkProof p0 blk = true) (hhdr : p0.refs[0]? = some hdr) (hsh : checkBlockHeaderProofState hdr blk = some sh)
    (hst : p1.refs[0]? = some st) (hs : st.info.getHash 0 = some sh) (h1 : checkProof p1 sh = true)
    (hloc : srcLocate (tcell st) addr = some tc)
    (hh : ∀ acc, locateAccount srcOpaque st addr = some acc → acc.info.getHash 0 = some state.info.hash) :
    check_account_proof_False fromBoc deser get cellOf proof blk addr state = some () := by
  have hs' := hsrc st
  rw [WalkAgreeAt, hloc] at hs'
  cases hm : locateAccount srcOpaque st addr with
  | none => rw [hm] at hs'; cases hs'
  | some acc =>
    rw [src_check_account_proof_eq fromBoc deser get cellOf srcOpaque proof blk addr state hwalk, hb, Option.bind_some,
      c11_account_complete srcOpaque p0 p1 hdr st acc state blk addr sh h0 hhdr hsh hst hs h1 hm (hh acc hm)]
    rfl

/-- STEP (a) towards the full statement: the HmLabel reader that the dictionary walks of the parser files use (`(hmLabel n).dec`, the spec
codec of hashmap.tlb) IS the C10 label reader `Hashmap.deserializeHml` (tied to parse.py `deserialize_hml` for all inputs by
`c10_src_label_reader`) on EVERY bit string and remaining key length: same decision to raise, same label length, label bits and rest. -/
theorem c11_src_label_reader (n : Nat) (bits : Bits) (refs : List Tlb.Cell) :
    ((Tlb.hmLabel n).dec ⟨bits, refs⟩).map labelView =
      (Hashmap.deserializeHml bits (n : Int)).map fun t => (t.1, t.2.1, t.2.2, refs) :=
  hmLabel_dec_eq n bits refs

/-- STEP (b) towards the full statement: the augmented-dictionary walk of the parser files (`Rd.augWalk`: `parse_aug` as a fuel recursion over
`Tlb.Cell`) IS the hand model's `parseAugP` (structural recursion over constructed cells, labels by the C10 reader) on EVERY constructed
cell - pruned branches anywhere, malformed labels, missing references - for every prefix, every remaining key length below the fuel and
every pair of extra / value readers that agree (`ReadersAgree`: they succeed on the same slices, the extra readers leave the same rest, the
value readers return the same `.cell[0]`): same decision to raise, same keys in the same order, same `.cell[0]` per entry. -/
theorem c11_src_aug_walk {x y : Tlb.Frag → Tlb.Rd.R} {decX : PSlice → Option PCell} {decY : PSlice → Option PSlice}
    (h : ReadersAgree x y decX decY) (fuel n : Nat) (pfx : Bits) (c : PCell) (hn : n < fuel) :
    (Tlb.Rd.augWalk x y fuel n pfx (tcell c)).map srcEntries = (parseAugP decY decX c (n : Int) pfx).map mdlEntries :=
  augWalk_eq h fuel n pfx c hn

/-- the VALUE reader of the accounts dictionary meets `ReadersAgree.x_cell`: the regenerated `ShardAccount.deserialize` (constructor argument
`cell=` kept) returns on a leaf slice exactly when `readShardAccount` at the regenerated `Account` parser does, and its `.cell[0]` is the
cell the model returns.  (The EXTRA reader `DepthBalanceInfo` against `readDepthBalance`: `c11_src_currency_readers`.) -/
theorem c11_src_shard_account_reader (s : PSlice) :
    (Tlb.SrcLoc.ShardAccount false (psliceFrag s)).map (fun p => cell0 p.1) =
      (readShardAccount srcOpaque s).map (fun a => some (tcell a)) :=
  shardAccount_agree s

/-- STEP (b), plain dictionaries: `Rd.dictWalk` (the `parse` / `deserialize_hashmap_node` walk of the parser files, the value reader applied to
every leaf) returns on a constructed cell EXACTLY when the C10 model `Hashmap.parseEdge` returns on the underlying tree and every leaf value
passes the reader's test - for every cell (pruned edges anywhere), any non-degenerate start (`0 < n` or a non-empty prefix), any fuel above `n`. -/
theorem c11_src_dict_walk {rd : Tlb.Frag → Tlb.Rd.R} {ok : Bits → Bool} (hrd : ∀ b r, (rd ⟨b, r⟩).isSome = ok b)
    (fuel n : Nat) (pfx : Bits) (c : PCell) (hn : n < fuel) (hp : 0 < n ∨ pfx ≠ []) :
    (Tlb.Rd.dictWalk rd fuel n pfx (tcell c)).isSome = edgeOk ok (Hashmap.parseEdge c.toCell (n : Int) pfx) :=
  dictWalk_ok hrd fuel n pfx c hn hp

/-- STEP (b), the field readers below the walk: the regenerated `CurrencyCollection` (with `ExtraCurrencyCollection` = `load_dict(32,
load_var_uint(5))`), `DepthBalanceInfo` and the raw `load_dict(n)` succeed on EVERY slice of constructed cells exactly when the hand readers of
Model/Locate.lean do, and leave the same rest (bits and references). -/
theorem c11_src_currency_readers (sp : Bool) (s : PSlice) (n : Nat) (hn : 0 < n) :
    (Tlb.SrcTx.CurrencyCollection sp (psliceFrag s)).map (·.2) = (readCurrencyCollection s).map psliceFrag ∧
    (Tlb.SrcBlk.DepthBalanceInfo sp (psliceFrag s)).map (·.2) = (readDepthBalance s).map psliceFrag ∧
    (Tlb.Rd.loadDictRaw n (psliceFrag s)).map (·.2) = (readDictRaw n s).map psliceFrag :=
  ⟨currencyCollection_rest sp s, depthBalance_rest sp s, dictRaw_rest n hn s⟩

/-- STEP (b) COMPLETE, the accounts dictionary of the walk: `ShardAccounts.deserialize(accs.begin_parse())[0][key].cell[0]` on the REGENERATED
parsers (`load_hashmap_aug_e(256, ShardAccount.deserialize, DepthBalanceInfo.deserialize)`, Python tuple / dict glue with decimal int keys) IS
`loadShardAccounts srcOpaque accs` followed by `dictGet key` of the hand model, for EVERY constructed accounts cell (special, empty, exotic or
pruned root, pruned edges, malformed leaves) and EVERY key: same "raises / KeyError" verdict, located cell with the same flag, bits, subtree. -/
theorem c11_src_accounts_lookup (accs : PCell) (key : Nat) :
    srcAccountsLookup accs key = ((loadShardAccounts srcOpaque accs).bind (Hashmap.dictGet key)).map tcell :=
  accounts_agree accs key

/-- STEP (c): the `^[ overload_history underload_history total_balance total_validator_fees libraries master_ref ]` group of the
regenerated `ShardStateUnsplit.deserialize` (`groupExpr`: the text of that block of Generated/LocateSrc.lean - skipped for a special cell, else
2 × `load_uint(64)`, 2 × `CurrencyCollection`, `load_dict(256)`, `BlkMasterInfo if load_bit() else None` with `BlkMasterInfo` = four straight
reads of 608 bits) returns on EVERY constructed cell exactly when the hand model's `stateRefGroup` says so. -/
theorem c11_src_state_group (grp : PCell) (sp : Bool) (b : Bits) (r : List Tlb.Cell) :
    (groupExpr (tcell grp)).isSome = stateRefGroup grp ∧
    (Tlb.Src.BlkMasterInfo sp ⟨b, r⟩).isSome = decide (608 ≤ b.length) :=
  ⟨group_isSome grp, blkMasterInfo_isSome sp b r⟩

end SrcWalk

end TonVerif.Properties.C11
