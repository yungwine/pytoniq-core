/-
C20 — ADNL channel crypto is symmetric between peers; signatures and keys are consistent.   PARTIAL.

PARTIAL in this sense: X25519, the Ed25519↔Curve25519 conversions, AES-256-CTR, SHA-256, Ed25519
signing/verification, HMAC-SHA512 and PBKDF2 are PARAMETERS (`Prims`); the theorems assume only their
textbook algebraic laws (`ChannelLaws`, `SignLaw` in Proofs/Adnl.lean — hypotheses, never axioms) and
prove that the library's OWN logic (which key each side encrypts/decrypts with in each of the three id
orderings, the key/iv slicing, the packet layout, the signing helpers' slicing, the generator's retry loop)
is correct on top of them, for all seeds, ids and plaintexts.  That the real primitives satisfy the laws,
and every REJECTION statement of the property (a signature fails for another message / key / altered
signature = Ed25519 unforgeability), is only TESTED by harness/props/C20.py.

Model: Model/Adnl.lean (mirror of crypto/ciphers.py, crypto/signature.py, crypto/keys.py).
`chanOf P a b ida idb` = `AdnlChannel(Client(a), Server(_, _, ed_pub(b)), local_id = ida, peer_id = idb)`.
-/
import TonVerif.Proofs.Adnl
import TonVerif.Proofs.SrcAdnl
import TonVerif.Proofs.SrcAdnlLoop
import TonVerif.Generated.MnemonicNew

namespace TonVerif.Properties.C20
open TonVerif TonVerif.Model.Adnl TonVerif.Proofs.Adnl
open TonVerif.Generated.AdnlSrc TonVerif.Proofs.SrcAdnl TonVerif.Proofs.SrcAdnlLoop

/-- CHANNEL SYMMETRY.  For any two seeds `a`, `b` and ANY two ids (so: `ida > idb`, `ida < idb`, `ida = idb`),
let `A` be the channel `a` opens towards `b` and `B` the channel `b` opens towards `a`.  For every plaintext `m`:
`A.encrypt(m)` succeeds and is `B.server_aes_key_id ‖ H(m) ‖ body` with `len(body) = len(m)`, and
`B.decrypt(body, H(m)) = m`; and the same with the roles of `A` and `B` exchanged. -/
theorem c20_symmetric {W : Type} (P : Prims W) (L : ChannelLaws P) (a b ida idb m : Bytes) :
    (∃ body, (chanOf P a b ida idb).encrypt P m =
          some ((chanOf P b a idb ida).serverAesKeyId ++ P.H m ++ body) ∧
        body.length = m.length ∧ (chanOf P b a idb ida).decrypt P body (P.H m) = some m) ∧
    (∃ body, (chanOf P b a idb ida).encrypt P m =
          some ((chanOf P a b ida idb).serverAesKeyId ++ P.H m ++ body) ∧
        body.length = m.length ∧ (chanOf P a b ida idb).decrypt P body (P.H m) = some m) :=
  ⟨one_way P L a b ida idb m, one_way P L b a idb ida m⟩

/-- the same with counter mode described by its DEFINITION (output = input xor a key stream fixed by key and
initial counter) instead of the involution law: involution and length preservation are then proved, not assumed. -/
theorem c20_symmetric_stream {W : Type} (P : Prims W)
    (dh_comm : ∀ a b, P.dh a (P.xPub b) = P.dh b (P.xPub a))
    (conv : ∀ seed, P.edToXPub (P.edPub seed) = P.xPub (P.edToXPriv seed))
    (H_len : ∀ x, (P.H x).length = 32) (dh_len : ∀ a b, (P.dh a b).length = 32)
    (hs : CtrIsStream P) (a b ida idb m : Bytes) :
    (∃ body, (chanOf P a b ida idb).encrypt P m =
          some ((chanOf P b a idb ida).serverAesKeyId ++ P.H m ++ body) ∧
        body.length = m.length ∧ (chanOf P b a idb ida).decrypt P body (P.H m) = some m) ∧
    (∃ body, (chanOf P b a idb ida).encrypt P m =
          some ((chanOf P a b ida idb).serverAesKeyId ++ P.H m ++ body) ∧
        body.length = m.length ∧ (chanOf P a b ida idb).decrypt P body (P.H m) = some m) :=
  c20_symmetric P (channelLaws_of_stream P dh_comm conv H_len dh_len hs) a b ida idb m

/-- the three-way decision spelled out: with `s` the shared secret, the (enc, dec) keys are
`(s, reverse s)` if `local_id > peer_id`, `(reverse s, s)` if `local_id < peer_id`, `(s, s)` if equal; the
advertised key ids are `H(d4adbc2d ‖ enc)` / `H(d4adbc2d ‖ dec)`; and both ends derive the same `s`. -/
theorem c20_channel_keys {W : Type} (P : Prims W) (L : ChannelLaws P) (a b ida idb : Bytes) :
    let A := chanOf P a b ida idb
    A.shared = (chanOf P b a idb ida).shared ∧
    A.clientAesKeyId = P.H (magicAes ++ A.encKey) ∧ A.serverAesKeyId = P.H (magicAes ++ A.decKey) ∧
    (A.encKey, A.decKey) =
      if bytesLt idb ida then (A.shared, A.shared.reverse)
      else if bytesLt ida idb then (A.shared.reverse, A.shared) else (A.shared, A.shared) := by
  obtain ⟨h1, h2, h3, h4⟩ := chan_keys P a b ida idb
  refine ⟨shared_eq P L a b ida idb, h2, h3, ?_⟩
  rw [h1]; exact h4

/-- `bytesLt` is Python's strict order on `bytes`: asymmetric, and "neither smaller nor greater" is equality —
so the three branches of `__init__` are exactly `local_id > peer_id`, `local_id < peer_id`, `local_id == peer_id`. -/
theorem c20_id_order (a b : Bytes) :
    (bytesLt a b = true → bytesLt b a = false) ∧
    ((bytesLt a b = false ∧ bytesLt b a = false) ↔ a = b) :=
  ⟨bytesLt_asymm a b, ⟨fun h => bytesLt_total a b h.1 h.2, fun h => by subst h; exact ⟨bytesLt_irrefl a, bytesLt_irrefl a⟩⟩⟩

/-- the self channel (same seed, equal ids): what the object encrypts it also decrypts. -/
theorem c20_self_channel {W : Type} (P : Prims W) (L : ChannelLaws P) (a id m : Bytes) :
    ∃ body, (chanOf P a a id id).encrypt P m =
        some ((chanOf P a a id id).serverAesKeyId ++ P.H m ++ body) ∧
      (chanOf P a a id id).decrypt P body (P.H m) = some m := by
  obtain ⟨body, h1, _, h3⟩ := one_way P L a a id id m
  exact ⟨body, h1, h3⟩

/-- the guard of the cipher construction, covered exactly: a cipher object exists iff the key and the
checksum have at least 32 bytes (else "key should be 32 bytes exactly!" / AES.new raises); then its AES key is
`key[0:16] ‖ sum[16:32]` and its initial counter `sum[0:4] ‖ key[20:32]`. -/
theorem c20_cipher_guard (key sum : Bytes) :
    ((cipherParams key sum).isSome ↔ 32 ≤ key.length ∧ 32 ≤ sum.length) ∧
    (32 ≤ key.length → 32 ≤ sum.length → cipherParams key sum =
      some (slice key 0 16 ++ slice sum 16 32, slice sum 0 4 ++ slice key 20 32)) :=
  ⟨cipherParams_isSome_iff key sum, cipherParams_some key sum⟩

/-- SIGNATURES (completeness only).  Given the correctness of the primitive, the signature returned by
`sign_message(m, sk)` has 64 bytes and `verify_sign(pk, m, ·)` accepts it, for `(pk, sk)` the key pair of any
seed; `Client(seed).sign(m)` / `get_signature` returns the same signature and it verifies under the client's
own public key.  NOT proved (only tested): rejection for another message, key or an altered signature. -/
theorem c20_sign {W : Type} (P : Prims W) (S : SignLaw P) (seed m : Bytes) :
    (signMessage P m (P.keypair seed).2).length = 64 ∧
    verifySign P (P.keypair seed).1 m (signMessage P m (P.keypair seed).2) = true ∧
    getSignature P seed m = signMessage P m (P.keypair seed).2 ∧
    verifySign P (Client.new P seed).edPub m (getSignature P seed m) = true := by
  obtain ⟨sig, hl, hs, hv⟩ := S.sign_ok seed m
  have h : signMessage P m (P.keypair seed).2 = sig := by
    unfold signMessage; rw [hs]; exact slice_append_left sig m 64 hl
  refine ⟨by rw [h, hl], by rw [h]; exact hv, rfl, ?_⟩
  show P.verify (P.edPub seed) m (getSignature P seed m) = true
  rw [S.pub_ok seed]
  show P.verify _ m (signMessage P m (P.keypair seed).2) = true
  rw [h]; exact hv

/-- MNEMONICS.  Whatever the random stream, every list RETURNED by `mnemonic_new()` (24 words) passes
`mnemonic_is_valid`, and consists of words of the word list. -/
theorem c20_mnemonic {W : Type} (P : Prims W) (words : List W) (rnd : Nat → Bytes)
    (inner fuel k : Nat) (arr : List W) (k' : Nat)
    (h : mnemonicNew P words rnd 24 inner fuel k = some (arr, k')) :
    mnemonicIsValid P arr = true ∧ ∀ w ∈ arr, w ∈ words := by
  obtain ⟨h1, h2, h3⟩ := mnemonicNew_spec P words rnd 24 inner fuel k arr k' h
  exact ⟨by simp [mnemonicIsValid, h1, h3], h2⟩

/-- noted limitation of the API (outside the property, which is about the default generator):
`mnemonic_new(n)` with `n ≠ 24` returns lists that `mnemonic_is_valid` rejects (by length). -/
theorem c20_mnemonic_other_counts {W : Type} (P : Prims W) (words : List W) (rnd : Nat → Bytes)
    (wc inner fuel k : Nat) (arr : List W) (k' : Nat) (hwc : wc ≠ 24)
    (h : mnemonicNew P words rnd wc inner fuel k = some (arr, k')) :
    mnemonicIsValid P arr = false := by
  obtain ⟨h1, _, _⟩ := mnemonicNew_spec P words rnd wc inner fuel k arr k' h
  simp [mnemonicIsValid, h1, hwc]

/-- every index drawn by `get_secure_random_number(lo, hi)` lies in `[lo, hi)` (so `words[idx]` never raises). -/
theorem c20_random_in_range (rnd : Nat → Bytes) (lo hi fuel k r k' : Nat)
    (h : secureRandomNumber rnd lo hi fuel k = some (r, k')) : lo ≤ r ∧ r < hi :=
  secureRandomNumber_range rnd lo hi fuel k r k' h

/-- key derivation is a function of the word list: the model of `mnemonic_to_private_key` /
`mnemonic_to_wallet_key` / `mnemonic_to_seed` has no state, randomness or I/O besides its arguments, so equal
mnemonics give equal keys.  (In Lean this is congruence; the content is that the MODEL needs no hidden input —
that the library has none is what the correspondence checks by deriving twice.) -/
theorem c20_derivation_deterministic {W : Type} (P : Prims W) (ws ws' : List W) (h : ws = ws') :
    mnemonicToPrivateKey P ws = mnemonicToPrivateKey P ws' ∧
    mnemonicToWalletKey P ws = mnemonicToWalletKey P ws' ∧
    ∀ salt, mnemonicToSeed P ws salt = mnemonicToSeed P ws' salt := by
  subst h; exact ⟨rfl, rfl, fun _ => rfl⟩

/-- `mnemonic_to_wallet_key` equals `mnemonic_to_private_key` whenever the secret key returned by
`crypto_sign_seed_keypair(seed)` starts with the 32-byte seed (libsodium: `sk = seed ‖ pk`) and PBKDF2 returns at
least 32 bytes. -/
theorem c20_wallet_key_eq {W : Type} (P : Prims W) (ws : List W)
    (hsk : ∀ s : Bytes, s.length = 32 → slice (P.keypair s).2 0 32 = s)
    (hlen : ∀ pw salt n, 32 ≤ (P.pbkdf2 pw salt n).length) :
    mnemonicToWalletKey P ws = mnemonicToPrivateKey P ws := by
  unfold mnemonicToWalletKey mnemonicToPrivateKey
  rw [hsk]
  have := hlen (mnemonicToEntropy P ws) saltDefault pbkdfIterations
  simp only [slice_length, mnemonicToSeed]; omega

/-! ## Non-vacuity: toy primitives satisfying every law, and concrete runs

`dh a p = BE32(a·p)` on naturals with `pub = id` (commutative), CTR = xor with a key/iv dependent byte,
`H x = x` padded/truncated to 32 bytes, signature of `m` under `k` = `k ‖ m` padded/truncated to 64 bytes,
HMAC/PBKDF2 = projections, word = its index. -/

theorem natToBE_length : ∀ w v, (natToBE w v).length = w
  | 0, _ => rfl
  | w + 1, v => by simp [natToBE, natToBE_length w]

def pad (n : Nat) (x : Bytes) : Bytes := (x ++ List.replicate n 0).take n
theorem pad_length (n : Nat) (x : Bytes) : (pad n x).length = n := by simp [pad]

def toySig (k m : Bytes) : Bytes := pad 64 (k ++ m)

def toy : Prims Nat where
  H := fun x => pad 32 x
  dh := fun a p => natToBE 32 (natOfBE a * natOfBE p)
  ctr := fun k iv m => m.map (fun b => b ^^^ ((natOfBE k + natOfBE iv) % 256))
  edToXPriv := id
  xPub := id
  edPub := id
  edToXPub := id
  keypair := fun s => (s, s)
  cryptoSign := fun m sk => toySig sk m ++ m
  verify := fun pk m sig => sig == toySig pk m
  hmac512 := fun key _ => key
  pbkdf2 := fun pw _ _ => pw
  joinWords := fun ws => ws

/-- the toy primitives satisfy the channel laws … -/
theorem toy_channel_laws : ChannelLaws toy where
  dh_comm := fun a b => by simp [toy, Nat.mul_comm]
  conv := fun _ => rfl
  ctr_invol := fun k iv m => by
    simp only [toy, List.map_map]
    conv => rhs; rw [← List.map_id m]
    congr 1
    funext b
    simp [Nat.xor_assoc]
  ctr_len := fun k iv m => by simp [toy]
  H_len := fun x => pad_length 32 x
  dh_len := fun a b => natToBE_length 32 _

/-- the toy counter mode is a stream cipher in the sense of `CtrIsStream`. -/
theorem toy_ctr_stream : CtrIsStream toy := by
  refine ⟨fun k iv n => List.replicate n ((natOfBE k + natOfBE iv) % 256), fun _ _ _ => by simp, ?_⟩
  intro k iv m
  simp only [toy, xorBytes]
  generalize (natOfBE k + natOfBE iv) % 256 = c
  induction m with
  | nil => rfl
  | cons x xs ih => simp [List.replicate_succ, ih]

/-- … and the signing law. -/
theorem toy_sign_law : SignLaw toy where
  sign_ok := fun seed m => ⟨toySig seed m, pad_length 64 _, rfl, by simp [toy]⟩
  pub_ok := fun _ => rfl

/-- so the hypotheses of `c20_symmetric` / `c20_sign` are satisfiable; a concrete non-trivial instance
(ids in both orders and equal, 5-byte plaintext) evaluated through the model: -/
example :
    let A := chanOf toy [3, 1] [7] [2, 0] [1, 9]
    let B := chanOf toy [7] [3, 1] [1, 9] [2, 0]
    A.encKey = A.shared ∧ A.decKey = A.shared.reverse ∧ B.encKey = B.shared.reverse ∧ B.decKey = B.shared ∧
    A.shared ≠ A.shared.reverse ∧
    (A.encrypt toy [1, 2, 3, 4, 5]).map (fun p => B.decrypt toy (p.drop 64) (slice p 32 64)) =
      some (some [1, 2, 3, 4, 5]) ∧
    (B.encrypt toy [1, 2, 3, 4, 5]).map (fun p => A.decrypt toy (p.drop 64) (slice p 32 64)) =
      some (some [1, 2, 3, 4, 5]) ∧
    (A.encrypt toy [1, 2, 3, 4, 5]).map (fun p => p.take 32) = some B.serverAesKeyId := by
  decide +kernel

example : verifySign toy [9, 9] [1, 2] (signMessage toy [1, 2] (toy.keypair [9, 9]).2) = true ∧
    verifySign toy [9, 9] [1, 3] (signMessage toy [1, 2] (toy.keypair [9, 9]).2) = false := by
  decide +kernel

example : bytesLt [1] [1, 0] = true ∧ bytesLt [0x7f, 9] [0x80] = true ∧ bytesLt [] [] = false ∧ bytesLt [2] [1, 9] = false := by
  decide

/-- a short key makes `encrypt` raise (the `none` branch is reachable, the guard is not decoration). -/
example : cipherParams (List.replicate 31 0) (List.replicate 32 0) = none ∧
    (cipherParams (List.replicate 32 1) (List.replicate 32 2)).isSome = true := by decide +kernel

/-- the generator model really returns: word list = indices 0..2047, a stream whose first 24 draws give
word 5 (candidate rejected: first entropy byte 5 ≠ 0) and whose next 24 draws give word 0 (accepted). -/
def toyRnd (k : Nat) : Bytes := if k < 24 then [0, 5, 1, 1, 1, 1, 1, 1, 1, 1, 1] else [8, 0, 1, 1, 1, 1, 1, 1, 1, 1, 1]
example : mnemonicNew toy (List.range 2048) toyRnd 24 4 4 0 = some (List.replicate 24 0, 48) := by
  decide +kernel
example : mnemonicIsValid toy (List.replicate 24 0) = true ∧ mnemonicIsValid toy (List.replicate 24 5) = false ∧
    mnemonicIsValid toy (List.replicate 12 0) = false := by decide +kernel
/-- the hypotheses of `c20_wallet_key_eq` are satisfiable (secret key = seed ‖ seed, PBKDF2 padding to 64). -/
example : let P : Prims Nat := { toy with keypair := fun s => (s, s ++ s), pbkdf2 := fun pw _ _ => pad 64 pw }
    (∀ s : Bytes, s.length = 32 → slice (P.keypair s).2 0 32 = s) ∧
    (∀ pw salt n, 32 ≤ (P.pbkdf2 pw salt n).length) := by
  refine ⟨fun s hs => slice_append_left s s 32 hs, fun pw _ _ => ?_⟩
  simp [pad_length]

/-! ## The same statements about the code REGENERATED from the Python source

`Generated/AdnlSrc.lean` is rewritten from `crypto/ciphers.py`, `crypto/signature.py`, `crypto/keys.py` on every run of the check
(translator harness/translate/pyprims.py, declared interface harness/translate/adnlsrc.py); `Proofs/SrcAdnl.lean` proves each
regenerated function equal to its hand model for ALL inputs and ALL primitives `P`.  The theorems below restate the property
theorems over the regenerated functions, so a change of the key schedule, the id comparison, the slicing, the packet layout, the
signing helpers or the validity test in the source breaks a proof obligation here. -/

/-- `AdnlChannel(Client(a), Server(host, port, ed_pub(b)), local_id = ida, peer_id = idb)` built by the REGENERATED constructors. -/
def srcChan {W : Type} (P : Prims W) (a b ida idb : Bytes) : Option Channel :=
  (Client_init P a).bind fun c => (Server_init P () 0 (P.edPub b)).bind fun s => AdnlChannel_init P c s ida idb

theorem srcChan_eq {W : Type} (P : Prims W) (a b ida idb : Bytes) : srcChan P a b ida idb = some (chanOf P a b ida idb) := by
  simp [srcChan, chanOf, Client_init_eq, Server_init_eq, AdnlChannel_init_eq]

/-- CHANNEL KEYS of the regenerated `AdnlChannel.__init__` / `Client.__init__` / `Server.__init__` (ciphers.py).
(1) for ALL client / server key records and ids the regenerated constructors return exactly what the hand model returns (none of
them raises), and `get_key_aes_id(k) = H(d4adbc2d ‖ k)`; (2) so the channel object they build is `chanOf`; (3) given the laws of the
primitives, both ends derive the same shared secret, advertise `H(d4adbc2d ‖ enc)` / `H(d4adbc2d ‖ dec)`, and the (enc, dec) keys
are `(s, reverse s)` for `local_id > peer_id`, `(reverse s, s)` for `local_id < peer_id`, `(s, s)` for equal ids — the comparison
being Python's order on `bytes`. -/
theorem c20_src_channel_keys {W : Type} (P : Prims W) (L : ChannelLaws P) (a b ida idb : Bytes) :
    (∀ (c : Client) (s : Server) (l p : Bytes), AdnlChannel_init P c s l p = some (Channel.new P c s l p)) ∧
    (∀ seed, Client_init P seed = some (Client.new P seed)) ∧
    (∀ host port pub, Server_init P host port pub = some (Server.new P pub)) ∧
    (∀ k, get_key_aes_id P k = some (P.H (magicAes ++ k))) ∧
    ∃ A B, srcChan P a b ida idb = some A ∧ srcChan P b a idb ida = some B ∧
      A.shared = B.shared ∧
      A.clientAesKeyId = P.H (magicAes ++ A.encKey) ∧ A.serverAesKeyId = P.H (magicAes ++ A.decKey) ∧
      (A.encKey, A.decKey) =
        if bytesLt idb ida then (A.shared, A.shared.reverse)
        else if bytesLt ida idb then (A.shared.reverse, A.shared) else (A.shared, A.shared) :=
  ⟨AdnlChannel_init_eq P, Client_init_eq P, Server_init_eq P, get_key_aes_id_eq P,
    _, _, srcChan_eq P a b ida idb, srcChan_eq P b a idb ida, c20_channel_keys P L a b ida idb⟩

/-- CLIENT-SIDE KEY IDS of the regenerated code (ciphers.py `Crypto.get_key_id` / `Crypto.get_aes_key_id`, inherited by `Client`): for
every client record they never raise, `get_key_id() = H(c6b41348 ‖ ed25519_public)` and `get_aes_key_id() = H(d4adbc2d ‖ ed25519_private)`
— the latter is `get_key_aes_id` applied to the seed, i.e. the same function the channel uses for its two key ids. -/
theorem c20_src_client_ids {W : Type} (P : Prims W) (c : Client) :
    Crypto_get_key_id_obj P c = some (P.H (magicKey ++ c.edPub)) ∧
    Crypto_get_aes_key_id_obj P c = some (P.H (magicAes ++ c.edPriv)) ∧
    Crypto_get_aes_key_id_obj P c = get_key_aes_id P c.edPriv :=
  ⟨get_key_id_eq P c, get_aes_key_id_eq P c, by rw [get_aes_key_id_eq, get_key_aes_id_eq]⟩

example : Crypto_get_aes_key_id_obj toy (Client.new toy [3, 1]) = some (toy.H ([0xd4, 0xad, 0xbc, 0x2d] ++ [3, 1])) := by decide +kernel

/-- CHANNEL SYMMETRY of the regenerated code: the channel objects `A` (opened by `a` towards `b`) and `B` (by `b` towards `a`) are
built by the regenerated constructors for ANY ids; the regenerated `A.encrypt(m)` returns `B.server_aes_key_id ‖ H(m) ‖ body` with
`len(body) = len(m)` and the regenerated `B.decrypt(body, H(m))` returns `m`; and the same with `A` and `B` exchanged. -/
theorem c20_src_symmetric {W : Type} (P : Prims W) (L : ChannelLaws P) (a b ida idb m : Bytes) :
    ∃ A B, srcChan P a b ida idb = some A ∧ srcChan P b a idb ida = some B ∧
      (∃ body, AdnlChannel_encrypt_obj P A m = some (B.serverAesKeyId ++ P.H m ++ body) ∧
        body.length = m.length ∧ AdnlChannel_decrypt_obj P B body (P.H m) = some m) ∧
      (∃ body, AdnlChannel_encrypt_obj P B m = some (A.serverAesKeyId ++ P.H m ++ body) ∧
        body.length = m.length ∧ AdnlChannel_decrypt_obj P A body (P.H m) = some m) := by
  refine ⟨_, _, srcChan_eq P a b ida idb, srcChan_eq P b a idb ida, ?_⟩
  simp only [encrypt_eq, decrypt_eq]
  exact c20_symmetric P L a b ida idb m

/-- the regenerated `AdnlChannel.encrypt` / `decrypt` are the model's for EVERY channel record (also ones no constructor builds),
and the regenerated `create_aes_ctr_sipher_from_key_n_data` + `create_aes_ctr_cipher` build a cipher exactly when key and checksum
have at least 32 bytes, with AES key `key[0:16] ‖ sum[16:32]` and initial counter `sum[0:4] ‖ key[20:32]`
(`AES.new` is read as raising unless the key has 16/24/32 and the counter 16 bytes). -/
theorem c20_src_cipher {W : Type} (P : Prims W) (c : Channel) (key sum data : Bytes) :
    AdnlChannel_encrypt_obj P c data = c.encrypt P data ∧
    AdnlChannel_decrypt_obj P c data sum = c.decrypt P data sum ∧
    ((create_aes_ctr_sipher_from_key_n_data P key sum).isSome ↔ 32 ≤ key.length ∧ 32 ≤ sum.length) ∧
    (32 ≤ key.length → 32 ≤ sum.length → create_aes_ctr_sipher_from_key_n_data P key sum =
      some (slice key 0 16 ++ slice sum 16 32, slice sum 0 4 ++ slice key 20 32)) := by
  refine ⟨encrypt_eq P c data, decrypt_eq P c data sum, ?_, ?_⟩
  · rw [cipher_eq]; exact cipherParams_isSome_iff key sum
  · rw [cipher_eq]; exact cipherParams_some key sum

/-- SIGNATURES, regenerated `sign_message` / `verify_sign` (signature.py) and `Client.sign` / `get_signature` (ciphers.py):
none of them raises; `sign_message(m, sk)` (default encoder) is the first 64 bytes of `crypto_sign(m, sk)`; `verify_sign` is `True`
exactly when `VerifyKey(pk).verify(m, sig)` returns; and with a correct primitive the 64-byte signature of either signer is
accepted under the matching public key. -/
theorem c20_src_sign {W : Type} (P : Prims W) (S : SignLaw P) (seed m : Bytes) :
    (∀ msg sk, sign_message P msg sk () = some (slice (P.cryptoSign msg sk) 0 64)) ∧
    (∀ pk msg sig, verify_sign P pk msg sig = some (P.verify pk msg sig)) ∧
    ∃ sig, sign_message P m (P.keypair seed).2 () = some sig ∧ sig.length = 64 ∧
      verify_sign P (P.keypair seed).1 m sig = some true ∧
      (Client_init P seed).bind (fun c => Client_sign_obj P c m) = some sig ∧
      (Client_init P seed).bind (fun c => verify_sign P c.edPub m sig) = some true := by
  obtain ⟨h1, h2, h3, h4⟩ := c20_sign P S seed m
  refine ⟨fun msg sk => sign_message_eq P msg sk, fun pk msg sig => verify_sign_eq P pk msg sig,
    signMessage P m (P.keypair seed).2, sign_message_eq P _ _, h1, ?_, ?_, ?_⟩
  · rw [verify_sign_eq, h2]
  · simp only [Client_init_eq, Option.bind_some, Client_sign_eq, Client.new, h3]
  · simp only [Client_init_eq, Option.bind_some, verify_sign_eq]
    rw [← h3]; exact congrArg some h4

/-- MNEMONICS, regenerated `mnemonic_is_valid` / `is_basic_seed` / `mnemonic_to_entropy` / key derivations (keys.py).
(1) `mnemonic_is_valid(ws)` is `len(ws) == 24 and PBKDF2(HMAC(" ".join(ws), b''), "TON seed version", max(1, 100000 // 256))[0] == 0`
— it raises (IndexError) only if the list has 24 words AND PBKDF2 returns no bytes, and is the model's decision otherwise;
(2) every list RETURNED by the model of `mnemonic_new()` (any random stream) is accepted by the regenerated `mnemonic_is_valid`
(`some true`: no exception) and consists of list words; (3) `mnemonic_to_private_key` / `mnemonic_to_wallet_key` / `mnemonic_to_seed`
never raise and are the model's functions (HMAC → PBKDF2 100000 rounds with "TON default seed" → first 32 bytes → key pair; the
wallet key a second key pair from the first 32 bytes of the secret key). -/
theorem c20_src_mnemonic {W : Type} (P : Prims W) (words : List W) (rnd : Nat → Bytes)
    (inner fuel k : Nat) (arr : List W) (k' : Nat)
    (h : mnemonicNew P words rnd 24 inner fuel k = some (arr, k')) :
    (∀ ws : List W, mnemonic_is_valid P ws =
        if ws.length = 24 ∧ P.pbkdf2 (P.hmac512 (P.joinWords ws) []) saltVersion (max 1 (100000 / 256)) = [] then none
        else some (ws.length == 24 && ((P.pbkdf2 (P.hmac512 (P.joinWords ws) []) saltVersion (max 1 (100000 / 256))).head? == some 0))) ∧
    (mnemonic_is_valid P arr = some true ∧ ∀ w ∈ arr, w ∈ words) ∧
    (∀ ws : List W, mnemonic_to_private_key P ws () = some (mnemonicToPrivateKey P ws) ∧
      mnemonic_to_wallet_key P ws () = some (mnemonicToWalletKey P ws) ∧
      ∀ salt, mnemonic_to_seed P ws salt () = some (mnemonicToSeed P ws salt)) := by
  obtain ⟨hv, hw⟩ := c20_mnemonic P words rnd inner fuel k arr k' h
  refine ⟨fun ws => ?_, ⟨?_, hw⟩, fun ws => ⟨mnemonic_to_private_key_eq P ws, mnemonic_to_wallet_key_eq P ws,
    fun salt => mnemonic_to_seed_eq P ws salt⟩⟩
  · rw [mnemonic_is_valid_eq]; simp [mnemonicIsValid, isBasicSeed, mnemonicToEntropy, pbkdfIterations]
  · rw [mnemonic_is_valid_eq, hv]
    have hb : isBasicSeed P (mnemonicToEntropy P arr) = true := by
      simp only [mnemonicIsValid, Bool.and_eq_true] at hv; exact hv.2
    have hne : P.pbkdf2 (mnemonicToEntropy P arr) saltVersion (max 1 (pbkdfIterations / 256)) ≠ [] := by
      intro he; simp [isBasicSeed, he] at hb
    simp [hne]

/-- THE TWO `while True` FUNCTIONS of keys.py (`get_secure_random_number`: float arithmetic, `mnemonic_new`: unbounded retry) are not
translated as a whole; their DECISION LINES are regenerated from the source on every run (Generated/MnemonicNew.lean): the word
appended is `words[idx]` for the index drawn, the index is drawn from `[0, len(words))`, a candidate has `words_count` draws, the
candidate is dropped exactly when it is not a basic seed; the random number raises for more than 53 bits, rejects exactly
`number >= range` and returns `min + number`.  The second half shows that the hand model's loops (`drawWords`, `mnemonicNew`,
`secureRandomNumber`, about which `c20_mnemonic` / `c20_random_in_range` are proved) are written with exactly these pieces. -/
theorem c20_src_generator {W : Type} (P : Prims W) (words : List W) (rnd : Nat → Bytes) :
    ((∀ idx, Generated.mnWordIndex idx = idx) ∧ Generated.mnDrawLo = 0 ∧ (∀ n, Generated.mnDrawHi n = n) ∧
      (∀ wc, Generated.mnDraws wc = wc) ∧ (∀ b, Generated.mnRetry b = !b) ∧
      (∀ bits, Generated.rnTooLarge bits = decide (bits > 53)) ∧
      (∀ number range, Generated.rnReject number range = decide (number ≥ range)) ∧
      (∀ lo number, Generated.rnResult lo number = lo + number)) ∧
    (∀ fuel n k, drawWords words rnd fuel (n + 1) k =
      match secureRandomNumber rnd Generated.mnDrawLo (Generated.mnDrawHi words.length) fuel k with
      | none => none
      | some (idx, k') =>
        match words[Generated.mnWordIndex idx]? with
        | none => none
        | some w =>
          match drawWords words rnd fuel n k' with
          | none => none
          | some (ws, k'') => some (w :: ws, k'')) ∧
    (∀ wc inner fuel k, mnemonicNew P words rnd wc inner (fuel + 1) k =
      match drawWords words rnd inner (Generated.mnDraws wc) k with
      | none => none
      | some (arr, k') =>
        if Generated.mnRetry (isBasicSeed P (mnemonicToEntropy P arr)) then mnemonicNew P words rnd wc inner fuel k'
        else some (arr, k')) ∧
    (∀ minV maxV fuel k, secureRandomNumber rnd minV maxV (fuel + 1) k =
      if maxV ≤ minV then none
      else if Generated.rnTooLarge (clog2 (maxV - minV)) then none
      else if (rnd k).length < (clog2 (maxV - minV) + 7) / 8 then none
      else
        let number := natOfBE ((rnd k).take ((clog2 (maxV - minV) + 7) / 8)) % (2 ^ clog2 (maxV - minV) - 1 + 1)
        if Generated.rnReject number (maxV - minV) then secureRandomNumber rnd minV maxV fuel (k + 1)
        else some (Generated.rnResult minV number, k + 1)) := by
  have e5 : ∀ b, Generated.mnRetry b = !b := fun b => by cases b <;> rfl
  have e6 : ∀ bits, Generated.rnTooLarge bits = decide (bits > 53) := fun _ => by simp [Generated.rnTooLarge]
  have e7 : ∀ number range, Generated.rnReject number range = decide (number ≥ range) := fun _ _ => by simp [Generated.rnReject]
  refine ⟨⟨fun _ => rfl, rfl, fun _ => rfl, fun _ => rfl, e5, e6, e7, fun _ _ => rfl⟩, ?_, ?_, ?_⟩
  · intro fuel n k
    rw [drawWords]; rfl
  · intro wc inner fuel k
    rw [mnemonicNew]; simp only [e5]; rfl
  · intro minV maxV fuel k
    rw [secureRandomNumber]; simp only [e6, e7, decide_eq_true_eq]; rfl


/-- non-vacuity of the `c20_src_*` theorems: the regenerated constructors, `encrypt` and `decrypt` evaluated on the toy primitives
(ids in both orders; 5-byte plaintext) — both directions round-trip and the packet starts with the key id the peer expects;
with a 31-byte checksum the regenerated `decrypt` raises. -/
example :
    (srcChan toy [3, 1] [7] [2, 0] [1, 9]).isSome = true ∧
    ((srcChan toy [3, 1] [7] [2, 0] [1, 9]).bind fun A => (srcChan toy [7] [3, 1] [1, 9] [2, 0]).bind fun B =>
      (AdnlChannel_encrypt_obj toy A [1, 2, 3, 4, 5]).bind fun p =>
        (AdnlChannel_decrypt_obj toy B (p.drop 64) (slice p 32 64)).map fun m => (m, decide (p.take 32 = B.serverAesKeyId)))
      = some ([1, 2, 3, 4, 5], true) ∧
    ((srcChan toy [3, 1] [7] [2, 0] [1, 9]).bind fun A => AdnlChannel_decrypt_obj toy A [1, 2] (List.replicate 31 0)) = none := by
  decide +kernel

example : (sign_message toy [1, 2] (toy.keypair [9, 9]).2 ()).bind (fun s => verify_sign toy [9, 9] [1, 2] s) = some true ∧
    (sign_message toy [1, 2] (toy.keypair [9, 9]).2 ()).bind (fun s => verify_sign toy [9, 9] [1, 3] s) = some false := by
  decide +kernel

example : mnemonic_is_valid toy (List.replicate 24 0) = some true ∧ mnemonic_is_valid toy (List.replicate 24 5) = some false ∧
    mnemonic_is_valid toy (List.replicate 12 0) = some false ∧ mnemonic_is_valid toy ([] : List Nat) = some false ∧
    is_basic_seed toy [] = none := by decide +kernel

/-! ## The two `while True` functions of keys.py, REGENERATED AS A WHOLE (Generated/AdnlSrc.lean group `keysloop`, translator pyrand.py)

`mnemonic_new P Fl rnd fuel words_count () words k` / `get_secure_random_number P Fl rnd fuel min_v max_v k` are the source functions with
  * `rnd : Nat → Bytes` = the answers of the successive `os.urandom` calls, an ARBITRARY stream (`k` = index of the next call; the result
    carries the index after the last call),
  * `fuel` = the iteration budget of each `while True:` (`none` = the code raises, or it would still be running),
  * `Fl : Py.FloatIf` = Python's float arithmetic (`math.log2`, `math.pow`, `+ - *`, `int()`), a DECLARED INTERFACE: the theorems below hold
    for EVERY such interface (the range theorem under one stated sign condition), so they do not depend on IEEE rounding;
  * `words` = the module's word list, an arbitrary list. -/

/-- GENERATED MNEMONICS ARE VALID (the property's sentence, on the regenerated code).  Whatever the random source answers, whatever the
float arithmetic computes and for every budget: if `mnemonic_new()` (default 24 words; the password is ignored by the code) returns a
list, then the regenerated `mnemonic_is_valid` returns `True` on it without raising; the list has 24 entries, all from the word list;
and the regenerated derivations `mnemonic_to_private_key` / `mnemonic_to_wallet_key` do not raise on it and are pure functions of the
list (the model's: HMAC → PBKDF2 → first 32 bytes → key pair). -/
theorem c20_src_mnemonic_new {W : Type} (P : Prims W) (Fl : Py.FloatIf) (rnd : Nat → Bytes) (fuel : Nat) (words : List W) (k : Nat)
    (arr : List W) (k' : Nat) (h : mnemonic_new P Fl rnd fuel 24 () words k = some (arr, k')) :
    mnemonic_is_valid P arr = some true ∧ arr.length = 24 ∧ (∀ w ∈ arr, w ∈ words) ∧
    mnemonic_to_private_key P arr () = some (mnemonicToPrivateKey P arr) ∧
    mnemonic_to_wallet_key P arr () = some (mnemonicToWalletKey P arr) := by
  rw [mnemonic_new] at h
  obtain ⟨hlen, hmem, hbasic⟩ := mnemonic_new_loop_spec P Fl rnd fuel 24 words fuel k arr k' h
  refine ⟨?_, hlen, hmem, mnemonic_to_private_key_eq P arr, mnemonic_to_wallet_key_eq P arr⟩
  rw [mnemonic_is_valid]
  simp only [hlen, if_true]
  cases he : mnemonic_to_entropy P arr () with
  | none => simp [he] at hbasic
  | some e =>
    simp only [he, Option.bind_some] at hbasic ⊢
    simp [hbasic]

/-- the same for ANY word count, in the terms of the loop itself: the returned list has exactly `words_count` entries of the word list and
its entropy passed the regenerated `is_basic_seed`; so for `words_count ≠ 24` the regenerated `mnemonic_is_valid` answers `False` on
every generated list (the API limitation noted for the hand model, on the source). -/
theorem c20_src_mnemonic_new_counts {W : Type} (P : Prims W) (Fl : Py.FloatIf) (rnd : Nat → Bytes) (fuel wc : Nat) (words : List W) (k : Nat)
    (arr : List W) (k' : Nat) (h : mnemonic_new P Fl rnd fuel wc () words k = some (arr, k')) :
    arr.length = wc ∧ (∀ w ∈ arr, w ∈ words) ∧
    ((mnemonic_to_entropy P arr ()).bind fun e => is_basic_seed P e) = some true ∧
    (wc ≠ 24 → mnemonic_is_valid P arr = some false) := by
  rw [mnemonic_new] at h
  obtain ⟨hlen, hmem, hbasic⟩ := mnemonic_new_loop_spec P Fl rnd fuel wc words fuel k arr k' h
  refine ⟨hlen, hmem, hbasic, fun hne => ?_⟩
  rw [mnemonic_is_valid]
  simp [hlen, hne]

/-- THE RESULT IS FIXED BY THE RANDOM STREAM, NOT BY THE BUDGET: once `mnemonic_new` returns with budget `fuel` (i.e. `fuel` reaches the
first accepted candidate and every random-number retry before it), it returns the same list after the same number of draws with every
larger budget; hence any two budgets under which it returns agree.  (The Python loop is the limit `fuel → ∞`.) -/
theorem c20_src_mnemonic_fuel {W : Type} (P : Prims W) (Fl : Py.FloatIf) (rnd : Nat → Bytes) (wc : Nat) (words : List W) (k : Nat) :
    (∀ fuel fuel' res, fuel ≤ fuel' → mnemonic_new P Fl rnd fuel wc () words k = some res →
      mnemonic_new P Fl rnd fuel' wc () words k = some res) ∧
    (∀ f1 f2 r1 r2, mnemonic_new P Fl rnd f1 wc () words k = some r1 → mnemonic_new P Fl rnd f2 wc () words k = some r2 → r1 = r2) := by
  have mono : ∀ fuel fuel' res, fuel ≤ fuel' → mnemonic_new P Fl rnd fuel wc () words k = some res →
      mnemonic_new P Fl rnd fuel' wc () words k = some res := by
    intro fuel fuel' res hle h
    rw [mnemonic_new] at h ⊢
    exact mnemonic_new_loop_mono P Fl rnd fuel fuel' hle wc words fuel fuel' k res hle h
  refine ⟨mono, fun f1 f2 r1 r2 h1 h2 => ?_⟩
  rcases Nat.le_total f1 f2 with hle | hle
  · have := mono f1 f2 r1 hle h1; rw [h2] at this; exact (Option.some.inj this).symm
  · have := mono f2 f1 r2 hle h2; rw [h1] at this; exact Option.some.inj this

/-- RANGE OF `get_secure_random_number(min_v, max_v)` on the regenerated code, for ALL ints `min_v`, `max_v`, every random stream, every
budget and every float interface with `int(math.pow(2, b) - 1) ≥ 0` for `b ≥ 0` (true of CPython: `math.pow(2, b) ≥ 1.0`): a returned value
`v` satisfies `min_v ≤ v < max_v`, and at least one `os.urandom` call was made.  NOTHING else about floats is used: the bound comes from
the integer rejection test `number_val >= range_betw` and from `&` with a non-negative mask being non-negative.  The result does not depend
on the budget once it is returned.  (Uniformity is NOT claimed: for ranges ≥ 2^49 `math.ceil(math.log2(r))` can round down and for 7-byte
draws the float sum rounds — the returned value is then still in range, see design/C20.md.) -/
theorem c20_src_random_range {W : Type} (P : Prims W) (Fl : Py.FloatIf) (rnd : Nat → Bytes)
    (hmask : ∀ b : Int, 0 ≤ b → 0 ≤ Fl.trunc (Fl.sub (Fl.pow (Fl.ofInt 2) (Fl.ofInt b)) (Fl.ofInt 1))) :
    (∀ fuel lo hi k v k', get_secure_random_number P Fl rnd fuel lo hi k = some (v, k') → lo ≤ v ∧ v < hi ∧ k < k') ∧
    (∀ fuel fuel' lo hi k res, fuel ≤ fuel' → get_secure_random_number P Fl rnd fuel lo hi k = some res →
      get_secure_random_number P Fl rnd fuel' lo hi k = some res) :=
  ⟨fun fuel lo hi k v k' h => get_secure_random_number_range P Fl rnd fuel lo hi k hmask v k' h,
   fun fuel fuel' lo hi k res hle h => get_secure_random_number_mono P Fl rnd fuel fuel' hle lo hi k res h⟩

/-- the sign condition of `c20_src_random_range` holds for the exact float reading `Py.intFloat` (the one validated against CPython). -/
theorem c20_src_random_range_exact {W : Type} (P : Prims W) (rnd : Nat → Bytes) (fuel : Nat) (lo hi : Int) (k : Nat) (v : Int) (k' : Nat)
    (h : get_secure_random_number P Py.intFloat rnd fuel lo hi k = some (v, k')) : lo ≤ v ∧ v < hi ∧ k < k' :=
  (c20_src_random_range P Py.intFloat rnd intFloat_mask_nonneg).1 fuel lo hi k v k' h

/-- non-vacuity: the regenerated `mnemonic_new` run on the toy primitives and the exact float reading over the stream `toyRnd` (first
candidate 24 × word 5: not a basic seed, rejected; second candidate 24 × word 0: accepted after 48 draws) — with budget 2 and budget 9;
budget 1 is used up; the regenerated random number: range 5 rejects the draws 7 and 5 and returns `10 + 4`; an empty range raises. -/
example : mnemonic_new toy Py.intFloat toyRnd 2 24 () (List.range 2048) 0 = some (List.replicate 24 0, 48) ∧
    mnemonic_new toy Py.intFloat toyRnd 9 24 () (List.range 2048) 0 = some (List.replicate 24 0, 48) ∧
    mnemonic_new toy Py.intFloat toyRnd 1 24 () (List.range 2048) 0 = none ∧
    get_secure_random_number toy Py.intFloat (fun k => [[7], [5], [12], [1]].getD k []) 3 10 15 0 = some (14, 3) ∧
    get_secure_random_number toy Py.intFloat (fun _ => [1]) 3 10 10 0 = none := by
  decide +kernel

end TonVerif.Properties.C20
