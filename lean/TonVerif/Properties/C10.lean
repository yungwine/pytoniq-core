/-
C10 — dictionaries use the canonical TON Hashmap encoding; the parsers accept every valid tree.

Spec/Hashmap.lean transcribes hashmap.tlb (`LabelEnc`, `ValidHMK`, `ValidAug`) and the reference label choice
of ton/crypto/vm/dict.cpp (`refLabelKind`).  `Generated.LabelFns` is translated from hashmap/utils.py on every
run; `Model.Hashmap` mirrors hashmap.py / utils.py / parse.py.

First the hand model: canonical output and its uniqueness, `parse` / `parse_aug` accept every valid tree, over-long labels are
refused.  Then the same for the parser regenerated from parse.py, a dictionary embedded as a field of a larger constructor
(section Embedded), the serialiser regenerated from utils.py (SrcSerialiser), and `parse_hashmap_aug`'s int keys with
`Slice.load_hashmap_aug` (SrcAugApi).
-/
import TonVerif.Proofs.Hashmap
import TonVerif.Proofs.SrcHashmap
import TonVerif.Proofs.SrcHashmapSer
import TonVerif.Proofs.SrcHashmapGlue

namespace TonVerif.Properties.C10
open TonVerif TonVerif.Model TonVerif.Model.Hashmap TonVerif.Spec.Hashmap TonVerif.Proofs.Hashmap
open TonVerif.Generated.LabelFns

/-- `detect_label_type(src, key_size)` of utils.py (as translated from the source) picks exactly the constructor the
reference serialiser picks, for EVERY label `src` and EVERY bound `key_size` (in particular all len ≤ max ≤ 1023,
constant or not): with k = bit_length(key_size): same iff constant ∧ len > 1 ∧ k < 2·len−1; else long iff k < len; else short. -/
theorem c10_label_kind (s : Bits) (max : Nat) :
    detect_label_type s max = refLabelKind s.length max (allSame s) := detect_eq s max

/-- `is_same(src)` of utils.py holds exactly for labels consisting of one repeated bit (incl. the empty and 1-bit label). -/
theorem c10_is_same (s : Bits) : is_same s = true ↔ ∃ v, s = List.replicate s.length v := by
  rw [is_same_eq]; exact allSame_iff s

/-- tie-break order of the reference: short before long before same -/
def rank : LabelKind → Nat
  | .short => 0 | .long => 1 | .same => 2

/-- the chosen constructor is admissible, has the minimal encoded length among all admissible constructors
(2+2·len / 2+k+len / 3+k bits), and on equal length the earlier of short < long < same is taken — for all
len, max, same (pure arithmetic in k = bit_length(max), no enumeration). -/
theorem c10_label_minimal (len max : Nat) (same : Bool) (k : LabelKind) (hk : kindAdmissible k same) :
    kindAdmissible (refLabelKind len max same) same ∧
    encLen (refLabelKind len max same) len max ≤ encLen k len max ∧
    (encLen (refLabelKind len max same) len max = encLen k len max → rank (refLabelKind len max same) ≤ rank k) := by
  unfold refLabelKind
  have enc : ∀ k, encLen k len max = match k with | .short => 2 + 2 * len | .long => 2 + lenBits max + len | .same => 3 + lenBits max :=
    fun _ => rfl
  simp only [enc]
  generalize lenBits max = kk
  split_ifs with h1 h2
  · cases k <;> simp only [kindAdmissible, rank, h1.1, implies_true, true_and] <;> omega
  all_goals
    -- `same` was not chosen: if `k` is `same` (so the label is constant), `same` is not shorter than the choice made
    have hns : k = .same → ¬ (len > 1 ∧ kk < 2 * len - 1) := fun e hc => h1 ⟨hk e, hc⟩
    cases k <;> simp only [kindAdmissible, rank, reduceCtorEq, false_implies, true_and, forall_const] at hns ⊢ <;> omega

/-- the same statement about the translated source function -/
theorem c10_detect_minimal (s : Bits) (max : Nat) (k : LabelKind) (hk : kindAdmissible k (allSame s)) :
    encLen (detect_label_type s max) s.length max ≤ encLen k s.length max ∧
    (encLen (detect_label_type s max) s.length max = encLen k s.length max → rank (detect_label_type s max) ≤ rank k) := by
  rw [c10_label_kind]
  exact (c10_label_minimal s.length max (allSame s) k hk).2


/-- CANONICAL.  Whenever `HashMap.serialize()` returns a cell `c` for a map `d` built by `set_int_key` (distinct keys < 2^n),
`c` is a spec-valid `Hashmap n X` in which EVERY label uses the reference constructor (`Canonical` = `ValidHMK refPolicy`), whose
leaves `kv` are, in strictly ascending key order, exactly the entries of the map (key = the n-bit big-endian string of the int key,
value = what the value serialiser wrote).  Labels are maximal common prefixes because both sides of every fork hold a leaf. -/
theorem c10_canonical {V : Type} (n : Nat) (hn : 0 < n) (ser : V → Option Val) (d : Dict V) (c : Cell)
    (hd : DictOK n d) (h : serialize n ser d = some (some c)) :
    ∃ kv : List (Bits × Val), Canonical n c kv ∧ ValidHashmap n c kv ∧
      kv.Pairwise (fun a b => natOfBits a.1 < natOfBits b.1) ∧ (∀ p ∈ kv, p.1.length = n) ∧
      ∀ kb val, (kb, val) ∈ kv ↔ ∃ k v, (k, v) ∈ d ∧ kb = keyBits n k ∧ ser v = some val := by
  obtain ⟨kv, hc, h1, h2, h3⟩ := serialize_canonical n hn ser d c hd h
  exact ⟨kv, hc, valid_mono (fun _ _ _ _ => trivial) hc, h1, h2, h3⟩

/-- maps produced by `set_int_key` calls satisfy the hypothesis of `c10_canonical` -/
theorem c10_canonical_hyp {V : Type} (n : Nat) (ins : List (Int × V)) (d : Dict V) (h : setAll n ins [] = some d) : DictOK n d :=
  setAll_ok n ins [] d ⟨by simp, by simp⟩ h


/-- UNIQUE.  Two canonical dictionary cells (spec-valid, every label in the reference constructor, nothing pruned) with the same
leaf list are the SAME cell (bits and references, recursively): the cell of `c10_canonical` is the only canonical one for its map. -/
theorem c10_unique {n : Nat} {c₁ c₂ : Cell} {kv : List (Bits × Val)} (h₁ : Canonical n c₁ kv) (h₂ : Canonical n c₂ kv) : c₁ = c₂ :=
  canonical_unique' h₁ rfl c₂ kv rfl h₂

/-- PARSE ANY VALID TREE (plain): if `c` is a spec-valid `Hashmap n X` — every label in ANY of the constructors
short/long/same that can express it, edges possibly replaced by pruned branches when `p = true` — whose non-pruned leaves
are `kv`, then `parse_hashmap(c.begin_parse(), n)` returns exactly `kv` (same keys, same value slices, same order). -/
theorem c10_parse_any {ok : Nat → Bits → LabelKind → Prop} {p : Bool} {n : Nat} {c : Cell} {kv : List (Bits × Val)}
    (hn : 0 < n) (h : ValidHMK ok p n c kv) : parseHashmap c n = some kv :=
  parseHashmap_valid hn h

/-- the same through `HashMap.parse` (int keys) when the root is an ordinary cell; a pruned ROOT gives `None`. -/
theorem c10_parse_any_api {ok : Nat → Bits → LabelKind → Prop} {p : Bool} {n : Nat} {c : Cell} {kv : List (Bits × Val)}
    (hn : 0 < n) (h : ValidHMK ok p n c kv) :
    hashMapParse c n = (match c with | .mk kind _ _ => if kind = -1 then PResult.dict (intKeys kv) else PResult.none) ∧
    (fromCell c n = some (intKeys kv)) := by
  have hp := c10_parse_any hn h
  cases c with
  | mk kind bits refs =>
    simp only [hashMapParse, fromCell, hp, Option.map_some]
    by_cases hk : kind = -1 <;> simp [hk]

/-- PARSE ANY VALID TREE (augmented): for a spec-valid `HashmapAug n X Y` (any label constructors, any non-ordinary
cell standing for a pruned edge) `parse_aug` returns the leaves of the non-pruned part and the extras in the order
leaf: own extra; fork: left subtree, right subtree, own extra. -/
theorem c10_parse_any_aug {X Y : Type} {D : AugDec X Y} {p : Bool} {n : Nat} {c : Cell} {kv : List (Bits × X)} {ex : List Y}
    (h : ValidAug D p n c kv ex) : parseAugEdge D c n [] = some (kv, ex) := by
  have := parseAugEdge_valid h []
  simpa [map_pre_nil] using this


/-- the same through the public entry points: `parse_hashmap_aug` / `Slice.load_hashmap_aug` on an ordinary root return
(int-keyed dict of the leaves, extras); `Slice.load_hashmap_aug_e` on a slice `1 ^root extra` (`ahme_root`) likewise, provided the
top-level extra is readable; on `0 extra` (`ahme_empty`) it returns the empty dict and that extra; on a special (exotic) slice
the cell itself. -/
theorem c10_parse_any_aug_api {X Y : Type} {D : AugDec X Y} {p : Bool} {n : Nat} {bits refs} {kv : List (Bits × X)} {ex : List Y}
    (hn : 0 < n) (h : ValidAug D p n (.mk (-1) bits refs) kv ex) (rest : Bits) (more : List Cell)
    (y : Y) (sl : Spec.Hashmap.Val) (hy : D.decY (rest, more) = some (y, sl)) :
    (match parseHashmapAug D (.mk (-1) bits refs) n with | .dict r => r = (intKeys kv, ex) | _ => False) ∧
    (match loadHashmapAugE D (-1) (true :: rest) (.mk (-1) bits refs :: more) n with
      | .dict r e => r = intKeys kv ∧ e = ex | _ => False) ∧
    (match loadHashmapAugE D (-1) (false :: rest) more n with | .empty y' => y' = y | _ => False) ∧
    (match loadHashmapAugE D 1 rest more n with | .cell => True | _ => False) := by
  have h1 := parseHashmapAug_valid hn h
  refine ⟨by rw [h1], ?_, by simp [loadHashmapAugE, hy], by simp [loadHashmapAugE]⟩
  simp [loadHashmapAugE, h1, hy]

/-- an unreadable top-level extra makes `load_hashmap_aug_e` raise (both constructors) -/
theorem c10_aug_e_extra_required {X Y : Type} {D : AugDec X Y} (n : Nat) (c : Cell) (rest : Bits) (more : List Cell)
    (hy : D.decY (rest, more) = none) :
    (match loadHashmapAugE D (-1) (true :: rest) (c :: more) n with | .err => True | _ => False) ∧
    (match loadHashmapAugE D (-1) (false :: rest) more n with | .err => True | _ => False) := by
  constructor
  · simp only [loadHashmapAugE, ne_eq, not_true_eq_false, if_false]
    cases parseHashmapAug D c n with
    | err => trivial
    | none => simp [hy]
    | dict r => simp [hy]
  · simp [loadHashmapAugE, hy]

/-- hashmap.tlb puts `{n <= m}` on all three `HmLabel` constructors.  `deserialize_hml` on the bit pattern of ANY constructor for a
label `s` under bound `m` (`LabelBits`: the pattern without the side condition) returns `(|s|, s, rest)` iff `|s| ≤ m` and raises
otherwise; the patterns it returns are exactly the spec's `LabelEnc`. -/
theorem c10_label_accepted_iff {m : Nat} {s : Bits} {k : LabelKind} {lb : Bits} (h : LabelBits m s k lb) (rest : Bits) :
    (deserializeHml (lb ++ rest) (m : Int) = some (s.length, s, rest) ↔ LabelEnc m s k lb) ∧
    (deserializeHml (lb ++ rest) (m : Int) = none ↔ m < s.length) := by
  rw [deserializeHml_bits h, labelEnc_iff_bits]
  by_cases hl : s.length ≤ m
  · simp [hl, h] <;> omega
  · simp [hl] <;> omega

/-- A LABEL LONGER THAN THE REMAINING KEY IS REFUSED, at the root: a cell whose data starts with the pattern of any label
constructor for a label of more than `m` bits makes `parse` raise at key length `m` (whatever the cell type: `parse` reads the
label first), hence `parse_hashmap`, `HashMap.parse`, `HashMap.from_cell`, `load_dict` raise; an ordinary such cell makes
`parse_aug` / `parse_hashmap_aug` / `load_hashmap_aug_e` raise.  (Without the `n <= m` test the remaining length `m - n` would go
negative and the parsers would walk on below such an edge, returning an empty result.) -/
theorem c10_label_too_long_rejected {m : Nat} {s : Bits} {k : LabelKind} {lb : Bits} (h : LabelBits m s k lb) (hlong : m < s.length)
    (rest : Bits) (kind : Int) (refs : List Cell) (pfx : Bits) :
    parseEdge (.mk kind (lb ++ rest) refs) m pfx = none ∧
    parseHashmap (.mk kind (lb ++ rest) refs) m = none ∧
    (match hashMapParse (.mk (-1) (lb ++ rest) refs) m with | .err => True | _ => False) ∧
    fromCell (.mk kind (lb ++ rest) refs) m = none ∧
    (∀ (b : Bits) (more : List Cell),
      match loadDict (true :: b) (.mk (-1) (lb ++ rest) refs :: more) m with | .err => True | _ => False) ∧
    (∀ {X Y : Type} (D : AugDec X Y), parseAugEdge D (.mk (-1) (lb ++ rest) refs) m pfx = none ∧
      (match parseHashmapAug D (.mk (-1) (lb ++ rest) refs) m with | .err => True | _ => False) ∧
      (∀ (b : Bits) (more : List Cell),
        match loadHashmapAugE D (-1) (true :: b) (.mk (-1) (lb ++ rest) refs :: more) m with | .err => True | _ => False)) := by
  have hd : deserializeHml (lb ++ rest) (m : Int) = none := ((c10_label_accepted_iff h rest).2).2 hlong
  have hp : ∀ pfx, parseEdge (.mk kind (lb ++ rest) refs) m pfx = none := fun _ => parseEdge_label_none hd
  have hp' : ∀ pfx, parseEdge (.mk (-1) (lb ++ rest) refs) m pfx = none := fun _ => parseEdge_label_none hd
  refine ⟨hp pfx, hp [], ?_, ?_, ?_, ?_⟩
  · simp [hashMapParse, parseHashmap, hp']
  · simp [fromCell, parseHashmap, hp]
  · intro b more; simp [loadDict, hashMapParse, parseHashmap, hp']
  · intro X Y D
    have ha : ∀ pfx, parseAugEdge D (.mk (-1) (lb ++ rest) refs) m pfx = none := fun _ => parseAugEdge_label_none D hd
    refine ⟨ha pfx, by simp [parseHashmapAug, ha], ?_⟩
    intro b more
    simp [loadHashmapAugE, parseHashmapAug, ha]

/-- A LABEL LONGER THAN THE REMAINING KEY IS REFUSED BELOW FORKS too: under a fork with a valid label (`LabelEnc`, `m` key bits remaining for the children) a child — left or
right, whatever the other child is — whose label pattern announces more than `m` bits makes the whole parse raise, in `parse` and
in `parse_aug` (an exception anywhere ends the whole parse: `parseFork_none`, `parseAugFork_none`). -/
theorem c10_label_too_long_below_fork {n m : Nat} {s : Bits} {k : LabelKind} {lb : Bits} (hl : LabelEnc n s k lb)
    (hn : n = s.length + 1 + m) {s' : Bits} {k' : LabelKind} {lb' : Bits} (h' : LabelBits m s' k' lb') (hlong : m < s'.length)
    (rest rest' : Bits) (kind' : Int) (refs' more : List Cell) (other : Cell) (pfx : Bits) :
    parseEdge (.mk (-1) (lb ++ rest) (.mk kind' (lb' ++ rest') refs' :: other :: more)) n pfx = none ∧
    parseEdge (.mk (-1) (lb ++ rest) (other :: .mk kind' (lb' ++ rest') refs' :: more)) n pfx = none ∧
    (∀ {X Y : Type} (D : AugDec X Y),
      parseAugEdge D (.mk (-1) (lb ++ rest) (.mk (-1) (lb' ++ rest') refs' :: other :: more)) n pfx = none ∧
      parseAugEdge D (.mk (-1) (lb ++ rest) (other :: .mk (-1) (lb' ++ rest') refs' :: more)) n pfx = none) := by
  have hbad : ∀ kind pfx, parseEdge (.mk kind (lb' ++ rest') refs') m pfx = none :=
    fun kind pfx => (c10_label_too_long_rejected h' hlong rest' kind refs' pfx).1
  refine ⟨?_, ?_, fun D => ?_⟩
  · rw [parseEdge_fork hl hn]
    exact parseFork_none (Or.inl (hbad _ _))
  · rw [parseEdge_fork hl hn]
    exact parseFork_none (Or.inr (hbad _ _))
  · have hbadA : ∀ pfx, parseAugEdge D (.mk (-1) (lb' ++ rest') refs') m pfx = none :=
      fun pfx => ((c10_label_too_long_rejected h' hlong rest' (-1) refs' pfx).2.2.2.2.2 D).1
    rw [parseAugEdge_fork D hl hn, parseAugEdge_fork D hl hn]
    exact ⟨parseAugFork_none D (Or.inl (hbadA _)), parseAugFork_none D (Or.inr (hbadA _))⟩

/-- AT EVERY DEPTH: a `parse` that returns has walked only through edges whose label is readable and not longer than the key
length remaining at that edge (`labelsFit`: the walk follows the first two references of ordinary cells whose label leaves key
bits over, with the remaining length minus the fork bit; `labelsFit` holds of each edge in turn, with label length ≤ remaining key
length there).  `0 ≤ n` is that fact at the root. -/
theorem c10_parse_labels_fit (c : Cell) (n : Int) (kv : List (Bits × Val)) (h : parseEdge c n [] = some kv) :
    labelsFit c n ∧ 0 ≤ n :=
  ⟨parseEdge_labelsFit c n [] kv h, labelsFit_nonneg c n (parseEdge_labelsFit c n [] kv h)⟩

theorem c10_negative_key_rejected (c : Cell) (n : Int) (hn : n < 0) (pfx : Bits) :
    parseEdge c n pfx = none ∧
    (∀ {X Y : Type} (D : AugDec X Y) (bits : Bits) (refs : List Cell), parseAugEdge D (.mk (-1) bits refs) n pfx = none) :=
  ⟨parseEdge_neg c hn pfx, fun D bits refs => parseAugEdge_neg D bits refs hn pfx⟩

/-! non-vacuity: over-long labels of all three constructors at key length 2 (3 bits announced; the `#<= 2` field is 2 bits wide) -/
example : parseHashmap (.mk (-1) [false, true, true, true, false, true, false, true] []) 2 = none
    ∧ parseHashmap (.mk (-1) [true, false, true, true, true, false, true] []) 2 = none
    ∧ parseHashmap (.mk (-1) [true, true, true, true, true] []) 2 = none := by
  have overShort : LabelBits 2 [true, false, true] .short [false, true, true, true, false, true, false, true] :=
    LabelBits.short (m := 2) (s := [true, false, true])
  have overLong : LabelBits 2 [true, false, true] .long [true, false, true, true, true, false, true] := by
    with_unfolding_all exact LabelBits.long (m := 2) (s := [true, false, true]) (by decide)
  have overSame : LabelBits 2 [true, true, true] .same [true, true, true, true, true] := by
    with_unfolding_all exact LabelBits.same (m := 2) (s := [true, true, true]) true rfl (by decide)
  have a := (c10_label_too_long_rejected overShort (by decide) [] (-1) [] []).2.1
  have b := (c10_label_too_long_rejected overLong (by decide) [] (-1) [] []).2.1
  have c := (c10_label_too_long_rejected overSame (by decide) [] (-1) [] []).2.1
  simp only [List.append_nil, Nat.cast_ofNat] at a b c
  exact ⟨a, b, c⟩
/-- below a fork: the right child announces 2 bits with 1 remaining -/
example : parseHashmap (.mk (-1) [false, false] [.mk (-1) [false, true, false, true] [], .mk (-1) [false, true, true, false, true, true] []]) 2 = none
    ∧ parseHashmap (.mk (-1) [false, false] [.mk (-1) [false, true, false, true] [], .mk (-1) [false, true, false, true] []]) 2
      = some [([false, true], ([], [])), ([true, true], ([], []))] := by
  refine ⟨by rfl, by rfl⟩

/-! non-vacuity of `c10_parse_any`: -/
/-- a non-canonical but valid 1-bit dictionary {0 ↦ 1111, 1 ↦ 0000}: root label `hml_long`, leaf labels `hml_same` / `hml_long` -/
def exCell : Cell :=
  .mk (-1) [true, false, false] [.mk (-1) [true, true, true, true, true, true, true] [], .mk (-1) [true, false, false, false, false, false] []]

-- (`lenBits` rests on `bitLength`, defined by well-founded recursion: its values are unfolded explicitly)
theorem exRoot_label : LabelEnc 1 [] .long [true, false, false] := by
  with_unfolding_all exact LabelEnc.long (m := 1) (s := []) (by decide)

theorem exLeft_valid : ValidHashmap 0 (.mk (-1) [true, true, true, true, true, true, true] []) [([], ([true, true, true, true], []))] := by
  have l : LabelEnc 0 [] .same [true, true, true] := by
    with_unfolding_all exact LabelEnc.same (m := 0) (s := []) true rfl (by decide)
  exact ValidHMK.leaf (vb := [true, true, true, true]) (vr := []) l trivial rfl

theorem exRight_valid : ValidHashmap 0 (.mk (-1) [true, false, false, false, false, false] []) [([], ([false, false, false, false], []))] := by
  have l : LabelEnc 0 [] .long [true, false] := by
    with_unfolding_all exact LabelEnc.long (m := 0) (s := []) (by decide)
  exact ValidHMK.leaf (vb := [false, false, false, false]) (vr := []) l trivial rfl

theorem exCell_valid : ValidHashmap 1 exCell
    [([false], ([true, true, true, true], [])), ([true], ([false, false, false, false], []))] := by
  have := ValidHMK.fork (m := 0) exRoot_label trivial (by simp) exLeft_valid exRight_valid
  simpa [exCell, pre] using this

example : parseHashmap exCell 1 = some [([false], ([true, true, true, true], [])), ([true], ([false, false, false, false], []))] :=
  c10_parse_any (by decide) exCell_valid

/-! ### the parser REGENERATED from parse.py (Generated/HashmapSrc.lean, translator pyrec.py / hashmapsrc.py)

`Py.Slice` = (cell type, remaining bits, remaining references); a regenerated function returns its result next to the final
values of the parameters it mutates; `none` = the Python code raises; `fuel` bounds the recursion depth — every statement
holds for EVERY fuel ≥ 2·key_length + 2 (Python has no fuel). -/

open TonVerif.Generated.HashmapSrc TonVerif.Proofs.SrcHashmap

/-- LABEL READER FROM THE SOURCE.  `deserialize_hml(ser, m)` as regenerated from parse.py equals the hand model's reader on the
remaining bits of ANY slice, for EVERY int `m` (also negative): same decision to raise, same `(n, s)`, same bits left. -/
theorem c10_src_label_reader (ser : Py.Slice) (m : Int) :
    deserialize_hml ser m = (deserializeHml ser.bits m).map fun t => ((t.1, t.2.1), withBits ser t.2.2) :=
  deserialize_hml_eq ser m

/-- `deserialize_unary(ser)` from the source = `readUnary`; its `while` loop gives the same result for every loop fuel at least the
declared variant (the number of remaining bits), so the variant loses nothing. -/
theorem c10_src_unary (ser : Py.Slice) :
    deserialize_unary ser = (readUnary ser.bits).map (fun p => (p.1, withBits ser p.2)) ∧
    ∀ lf n r, ser.bits.length ≤ lf →
      deserialize_unary_while1 lf (n, r, ser) = deserialize_unary_while1 ser.bits.length (n, r, ser) :=
  ⟨deserialize_unary_eq ser, fun lf n r h => unary_loop_fuel_indep lf n r ser h⟩

/-- `c10_label_accepted_iff` for the regenerated reader: on the bit pattern of ANY label constructor it returns `(|s|, s)` and
the slice behind the label iff the pattern is a spec encoding (`{n <= m}` holds), and raises iff the label is longer than `m`. -/
theorem c10_src_label_accepted_iff {m : Nat} {s : Bits} {k : LabelKind} {lb : Bits} (h : LabelBits m s k lb) (rest : Bits)
    (kind : Int) (refs : List Cell) :
    (deserialize_hml ⟨kind, lb ++ rest, refs⟩ (m : Int) = some ((s.length, s), ⟨kind, rest, refs⟩) ↔ LabelEnc m s k lb) ∧
    (deserialize_hml ⟨kind, lb ++ rest, refs⟩ (m : Int) = none ↔ m < s.length) := by
  obtain ⟨h1, h2⟩ := c10_label_accepted_iff h rest
  rw [c10_src_label_reader]
  constructor
  · rw [← h1]
    cases hd : deserializeHml (lb ++ rest) (m : Int) with
    | none => simp
    | some t =>
      obtain ⟨n, s', r'⟩ := t
      simp only [Option.map_some, Option.some.injEq, Prod.mk.injEq, withBits]
      constructor
      · rintro ⟨⟨rfl, rfl⟩, hsl⟩
        have : r' = rest := by simpa using congrArg Py.Slice.bits hsl
        subst this; exact ⟨rfl, rfl, rfl⟩
      · rintro ⟨rfl, rfl, rfl⟩; exact ⟨⟨rfl, rfl⟩, rfl⟩
  · rw [← h2]; simp

/-- PARSE RECURSION FROM THE SOURCE.  `parse` / `deserialize_hashmap_node` as regenerated from parse.py: for every cell, key
length, dict and prefix, what `parse` leaves in `ret_dict` is the dict updated (`d[key] = slice`) with the entries of the hand
model's `parseEdge`, in order — and it raises exactly when the model does. -/
theorem c10_src_parse (fuel : Nat) (c : Cell) (k : Int) (d : List (Bits × Py.Slice)) (pfx : Bits) (hf : 2 * k.toNat + 2 ≤ fuel) :
    (parse fuel (Py.beginParse c) k d pfx).map (·.2.1) = (parseEdge c k pfx).map (addAll d) :=
  src_parse_eq fuel c k d pfx hf

/-- `parse_hashmap(cell.begin_parse(), n)` from the source returns exactly the entries of `parseHashmap` (same keys, same order;
each value the ordinary slice behind the leaf's label) or raises exactly when it does. -/
theorem c10_src_parse_hashmap (fuel : Nat) (c : Cell) (n : Nat) (hf : 2 * n + 2 ≤ fuel) :
    (parse_hashmap fuel (Py.beginParse c) (n : Int)).map (·.1) =
      (parseHashmap c n).map fun kv => kv.map fun p => (p.1, valSlice p.2) :=
  src_parse_hashmap_eq fuel c n hf

/-- `c10_parse_any` holds of the regenerated parser: every spec-valid `Hashmap n X` (any label constructors, pruned edges) is
decoded by the code of parse.py to exactly its non-pruned leaves. -/
theorem c10_src_parse_any {ok : Nat → Bits → LabelKind → Prop} {p : Bool} {n : Nat} {c : Cell} {kv : List (Bits × Val)}
    (hn : 0 < n) (h : ValidHMK ok p n c kv) (fuel : Nat) (hf : 2 * n + 2 ≤ fuel) :
    (parse_hashmap fuel (Py.beginParse c) (n : Int)).map (·.1) = some (kv.map fun p => (p.1, valSlice p.2)) := by
  rw [c10_src_parse_hashmap fuel c n hf, c10_parse_any hn h]; rfl

/-- the augmented recursion from the source (`parse_aug` / `deserialize_hashmap_aug_node`), for every decoder pair `D`
(callbacks `x_deserializer = xdOf D`, `y_deserializer = ydOf D`): `ret_dict` and `extras` afterwards are the model's. -/
theorem c10_src_parse_aug {X Y : Type} (D : AugDec X Y) (fuel : Nat) (c : Cell) (k : Int) (d : List (Bits × X)) (ex : List Y)
    (pfx : Bits) (hf : 2 * k.toNat + 2 ≤ fuel) :
    (parse_aug (xdOf D) (ydOf D) fuel (Py.beginParse c) k d ex pfx).map (fun r => (r.2.1, r.2.2.1)) =
      (parseAugEdge D c k pfx).map (augOut d ex) :=
  src_parse_aug_eq D fuel c k d ex pfx hf

/-- `c10_parse_any_aug` holds of the regenerated `parse_aug`: entries `d[key] = x` for the leaves, extras in left/right/own order -/
theorem c10_src_parse_any_aug {X Y : Type} {D : AugDec X Y} {p : Bool} {n : Nat} {c : Cell} {kv : List (Bits × X)} {ex : List Y}
    (h : ValidAug D p n c kv ex) (fuel : Nat) (hf : 2 * n + 2 ≤ fuel) :
    (parse_aug (xdOf D) (ydOf D) fuel (Py.beginParse c) (n : Int) [] [] []).map (fun r => (r.2.1, r.2.2.1)) =
      some (addAllX [] kv, ex) := by
  rw [c10_src_parse_aug D fuel c n [] [] [] (by simpa using hf), c10_parse_any_aug h]; rfl

/-- an over-long label makes the regenerated `parse_hashmap` raise (root position), for every fuel above the bound -/
theorem c10_src_label_too_long_rejected {m : Nat} {s : Bits} {k : LabelKind} {lb : Bits} (h : LabelBits m s k lb) (hlong : m < s.length)
    (rest : Bits) (kind : Int) (refs : List Cell) (fuel : Nat) (hf : 2 * m + 2 ≤ fuel) :
    parse_hashmap fuel (Py.beginParse (.mk kind (lb ++ rest) refs)) (m : Int) = none := by
  have h1 := c10_src_parse_hashmap fuel (.mk kind (lb ++ rest) refs) m hf
  rw [(c10_label_too_long_rejected h hlong rest kind refs []).2.1] at h1
  simpa using h1

/-! non-vacuity: the regenerated parser on `exCell` (non-canonical constructors), and on an over-long label -/
example : (parse_hashmap 4 (Py.beginParse exCell) 1).map (·.1) =
    some [([false], ⟨-1, [true, true, true, true], []⟩), ([true], ⟨-1, [false, false, false, false], []⟩)] :=
  c10_src_parse_any (by decide) exCell_valid 4 (by decide)
example : parse_hashmap 6 (Py.beginParse (.mk (-1) [true, true, true, true, true] [])) 2 = none := by rfl
example : (deserialize_hml ⟨-1, [true, true, true, true, false, true], []⟩ 2).map (·.1) = some (2, [true, true]) := by rfl

/-! ### a dictionary as a FIELD of a larger constructor

`Hashmap n X` (unlike `HashmapE`) is stored INLINE: its root edge lives in the caller's cell, which may carry further bits and
references behind the dictionary (`holder#_ entries:(Hashmap 16 X) owner:^Cell`).  `ValidHMK.fork` describes a fork in a cell of
its own (exactly the label, exactly two references); these statements cover the root that does not own its cell. -/
section Embedded
open TonVerif.Generated.HashmapSrc TonVerif.Proofs.SrcHashmap

/-- EMBEDDED DICTIONARY (hand model).  A fork root (label `lb` of `s`, spec-valid children `l`, `r`, any label constructors,
pruned edges allowed) followed IN THE SAME CELL by ANY further bits `postB` and ANY further references `postR`:
`parse_hashmap` / `HashMap.parse` / `Slice.load_hashmap` on that slice return exactly the leaves of the non-pruned part.  (A leaf
root is `c10_parse_any` itself: `ValidHMK.leaf` lets the value be everything behind the label.)  A `HashmapE` among other fields:
`load_dict` / `preload_dict` on `1 ^root …` give `HashMap.parse(root)` whatever bits and references follow, on `0 …` None. -/
theorem c10_parse_embedded {ok : Nat → Bits → LabelKind → Prop} {p : Bool} {n m : Nat} {s : Bits} {k : LabelKind} {lb : Bits}
    {l r : Cell} {kvl kvr : List (Bits × Val)}
    (hl : LabelEnc n s k lb) (hn : n = s.length + 1 + m) (hL : ValidHMK ok p m l kvl) (hR : ValidHMK ok p m r kvr)
    (postB : Bits) (postR : List Cell) :
    parseHashmap (.mk (-1) (lb ++ postB) (l :: r :: postR)) n = some (kvl.map (pre (s ++ [false])) ++ kvr.map (pre (s ++ [true]))) ∧
    hashMapParse (.mk (-1) (lb ++ postB) (l :: r :: postR)) n
      = .dict (intKeys (kvl.map (pre (s ++ [false])) ++ kvr.map (pre (s ++ [true])))) ∧
    (∀ c : Cell, loadDict (true :: postB) (c :: postR) n = hashMapParse c n) ∧
    loadDict (false :: postB) postR n = .none := by
  have h := parseEdge_fork_trailing hl hn hL hR postB postR []
  rw [map_pre_nil] at h
  refine ⟨h, ?_, fun c => rfl, rfl⟩
  simp only [hashMapParse, parseHashmap, h]
  simp

/-- EXACT CONSUMPTION (regenerated from parse.py).  On the same slice the code of `parse_hashmap` returns those leaves AND leaves
the caller's slice standing exactly behind the dictionary: the bits `postB` and the references `postR` - the two children
consumed, nothing else - for every fuel ≥ 2n+2.  So the fields after an inline `Hashmap` read back. -/
theorem c10_src_parse_embedded {ok : Nat → Bits → LabelKind → Prop} {p : Bool} {n m : Nat} {s : Bits} {k : LabelKind} {lb : Bits}
    {l r : Cell} {kvl kvr : List (Bits × Val)}
    (hl : LabelEnc n s k lb) (hn : n = s.length + 1 + m) (hL : ValidHMK ok p m l kvl) (hR : ValidHMK ok p m r kvr)
    (postB : Bits) (postR : List Cell) (fuel : Nat) (hf : 2 * n + 2 ≤ fuel) :
    parse_hashmap fuel ⟨-1, lb ++ postB, l :: r :: postR⟩ (n : Int)
      = some ((kvl.map (pre (s ++ [false])) ++ kvr.map (pre (s ++ [true]))).map (fun q => (q.1, valSlice q.2)), ⟨-1, postB, postR⟩) := by
  have hp := parseEdge_fork_trailing hl hn hL hR postB postR []
  rw [map_pre_nil] at hp
  obtain ⟨⟨_, hnd⟩, _⟩ := parseEdge_keys _ _ n [] _ (Nat.lt_succ_self _) hp
  have hne : (n : Int) - (s.length : Int) ≠ 0 := by omega
  have h : parse fuel ⟨-1, lb ++ postB, l :: r :: postR⟩ n [] [] = _ :=
    (parse_node_full fuel).1 (.mk (-1) (lb ++ postB) (l :: r :: postR)) n [] [] (by simpa using hf)
  rw [parseFull_eq, deserializeHml_enc hl postB, hp] at h
  rw [parse_hashmap, h]
  simp [addAll_fresh _ [] hnd (by simp), afterEdge, hne]

/-- non-vacuity: `exCell`'s root (label `hml_long` of 0 bits, two valid leaves) followed by the bits `101` and a third reference:
parsed to the same two leaves, the slice left on `101` and that reference -/
example : parse_hashmap 4 ⟨-1, [true, false, false] ++ [true, false, true],
      .mk (-1) [true, true, true, true, true, true, true] [] :: .mk (-1) [true, false, false, false, false, false] [] :: [exCell]⟩ 1
    = some ([([false], ⟨-1, [true, true, true, true], []⟩), ([true], ⟨-1, [false, false, false, false], []⟩)], ⟨-1, [true, false, true], [exCell]⟩) := by
  have := c10_src_parse_embedded (m := 0) exRoot_label (by simp) exLeft_valid exRight_valid [true, false, true] [exCell] 4 (by decide)
  simpa [pre, valSlice] using this
example : hashMapParse (.mk (-1) ([true, false, false] ++ [true, false, true])
      (.mk (-1) [true, true, true, true, true, true, true] [] :: .mk (-1) [true, false, false, false, false, false] [] :: [exCell])) 1
    = .dict [(0, ([true, true, true, true], [])), (1, ([false, false, false, false], []))] := by
  have := (c10_parse_embedded (m := 0) exRoot_label (by simp) exLeft_valid exRight_valid [true, false, true] [exCell]).2.1
  simpa [pre, intKeys, dictSet, natOfBits] using this

end Embedded

/-- a value serialiser for the examples: two copies of the bit -/
def exSerC10 (v : Bool) : Option Val := some ([v, v], [])

/-! ### the serialiser REGENERATED from utils.py (Generated/HashmapSrc.lean; proofs in Proofs/SrcHashmapSer.lean)

`Py.Bld` = (bits, references) stored so far; `none` = the Python code raises; a value serialiser callback is `serCb ser` (appends the
bits and references `ser v`; more than 1023 bits / 4 references raise); every statement holds for EVERY fuel ≥ 2·key_size + 2. -/
section SrcSerialiser
open TonVerif.Proofs.SrcHashmapSer

/-- LABEL WRITER FROM THE SOURCE.  `write_label(src, key_size, to)` as regenerated from utils.py (with `write_label_short / long /
same`) appends exactly the bits of the hand model's `labelBits` to ANY builder, for EVERY label and EVERY int `key_size`, and raises
exactly when the model has no label (`store_uint` refuses the length) or the builder would exceed 1023 bits. -/
theorem c10_src_label_writer (src : Bits) (key_size : Int) (to_ : Py.Bld) :
    write_label src key_size to_ = (labelBits src key_size.natAbs).bind to_.extend? :=
  write_label_eq src key_size to_

/-- LABEL KIND FROM THE SOURCE.  For every label that fits its bound (`|src| ≤ n`, as everywhere in a tree of n-bit keys) the regenerated
`write_label` appends a hashmap.tlb encoding `lb` of `src` in the constructor the REFERENCE serialiser chooses (`refLabelKind`: same iff
constant ∧ len > 1 ∧ k < 2·len − 1, else long iff k < len, else short; k = bit_length(n)) — nothing else, and it raises only on overflow. -/
theorem c10_src_label_kind (src : Bits) (n : Nat) (hl : src.length ≤ n) (to_ : Py.Bld) :
    ∃ lb, LabelEnc n src (refLabelKind src.length n (allSame src)) lb ∧ write_label src (n : Int) to_ = to_.extend? lb := by
  obtain ⟨lb, h⟩ := labelBits_some (s := src) (n := n) hl
  exact ⟨lb, labelBits_enc hl h, by rw [c10_src_label_writer]; simp [h]⟩

/-- LABEL MINIMAL FROM THE SOURCE.  The number of bits the regenerated `write_label` appends is the minimum over all admissible
constructors (2+2·len / 2+k+len / 3+k), and among constructors of that length it uses the earliest of short < long < same. -/
theorem c10_src_label_minimal (src : Bits) (n : Nat) (hl : src.length ≤ n) (to_ to' : Py.Bld)
    (h : write_label src (n : Int) to_ = some to') (k : LabelKind) (hk : kindAdmissible k (allSame src)) :
    to'.bits.length = to_.bits.length + encLen (detect_label_type src n) src.length n ∧
    encLen (detect_label_type src n) src.length n ≤ encLen k src.length n ∧
    (encLen (detect_label_type src n) src.length n = encLen k src.length n → rank (detect_label_type src n) ≤ rank k) := by
  obtain ⟨lb, henc, hw⟩ := c10_src_label_kind src n hl to_
  have hlen := LabelEnc_length henc
  rw [hw, extend_eq] at h
  split at h
  · simp at h
  · simp only [Option.some.injEq] at h
    subst h
    refine ⟨?_, c10_detect_minimal src n k hk⟩
    rw [c10_label_kind]; simp [hlen]

/-- `find_common_prefix(src)` from the source = the common prefix of the lexicographically least and greatest string, for EVERY list of
'0'/'1' strings (it never raises); `pad(bin(k)[2:], n)` = the model's key string. -/
theorem c10_src_common_prefix (src : List Bits) (k n : Nat) :
    find_common_prefix src = some (findCommonPrefix src) ∧ pad (Py.binDigits k) n = some (keyBits n k) :=
  ⟨find_common_prefix_eq src, pad_key k n⟩

/-- `build_tree(map, n)` from the source (`pad`, `find_common_prefix`, `remove_prefix_map`, `fork_map`, `build_node`, `build_edge`) builds
the hand model's tree for every map built by `set_int_key`: same labels (maximal common prefixes), same split at the next key bit
(0 left, 1 right), same leaves. -/
theorem c10_src_build_tree {V : Type} (n : Nat) (hn : 0 < n) (d : Dict V) (hd : DictOK n d) (fuel : Nat) (hf : 2 * n + 2 ≤ fuel) :
    build_tree fuel d n = (buildTree n d).map toTree :=
  build_tree_eq n hn d hd fuel hf

/-- SERIALISER FROM THE SOURCE.  `serialize_dict(map, n, serializer).end_cell()` as regenerated from utils.py is what the hand model's
`HashMap.serialize()` returns, for every non-empty map built by `set_int_key`, every value serialiser, every fuel ≥ 2n + 2 — same cell
or both raise. -/
theorem c10_src_serializer {V : Type} (n : Nat) (hn : 0 < n) (ser : V → Option Val) (d : Dict V) (hd : DictOK n d) (hne : d ≠ [])
    (fuel : Nat) (hf : 2 * n + 2 ≤ fuel) :
    (serialize_dict (serCb ser) fuel d n).map (fun b => some b.endCell) = serialize n ser d :=
  serialize_dict_eq n hn ser d hd hne fuel hf

/-- CANONICAL, FROM THE SOURCE.  `c10_canonical` holds of the regenerated serialiser: whenever `serialize_dict` returns a builder for a
map built by `set_int_key`, its cell is a spec-valid `Hashmap n X` in which every label uses the reference constructor, whose leaves are,
in strictly ascending key order, exactly the entries of the map — hence (`c10_unique`) THE canonical cell of that map. -/
theorem c10_src_canonical {V : Type} (n : Nat) (hn : 0 < n) (ser : V → Option Val) (d : Dict V) (b : Py.Bld)
    (hd : DictOK n d) (fuel : Nat) (hf : 2 * n + 2 ≤ fuel) (h : serialize_dict (serCb ser) fuel d n = some b) :
    ∃ kv : List (Bits × Val), Canonical n b.endCell kv ∧ ValidHashmap n b.endCell kv ∧
      kv.Pairwise (fun a b => natOfBits a.1 < natOfBits b.1) ∧ (∀ p ∈ kv, p.1.length = n) ∧
      ∀ kb val, (kb, val) ∈ kv ↔ ∃ k v, (k, v) ∈ d ∧ kb = keyBits n k ∧ ser v = some val := by
  have hne : d ≠ [] := by rintro rfl; rw [serialize_dict_nil] at h; simp at h
  have := c10_src_serializer n hn ser d hd hne fuel hf
  rw [h] at this
  exact c10_canonical n hn ser d b.endCell hd this.symm

/-! non-vacuity: the regenerated serialiser on the 2-bit map {2 ↦ 00, 1 ↦ 00} (insertion order 2, 1), and the three label kinds -/
-- (`bitLength` is defined by well-founded recursion: evaluation has to unfold it explicitly)
set_option linter.unusedSimpArgs false in
example : write_label [true, false] 2 Py.Bld.empty = some ⟨[false, true, true, false, true, false], []⟩ := by
  with_unfolding_all rfl
set_option linter.unusedSimpArgs false in
example : write_label [true, false, true, false, true] 5 Py.Bld.empty = some ⟨[true, false, true, false, true, true, false, true, false, true], []⟩ := by
  with_unfolding_all rfl
set_option linter.unusedSimpArgs false in
example : write_label [true, true, true, true, true] 5 Py.Bld.empty = some ⟨[true, true, true, true, false, true], []⟩ := by
  with_unfolding_all rfl
set_option maxRecDepth 4000 in
example : (serialize_dict (serCb exSerC10) 6 [(2, false), (1, false)] 2).map (·.endCell) =
    some (.mk (-1) [false, false] [.mk (-1) [false, true, false, true, false, false] [], .mk (-1) [false, true, false, false, false, false] []]) := by
  with_unfolding_all rfl

end SrcSerialiser

/-! ### `parse_hashmap_aug`'s int-key conversion and `Slice.load_hashmap_aug`, from the source -/
section SrcAugApi
open TonVerif.Generated TonVerif.Proofs.SrcHashmapGlue

/-- `parse_hashmap_aug(cell.begin_parse(), n, x, y)` as regenerated from parse.py — recursion AND the final `{int(i, 2): j …}`
conversion (ValueError on the empty key of a 0-bit dictionary) — and `Slice.load_hashmap_aug` as regenerated from slice.py ARE the hand
model's `parseHashmapAug` (`outAug`: raise = none, None for a non-ordinary root = some none), for every decoder pair, every fuel ≥ 2n+2. -/
theorem c10_src_parse_hashmap_aug {X Y : Type} (D : AugDec X Y) (fuel : Nat) (c : Cell) (n : Nat) (hf : 2 * n + 2 ≤ fuel) :
    (parse_hashmap_aug (xdOf D) (ydOf D) fuel (Py.beginParse c) (n : Int)).map (·.1) = outAug (parseHashmapAug D c n) ∧
    (HashmapGlue.load_hashmap_aug (xdOf D) (ydOf D) fuel (Py.beginParse c) (n : Int)).map (·.1) = outAug (parseHashmapAug D c n) :=
  ⟨parse_hashmap_aug_eq D fuel c n hf, load_hashmap_aug_eq D fuel c n hf⟩

/-- hence `c10_parse_any_aug_api` (first part) holds of the regenerated entry point: every spec-valid `HashmapAug n X Y` with an
ordinary root is decoded to (int-keyed dict of the leaves, extras) -/
theorem c10_src_parse_any_aug_api {X Y : Type} {D : AugDec X Y} {p : Bool} {n : Nat} {bits refs} {kv : List (Bits × X)} {ex : List Y}
    (hn : 0 < n) (h : ValidAug D p n (.mk (-1) bits refs) kv ex) (fuel : Nat) (hf : 2 * n + 2 ≤ fuel) :
    (parse_hashmap_aug (xdOf D) (ydOf D) fuel (Py.beginParse (.mk (-1) bits refs)) (n : Int)).map (·.1) = some (some (intKeys kv, ex)) := by
  rw [(c10_src_parse_hashmap_aug D fuel _ n hf).1]
  rw [parseHashmapAug_valid hn h]
  rfl

/-- `Slice.load_hashmap_aug_e(n, x, y)` as regenerated from slice.py, on an ordinary slice (for a special slice its first statement
returns the cell itself), IS the hand model's `loadHashmapAugE` — the function `c10_parse_any_aug_api` and `c10_aug_e_extra_required`
are about: `0 extra` gives `({}, [extra])`, `1 ^root extra` gives the parse of the root after the top-level extra was read. -/
theorem c10_src_load_hashmap_aug_e {X Y : Type} (D : AugDec X Y) (fuel : Nat) (bits : Bits) (refs : List Cell) (n : Nat)
    (hf : 2 * n + 2 ≤ fuel) :
    (HashmapGlue.load_hashmap_aug_e (xdOf D) (ydOf D) fuel ⟨-1, bits, refs⟩ (n : Int)).map (·.1) =
      outAugE (loadHashmapAugE D (-1) bits refs n) :=
  load_hashmap_aug_e_eq D fuel bits refs n hf

end SrcAugApi

end TonVerif.Properties.C10
