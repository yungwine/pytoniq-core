/-
C13 — address text forms round-trip and the friendly form's checksum is enforced.

The statements up to section Src are about the hand model of `pytoniq_core/boc/address.py` (Model/Address.lean), of Python's
base64 (Model/Base64.lean) and about `Model.crc16`, the translation of `crypto/crc.py` (C18).
`parse s` = `Address(s)`, `toStr a uf url b t` = `a.to_str(uf, url, b, t)`; `none` = an exception.
Section Src: the tag arithmetic regenerated from address.py; section SrcFull: the whole methods regenerated and proved
equal to the hand model.
-/
import TonVerif.Model.Address
import TonVerif.Proofs.Base64
import TonVerif.Proofs.Address
import TonVerif.Proofs.SrcB64
import TonVerif.Generated.AddrTags
import TonVerif.Proofs.SrcAddr

namespace TonVerif.Properties.C13
open TonVerif TonVerif.Model TonVerif.Model.Address TonVerif.Model.Base64
open TonVerif.Proofs.Base64 TonVerif.Proofs.Address

/-- `base64.b64decode(base64.b64encode(bs)) == bs` for EVERY byte string (all lengths, `=` padding included). -/
theorem c13_b64_roundtrip (bs : Bytes) (hw : Bytes.WF bs) : decode (encode false bs) = some bs :=
  decode_encode bs hw

/-- `base64.urlsafe_b64decode` (what `is_b64` calls) inverts both `urlsafe_b64encode` and `b64encode`,
for EVERY byte string. -/
theorem c13_b64_roundtrip_urlsafe (url : Bool) (bs : Bytes) (hw : Bytes.WF bs) :
    decodeUrlsafe (encode url bs) = some bs :=
  decodeUrlsafe_encode url bs hw

/-- the sextet form of the friendly text (34-byte body ++ CRC = 36 bytes = 48 characters, no padding). -/
theorem friendly_text (a : Addr) (url b t : Bool) (hw : Bytes.WF a.hash) (hlen : a.hash.length = 32)
    (hwc : -128 ≤ a.wc ∧ a.wc ≤ 127) :
    toStr a true url b t =
      some ((sextets (bodyOf a b t ++ be16N (crcV (bodyOf a b t)))).map (encChar url)) := by
  rw [toStr_friendly a url b t hw hwc, encode_eq_map_sextets _ _ (by rw [codeword_length a b t hlen])]

/-- FRIENDLY ROUND TRIP.  For every workchain in -128..127, every 32-byte hash and each of the 8 variants
(bounceable?, test-only?, url-safe?): `to_str` succeeds and `Address(text)` has the same workchain, the
same hash and exactly the requested flags. (`a`'s own flags are irrelevant, as in the code.) -/
theorem c13_friendly_roundtrip (a : Addr) (hw : Bytes.WF a.hash) (hlen : a.hash.length = 32)
    (hwc : -128 ≤ a.wc ∧ a.wc ≤ 127) (url b t : Bool) :
    ∃ s, toStr a true url b t = some s ∧ s.length = 48 ∧
      parse s = some { wc := a.wc, hash := a.hash, bounceable := b, testOnly := t } := by
  have hl := codeword_length a b t hlen
  refine ⟨_, toStr_friendly a url b t hw hwc, ?_, ?_⟩
  · rw [encode_eq_map_sextets _ _ (by omega), List.length_map]
    have := sextets_length _ (show (bodyOf a b t ++ be16N (crcV (bodyOf a b t))).length % 3 = 0 by omega)
    omega
  · unfold parse
    rw [isHex_friendly a url b t hw hlen]
    exact isB64_friendly a url b t hw hlen hwc

/-- outside -128..127 there is no friendly form: `to_str` raises. -/
theorem c13_friendly_out_of_range (a : Addr) (hwc : ¬ (-128 ≤ a.wc ∧ a.wc ≤ 127)) (url b t : Bool) :
    toStr a true url b t = none :=
  toStr_friendly_none a url b t hwc

/-- SUBSTITUTION REJECTED.  Take any friendly text `s` produced by `to_str` (any workchain in -128..127,
any 32-byte hash, any of the 8 variants), any position `i < 48` and any character `c'` of the SAME
alphabet other than `s[i]`: `Address(s with s[i] := c')` raises.
(All 256 x 2^256 addresses x 8 variants x 48 x 63 substitutions.) -/
theorem c13_substitution_rejected (a : Addr) (hw : Bytes.WF a.hash) (hlen : a.hash.length = 32)
    (url b t : Bool) (s : List Char) (hs : toStr a true url b t = some s)
    (i : Nat) (hi : i < 48) (c' : Char) (hc : c' ∈ alphabet url) (hne : s[i]? ≠ some c') :
    parse (s.set i c') = none := by
  by_cases hwc : -128 ≤ a.wc ∧ a.wc ≤ 127
  · rw [friendly_text a url b t hw hlen hwc] at hs
    injection hs with hs
    obtain ⟨j, hj, rfl⟩ := mem_alphabet hc
    have hbw := bodyOf_wf a b t hw
    have hblen : (bodyOf a b t).length = 34 := by simp [bodyOf, hlen]
    subst hs
    rw [← List.map_set]
    have hSlt := sextets_lt _ (codeword_wf _ hbw)
    have hne' : (sextets (bodyOf a b t ++ be16N (crcV (bodyOf a b t))))[i]? ≠ some j := by
      intro h
      apply hne
      rw [List.getElem?_map, h]; rfl
    unfold parse
    rw [isHex_no_colon]
    · exact isB64_subst_none _ hbw hblen url i j hi hj hne'
    · exact map_encChar_no_colon url _ (set_lt hSlt hj i)
  · rw [toStr_friendly_none a url b t hwc] at hs
    cases hs

/-- RAW ROUND TRIP.  Whenever the raw text `"{wc}:{hash.hex()}"` exists (any integer workchain whose `str()`
exists, i.e. at most 4300 digits; any non-empty hash — in particular every 32-byte account id),
`Address(text)` has the same workchain and hash, and both flags false. -/
theorem c13_raw_roundtrip (a : Addr) (hw : Bytes.WF a.hash) (hne : a.hash ≠ []) (url b t : Bool)
    (s : List Char) (hs : toStr a false url b t = some s) :
    parse s = some { wc := a.wc, hash := a.hash, bounceable := false, testOnly := false } := by
  simp only [toStr, Bool.not_false, if_true] at hs
  cases hz : pyStrInt a.wc with
  | none => rw [hz] at hs; cases hs
  | some w =>
    rw [hz] at hs
    injection hs with hs
    rw [← hs]
    unfold parse
    rw [isHex_raw a.wc w a.hash hz hw hne]

/-- the raw text exists for every workchain of at most 4300 decimal digits (CPython's default limit). -/
theorem c13_raw_exists (a : Addr) (h : a.wc.natAbs < 10 ^ (4299 + 1)) (url b t : Bool) :
    (toStr a false url b t).isSome = true := by
  have := pyStrInt_isSome a.wc h
  simp only [toStr, Bool.not_false, if_true]
  cases hz : pyStrInt a.wc with
  | none => rw [hz] at this; cases this
  | some w => rfl

/-- `a == b` implies `a.__hash__() == b.__hash__()` (and therefore `hash(a) == hash(b)`). -/
theorem c13_eq_hash (a b : Addr) (h : Address.eq a b = true) : pyHash a = pyHash b := by
  simp only [Address.eq, Bool.and_eq_true, beq_iff_eq] at h
  simp [pyHash, h.1, h.2]

/-- `a == b` holds EXACTLY when the workchains and the account ids agree (flags do not count): no two different (workchain, id) pairs
compare equal - in particular not the pairs `(wc, id)` / `(wc + k, id - k * 2^s)` that a packing of both fields into one integer with a wrong
width `s` would identify. -/
theorem c13_eq_iff (a b : Addr) : Address.eq a b = true ↔ a.wc = b.wc ∧ a.hash = b.hash := by
  simp [Address.eq]

/-- non-vacuity of the "only if" direction: two addresses that `__hash__` packs to the same integer (workchain + 1, id - 1) are NOT equal. -/
example : pyHash ⟨0, [0, 1], false, false⟩ = pyHash ⟨1, [0, 0], false, false⟩ ∧
    Address.eq ⟨0, [0, 1], false, false⟩ ⟨1, [0, 0], false, false⟩ = false := by decide

/-- `Address(Address(..))` and the tuple form carry the same workchain and hash, hence are `==`. -/
theorem c13_copy_eq (a : Addr) : Address.eq (ofAddr a) a = true ∧ Address.eq (ofTuple a.wc a.hash) a = true := by
  simp [Address.eq, ofAddr, ofTuple]

/-- RE-RENDERING (history independence of `to_str`).  Parse ANY of the 8 friendly texts of an address and render the
resulting object in ANY of the 8 variants: the text is the one the tuple-built address gives (whatever flags the
parsed object carries do not leak into `to_str`), and parsing it yields exactly the flags requested the second time. -/
theorem c13_rerender (a : Addr) (hw : Bytes.WF a.hash) (hlen : a.hash.length = 32)
    (hwc : -128 ≤ a.wc ∧ a.wc ≤ 127) (url₁ b₁ t₁ url₂ b₂ t₂ : Bool) :
    ∃ s₁ a₁ s₂, toStr a true url₁ b₁ t₁ = some s₁ ∧ parse s₁ = some a₁ ∧
      toStr a₁ true url₂ b₂ t₂ = some s₂ ∧ toStr (ofTuple a.wc a.hash) true url₂ b₂ t₂ = some s₂ ∧
      parse s₂ = some { wc := a.wc, hash := a.hash, bounceable := b₂, testOnly := t₂ } := by
  obtain ⟨s₁, h₁, _, hp₁⟩ := c13_friendly_roundtrip a hw hlen hwc url₁ b₁ t₁
  obtain ⟨s₂, h₂, _, hp₂⟩ := c13_friendly_roundtrip
    { wc := a.wc, hash := a.hash, bounceable := b₁, testOnly := t₁ } hw hlen hwc url₂ b₂ t₂
  refine ⟨s₁, _, s₂, h₁, hp₁, h₂, ?_, hp₂⟩
  simpa [toStr, ofTuple] using h₂

/-! ### non-vacuity: a concrete address and its texts -/

def sample : Addr := { wc := -1, hash := List.replicate 32 0x55 }
example : Bytes.WF sample.hash ∧ sample.hash.length = 32 ∧ (-128 ≤ sample.wc ∧ sample.wc ≤ 127) := by decide
/-- the bounceable url-safe text of `sample`; `sampleRaw` is its raw text -/
def sampleText : List Char := "Ef9VVVVVVVVVVVVVVVVVVVVVVVVVVVVVVVVVVVVVVVVVVbxn".toList
def sampleRaw : List Char := "-1:5555555555555555555555555555555555555555555555555555555555555555".toList

/-! Each fact about the sample is evaluated by the kernel once, here; the examples below and the ones for the
regenerated code quote them. -/
theorem sample_toStr : toStr sample true true true false = some sampleText := by decide +kernel
theorem sample_parse : parse sampleText
    = some { wc := -1, hash := List.replicate 32 0x55, bounceable := true, testOnly := false } := by
  decide +kernel
theorem sample_subst : parse (sampleText.set 10 'W') = none := by decide +kernel
theorem sample_raw : toStr sample false true true false = some sampleRaw := by decide +kernel
theorem sample_raw_parse : parse sampleRaw = some { wc := -1, hash := List.replicate 32 0x55 } := by
  decide +kernel

/-- … whose bounceable url-safe text is the 48-character string below, which parses back … -/
example : toStr sample true true true false = some "Ef9VVVVVVVVVVVVVVVVVVVVVVVVVVVVVVVVVVVVVVVVVVbxn".toList :=
  sample_toStr
example : parse "Ef9VVVVVVVVVVVVVVVVVVVVVVVVVVVVVVVVVVVVVVVVVVbxn".toList
    = some { wc := -1, hash := List.replicate 32 0x55, bounceable := true, testOnly := false } :=
  sample_parse
/-- … and is rejected after one substitution (`V` -> `W` at position 10). -/
example : parse ("Ef9VVVVVVVVVVVVVVVVVVVVVVVVVVVVVVVVVVVVVVVVVVbxn".toList.set 10 'W') = none :=
  sample_subst
example : 'W' ∈ alphabet true := by decide +kernel
/-- the raw form of the same address, and its parse. -/
example : toStr sample false true true false
    = some "-1:5555555555555555555555555555555555555555555555555555555555555555".toList :=
  sample_raw
example : parse "-1:5555555555555555555555555555555555555555555555555555555555555555".toList
    = some { wc := -1, hash := List.replicate 32 0x55 } :=
  sample_raw_parse
example : sample.hash ≠ [] := by decide

/-! ## Source-regenerated tag arithmetic (`Generated/AddrTags.lean`: re-translated from boc/address.py on every run)

`Generated.addrTag bounceable testOnly` is the statement sequence of `Address.to_str` that computes the tag byte
(`tag = 0x11`, `if not is_bounceable: tag = 0x51`, `if is_test_only: tag |= 0x80`); `Generated.b64TestOnly tag0 t0 b0` /
`b64Bounceable tag0 t0 b0` are the final values of `self.is_test_only` / `self.is_bounceable` after the tag-decoding
statements of `Address.is_b64` (`tag = decoded[0]` … `if tag == 0x11: self.is_bounceable = True`), as functions of the first
decoded byte and of the flags' previous values (`False` in a fresh object). -/
section Src
open TonVerif.Proofs.SrcB64

/-- the tag byte written by `to_str`, for all four flag combinations: 0x11 / 0x51, with 0x80 or-ed in for test-only.
(`addrTag_sideOk`: the condition the translator emits beside each regenerated `f`, that no Python-int subtraction or division in it
leaves `Nat`; `True` where there is none.) -/
theorem c13_src_tag (b t : Bool) :
    Generated.addrTag_sideOk b t ∧
    Generated.addrTag b t = (if t then (if b then 0x11 else 0x51) ||| 0x80 else (if b then 0x11 else 0x51)) := by
  refine ⟨by cases b <;> cases t <;> decide, ?_⟩
  cases b <;> cases t <;> decide

/-- the flags read back by `is_b64`, for EVERY byte value of `decoded[0]` and every previous flag value: test-only iff
bit 7 is set (or it was set before), bounceable iff the tag with bit 7 cleared is exactly 0x11 (or it was set before). -/
theorem c13_src_b64_flags : ∀ tag0 < 256, ∀ t0 b0 : Bool,
    Generated.b64TestOnly_sideOk tag0 t0 b0 ∧ Generated.b64Bounceable_sideOk tag0 t0 b0 ∧
    Generated.b64TestOnly tag0 t0 b0 = (t0 || (tag0 &&& 0x80) != 0) ∧
    Generated.b64Bounceable tag0 t0 b0 = (b0 || (if (tag0 &&& 0x80) != 0 then tag0 ^^^ 0x80 else tag0) == 0x11) := by
  decide +kernel

/-- `to_str` of the hand model (what `c13_friendly_roundtrip`, `c13_substitution_rejected`, `c13_rerender` … are proved
about) writes exactly the regenerated tag byte. -/
theorem c13_src_model_to_str (a : Addr) (url b t : Bool) :
    toStr a true url b t =
      (match wcByte? a.wc with
       | none => none
       | some wcb =>
         match Model.crc16 (Generated.addrTag b t :: wcb :: a.hash) with
         | none => none
         | some crc => some (Base64.encode url ((Generated.addrTag b t :: wcb :: a.hash) ++ crc))) := by
  rw [(c13_src_tag b t).2]
  cases b <;> cases t <;> rfl

/-- `is_b64` of the hand model sets exactly the regenerated flags (a fresh object: both flags `False` before). -/
theorem c13_src_model_b64 (s : List Char) :
    isB64 s =
      (match Base64.decodeUrlsafe s with
       | none => none
       | some [] => none
       | some (tag0 :: rest) =>
         let d := tag0 :: rest
         match Model.crc16 (d.take 34) with
         | none => none
         | some crc =>
           if d.drop 34 != crc then none
           else some { wc := signedByte ((d.drop 1).take 1), hash := (d.drop 2).take 32,
                       bounceable := Generated.b64Bounceable tag0 false false,
                       testOnly := Generated.b64TestOnly tag0 false false }) := by
  unfold isB64
  cases hd : Base64.decodeUrlsafe s with
  | none => rfl
  | some d =>
    cases d with
    | nil => rfl
    | cons tag0 rest =>
      have h256 : tag0 < 256 := decodeUrlsafe_wf s _ hd tag0 (by simp)
      obtain ⟨_, _, h1, h2⟩ := c13_src_b64_flags tag0 h256 false false
      simp only [h1, h2, Bool.false_or]
      cases Model.crc16 (List.take 34 (tag0 :: rest)) with
      | none => rfl
      | some crc => rfl

/-- concrete values: the four tags written, and the flags read from each of them and from a foreign tag. -/
example : Generated.addrTag true false = 0x11 ∧ Generated.addrTag false false = 0x51 ∧ Generated.addrTag true true = 0x91 ∧
    Generated.addrTag false true = 0xd1 ∧
    Generated.b64Bounceable 0x11 false false = true ∧ Generated.b64TestOnly 0x11 false false = false ∧
    Generated.b64Bounceable 0x91 false false = true ∧ Generated.b64TestOnly 0x91 false false = true ∧
    Generated.b64Bounceable 0x51 false false = false ∧ Generated.b64TestOnly 0xd1 false false = true ∧
    Generated.b64Bounceable 0x00 false false = false := by decide

end Src

/-! ## WHOLE methods regenerated from the source (`Generated/AddrFull.lean`: `Address.__init__`, `is_hex`, `is_b64`, `to_str`, `__eq__`,
`__hash__` re-translated from boc/address.py on every run by harness/translate/addrfull.py)

`Generated.AddrFull.to_str` is the method body statement by statement (raw form `f'{wc}:{hash.hex()}'`; tag byte, signed
workchain byte, hash, CRC16, the two base64 alphabets); `is_b64 (addr := text) …` is the body of the `try` of `Address.is_b64` on an
object whose flags are given: base64 decode, tag / flag decoding, signed workchain byte, hash slice, CRC comparison; its result
is the tuple `(hash_part, is_bounceable, is_test_only, wc)` left behind, `none` = raises OR returns `False` (both make `Address(text)`
raise).  `is_hex` is the body of its `try` (`split(':')` into exactly two parts, `int(hash, 16)`, `int(wc)`, `bytes.fromhex(hash)`),
`none` = returns `False`.  `init_str` / `init_tuple` / `init_addr` are `Address.__init__` for a `str` / `(int, bytes)` / `Address`
argument (the `isinstance` tests resolved by the declared argument type): flags reset, then the dispatch `is_hex`, `is_b64`, raise.
Result = the attributes `(hash_part, is_bounceable, is_test_only, wc)` of the new object.
Hand models of the built-ins used by BOTH sides: `Base64.encode` / `decodeUrlsafe`, `pyStrInt`, `hexChars`, `splitColon`, `pyInt`,
`pyFromHex`; `Model.crc16` is C18's regenerated CRC. -/
section SrcFull
open TonVerif.Generated.AddrFull TonVerif.Proofs.SrcAddr

/-- the regenerated methods ARE the hand model: `to_str` for every address and each of the 16 flag combinations (raw and the 8
friendly variants), `is_b64` for every text on a fresh object, `==` and `__hash__` for every pair. -/
theorem c13_src_fn_methods (a b : Addr) (uf url bo t : Bool) (s : List Char) :
    to_str (is_user_friendly := uf) (is_url_safe := url) (is_bounceable := bo) (is_test_only := t)
      (self_wc := a.wc) (self_hash_part := a.hash) = toStr a uf url bo t ∧
    is_b64 (addr := s) (self_is_bounceable := false) (self_is_test_only := false) =
      ((isB64 s).map fun x => (x.hash, x.bounceable, x.testOnly, x.wc)) ∧
    Generated.AddrFull.eq (self_wc := a.wc) (self_hash_part := a.hash) (other := b) = some (Address.eq a b) ∧
    Generated.AddrFull.hash (self_wc := a.wc) (self_hash_part := a.hash) = some (pyHash a) :=
  ⟨src_to_str_eq a uf url bo t, src_is_b64_eq s, src_eq_eq a b, src_hash_eq a⟩

/-- the regenerated CONSTRUCTOR is the hand model: `Address(text)` = `parse` for EVERY text (same decision to raise, same workchain,
hash and flags), its first stage `is_hex` = `isHex`; `Address((wc, hash))` = `ofTuple`, `Address(address)` = `ofAddr` (flags dropped). -/
theorem c13_src_fn_init (s : List Char) (a : Addr) (wc : Int) (h : Bytes) :
    init_str (address := s) = ((parse s).map fun x => (x.hash, x.bounceable, x.testOnly, x.wc)) ∧
    is_hex (addr := s) = ((isHex s).map fun x => (x.hash, x.wc)) ∧
    init_tuple (address := (wc, h)) = some ((ofTuple wc h).hash, (ofTuple wc h).bounceable, (ofTuple wc h).testOnly, (ofTuple wc h).wc) ∧
    init_addr (address := a) = some ((ofAddr a).hash, (ofAddr a).bounceable, (ofAddr a).testOnly, (ofAddr a).wc) :=
  ⟨src_init_str_eq s, src_is_hex_eq s, (src_init_tuple_eq wc h).1, (src_init_addr_eq a).1⟩

/-- FRIENDLY ROUND TRIP for the regenerated code: for every workchain in -128..127, every 32-byte hash and each of the 8 variants
the regenerated `to_str` returns a 48-character text on which the regenerated constructor `Address(text)` (`init_str`: `is_hex`
declines, `is_b64` accepts) builds exactly this workchain, this hash and the requested flags. -/
theorem c13_src_friendly_roundtrip (a : Addr) (hw : Bytes.WF a.hash) (hlen : a.hash.length = 32)
    (hwc : -128 ≤ a.wc ∧ a.wc ≤ 127) (url b t : Bool) :
    ∃ s, to_str (is_user_friendly := true) (is_url_safe := url) (is_bounceable := b) (is_test_only := t)
        (self_wc := a.wc) (self_hash_part := a.hash) = some s ∧ s.length = 48 ∧
      init_str (address := s) = some (a.hash, b, t, a.wc) ∧ is_hex (addr := s) = none ∧
      is_b64 (addr := s) (self_is_bounceable := false) (self_is_test_only := false) = some (a.hash, b, t, a.wc) := by
  obtain ⟨s, hs, hl, hp⟩ := c13_friendly_roundtrip a hw hlen hwc url b t
  obtain rfl : encode url (bodyOf a b t ++ be16N (crcV (bodyOf a b t))) = s :=
    Option.some.inj ((toStr_friendly a url b t hw hwc).symm.trans hs)
  refine ⟨_, by rw [src_to_str_eq]; exact hs, hl, by rw [src_init_str_eq, hp]; rfl, ?_, ?_⟩
  · rw [src_is_hex_eq, isHex_friendly a url b t hw hlen]
    rfl
  · rw [src_is_b64_eq, isB64_friendly a url b t hw hlen hwc]
    rfl

/-- RAW ROUND TRIP for the regenerated code: whenever the regenerated `to_str(is_user_friendly=False)` returns a text (any integer
workchain whose `str()` exists, any non-empty hash - in particular every 32-byte account id), the regenerated constructor
`Address(text)` builds the same workchain and hash with both flags false (it is `is_hex` that accepts). -/
theorem c13_src_raw_roundtrip (a : Addr) (hw : Bytes.WF a.hash) (hne : a.hash ≠ []) (url b t : Bool) (s : List Char)
    (hs : to_str (is_user_friendly := false) (is_url_safe := url) (is_bounceable := b) (is_test_only := t)
      (self_wc := a.wc) (self_hash_part := a.hash) = some s) :
    init_str (address := s) = some (a.hash, false, false, a.wc) := by
  rw [src_to_str_eq] at hs
  rw [src_init_str_eq, c13_raw_roundtrip a hw hne url b t s hs]
  rfl

/-- the regenerated raw text exists for every workchain of at most 4300 decimal digits (so the hypothesis of
`c13_src_raw_roundtrip` is met by every address the library can print). -/
theorem c13_src_raw_exists (a : Addr) (h : a.wc.natAbs < 10 ^ (4299 + 1)) (url b t : Bool) :
    (to_str (is_user_friendly := false) (is_url_safe := url) (is_bounceable := b) (is_test_only := t)
      (self_wc := a.wc) (self_hash_part := a.hash)).isSome = true := by
  rw [src_to_str_eq]
  exact c13_raw_exists a h url b t

/-- SUBSTITUTION REJECTED for the regenerated code: any friendly text the regenerated `to_str` produces, with the character at
any position `i < 48` replaced by another character of the same alphabet, makes the regenerated constructor `Address(text)` raise:
`is_hex` declines it and `is_b64` fails (raise or `False`) — the CRC16 comparison of the source is what rejects it. -/
theorem c13_src_substitution_rejected (a : Addr) (hw : Bytes.WF a.hash) (hlen : a.hash.length = 32)
    (url b t : Bool) (s : List Char)
    (hs : to_str (is_user_friendly := true) (is_url_safe := url) (is_bounceable := b) (is_test_only := t)
      (self_wc := a.wc) (self_hash_part := a.hash) = some s)
    (i : Nat) (hi : i < 48) (c' : Char) (hc : c' ∈ alphabet url) (hne : s[i]? ≠ some c') :
    init_str (address := s.set i c') = none ∧
    is_b64 (addr := s.set i c') (self_is_bounceable := false) (self_is_test_only := false) = none := by
  rw [src_to_str_eq] at hs
  have hp := c13_substitution_rejected a hw hlen url b t s hs i hi c' hc hne
  refine ⟨by rw [src_init_str_eq, hp]; rfl, ?_⟩
  rw [src_is_b64_eq]
  unfold parse at hp
  cases hh : isHex (s.set i c') with
  | none => rw [hh] at hp; simp only at hp; rw [hp]; rfl
  | some x => rw [hh] at hp; cases hp

/-- RE-RENDERING for the regenerated code.  Parse any of the 8 friendly texts of an address with the regenerated constructor; the
object it builds carries the parsed flags `b₁, t₁`; render that object's workchain and hash with the regenerated `to_str` in ANY of
the 8 variants (the regenerated `to_str` has no parameter for the object's own flags: they cannot leak into the text): the text is
the one the tuple-built address `Address((wc, hash))` gives, and the regenerated constructor reads back exactly the flags requested
the second time. -/
theorem c13_src_rerender (a : Addr) (hw : Bytes.WF a.hash) (hlen : a.hash.length = 32)
    (hwc : -128 ≤ a.wc ∧ a.wc ≤ 127) (url₁ b₁ t₁ url₂ b₂ t₂ : Bool) :
    ∃ s₁ h₁ wc₁ s₂ h₀ f₁ f₂ wc₀,
      to_str (is_user_friendly := true) (is_url_safe := url₁) (is_bounceable := b₁) (is_test_only := t₁)
        (self_wc := a.wc) (self_hash_part := a.hash) = some s₁ ∧
      init_str (address := s₁) = some (h₁, b₁, t₁, wc₁) ∧
      to_str (is_user_friendly := true) (is_url_safe := url₂) (is_bounceable := b₂) (is_test_only := t₂)
        (self_wc := wc₁) (self_hash_part := h₁) = some s₂ ∧
      init_tuple (address := (a.wc, a.hash)) = some (h₀, f₁, f₂, wc₀) ∧
      to_str (is_user_friendly := true) (is_url_safe := url₂) (is_bounceable := b₂) (is_test_only := t₂)
        (self_wc := wc₀) (self_hash_part := h₀) = some s₂ ∧
      init_str (address := s₂) = some (a.hash, b₂, t₂, a.wc) := by
  obtain ⟨s₁, h₁, _, hp₁, _⟩ := c13_src_friendly_roundtrip a hw hlen hwc url₁ b₁ t₁
  obtain ⟨s₂, h₂, _, hp₂, _⟩ := c13_src_friendly_roundtrip a hw hlen hwc url₂ b₂ t₂
  exact ⟨s₁, a.hash, a.wc, s₂, a.hash, false, false, a.wc, h₁, hp₁, h₂, (src_init_tuple_eq a.wc a.hash).1, h₂, hp₂⟩

/-- equal addresses have equal hashes, for the regenerated `==` / `__hash__`. -/
theorem c13_src_eq_hash (a b : Addr)
    (h : Generated.AddrFull.eq (self_wc := a.wc) (self_hash_part := a.hash) (other := b) = some true) :
    Generated.AddrFull.hash (self_wc := a.wc) (self_hash_part := a.hash) =
      Generated.AddrFull.hash (self_wc := b.wc) (self_hash_part := b.hash) := by
  rw [src_eq_eq] at h
  rw [src_hash_eq, src_hash_eq, c13_eq_hash a b (by simpa using h)]

/-- the regenerated `__eq__` returns True EXACTLY when the workchains and the account ids agree. -/
theorem c13_src_eq_iff (a b : Addr) :
    Generated.AddrFull.eq (self_wc := a.wc) (self_hash_part := a.hash) (other := b) = some true ↔ a.wc = b.wc ∧ a.hash = b.hash := by
  rw [src_eq_eq, Option.some.injEq]
  exact c13_eq_iff a b

/-- the copies built by the regenerated constructor (`Address(address)`, `Address((wc, hash))`) are `==` the original under the
regenerated `__eq__` (the flags are not compared, and not copied). -/
theorem c13_src_copy_eq (a : Addr) :
    (∃ h f₁ f₂ wc, init_addr (address := a) = some (h, f₁, f₂, wc) ∧
      Generated.AddrFull.eq (self_wc := wc) (self_hash_part := h) (other := a) = some true) ∧
    (∃ h f₁ f₂ wc, init_tuple (address := (a.wc, a.hash)) = some (h, f₁, f₂, wc) ∧
      Generated.AddrFull.eq (self_wc := wc) (self_hash_part := h) (other := a) = some true) := by
  refine ⟨⟨_, _, _, _, (src_init_addr_eq a).1, ?_⟩, ⟨_, _, _, _, (src_init_tuple_eq a.wc a.hash).1, ?_⟩⟩ <;>
    simp [Generated.AddrFull.eq]

/-- non-vacuity: the regenerated methods evaluated on the sample address: its bounceable url-safe text, the text parsed back by the
regenerated constructor, one substituted character rejected, the raw form and its parse, a lenient raw text. -/
example : to_str (is_user_friendly := true) (is_url_safe := true) (is_bounceable := true) (is_test_only := false)
      (self_wc := sample.wc) (self_hash_part := sample.hash) = some "Ef9VVVVVVVVVVVVVVVVVVVVVVVVVVVVVVVVVVVVVVVVVVbxn".toList ∧
    init_str (address := "Ef9VVVVVVVVVVVVVVVVVVVVVVVVVVVVVVVVVVVVVVVVVVbxn".toList) = some (List.replicate 32 0x55, true, false, -1) ∧
    init_str (address := "Ef9VVVVVVVVVVVVVVVVVVVVVVVVVVVVVVVVVVVVVVVVVVbxn".toList.set 10 'W') = none ∧
    to_str (is_user_friendly := false) (is_url_safe := true) (is_bounceable := true) (is_test_only := false)
      (self_wc := sample.wc) (self_hash_part := sample.hash) =
      some "-1:5555555555555555555555555555555555555555555555555555555555555555".toList ∧
    init_str (address := "-1:5555555555555555555555555555555555555555555555555555555555555555".toList) =
      some (List.replicate 32 0x55, false, false, -1) ∧
    init_str (address := " +0_1 : 0aFF ".toList) = some ([0x0a, 0xff], false, false, 1) ∧
    is_hex (addr := "0:0:0".toList) = none ∧ init_str (address := "".toList) = none :=
  ⟨(src_to_str_eq ..).trans sample_toStr,
   (src_init_str_eq sampleText).trans (congrArg _ sample_parse),
   (src_init_str_eq (sampleText.set 10 'W')).trans (congrArg _ sample_subst),
   (src_to_str_eq ..).trans sample_raw,
   (src_init_str_eq sampleRaw).trans (congrArg _ sample_raw_parse),
   by decide +kernel, by decide +kernel, by decide +kernel⟩

end SrcFull

end TonVerif.Properties.C13
