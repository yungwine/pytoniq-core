/-
C16 — "Transaction, account and block parsers read exactly what block.tlb specifies".

The theorems are about the SPEC encoder/decoder pair (Spec/Tlb/Block.lean: every block.tlb type as a term of
lawful codec combinators) — the "independent implementation of the schema" that the property quantifies the
library's parsers against.  `Lawful T` unfolds to (see `c16_law_statement`)

    T.enc v = some ⟨bits, refs⟩ → ∀ tb tr, T.dec ⟨bits ++ tb, refs ++ tr⟩ = some (v, ⟨tb, tr⟩)

for ALL values v (all constructor alternatives, all optional-field combinations, full value ranges).
The library's `T.deserialize` is tied to `T.enc` by the sampled encoder → parser correspondence of
harness/props/C16.py (every field + remaining bits/refs compared).
-/
import TonVerif.Proofs.Codec
import TonVerif.Spec.Tlb.Block
import TonVerif.Proofs.SrcTlbParsers
import TonVerif.Proofs.SrcTlbParsersTx
import TonVerif.Proofs.SrcTlbParsersBlk

namespace TonVerif.Tlb
open TonVerif

/-- What `Lawful c` says, in plain terms: if the spec encoder writes value `v` as `bits`/`refs`, then the spec decoder,
    started on those bits and refs followed by any trailer `tb`/`tr`, returns exactly `v` and leaves exactly the trailer. -/
theorem c16_law_statement (c : Codec) [h : Lawful c] (v : Val) (bits : Bits) (refs : List Cell)
    (he : c.enc v = some ⟨bits, refs⟩) (tb : Bits) (tr : List Cell) :
    c.dec ⟨bits ++ tb, refs ++ tr⟩ = some (v, ⟨tb, tr⟩) :=
  h.law v ⟨bits, refs⟩ he ⟨tb, tr⟩

/-- A type that closes its cell (`Message Any`, whose body is the rest of the slice): decoding the encoded cell content
    returns the value and leaves nothing. -/
theorem c16_law_statement_end (c : Codec) [h : LawfulEnd c] (v : Val) (bits : Bits) (refs : List Cell)
    (he : c.enc v = some ⟨bits, refs⟩) : c.dec ⟨bits, refs⟩ = some (v, ⟨[], []⟩) :=
  h.law v ⟨bits, refs⟩ he

/-- `bits256` -/
@[instance]
theorem c16_bits256_roundtrip : Lawful bits256 := by unfold bits256; infer_instance

/-- `MsgAddressExt`: decoding what the spec encoder wrote for ANY value, followed by ANY continuation bits and refs, returns that
    value (every field, unsigned stays unsigned) and leaves exactly the continuation. -/
@[instance]
theorem c16_MsgAddressExt_roundtrip : Lawful msgAddressExt := by
  unfold msgAddressExt msgAddressExtAlts addrNoneAlt addrExternAlt
  infer_instance

/-- `MsgAddressInt`: decoding what the spec encoder wrote for ANY value, followed by ANY continuation bits and refs, returns that
    value (every field, unsigned stays unsigned) and leaves exactly the continuation. -/
@[instance]
theorem c16_MsgAddressInt_roundtrip : Lawful msgAddressInt := by
  unfold msgAddressInt msgAddressIntAlts addrStdAlt addrVarAlt anycast
  infer_instance

/-- `ExtraCurrencyCollection`: decoding what the spec encoder wrote for ANY value, followed by ANY continuation bits and refs, returns that
    value (every field, unsigned stays unsigned) and leaves exactly the continuation. -/
@[instance]
theorem c16_ExtraCurrencyCollection_roundtrip : Lawful extraCurrencyCollection := by
  unfold extraCurrencyCollection
  infer_instance

/-- `CurrencyCollection`: decoding what the spec encoder wrote for ANY value, followed by ANY continuation bits and refs, returns that
    value (every field, unsigned stays unsigned) and leaves exactly the continuation. -/
@[instance]
theorem c16_CurrencyCollection_roundtrip : Lawful currencyCollection := by
  unfold currencyCollection
  infer_instance

/-- `CommonMsgInfo`: decoding what the spec encoder wrote for ANY value, followed by ANY continuation bits and refs, returns that
    value (every field, unsigned stays unsigned) and leaves exactly the continuation. -/
@[instance]
theorem c16_CommonMsgInfo_roundtrip : Lawful commonMsgInfo := by
  unfold commonMsgInfo commonMsgInfoAlts
  infer_instance

/-- `TickTock`: decoding what the spec encoder wrote for ANY value, followed by ANY continuation bits and refs, returns that
    value (every field, unsigned stays unsigned) and leaves exactly the continuation. -/
@[instance]
theorem c16_TickTock_roundtrip : Lawful tickTock := by
  unfold tickTock
  infer_instance

/-- `StateInit`: decoding what the spec encoder wrote for ANY value, followed by ANY continuation bits and refs, returns that
    value (every field, unsigned stays unsigned) and leaves exactly the continuation. -/
@[instance]
theorem c16_StateInit_roundtrip : Lawful stateInit := by
  unfold stateInit
  infer_instance

/-- `AccountStatus`: decoding what the spec encoder wrote for ANY value, followed by ANY continuation bits and refs, returns that
    value (every field, unsigned stays unsigned) and leaves exactly the continuation. -/
@[instance]
theorem c16_AccountStatus_roundtrip : Lawful accountStatus := by
  unfold accountStatus accountStatusAlts
  infer_instance

/-- `HashUpdate (HASH_UPDATE X)`: decoding what the spec encoder wrote for ANY value, followed by ANY continuation bits and refs, returns that
    value (every field, unsigned stays unsigned) and leaves exactly the continuation. -/
@[instance]
theorem c16_HashUpdate_roundtrip : Lawful hashUpdate := by
  unfold hashUpdate
  infer_instance

/-- `StorageUsed`: decoding what the spec encoder wrote for ANY value, followed by ANY continuation bits and refs, returns that
    value (every field, unsigned stays unsigned) and leaves exactly the continuation. -/
@[instance]
theorem c16_StorageUsed_roundtrip : Lawful storageUsed := by
  unfold storageUsed
  infer_instance

/-- `StorageUsedShort`: decoding what the spec encoder wrote for ANY value, followed by ANY continuation bits and refs, returns that
    value (every field, unsigned stays unsigned) and leaves exactly the continuation. -/
@[instance]
theorem c16_StorageUsedShort_roundtrip : Lawful storageUsedShort := by
  unfold storageUsedShort
  infer_instance

/-- `StorageInfo`: decoding what the spec encoder wrote for ANY value, followed by ANY continuation bits and refs, returns that
    value (every field, unsigned stays unsigned) and leaves exactly the continuation. -/
@[instance]
theorem c16_StorageInfo_roundtrip : Lawful storageInfo := by
  unfold storageInfo
  infer_instance

/-- `AccountState`: decoding what the spec encoder wrote for ANY value, followed by ANY continuation bits and refs, returns that
    value (every field, unsigned stays unsigned) and leaves exactly the continuation. -/
@[instance]
theorem c16_AccountState_roundtrip : Lawful accountState := by
  unfold accountState accountStateAlts
  infer_instance

/-- `AccountStorage`: decoding what the spec encoder wrote for ANY value, followed by ANY continuation bits and refs, returns that
    value (every field, unsigned stays unsigned) and leaves exactly the continuation. -/
@[instance]
theorem c16_AccountStorage_roundtrip : Lawful accountStorage := by
  unfold accountStorage
  infer_instance

/-- `Account`: decoding what the spec encoder wrote for ANY value, followed by ANY continuation bits and refs, returns that
    value (every field, unsigned stays unsigned) and leaves exactly the continuation. -/
@[instance]
theorem c16_Account_roundtrip : Lawful account := by
  unfold account accountAlts
  infer_instance

/-- `ShardAccount`: decoding what the spec encoder wrote for ANY value, followed by ANY continuation bits and refs, returns that
    value (every field, unsigned stays unsigned) and leaves exactly the continuation. -/
@[instance]
theorem c16_ShardAccount_roundtrip : Lawful shardAccount := by
  unfold shardAccount
  infer_instance

/-- `DepthBalanceInfo`: decoding what the spec encoder wrote for ANY value, followed by ANY continuation bits and refs, returns that
    value (every field, unsigned stays unsigned) and leaves exactly the continuation. -/
@[instance]
theorem c16_DepthBalanceInfo_roundtrip : Lawful depthBalanceInfo := by
  unfold depthBalanceInfo
  infer_instance

/-- `ShardAccounts`: decoding what the spec encoder wrote for ANY value, followed by ANY continuation bits and refs, returns that
    value (every field, unsigned stays unsigned) and leaves exactly the continuation. -/
@[instance]
theorem c16_ShardAccounts_roundtrip : Lawful shardAccounts := by
  unfold shardAccounts
  infer_instance

/-- `AccStatusChange`: decoding what the spec encoder wrote for ANY value, followed by ANY continuation bits and refs, returns that
    value (every field, unsigned stays unsigned) and leaves exactly the continuation. -/
@[instance]
theorem c16_AccStatusChange_roundtrip : Lawful accStatusChange := by
  unfold accStatusChange accStatusChangeAlts
  infer_instance

/-- `ComputeSkipReason`: decoding what the spec encoder wrote for ANY value, followed by ANY continuation bits and refs, returns that
    value (every field, unsigned stays unsigned) and leaves exactly the continuation. -/
@[instance]
theorem c16_ComputeSkipReason_roundtrip : Lawful computeSkipReason := by
  unfold computeSkipReason computeSkipReasonAlts
  infer_instance

/-- `TrStoragePhase`: decoding what the spec encoder wrote for ANY value, followed by ANY continuation bits and refs, returns that
    value (every field, unsigned stays unsigned) and leaves exactly the continuation. -/
@[instance]
theorem c16_TrStoragePhase_roundtrip : Lawful trStoragePhase := by
  unfold trStoragePhase
  infer_instance

/-- `TrCreditPhase`: decoding what the spec encoder wrote for ANY value, followed by ANY continuation bits and refs, returns that
    value (every field, unsigned stays unsigned) and leaves exactly the continuation. -/
@[instance]
theorem c16_TrCreditPhase_roundtrip : Lawful trCreditPhase := by
  unfold trCreditPhase
  infer_instance

/-- `TrComputePhase`: decoding what the spec encoder wrote for ANY value, followed by ANY continuation bits and refs, returns that
    value (every field, unsigned stays unsigned) and leaves exactly the continuation. -/
@[instance]
theorem c16_TrComputePhase_roundtrip : Lawful trComputePhase := by
  unfold trComputePhase trComputePhaseAlts
  infer_instance

/-- `TrActionPhase`: decoding what the spec encoder wrote for ANY value, followed by ANY continuation bits and refs, returns that
    value (every field, unsigned stays unsigned) and leaves exactly the continuation. -/
@[instance]
theorem c16_TrActionPhase_roundtrip : Lawful trActionPhase := by
  unfold trActionPhase
  infer_instance

/-- `TrBouncePhase`: decoding what the spec encoder wrote for ANY value, followed by ANY continuation bits and refs, returns that
    value (every field, unsigned stays unsigned) and leaves exactly the continuation. -/
@[instance]
theorem c16_TrBouncePhase_roundtrip : Lawful trBouncePhase := by
  unfold trBouncePhase trBouncePhaseAlts
  infer_instance

/-- `SplitMergeInfo`: decoding what the spec encoder wrote for ANY value, followed by ANY continuation bits and refs, returns that
    value (every field, unsigned stays unsigned) and leaves exactly the continuation. -/
@[instance]
theorem c16_SplitMergeInfo_roundtrip : Lawful splitMergeInfo := by
  unfold splitMergeInfo
  infer_instance

/-- `ExtBlkRef`: decoding what the spec encoder wrote for ANY value, followed by ANY continuation bits and refs, returns that
    value (every field, unsigned stays unsigned) and leaves exactly the continuation. -/
@[instance]
theorem c16_ExtBlkRef_roundtrip : Lawful extBlkRef := by
  unfold extBlkRef
  infer_instance

/-- `Message Any` (read through by the transaction / descriptor parsers): closes its cell, so the law is the end-of-cell form. -/
@[instance]
theorem c16_Message_roundtrip : LawfulEnd message := by
  unfold message
  infer_instance

/-- `TransactionDescr` (7 kinds) over any lawful codec for the nested `^Transaction`. -/
@[instance]
theorem c16_TransactionDescrF_roundtrip (tx : Codec) [Lawful tx] : Lawful (transactionDescrF tx) := by
  unfold transactionDescrF transactionDescrFAlts
  infer_instance

/-- `Transaction` for EVERY nesting budget (`prepare_transaction:^Transaction` inside split/merge-install descriptions). -/
@[instance]
theorem c16_Transaction_roundtrip_any_budget : ∀ budget, Lawful (transactionF budget)
  | 0 => by unfold transactionF; infer_instance
  | budget+1 => by
    have ih := c16_Transaction_roundtrip_any_budget budget
    unfold transactionF
    infer_instance

/-- `Transaction` -/
@[instance]
theorem c16_Transaction_roundtrip : Lawful transaction := by unfold transaction; infer_instance

/-- `TransactionDescr` (trans_ord, trans_storage, trans_tick_tock, trans_split_prepare, trans_split_install,
    trans_merge_prepare, trans_merge_install) -/
@[instance]
theorem c16_TransactionDescr_roundtrip : Lawful transactionDescr := by unfold transactionDescr; infer_instance

/-- `BlkPrevInfo m` for both values of `after_merge` -/
@[instance]
theorem c16_BlkPrevInfo_roundtrip (m : Nat) : Lawful (blkPrevInfo m) := by
  unfold blkPrevInfo
  infer_instance

/-- `AccountBlock`: decoding what the spec encoder wrote for ANY value, followed by ANY continuation bits and refs, returns that
    value (every field, unsigned stays unsigned) and leaves exactly the continuation. -/
@[instance]
theorem c16_AccountBlock_roundtrip : Lawful accountBlock := by
  unfold accountBlock
  infer_instance

/-- `ShardAccountBlocks`: decoding what the spec encoder wrote for ANY value, followed by ANY continuation bits and refs, returns that
    value (every field, unsigned stays unsigned) and leaves exactly the continuation. -/
@[instance]
theorem c16_ShardAccountBlocks_roundtrip : Lawful shardAccountBlocks := by
  unfold shardAccountBlocks
  infer_instance

/-- `IntermediateAddress`: decoding what the spec encoder wrote for ANY value, followed by ANY continuation bits and refs, returns that
    value (every field, unsigned stays unsigned) and leaves exactly the continuation. -/
@[instance]
theorem c16_IntermediateAddress_roundtrip : Lawful intermediateAddress := by
  unfold intermediateAddress intermediateAddressAlts
  infer_instance

/-- `MsgMetadata`: decoding what the spec encoder wrote for ANY value, followed by ANY continuation bits and refs, returns that
    value (every field, unsigned stays unsigned) and leaves exactly the continuation. -/
@[instance]
theorem c16_MsgMetadata_roundtrip : Lawful msgMetadata := by
  unfold msgMetadata
  infer_instance

/-- `MsgEnvelope`: decoding what the spec encoder wrote for ANY value, followed by ANY continuation bits and refs, returns that
    value (every field, unsigned stays unsigned) and leaves exactly the continuation. -/
@[instance]
theorem c16_MsgEnvelope_roundtrip : Lawful msgEnvelope := by
  unfold msgEnvelope msgEnvelopeAlts
  infer_instance

/-- `InMsg`: decoding what the spec encoder wrote for ANY value, followed by ANY continuation bits and refs, returns that
    value (every field, unsigned stays unsigned) and leaves exactly the continuation. -/
@[instance]
theorem c16_InMsg_roundtrip : Lawful inMsg := by
  unfold inMsg inMsgAlts
  infer_instance

/-- `ImportFees`: decoding what the spec encoder wrote for ANY value, followed by ANY continuation bits and refs, returns that
    value (every field, unsigned stays unsigned) and leaves exactly the continuation. -/
@[instance]
theorem c16_ImportFees_roundtrip : Lawful importFees := by
  unfold importFees
  infer_instance

/-- `OutMsg`: decoding what the spec encoder wrote for ANY value, followed by ANY continuation bits and refs, returns that
    value (every field, unsigned stays unsigned) and leaves exactly the continuation. -/
@[instance]
theorem c16_OutMsg_roundtrip : Lawful outMsg := by
  unfold outMsg outMsgAlts
  infer_instance

/-- `InMsgDescr`: decoding what the spec encoder wrote for ANY value, followed by ANY continuation bits and refs, returns that
    value (every field, unsigned stays unsigned) and leaves exactly the continuation. -/
@[instance]
theorem c16_InMsgDescr_roundtrip : Lawful inMsgDescr := by
  unfold inMsgDescr
  infer_instance

/-- `OutMsgDescr`: decoding what the spec encoder wrote for ANY value, followed by ANY continuation bits and refs, returns that
    value (every field, unsigned stays unsigned) and leaves exactly the continuation. -/
@[instance]
theorem c16_OutMsgDescr_roundtrip : Lawful outMsgDescr := by
  unfold outMsgDescr
  infer_instance

/-- `ShardIdent`: decoding what the spec encoder wrote for ANY value, followed by ANY continuation bits and refs, returns that
    value (every field, unsigned stays unsigned) and leaves exactly the continuation. -/
@[instance]
theorem c16_ShardIdent_roundtrip : Lawful shardIdent := by
  unfold shardIdent
  infer_instance

/-- `GlobalVersion`: decoding what the spec encoder wrote for ANY value, followed by ANY continuation bits and refs, returns that
    value (every field, unsigned stays unsigned) and leaves exactly the continuation. -/
@[instance]
theorem c16_GlobalVersion_roundtrip : Lawful globalVersion := by
  unfold globalVersion
  infer_instance

/-- `BlkMasterInfo`: decoding what the spec encoder wrote for ANY value, followed by ANY continuation bits and refs, returns that
    value (every field, unsigned stays unsigned) and leaves exactly the continuation. -/
@[instance]
theorem c16_BlkMasterInfo_roundtrip : Lawful blkMasterInfo := by
  unfold blkMasterInfo
  infer_instance

/-- `BlockInfo`: decoding what the spec encoder wrote for ANY value, followed by ANY continuation bits and refs, returns that
    value (every field, unsigned stays unsigned) and leaves exactly the continuation. -/
@[instance]
theorem c16_BlockInfo_roundtrip : Lawful blockInfo := by
  unfold blockInfo
  infer_instance

/-- `ValueFlow ^[first group]`: decoding what the spec encoder wrote for ANY value, followed by ANY continuation bits and refs, returns that
    value (every field, unsigned stays unsigned) and leaves exactly the continuation. -/
@[instance]
theorem c16_ValueFlowIn_roundtrip : Lawful valueFlowIn := by
  unfold valueFlowIn
  infer_instance

/-- `ValueFlow ^[second group]`: decoding what the spec encoder wrote for ANY value, followed by ANY continuation bits and refs, returns that
    value (every field, unsigned stays unsigned) and leaves exactly the continuation. -/
@[instance]
theorem c16_ValueFlowOut_roundtrip : Lawful valueFlowOut := by
  unfold valueFlowOut
  infer_instance

/-- `ValueFlow`: decoding what the spec encoder wrote for ANY value, followed by ANY continuation bits and refs, returns that
    value (every field, unsigned stays unsigned) and leaves exactly the continuation. -/
@[instance]
theorem c16_ValueFlow_roundtrip : Lawful valueFlow := by
  unfold valueFlow valueFlowAlts
  infer_instance

/-- `FutureSplitMerge`: decoding what the spec encoder wrote for ANY value, followed by ANY continuation bits and refs, returns that
    value (every field, unsigned stays unsigned) and leaves exactly the continuation. -/
@[instance]
theorem c16_FutureSplitMerge_roundtrip : Lawful futureSplitMerge := by
  unfold futureSplitMerge futureSplitMergeAlts
  infer_instance

/-- `ShardDescr`: decoding what the spec encoder wrote for ANY value, followed by ANY continuation bits and refs, returns that
    value (every field, unsigned stays unsigned) and leaves exactly the continuation. -/
@[instance]
theorem c16_ShardDescr_roundtrip : Lawful shardDescr := by
  unfold shardDescr shardDescrAlts shardDescrHead
  simp only [List.cons_append, List.nil_append]
  infer_instance

/-- `ShardHashes`: decoding what the spec encoder wrote for ANY value, followed by ANY continuation bits and refs, returns that
    value (every field, unsigned stays unsigned) and leaves exactly the continuation. -/
@[instance]
theorem c16_ShardHashes_roundtrip : Lawful shardHashes := by
  unfold shardHashes
  infer_instance

/-- `SigPubKey`: decoding what the spec encoder wrote for ANY value, followed by ANY continuation bits and refs, returns that
    value (every field, unsigned stays unsigned) and leaves exactly the continuation. -/
@[instance]
theorem c16_SigPubKey_roundtrip : Lawful sigPubKey := by
  unfold sigPubKey
  infer_instance

/-- `ValidatorDescr`: decoding what the spec encoder wrote for ANY value, followed by ANY continuation bits and refs, returns that
    value (every field, unsigned stays unsigned) and leaves exactly the continuation. -/
@[instance]
theorem c16_ValidatorDescr_roundtrip : Lawful validatorDescr := by
  unfold validatorDescr validatorDescrAlts
  infer_instance

/-- `ValidatorSet`: decoding what the spec encoder wrote for ANY value, followed by ANY continuation bits and refs, returns that
    value (every field, unsigned stays unsigned) and leaves exactly the continuation. -/
@[instance]
theorem c16_ValidatorSet_roundtrip : Lawful validatorSet := by
  unfold validatorSet validatorSetAlts
  infer_instance

/-- `CatchainConfig`: decoding what the spec encoder wrote for ANY value, followed by ANY continuation bits and refs, returns that
    value (every field, unsigned stays unsigned) and leaves exactly the continuation. -/
@[instance]
theorem c16_CatchainConfig_roundtrip : Lawful catchainConfig := by
  unfold catchainConfig catchainConfigAlts
  infer_instance

/-- `ConsensusConfig`: decoding what the spec encoder wrote for ANY value, followed by ANY continuation bits and refs, returns that
    value (every field, unsigned stays unsigned) and leaves exactly the continuation. -/
@[instance]
theorem c16_ConsensusConfig_roundtrip : Lawful consensusConfig := by
  unfold consensusConfig consensusConfigAlts consensusNewHead consensusTail
  simp only [List.cons_append, List.nil_append]
  infer_instance

/-- `ValidatorInfo`: decoding what the spec encoder wrote for ANY value, followed by ANY continuation bits and refs, returns that
    value (every field, unsigned stays unsigned) and leaves exactly the continuation. -/
@[instance]
theorem c16_ValidatorInfo_roundtrip : Lawful validatorInfo := by
  unfold validatorInfo
  infer_instance

/-- `KeyExtBlkRef`: decoding what the spec encoder wrote for ANY value, followed by ANY continuation bits and refs, returns that
    value (every field, unsigned stays unsigned) and leaves exactly the continuation. -/
@[instance]
theorem c16_KeyExtBlkRef_roundtrip : Lawful keyExtBlkRef := by
  unfold keyExtBlkRef
  infer_instance

/-- `KeyMaxLt`: decoding what the spec encoder wrote for ANY value, followed by ANY continuation bits and refs, returns that
    value (every field, unsigned stays unsigned) and leaves exactly the continuation. -/
@[instance]
theorem c16_KeyMaxLt_roundtrip : Lawful keyMaxLt := by
  unfold keyMaxLt
  infer_instance

/-- `OldMcBlocksInfo`: decoding what the spec encoder wrote for ANY value, followed by ANY continuation bits and refs, returns that
    value (every field, unsigned stays unsigned) and leaves exactly the continuation. -/
@[instance]
theorem c16_OldMcBlocksInfo_roundtrip : Lawful oldMcBlocksInfo := by
  unfold oldMcBlocksInfo
  infer_instance

/-- `Counters`: decoding what the spec encoder wrote for ANY value, followed by ANY continuation bits and refs, returns that
    value (every field, unsigned stays unsigned) and leaves exactly the continuation. -/
@[instance]
theorem c16_Counters_roundtrip : Lawful counters := by
  unfold counters
  infer_instance

/-- `CreatorStats`: decoding what the spec encoder wrote for ANY value, followed by ANY continuation bits and refs, returns that
    value (every field, unsigned stays unsigned) and leaves exactly the continuation. -/
@[instance]
theorem c16_CreatorStats_roundtrip : Lawful creatorStats := by
  unfold creatorStats
  infer_instance

/-- `BlockCreateStats`: decoding what the spec encoder wrote for ANY value, followed by ANY continuation bits and refs, returns that
    value (every field, unsigned stays unsigned) and leaves exactly the continuation. -/
@[instance]
theorem c16_BlockCreateStats_roundtrip : Lawful blockCreateStats := by
  unfold blockCreateStats blockCreateStatsAlts
  infer_instance

/-- `ConfigParams`: decoding what the spec encoder wrote for ANY value, followed by ANY continuation bits and refs, returns that
    value (every field, unsigned stays unsigned) and leaves exactly the continuation. -/
@[instance]
theorem c16_ConfigParams_roundtrip : Lawful configParams := by
  unfold configParams
  infer_instance

/-- `McStateExtra`: decoding what the spec encoder wrote for ANY value, followed by ANY continuation bits and refs, returns that
    value (every field, unsigned stays unsigned) and leaves exactly the continuation. -/
@[instance]
theorem c16_McStateExtra_roundtrip : Lawful mcStateExtra := by
  unfold mcStateExtra
  infer_instance

/-- `ShardFeeCreated` -/
@[instance]
theorem c16_ShardFeeCreated_roundtrip : Lawful shardFeeCreated := by unfold shardFeeCreated; infer_instance

/-- `ShardFees` -/
@[instance]
theorem c16_ShardFees_roundtrip : Lawful shardFees := by unfold shardFees; infer_instance

/-- `CryptoSignaturePair` (simple ed25519 signatures) -/
@[instance]
theorem c16_CryptoSignaturePair_roundtrip : Lawful cryptoSignaturePair := by unfold cryptoSignaturePair; infer_instance

/-- `McBlockExtra`: decoding what the spec encoder wrote for ANY value, followed by ANY continuation bits and refs, returns that
    value (every field, unsigned stays unsigned) and leaves exactly the continuation. -/
@[instance]
theorem c16_McBlockExtra_roundtrip : Lawful mcBlockExtra := by
  unfold mcBlockExtra
  infer_instance

/-- `BlockExtra`: decoding what the spec encoder wrote for ANY value, followed by ANY continuation bits and refs, returns that
    value (every field, unsigned stays unsigned) and leaves exactly the continuation. -/
@[instance]
theorem c16_BlockExtra_roundtrip : Lawful blockExtra := by
  unfold blockExtra
  infer_instance

/-- `Block`: decoding what the spec encoder wrote for ANY value, followed by ANY continuation bits and refs, returns that
    value (every field, unsigned stays unsigned) and leaves exactly the continuation. -/
@[instance]
theorem c16_Block_roundtrip : Lawful block := by
  unfold block
  infer_instance

/-- `LibDescr` -/
@[instance]
theorem c16_LibDescr_roundtrip : Lawful libDescr := by unfold libDescr; infer_instance

/-- `ShardStateUnsplit` fields -/
@[instance]
theorem c16_ShardStateUnsplitBody_roundtrip : Lawful shardStateUnsplitBody := by unfold shardStateUnsplitBody; infer_instance

/-- `ShardStateUnsplit` -/
@[instance]
theorem c16_ShardStateUnsplit_roundtrip : Lawful shardStateUnsplit := by unfold shardStateUnsplit; infer_instance

/-- `ShardState` (unsplit | split_state) -/
@[instance]
theorem c16_ShardState_roundtrip : Lawful shardState := by unfold shardState shardStateAlts; infer_instance


/-! ### the read trace is an exact read script of the encoding (trace tie, see design/C16.md)

`Traced T` : for every value `v` that the spec encoder writes as `f`, the read trace `T.trace v` — the sequence of typed
reads (kind, width), reference entries/exits and raw references that the harness compares with the reads the library's
parser performs — replayed on `f` followed by any continuation consumes exactly `f`: the widths of the reads of each
cell add up to that cell's bits, every `enter` finds an ordinary cell, every entered cell is exhausted at its `leave`. -/

/-- The trace is not an unverified side channel: replaying `c.trace v` as a read script on the encoding of `v` (followed by
    any trailer `k`, inside any stack `st` of enclosing cells) succeeds and leaves exactly the trailer. -/
theorem c16_trace_accounts_for_encoding (c : Codec) [h : Traced c] (v : Val) (f : Frag) (he : c.enc v = some f)
    (k : Frag) (st : List Frag) : replay (c.trace v) ((f ++ k) :: st) = some (k :: st) :=
  h.law v f he k st

/-- non-vacuity: the trace of a concrete TrStoragePhase value (Grams = VarUInteger 16 with a 4-bit length prefix, a Maybe bit,
    a 2-bit tag), literally -/
example : trStoragePhase.trace (.record [("storage_fees_collected", .int 1000), ("storage_fees_due", .unit),
    ("status_change", .con "acst_frozen" .unit)]) =
    [.push "storage_fees_collected", .rd "v4" 20, .pop, .push "storage_fees_due", .rd "c" 1, .pop,
     .push "status_change", .rd "c" 2, .push "$acst_frozen", .pop, .pop] := by decide

/-- … replayed on its 23-bit encoding followed by a 2-bit trailer it leaves exactly the trailer -/
example : (replay [.push "storage_fees_collected", .rd "v4" 20, .pop, .push "storage_fees_due", .rd "c" 1, .pop,
     .push "status_change", .rd "c" 2, .push "$acst_frozen", .pop, .pop]
    [⟨[false,false,true,false, false,false,false,false,false,false,true,true, true,true,true,false,true,false,false,false,
       false, true,false, true, true], []⟩]).map (·.map (·.bits)) = some [[true, true]] := by decide

/-- … and the replay is discriminating: a script that reads one bit less does NOT leave the trailer -/
example : (replay [.rd "v4" 19, .rd "c" 1, .rd "c" 2]
    [⟨[false,false,true,false, false,false,false,false,false,false,true,true, true,true,true,false,true,false,false,false,
       false, true,false, true, true], []⟩]).map (·.map (·.bits)) ≠ some [[true, true]] := by decide

/-- a reference: the trace of a ShardAccount with `account_none` enters the referenced cell, reads its 1-bit tag and leaves it
    exhausted; replay fails if the cell had a second bit -/
example : shardAccount.trace (.record [("account", .con "account_none" .unit), ("last_trans_hash", .bits (List.replicate 256 true)),
    ("last_trans_lt", .int 5)]) =
    [.push "account", .enter, .rd "c" 1, .push "$account_none", .pop, .leave, .pop,
     .push "last_trans_hash", .rd "b" 256, .pop, .push "last_trans_lt", .rd "u" 64, .pop] := by decide
example : (replay [.enter, .rd "c" 1, .leave] [⟨[], [Cell.mk false [false, true] []]⟩]).isNone = true := by decide

/-- read trace of `bits256` = exact read script of its encoding -/
@[instance]
theorem c16_bits256_traced : Traced bits256 := by unfold bits256; infer_instance

/-- read trace of `msgAddressExt` = exact read script of its encoding -/
@[instance]
theorem c16_MsgAddressExt_traced : Traced msgAddressExt := by
  unfold msgAddressExt msgAddressExtAlts addrNoneAlt addrExternAlt
  infer_instance

/-- read trace of `msgAddressInt` = exact read script of its encoding -/
@[instance]
theorem c16_MsgAddressInt_traced : Traced msgAddressInt := by
  unfold msgAddressInt msgAddressIntAlts addrStdAlt addrVarAlt anycast
  infer_instance

/-- read trace of `extraCurrencyCollection` = exact read script of its encoding -/
@[instance]
theorem c16_ExtraCurrencyCollection_traced : Traced extraCurrencyCollection := by
  unfold extraCurrencyCollection
  infer_instance

/-- read trace of `currencyCollection` = exact read script of its encoding -/
@[instance]
theorem c16_CurrencyCollection_traced : Traced currencyCollection := by
  unfold currencyCollection
  infer_instance

/-- read trace of `commonMsgInfo` = exact read script of its encoding -/
@[instance]
theorem c16_CommonMsgInfo_traced : Traced commonMsgInfo := by
  unfold commonMsgInfo commonMsgInfoAlts
  infer_instance

/-- read trace of `tickTock` = exact read script of its encoding -/
@[instance]
theorem c16_TickTock_traced : Traced tickTock := by
  unfold tickTock
  infer_instance

/-- read trace of `stateInit` = exact read script of its encoding -/
@[instance]
theorem c16_StateInit_traced : Traced stateInit := by
  unfold stateInit
  infer_instance

/-- read trace of `accountStatus` = exact read script of its encoding -/
@[instance]
theorem c16_AccountStatus_traced : Traced accountStatus := by
  unfold accountStatus accountStatusAlts
  infer_instance

/-- read trace of `hashUpdate` = exact read script of its encoding -/
@[instance]
theorem c16_HashUpdate_traced : Traced hashUpdate := by
  unfold hashUpdate
  infer_instance

/-- read trace of `storageUsed` = exact read script of its encoding -/
@[instance]
theorem c16_StorageUsed_traced : Traced storageUsed := by
  unfold storageUsed
  infer_instance

/-- read trace of `storageUsedShort` = exact read script of its encoding -/
@[instance]
theorem c16_StorageUsedShort_traced : Traced storageUsedShort := by
  unfold storageUsedShort
  infer_instance

/-- read trace of `storageInfo` = exact read script of its encoding -/
@[instance]
theorem c16_StorageInfo_traced : Traced storageInfo := by
  unfold storageInfo
  infer_instance

/-- read trace of `accountState` = exact read script of its encoding -/
@[instance]
theorem c16_AccountState_traced : Traced accountState := by
  unfold accountState accountStateAlts
  infer_instance

/-- read trace of `accountStorage` = exact read script of its encoding -/
@[instance]
theorem c16_AccountStorage_traced : Traced accountStorage := by
  unfold accountStorage
  infer_instance

/-- read trace of `account` = exact read script of its encoding -/
@[instance]
theorem c16_Account_traced : Traced account := by
  unfold account accountAlts
  infer_instance

/-- read trace of `shardAccount` = exact read script of its encoding -/
@[instance]
theorem c16_ShardAccount_traced : Traced shardAccount := by
  unfold shardAccount
  infer_instance

/-- read trace of `depthBalanceInfo` = exact read script of its encoding -/
@[instance]
theorem c16_DepthBalanceInfo_traced : Traced depthBalanceInfo := by
  unfold depthBalanceInfo
  infer_instance

/-- read trace of `shardAccounts` = exact read script of its encoding -/
@[instance]
theorem c16_ShardAccounts_traced : Traced shardAccounts := by
  unfold shardAccounts
  infer_instance

/-- read trace of `accStatusChange` = exact read script of its encoding -/
@[instance]
theorem c16_AccStatusChange_traced : Traced accStatusChange := by
  unfold accStatusChange accStatusChangeAlts
  infer_instance

/-- read trace of `computeSkipReason` = exact read script of its encoding -/
@[instance]
theorem c16_ComputeSkipReason_traced : Traced computeSkipReason := by
  unfold computeSkipReason computeSkipReasonAlts
  infer_instance

/-- read trace of `trStoragePhase` = exact read script of its encoding -/
@[instance]
theorem c16_TrStoragePhase_traced : Traced trStoragePhase := by
  unfold trStoragePhase
  infer_instance

/-- read trace of `trCreditPhase` = exact read script of its encoding -/
@[instance]
theorem c16_TrCreditPhase_traced : Traced trCreditPhase := by
  unfold trCreditPhase
  infer_instance

/-- read trace of `trComputePhase` = exact read script of its encoding -/
@[instance]
theorem c16_TrComputePhase_traced : Traced trComputePhase := by
  unfold trComputePhase trComputePhaseAlts
  infer_instance

/-- read trace of `trActionPhase` = exact read script of its encoding -/
@[instance]
theorem c16_TrActionPhase_traced : Traced trActionPhase := by
  unfold trActionPhase
  infer_instance

/-- read trace of `trBouncePhase` = exact read script of its encoding -/
@[instance]
theorem c16_TrBouncePhase_traced : Traced trBouncePhase := by
  unfold trBouncePhase trBouncePhaseAlts
  infer_instance

/-- read trace of `splitMergeInfo` = exact read script of its encoding -/
@[instance]
theorem c16_SplitMergeInfo_traced : Traced splitMergeInfo := by
  unfold splitMergeInfo
  infer_instance

/-- read trace of `extBlkRef` = exact read script of its encoding -/
@[instance]
theorem c16_ExtBlkRef_traced : Traced extBlkRef := by
  unfold extBlkRef
  infer_instance

/-- read trace of `message` = exact read script of its encoding -/
@[instance]
theorem c16_Message_traced : Traced message := by
  unfold message
  infer_instance

/-- read trace of `(transactionDescrF tx)` = exact read script of its encoding -/
@[instance]
theorem c16_TransactionDescrF_traced (tx : Codec) [Traced tx] : Traced (transactionDescrF tx) := by
  unfold transactionDescrF transactionDescrFAlts
  infer_instance

/-- read trace of `Transaction`, every nesting budget -/
@[instance]
theorem c16_Transaction_traced_any_budget : ∀ budget, Traced (transactionF budget)
  | 0 => by unfold transactionF; infer_instance
  | budget+1 => by
    have ih := c16_Transaction_traced_any_budget budget
    unfold transactionF
    infer_instance

/-- read trace of `transaction` = exact read script of its encoding -/
@[instance]
theorem c16_Transaction_traced : Traced transaction := by unfold transaction; infer_instance

/-- read trace of `transactionDescr` = exact read script of its encoding -/
@[instance]
theorem c16_TransactionDescr_traced : Traced transactionDescr := by unfold transactionDescr; infer_instance

/-- read trace of `(blkPrevInfo m)` = exact read script of its encoding -/
@[instance]
theorem c16_BlkPrevInfo_traced (m : Nat) : Traced (blkPrevInfo m) := by
  unfold blkPrevInfo
  infer_instance

/-- read trace of `accountBlock` = exact read script of its encoding -/
@[instance]
theorem c16_AccountBlock_traced : Traced accountBlock := by
  unfold accountBlock
  infer_instance

/-- read trace of `shardAccountBlocks` = exact read script of its encoding -/
@[instance]
theorem c16_ShardAccountBlocks_traced : Traced shardAccountBlocks := by
  unfold shardAccountBlocks
  infer_instance

/-- read trace of `intermediateAddress` = exact read script of its encoding -/
@[instance]
theorem c16_IntermediateAddress_traced : Traced intermediateAddress := by
  unfold intermediateAddress intermediateAddressAlts
  infer_instance

/-- read trace of `msgMetadata` = exact read script of its encoding -/
@[instance]
theorem c16_MsgMetadata_traced : Traced msgMetadata := by
  unfold msgMetadata
  infer_instance

/-- read trace of `msgEnvelope` = exact read script of its encoding -/
@[instance]
theorem c16_MsgEnvelope_traced : Traced msgEnvelope := by
  unfold msgEnvelope msgEnvelopeAlts
  infer_instance

/-- read trace of `inMsg` = exact read script of its encoding -/
@[instance]
theorem c16_InMsg_traced : Traced inMsg := by
  unfold inMsg inMsgAlts
  infer_instance

/-- read trace of `importFees` = exact read script of its encoding -/
@[instance]
theorem c16_ImportFees_traced : Traced importFees := by
  unfold importFees
  infer_instance

/-- read trace of `outMsg` = exact read script of its encoding -/
@[instance]
theorem c16_OutMsg_traced : Traced outMsg := by
  unfold outMsg outMsgAlts
  infer_instance

/-- read trace of `inMsgDescr` = exact read script of its encoding -/
@[instance]
theorem c16_InMsgDescr_traced : Traced inMsgDescr := by
  unfold inMsgDescr
  infer_instance

/-- read trace of `outMsgDescr` = exact read script of its encoding -/
@[instance]
theorem c16_OutMsgDescr_traced : Traced outMsgDescr := by
  unfold outMsgDescr
  infer_instance

/-- read trace of `shardIdent` = exact read script of its encoding -/
@[instance]
theorem c16_ShardIdent_traced : Traced shardIdent := by
  unfold shardIdent
  infer_instance

/-- read trace of `globalVersion` = exact read script of its encoding -/
@[instance]
theorem c16_GlobalVersion_traced : Traced globalVersion := by
  unfold globalVersion
  infer_instance

/-- read trace of `blkMasterInfo` = exact read script of its encoding -/
@[instance]
theorem c16_BlkMasterInfo_traced : Traced blkMasterInfo := by
  unfold blkMasterInfo
  infer_instance

/-- read trace of `blockInfo` = exact read script of its encoding -/
@[instance]
theorem c16_BlockInfo_traced : Traced blockInfo := by
  unfold blockInfo
  infer_instance

/-- read trace of `valueFlowIn` = exact read script of its encoding -/
@[instance]
theorem c16_ValueFlowIn_traced : Traced valueFlowIn := by
  unfold valueFlowIn
  infer_instance

/-- read trace of `valueFlowOut` = exact read script of its encoding -/
@[instance]
theorem c16_ValueFlowOut_traced : Traced valueFlowOut := by
  unfold valueFlowOut
  infer_instance

/-- read trace of `valueFlow` = exact read script of its encoding -/
@[instance]
theorem c16_ValueFlow_traced : Traced valueFlow := by
  unfold valueFlow valueFlowAlts
  infer_instance

/-- read trace of `futureSplitMerge` = exact read script of its encoding -/
@[instance]
theorem c16_FutureSplitMerge_traced : Traced futureSplitMerge := by
  unfold futureSplitMerge futureSplitMergeAlts
  infer_instance

/-- read trace of `shardDescr` = exact read script of its encoding -/
@[instance]
theorem c16_ShardDescr_traced : Traced shardDescr := by
  unfold shardDescr shardDescrAlts shardDescrHead
  simp only [List.cons_append, List.nil_append]
  infer_instance

/-- read trace of `shardHashes` = exact read script of its encoding -/
@[instance]
theorem c16_ShardHashes_traced : Traced shardHashes := by
  unfold shardHashes
  infer_instance

/-- read trace of `sigPubKey` = exact read script of its encoding -/
@[instance]
theorem c16_SigPubKey_traced : Traced sigPubKey := by
  unfold sigPubKey
  infer_instance

/-- read trace of `validatorDescr` = exact read script of its encoding -/
@[instance]
theorem c16_ValidatorDescr_traced : Traced validatorDescr := by
  unfold validatorDescr validatorDescrAlts
  infer_instance

/-- read trace of `validatorSet` = exact read script of its encoding -/
@[instance]
theorem c16_ValidatorSet_traced : Traced validatorSet := by
  unfold validatorSet validatorSetAlts
  infer_instance

/-- read trace of `catchainConfig` = exact read script of its encoding -/
@[instance]
theorem c16_CatchainConfig_traced : Traced catchainConfig := by
  unfold catchainConfig catchainConfigAlts
  infer_instance

/-- read trace of `consensusConfig` = exact read script of its encoding -/
@[instance]
theorem c16_ConsensusConfig_traced : Traced consensusConfig := by
  unfold consensusConfig consensusConfigAlts consensusNewHead consensusTail
  simp only [List.cons_append, List.nil_append]
  infer_instance

/-- read trace of `validatorInfo` = exact read script of its encoding -/
@[instance]
theorem c16_ValidatorInfo_traced : Traced validatorInfo := by
  unfold validatorInfo
  infer_instance

/-- read trace of `keyExtBlkRef` = exact read script of its encoding -/
@[instance]
theorem c16_KeyExtBlkRef_traced : Traced keyExtBlkRef := by
  unfold keyExtBlkRef
  infer_instance

/-- read trace of `keyMaxLt` = exact read script of its encoding -/
@[instance]
theorem c16_KeyMaxLt_traced : Traced keyMaxLt := by
  unfold keyMaxLt
  infer_instance

/-- read trace of `oldMcBlocksInfo` = exact read script of its encoding -/
@[instance]
theorem c16_OldMcBlocksInfo_traced : Traced oldMcBlocksInfo := by
  unfold oldMcBlocksInfo
  infer_instance

/-- read trace of `counters` = exact read script of its encoding -/
@[instance]
theorem c16_Counters_traced : Traced counters := by
  unfold counters
  infer_instance

/-- read trace of `creatorStats` = exact read script of its encoding -/
@[instance]
theorem c16_CreatorStats_traced : Traced creatorStats := by
  unfold creatorStats
  infer_instance

/-- read trace of `blockCreateStats` = exact read script of its encoding -/
@[instance]
theorem c16_BlockCreateStats_traced : Traced blockCreateStats := by
  unfold blockCreateStats blockCreateStatsAlts
  infer_instance

/-- read trace of `configParams` = exact read script of its encoding -/
@[instance]
theorem c16_ConfigParams_traced : Traced configParams := by
  unfold configParams
  infer_instance

/-- read trace of `mcStateExtra` = exact read script of its encoding -/
@[instance]
theorem c16_McStateExtra_traced : Traced mcStateExtra := by
  unfold mcStateExtra
  infer_instance

/-- read trace of `shardFeeCreated` = exact read script of its encoding -/
@[instance]
theorem c16_ShardFeeCreated_traced : Traced shardFeeCreated := by unfold shardFeeCreated; infer_instance

/-- read trace of `shardFees` = exact read script of its encoding -/
@[instance]
theorem c16_ShardFees_traced : Traced shardFees := by unfold shardFees; infer_instance

/-- read trace of `cryptoSignaturePair` = exact read script of its encoding -/
@[instance]
theorem c16_CryptoSignaturePair_traced : Traced cryptoSignaturePair := by unfold cryptoSignaturePair; infer_instance

/-- read trace of `mcBlockExtra` = exact read script of its encoding -/
@[instance]
theorem c16_McBlockExtra_traced : Traced mcBlockExtra := by
  unfold mcBlockExtra
  infer_instance

/-- read trace of `blockExtra` = exact read script of its encoding -/
@[instance]
theorem c16_BlockExtra_traced : Traced blockExtra := by
  unfold blockExtra
  infer_instance

/-- read trace of `block` = exact read script of its encoding -/
@[instance]
theorem c16_Block_traced : Traced block := by
  unfold block
  infer_instance

/-- read trace of `libDescr` = exact read script of its encoding -/
@[instance]
theorem c16_LibDescr_traced : Traced libDescr := by unfold libDescr; infer_instance

/-- read trace of `shardStateUnsplitBody` = exact read script of its encoding -/
@[instance]
theorem c16_ShardStateUnsplitBody_traced : Traced shardStateUnsplitBody := by unfold shardStateUnsplitBody; infer_instance

/-- read trace of `shardStateUnsplit` = exact read script of its encoding -/
@[instance]
theorem c16_ShardStateUnsplit_traced : Traced shardStateUnsplit := by unfold shardStateUnsplit; infer_instance

/-- read trace of `shardState` = exact read script of its encoding -/
@[instance]
theorem c16_ShardState_traced : Traced shardState := by unfold shardState shardStateAlts; infer_instance

/-- The spec encoding is unambiguous: two values with the same encoding (bits and refs) are the same value — so
    "the field values an independent decoder reads" from an encoding are uniquely determined. -/
theorem c16_enc_injective (c : Codec) [h : Lawful c] (v₁ v₂ : Val) (f : Frag)
    (h₁ : c.enc v₁ = some f) (h₂ : c.enc v₂ = some f) : v₁ = v₂ := by
  have a := h.law v₁ f h₁ Frag.nil
  have b := h.law v₂ f h₂ Frag.nil
  rw [a] at b
  injection b with b
  injection b

/-- non-vacuity of `c16_enc_injective`'s hypotheses: two different ShardIdent values have different encodings -/
example : shardIdent.enc (.record [("shard_pfx_bits", .int 3), ("workchain_id", .int (-1)), ("shard_prefix", .int 5)]) ≠
    shardIdent.enc (.record [("shard_pfx_bits", .int 3), ("workchain_id", .int 0), ("shard_prefix", .int 5)]) := by
  intro h
  have h' := congrArg (fun o => o.map (·.bits)) h
  revert h'
  decide

/-! ### non-vacuity: concrete values meet the hypothesis `enc v = some _` (and decode back, trailer left over) -/

/-- ShardIdent: a concrete value is encodable -/
example : (shardIdent.enc (.record [("shard_pfx_bits", .int 3), ("workchain_id", .int (-1)), ("shard_prefix", .int 5)])).isSome = true := by
  decide

/-- TrStoragePhase (Grams, Maybe, tagged AccStatusChange): the exact bits, … -/
example : (trStoragePhase.enc (.record [("storage_fees_collected", .int 1000), ("storage_fees_due", .unit),
    ("status_change", .con "acst_frozen" .unit)])).map (·.bits) =
    some [false,false,true,false, false,false,false,false,false,false,true,true, true,true,true,false,true,false,false,false,
          false, true,false] := by decide

/-- … and decoding them with a 2-bit trailer leaves exactly the trailer -/
example : (trStoragePhase.dec ⟨[false,false,true,false, false,false,false,false,false,false,true,true,
    true,true,true,false,true,false,false,false, false, true,false, true, true], []⟩).map (·.2.bits) = some [true, true] := by decide

/-- ShardAccount (a `^Account` reference): encodable, one reference -/
example : (shardAccount.enc (.record [("account", .con "account_none" .unit), ("last_trans_hash", .bits (List.replicate 256 true)),
    ("last_trans_lt", .int (2 ^ 63 + 5))])).map (·.refs.length) = some 1 := by decide +kernel

/-- ValidatorSet `validators#11` with a one-entry inline Hashmap 16 -/
example : (validatorSet.enc (.con "validators" (.record [("utime_since", .int 1), ("utime_until", .int 2), ("total", .int 1), ("main", .int 1),
    ("list", .record [("label", .con "hml_long" (.record [("n", .int 16), ("s", .bits (List.replicate 16 false))])),
      ("node", .con "validator" (.record [("public_key", .record [("pubkey", .bits (List.replicate 256 false))]), ("weight", .int 7)]))])]))).isSome
    = true := by decide +kernel

/-- BlkPrevInfo 1 (two references) and FutureSplitMerge -/
example : (futureSplitMerge.enc (.con "fsm_merge" (.record [("merge_utime", .int 5), ("interval", .int 6)]))).map (·.bits.length) = some 66 := by
  decide

/-- No constructor tag of any covered type is a prefix of another tag of the same type, so `tagged` is a genuine
    codec for each of them (never the empty type). -/
theorem c16_tags_prefix_free : allTagLists.all (fun p => prefixFree p.2) = true := by decide

/-! ## Source tie: the REGENERATED Python parsers (`c16_src_*`)

`Src.<Class>` (Generated/TlbParsers.lean) is regenerated on every run from the `deserialize` classmethod of the class in
`pytoniq_core/tlb/*.py` (harness/translate/tlbparsers.py), written with the hand model of the `Slice` methods
(Model/TlbRd.lean); `view_<Class>` (Spec/Tlb/PyView.lean) is the declared interface: which schema field arrives in which
constructor argument of the returned object.  Each theorem below is, for ALL values `v` of the block.tlb type:

    T.enc v = some f  →  ∀ k,  Src.<Class> false (f ++ k) = some (view_<Class> v, k)

the parser as it is in the working tree, run on the spec encoding of `v` followed by ANY trailer `k` (bits and refs) in an
ordinary cell, returns every field with its encoded value (modulo the declared view) and leaves exactly the trailer.
It follows from `refines_<Class>` (Proofs/SrcTlbParsers.lean: the reader agrees with the spec decoder wherever the spec
decoder accepts) and the round-trip law above.  Nothing is claimed for slices that are not valid encodings (the parsers
are laxer than the spec decoder there). -/

/-- `HashUpdate.deserialize`, regenerated from the source: on the spec encoding of ANY `HashUpdate` value followed by ANY trailer it
    returns every field with its encoded value (view `view_HashUpdate`) and consumes exactly the encoded bits and refs. -/
theorem c16_src_HashUpdate (v : Val) (f : Frag) (he : hashUpdate.enc v = some f) (k : Frag) :
    Src.HashUpdate false (f ++ k) = some (view_HashUpdate v, k) :=
  refines_HashUpdate.on_encoding v f he k

/-- `TickTock.deserialize`, regenerated from the source: on the spec encoding of ANY `TickTock` value followed by ANY trailer it
    returns every field with its encoded value (view `view_TickTock`) and consumes exactly the encoded bits and refs. -/
theorem c16_src_TickTock (v : Val) (f : Frag) (he : tickTock.enc v = some f) (k : Frag) :
    Src.TickTock false (f ++ k) = some (view_TickTock v, k) :=
  refines_TickTock.on_encoding v f he k

/-- `StorageUsed.deserialize`, regenerated from the source: on the spec encoding of ANY `StorageUsed` value followed by ANY trailer it
    returns every field with its encoded value (view `view_StorageUsed`) and consumes exactly the encoded bits and refs. -/
theorem c16_src_StorageUsed (v : Val) (f : Frag) (he : storageUsed.enc v = some f) (k : Frag) :
    Src.StorageUsed false (f ++ k) = some (view_StorageUsed v, k) :=
  refines_StorageUsed.on_encoding v f he k

/-- `StorageUsedShort.deserialize`, regenerated from the source: on the spec encoding of ANY `StorageUsedShort` value followed by ANY trailer it
    returns every field with its encoded value (view `view_StorageUsedShort`) and consumes exactly the encoded bits and refs. -/
theorem c16_src_StorageUsedShort (v : Val) (f : Frag) (he : storageUsedShort.enc v = some f) (k : Frag) :
    Src.StorageUsedShort false (f ++ k) = some (view_StorageUsedShort v, k) :=
  refines_StorageUsedShort.on_encoding v f he k

/-- `StorageInfo.deserialize`, regenerated from the source: on the spec encoding of ANY `StorageInfo` value followed by ANY trailer it
    returns every field with its encoded value (view `view_StorageInfo`) and consumes exactly the encoded bits and refs. -/
theorem c16_src_StorageInfo (v : Val) (f : Frag) (he : storageInfo.enc v = some f) (k : Frag) :
    Src.StorageInfo false (f ++ k) = some (view_StorageInfo v, k) :=
  refines_StorageInfo.on_encoding v f he k

/-- `AccountStatus.deserialize`, regenerated from the source: on the spec encoding of ANY `AccountStatus` value followed by ANY trailer it
    returns every field with its encoded value (view `view_AccountStatus`) and consumes exactly the encoded bits and refs. -/
theorem c16_src_AccountStatus (v : Val) (f : Frag) (he : accountStatus.enc v = some f) (k : Frag) :
    Src.AccountStatus false (f ++ k) = some (view_AccountStatus v, k) :=
  refines_AccountStatus.on_encoding v f he k

/-- `StateInit.deserialize`, regenerated from the source: on the spec encoding of ANY `StateInit` value followed by ANY trailer it
    returns every field with its encoded value (view `view_StateInit`) and consumes exactly the encoded bits and refs. -/
theorem c16_src_StateInit (v : Val) (f : Frag) (he : stateInit.enc v = some f) (k : Frag) :
    Src.StateInit false (f ++ k) = some (view_StateInit v, k) :=
  refines_StateInit.on_encoding v f he k

/-- `AccountState.deserialize`, regenerated from the source: on the spec encoding of ANY `AccountState` value followed by ANY trailer it
    returns every field with its encoded value (view `view_AccountState`) and consumes exactly the encoded bits and refs. -/
theorem c16_src_AccountState (v : Val) (f : Frag) (he : accountState.enc v = some f) (k : Frag) :
    Src.AccountState false (f ++ k) = some (view_AccountState v, k) :=
  refines_AccountState.on_encoding v f he k

/-- `ExtBlkRef.deserialize`, regenerated from the source: on the spec encoding of ANY `ExtBlkRef` value followed by ANY trailer it
    returns every field with its encoded value (view `view_ExtBlkRef`) and consumes exactly the encoded bits and refs. -/
theorem c16_src_ExtBlkRef (v : Val) (f : Frag) (he : extBlkRef.enc v = some f) (k : Frag) :
    Src.ExtBlkRef false (f ++ k) = some (view_ExtBlkRef v, k) :=
  refines_ExtBlkRef.on_encoding v f he k

/-- `BlkMasterInfo.deserialize`, regenerated from the source: on the spec encoding of ANY `BlkMasterInfo` value followed by ANY trailer it
    returns every field with its encoded value (view `view_BlkMasterInfo`) and consumes exactly the encoded bits and refs. -/
theorem c16_src_BlkMasterInfo (v : Val) (f : Frag) (he : blkMasterInfo.enc v = some f) (k : Frag) :
    Src.BlkMasterInfo false (f ++ k) = some (view_BlkMasterInfo v, k) :=
  refines_BlkMasterInfo.on_encoding v f he k

/-- `KeyExtBlkRef.deserialize`, regenerated from the source: on the spec encoding of ANY `KeyExtBlkRef` value followed by ANY trailer it
    returns every field with its encoded value (view `view_KeyExtBlkRef`) and consumes exactly the encoded bits and refs. -/
theorem c16_src_KeyExtBlkRef (v : Val) (f : Frag) (he : keyExtBlkRef.enc v = some f) (k : Frag) :
    Src.KeyExtBlkRef false (f ++ k) = some (view_KeyExtBlkRef v, k) :=
  refines_KeyExtBlkRef.on_encoding v f he k

/-- `KeyMaxLt.deserialize`, regenerated from the source: on the spec encoding of ANY `KeyMaxLt` value followed by ANY trailer it
    returns every field with its encoded value (view `view_KeyMaxLt`) and consumes exactly the encoded bits and refs. -/
theorem c16_src_KeyMaxLt (v : Val) (f : Frag) (he : keyMaxLt.enc v = some f) (k : Frag) :
    Src.KeyMaxLt false (f ++ k) = some (view_KeyMaxLt v, k) :=
  refines_KeyMaxLt.on_encoding v f he k

/-- `Counters.deserialize`, regenerated from the source: on the spec encoding of ANY `Counters` value followed by ANY trailer it
    returns every field with its encoded value (view `view_Counters`) and consumes exactly the encoded bits and refs. -/
theorem c16_src_Counters (v : Val) (f : Frag) (he : counters.enc v = some f) (k : Frag) :
    Src.Counters false (f ++ k) = some (view_Counters v, k) :=
  refines_Counters.on_encoding v f he k

/-- `CreatorStats.deserialize`, regenerated from the source: on the spec encoding of ANY `CreatorStats` value followed by ANY trailer it
    returns every field with its encoded value (view `view_CreatorStats`) and consumes exactly the encoded bits and refs. -/
theorem c16_src_CreatorStats (v : Val) (f : Frag) (he : creatorStats.enc v = some f) (k : Frag) :
    Src.CreatorStats false (f ++ k) = some (view_CreatorStats v, k) :=
  refines_CreatorStats.on_encoding v f he k

/-- `ValidatorInfo.deserialize`, regenerated from the source: on the spec encoding of ANY `ValidatorInfo` value followed by ANY trailer it
    returns every field with its encoded value (view `view_ValidatorInfo`) and consumes exactly the encoded bits and refs. -/
theorem c16_src_ValidatorInfo (v : Val) (f : Frag) (he : validatorInfo.enc v = some f) (k : Frag) :
    Src.ValidatorInfo false (f ++ k) = some (view_ValidatorInfo v, k) :=
  refines_ValidatorInfo.on_encoding v f he k

/-- `ShardIdent.deserialize`, regenerated from the source: on the spec encoding of ANY `ShardIdent` value followed by ANY trailer it
    returns every field with its encoded value (view `view_ShardIdent`) and consumes exactly the encoded bits and refs. -/
theorem c16_src_ShardIdent (v : Val) (f : Frag) (he : shardIdent.enc v = some f) (k : Frag) :
    Src.ShardIdent false (f ++ k) = some (view_ShardIdent v, k) :=
  refines_ShardIdent.on_encoding v f he k

/-- `GlobalVersion.deserialize`, regenerated from the source: on the spec encoding of ANY `GlobalVersion` value followed by ANY trailer it
    returns every field with its encoded value (view `view_GlobalVersion`) and consumes exactly the encoded bits and refs. -/
theorem c16_src_GlobalVersion (v : Val) (f : Frag) (he : globalVersion.enc v = some f) (k : Frag) :
    Src.GlobalVersion false (f ++ k) = some (view_GlobalVersion v, k) :=
  refines_GlobalVersion.on_encoding v f he k

/-- `SplitMergeInfo.deserialize`, regenerated from the source: on the spec encoding of ANY `SplitMergeInfo` value followed by ANY trailer it
    returns every field with its encoded value (view `view_SplitMergeInfo`) and consumes exactly the encoded bits and refs. -/
theorem c16_src_SplitMergeInfo (v : Val) (f : Frag) (he : splitMergeInfo.enc v = some f) (k : Frag) :
    Src.SplitMergeInfo false (f ++ k) = some (view_SplitMergeInfo v, k) :=
  refines_SplitMergeInfo.on_encoding v f he k

/-- `SigPubKey.deserialize`, regenerated from the source: on the spec encoding of ANY `SigPubKey` value followed by ANY trailer it
    returns every field with its encoded value (view `view_SigPubKey`) and consumes exactly the encoded bits and refs. -/
theorem c16_src_SigPubKey (v : Val) (f : Frag) (he : sigPubKey.enc v = some f) (k : Frag) :
    Src.SigPubKey false (f ++ k) = some (view_SigPubKey v, k) :=
  refines_SigPubKey.on_encoding v f he k

/-- `AccStatusChange.deserialize`, regenerated from the source: on the spec encoding of ANY `AccStatusChange` value followed by ANY trailer it
    returns every field with its encoded value (view `view_AccStatusChange`) and consumes exactly the encoded bits and refs. -/
theorem c16_src_AccStatusChange (v : Val) (f : Frag) (he : accStatusChange.enc v = some f) (k : Frag) :
    Src.AccStatusChange false (f ++ k) = some (view_AccStatusChange v, k) :=
  refines_AccStatusChange.on_encoding v f he k

/-- `ComputeSkipReason.deserialize`, regenerated from the source: on the spec encoding of ANY `ComputeSkipReason` value followed by ANY trailer it
    returns every field with its encoded value (view `view_ComputeSkipReason`) and consumes exactly the encoded bits and refs. -/
theorem c16_src_ComputeSkipReason (v : Val) (f : Frag) (he : computeSkipReason.enc v = some f) (k : Frag) :
    Src.ComputeSkipReason false (f ++ k) = some (view_ComputeSkipReason v, k) :=
  refines_ComputeSkipReason.on_encoding v f he k

/-- `TrStoragePhase.deserialize`, regenerated from the source: on the spec encoding of ANY `TrStoragePhase` value followed by ANY trailer it
    returns every field with its encoded value (view `view_TrStoragePhase`) and consumes exactly the encoded bits and refs. -/
theorem c16_src_TrStoragePhase (v : Val) (f : Frag) (he : trStoragePhase.enc v = some f) (k : Frag) :
    Src.TrStoragePhase false (f ++ k) = some (view_TrStoragePhase v, k) :=
  refines_TrStoragePhase.on_encoding v f he k

/-- `TrComputePhase.deserialize`, regenerated from the source: on the spec encoding of ANY `TrComputePhase` value followed by ANY trailer it
    returns every field with its encoded value (view `view_TrComputePhase`) and consumes exactly the encoded bits and refs. -/
theorem c16_src_TrComputePhase (v : Val) (f : Frag) (he : trComputePhase.enc v = some f) (k : Frag) :
    Src.TrComputePhase false (f ++ k) = some (view_TrComputePhase v, k) :=
  refines_TrComputePhase.on_encoding v f he k

/-- `TrBouncePhase.deserialize`, regenerated from the source: on the spec encoding of ANY `TrBouncePhase` value followed by ANY trailer it
    returns every field with its encoded value (view `view_TrBouncePhase`) and consumes exactly the encoded bits and refs. -/
theorem c16_src_TrBouncePhase (v : Val) (f : Frag) (he : trBouncePhase.enc v = some f) (k : Frag) :
    Src.TrBouncePhase false (f ++ k) = some (view_TrBouncePhase v, k) :=
  refines_TrBouncePhase.on_encoding v f he k

/-- `FutureSplitMerge.deserialize`, regenerated from the source: on the spec encoding of ANY `FutureSplitMerge` value followed by ANY trailer it
    returns every field with its encoded value (view `view_FutureSplitMerge`) and consumes exactly the encoded bits and refs. -/
theorem c16_src_FutureSplitMerge (v : Val) (f : Frag) (he : futureSplitMerge.enc v = some f) (k : Frag) :
    Src.FutureSplitMerge false (f ++ k) = some (view_FutureSplitMerge v, k) :=
  refines_FutureSplitMerge.on_encoding v f he k

/-- `IntermediateAddress.deserialize`, regenerated from the source: on the spec encoding of ANY `IntermediateAddress` value followed by ANY trailer it
    returns every field with its encoded value (view `view_IntermediateAddress`) and consumes exactly the encoded bits and refs. -/
theorem c16_src_IntermediateAddress (v : Val) (f : Frag) (he : intermediateAddress.enc v = some f) (k : Frag) :
    Src.IntermediateAddress false (f ++ k) = some (view_IntermediateAddress v, k) :=
  refines_IntermediateAddress.on_encoding v f he k

/-- `ValidatorDescr.deserialize`, regenerated from the source: on the spec encoding of ANY `ValidatorDescr` value followed by ANY trailer it
    returns every field with its encoded value (view `view_ValidatorDescr`) and consumes exactly the encoded bits and refs. -/
theorem c16_src_ValidatorDescr (v : Val) (f : Frag) (he : validatorDescr.enc v = some f) (k : Frag) :
    Src.ValidatorDescr false (f ++ k) = some (view_ValidatorDescr v, k) :=
  refines_ValidatorDescr.on_encoding v f he k

/-- `CatchainConfig.deserialize`, regenerated from the source: on the spec encoding of ANY `CatchainConfig` value followed by ANY trailer it
    returns every field with its encoded value (view `view_CatchainConfig`) and consumes exactly the encoded bits and refs. -/
theorem c16_src_CatchainConfig (v : Val) (f : Frag) (he : catchainConfig.enc v = some f) (k : Frag) :
    Src.CatchainConfig false (f ++ k) = some (view_CatchainConfig v, k) :=
  refines_CatchainConfig.on_encoding v f he k

/-- `BlkPrevInfo.deserialize(slice, after_merge)` regenerated from the source, `after_merge = 0` (`prev_blk_info$_`) -/
theorem c16_src_BlkPrevInfo0 (v : Val) (f : Frag) (he : (blkPrevInfo 0).enc v = some f) (k : Frag) :
    Src.BlkPrevInfo false (f ++ k) (.int 0) = some (view_BlkPrevInfo v, k) :=
  refines_BlkPrevInfo0.on_encoding v f he k

/-- `BlkPrevInfo.deserialize(slice, after_merge)` regenerated from the source, `after_merge = 1` (`prev_blks_info$_`, two references) -/
theorem c16_src_BlkPrevInfo1 (v : Val) (f : Frag) (he : (blkPrevInfo 1).enc v = some f) (k : Frag) :
    Src.BlkPrevInfo false (f ++ k) (.int 1) = some (view_BlkPrevInfo v, k) :=
  refines_BlkPrevInfo1.on_encoding v f he k

/-- non-vacuity: a concrete `TickTock` value is encodable, and the regenerated parser reads it back (with a 1-bit trailer) -/
example :
    (tickTock.enc (.record [("tick", .bool true), ("tock", .bool false)])).isSome = true ∧
    Src.TickTock false ⟨[true, false, true], []⟩ =
      some (view_TickTock (.record [("tick", .bool true), ("tock", .bool false)]), ⟨[true], []⟩) := by
  constructor
  · decide +kernel
  · rfl

/-- non-vacuity: `AccountStatus` `acc_state_active$10` followed by a trailer bit -/
example : Src.AccountStatus false ⟨[true, false, true], []⟩ =
    some (Rd.obj "AccountStatus" [("type_", Rd.str "active")], ⟨[true], []⟩) := rfl



/-! ## Source tie, second part: the REGENERATED parsers of tlb/transaction.py (`c16_src_*`, continued)

`SrcTx.<Class>` (Generated/TlbParsersTx.lean) is regenerated on every run by harness/translate/tlbparsers_tx.py; the reader
primitives it adds are Model/TlbRdTx.lean (`Rd.optional`, `Rd.viaRef`, `Rd.loadAddress`, `Rd.loadDict` = Maybe bit + root
reference + Patricia walk, `Rd.dictValuesSorted`), the declared views Spec/Tlb/PyViewTx.lean (namespace `Tx`).  Same statement as
above: on the spec encoding of ANY value followed by ANY trailer the parser of the working tree returns every field with its
encoded value and leaves exactly the trailer.  Where the type contains a `MsgAddressInt`, the hypothesis `v.noVar = true` says
that no `addr_var` address occurs in the value: the library's `load_address` has no `addr_var` (it raises on one), every other
address form is covered.  `Transaction ↔ TransactionDescr` recursion: `SrcTx.Transaction b` is the parser with nesting budget `b`
(Python has none), the spec type is `transactionF b` with the SAME budget; the theorems hold for every `b`. -/

instance : Lawful Tx.transOrd := by unfold Tx.transOrd; infer_instance
instance : Lawful Tx.transStorage := by unfold Tx.transStorage; infer_instance
instance : Lawful Tx.transTickTock := by unfold Tx.transTickTock; infer_instance
instance : Lawful Tx.transSplitPrepare := by unfold Tx.transSplitPrepare; infer_instance
instance : Lawful Tx.transMergePrepare := by unfold Tx.transMergePrepare; infer_instance
instance (tx : Codec) [Lawful tx] : Lawful (Tx.transSplitInstall tx) := by unfold Tx.transSplitInstall; infer_instance
instance (tx : Codec) [Lawful tx] : Lawful (Tx.transMergeInstall tx) := by unfold Tx.transMergeInstall; infer_instance
instance : Lawful Tx.intMsgInfo := by unfold Tx.intMsgInfo; infer_instance
instance : Lawful Tx.extInMsgInfo := by unfold Tx.extInMsgInfo; infer_instance
instance : Lawful Tx.extOutMsgInfo := by unfold Tx.extOutMsgInfo; infer_instance

/-- `CurrencyCollection.deserialize` (tlb/block.py, read through by the transaction parsers; extra-currency dictionary included), regenerated from the source: on the spec encoding of ANY value followed by ANY trailer it returns every field with
    its encoded value (view `Tx.view_CurrencyCollection`) and consumes exactly the encoded bits and refs. -/
theorem c16_src_tx_CurrencyCollection (v : Val) (f : Frag) (he : currencyCollection.enc v = some f) (k : Frag) :
    SrcTx.CurrencyCollection false (f ++ k) = some (Tx.view_CurrencyCollection v, k) :=
  Tx.refines_CurrencyCollection.on_encoding v f he k

/-- `ExtraCurrencyCollection.deserialize` (tlb/block.py): `load_dict(32, load_var_uint(5))` returns `None` / the dict of the `HashmapE 32 (VarUInteger 32)`, regenerated from the source: on the spec encoding of ANY value followed by ANY trailer it returns every field with
    its encoded value (view `Tx.view_ExtraCurrencyCollection`) and consumes exactly the encoded bits and refs. -/
theorem c16_src_tx_ExtraCurrencyCollection (v : Val) (f : Frag) (he : extraCurrencyCollection.enc v = some f) (k : Frag) :
    SrcTx.ExtraCurrencyCollection false (f ++ k) = some (Tx.view_ExtraCurrencyCollection v, k) :=
  Tx.refines_ExtraCurrencyCollection.on_encoding v f he k

/-- `TrActionPhase.deserialize` (14 fields, three `Maybe`), regenerated from the source: on the spec encoding of ANY value followed by ANY trailer it returns every field with
    its encoded value (view `view_TrActionPhase`) and consumes exactly the encoded bits and refs. -/
theorem c16_src_TrActionPhase (v : Val) (f : Frag) (he : trActionPhase.enc v = some f) (k : Frag) :
    SrcTx.TrActionPhase false (f ++ k) = some (view_TrActionPhase v, k) :=
  Tx.refines_TrActionPhase.on_encoding v f he k

/-- `TrCreditPhase.deserialize`, regenerated from the source: on the spec encoding of ANY value followed by ANY trailer it returns every field with
    its encoded value (view `Tx.view_TrCreditPhase`) and consumes exactly the encoded bits and refs. -/
theorem c16_src_TrCreditPhase (v : Val) (f : Frag) (he : trCreditPhase.enc v = some f) (k : Frag) :
    SrcTx.TrCreditPhase false (f ++ k) = some (Tx.view_TrCreditPhase v, k) :=
  Tx.refines_TrCreditPhase.on_encoding v f he k

/-- `ImportFees.deserialize`, regenerated from the source: on the spec encoding of ANY value followed by ANY trailer it returns every field with
    its encoded value (view `Tx.view_ImportFees`) and consumes exactly the encoded bits and refs. -/
theorem c16_src_ImportFees (v : Val) (f : Frag) (he : importFees.enc v = some f) (k : Frag) :
    SrcTx.ImportFees false (f ++ k) = some (Tx.view_ImportFees v, k) :=
  Tx.refines_ImportFees.on_encoding v f he k

/-- `TransactionOrdinary.deserialize` = the body of `trans_ord$0000` (the tag is read by `TransactionDescr.deserialize`), regenerated from the source: on the spec encoding of ANY value followed by ANY trailer it returns every field with
    its encoded value (view `Tx.view_TransactionOrdinary`) and consumes exactly the encoded bits and refs. -/
theorem c16_src_TransactionOrdinary (v : Val) (f : Frag) (he : Tx.transOrd.enc v = some f) (k : Frag) :
    SrcTx.TransactionOrdinary false (f ++ k) = some (Tx.view_TransactionOrdinary v, k) :=
  Tx.refines_TransactionOrdinary.on_encoding v f he k

/-- `TransactionStorage.deserialize` = the body of `trans_storage$0001`, regenerated from the source: on the spec encoding of ANY value followed by ANY trailer it returns every field with
    its encoded value (view `Tx.view_TransactionStorage`) and consumes exactly the encoded bits and refs. -/
theorem c16_src_TransactionStorage (v : Val) (f : Frag) (he : Tx.transStorage.enc v = some f) (k : Frag) :
    SrcTx.TransactionStorage false (f ++ k) = some (Tx.view_TransactionStorage v, k) :=
  Tx.refines_TransactionStorage.on_encoding v f he k

/-- `TransactionTickTock.deserialize` = the body of `trans_tick_tock$001`, regenerated from the source: on the spec encoding of ANY value followed by ANY trailer it returns every field with
    its encoded value (view `Tx.view_TransactionTickTock`) and consumes exactly the encoded bits and refs. -/
theorem c16_src_TransactionTickTock (v : Val) (f : Frag) (he : Tx.transTickTock.enc v = some f) (k : Frag) :
    SrcTx.TransactionTickTock false (f ++ k) = some (Tx.view_TransactionTickTock v, k) :=
  Tx.refines_TransactionTickTock.on_encoding v f he k

/-- `TransactionSplitPrepare.deserialize` = the body of `trans_split_prepare$0100`, regenerated from the source: on the spec encoding of ANY value followed by ANY trailer it returns every field with
    its encoded value (view `Tx.view_TransactionSplitPrepare`) and consumes exactly the encoded bits and refs. -/
theorem c16_src_TransactionSplitPrepare (v : Val) (f : Frag) (he : Tx.transSplitPrepare.enc v = some f) (k : Frag) :
    SrcTx.TransactionSplitPrepare false (f ++ k) = some (Tx.view_TransactionSplitPrepare v, k) :=
  Tx.refines_TransactionSplitPrepare.on_encoding v f he k

/-- `TransactionMergePrepare.deserialize` = the body of `trans_merge_prepare$0110`, regenerated from the source: on the spec encoding of ANY value followed by ANY trailer it returns every field with
    its encoded value (view `Tx.view_TransactionMergePrepare`) and consumes exactly the encoded bits and refs. -/
theorem c16_src_TransactionMergePrepare (v : Val) (f : Frag) (he : Tx.transMergePrepare.enc v = some f) (k : Frag) :
    SrcTx.TransactionMergePrepare false (f ++ k) = some (Tx.view_TransactionMergePrepare v, k) :=
  Tx.refines_TransactionMergePrepare.on_encoding v f he k

/-- `InternalMsgInfo.deserialize` = `int_msg_info$0 …` (reads its own tag; two `load_address`, a CurrencyCollection), regenerated from the source: on the spec encoding of ANY value without an `addr_var` address, followed by ANY trailer,
    it returns every field with its encoded value and consumes exactly the encoded bits and refs. -/
theorem c16_src_InternalMsgInfo (v : Val) (f : Frag) (he : (ctag (tag 1 0) Tx.intMsgInfo).enc v = some f) (hv : v.noVar = true) (k : Frag) :
    SrcTx.InternalMsgInfo false (f ++ k) = some (Tx.view_InternalMsgInfo v, k) :=
  Tx.refines_InternalMsgInfo.on_encoding v f he hv k

/-- `ExternalMsgInfo.deserialize` = `ext_in_msg_info$10 …`, regenerated from the source: on the spec encoding of ANY value without an `addr_var` address, followed by ANY trailer,
    it returns every field with its encoded value and consumes exactly the encoded bits and refs. -/
theorem c16_src_ExternalMsgInfo (v : Val) (f : Frag) (he : (ctag (tag 2 2) Tx.extInMsgInfo).enc v = some f) (hv : v.noVar = true) (k : Frag) :
    SrcTx.ExternalMsgInfo false (f ++ k) = some (Tx.view_ExternalMsgInfo v, k) :=
  Tx.refines_ExternalMsgInfo.on_encoding v f he hv k

/-- `ExternalOutMsgInfo.deserialize` = `ext_out_msg_info$11 …`, regenerated from the source: on the spec encoding of ANY value without an `addr_var` address, followed by ANY trailer,
    it returns every field with its encoded value and consumes exactly the encoded bits and refs. -/
theorem c16_src_ExternalOutMsgInfo (v : Val) (f : Frag) (he : (ctag (tag 2 3) Tx.extOutMsgInfo).enc v = some f) (hv : v.noVar = true) (k : Frag) :
    SrcTx.ExternalOutMsgInfo false (f ++ k) = some (Tx.view_ExternalOutMsgInfo v, k) :=
  Tx.refines_ExternalOutMsgInfo.on_encoding v f he hv k

/-- `CommonMsgInfo.deserialize` (dispatch on `preload_bit` / `preload_bits(2)` to the three info classes), regenerated from the source: on the spec encoding of ANY value without an `addr_var` address, followed by ANY trailer,
    it returns every field with its encoded value and consumes exactly the encoded bits and refs. -/
theorem c16_src_CommonMsgInfo (v : Val) (f : Frag) (he : commonMsgInfo.enc v = some f) (hv : v.noVar = true) (k : Frag) :
    SrcTx.CommonMsgInfo false (f ++ k) = some (Tx.view_CommonMsgInfo v, k) :=
  Tx.refines_CommonMsgInfo.on_encoding v f he hv k

/-- `MsgMetadata.deserialize`, regenerated from the source: on the spec encoding of ANY value without an `addr_var` address, followed by ANY trailer,
    it returns every field with its encoded value and consumes exactly the encoded bits and refs. -/
theorem c16_src_MsgMetadata (v : Val) (f : Frag) (he : msgMetadata.enc v = some f) (hv : v.noVar = true) (k : Frag) :
    SrcTx.MsgMetadata false (f ++ k) = some (Tx.view_MsgMetadata v, k) :=
  Tx.refines_MsgMetadata.on_encoding v f he hv k

/-- `MsgEnvelope.deserialize` (`msg_envelope#4` and `msg_envelope_v2#5`), regenerated from the source: on the spec encoding of ANY value without an `addr_var` address, followed by ANY trailer,
    it returns every field with its encoded value and consumes exactly the encoded bits and refs. -/
theorem c16_src_MsgEnvelope (v : Val) (f : Frag) (he : msgEnvelope.enc v = some f) (hv : v.noVar = true) (k : Frag) :
    SrcTx.MsgEnvelope false (f ++ k) = some (Tx.view_MsgEnvelope v, k) :=
  Tx.refines_MsgEnvelope.on_encoding v f he hv k

/-- `InMsg.deserialize` (all nine constructors; nested `^Transaction` with the budget 3 of the spec's `transaction`), regenerated from the source: on the spec encoding of ANY value without an `addr_var` address, followed by ANY trailer,
    it returns every field with its encoded value and consumes exactly the encoded bits and refs. -/
theorem c16_src_InMsg (v : Val) (f : Frag) (he : inMsg.enc v = some f) (hv : v.noVar = true) (k : Frag) :
    SrcTx.InMsg 3 false (f ++ k) = some ((Tx.view_InMsg (Tx.view_Transaction 3)) v, k) :=
  Tx.refines_InMsg.on_encoding v f he hv k

/-- `OutMsg.deserialize` (all ten constructors), regenerated from the source: on the spec encoding of ANY value without an `addr_var` address, followed by ANY trailer,
    it returns every field with its encoded value and consumes exactly the encoded bits and refs. -/
theorem c16_src_OutMsg (v : Val) (f : Frag) (he : outMsg.enc v = some f) (hv : v.noVar = true) (k : Frag) :
    SrcTx.OutMsg 3 false (f ++ k) = some ((Tx.view_OutMsg (Tx.view_Transaction 3)) v, k) :=
  Tx.refines_OutMsg.on_encoding v f he hv k

/-- `MessageAny.deserialize`, regenerated from the source, on the spec encoding `f` of ANY `Message Any` without an `addr_var`
    address (the type closes its cell: an inline body is the rest of the slice, which the parser returns as a cell without
    consuming it): info, init (inline or by reference) and body (inline or by reference) are the encoded ones. -/
theorem c16_src_MessageAny (v : Val) (f : Frag) (he : message.enc v = some f) (hv : v.noVar = true) :
    ∃ k, SrcTx.MessageAny false f = some (Tx.view_Message v, k) :=
  Tx.refines_Message f v Frag.nil (LawfulEnd.law v f he) hv

/-- … and as every user parses it, `MessageAny.deserialize(S.load_ref().begin_parse())` against `^(Message Any)`: exactly the
    reference is consumed. -/
theorem c16_src_MessageAny_ref (v : Val) (f : Frag) (he : (ref message).enc v = some f) (hv : v.noVar = true) (k : Frag) :
    Rd.viaRef SrcTx.MessageAny (f ++ k) = some (Tx.view_Message v, k) :=
  (Tx.refines_Message.viaRef).on_encoding v f he hv k

/-- `TransactionSplitInstall.deserialize` = the body of `trans_split_install$0101`, for every nesting budget `b` of the nested
    `prepare_transaction:^Transaction` (parsed by `Transaction.deserialize` with that budget). -/
theorem c16_src_TransactionSplitInstall (b : Nat) (v : Val) (f : Frag)
    (he : (Tx.transSplitInstall (transactionF b)).enc v = some f) (hv : v.noVar = true) (k : Frag) :
    SrcTx.TransactionSplitInstall (SrcTx.Transaction b) false (f ++ k) =
      some (Tx.view_TransactionSplitInstall (Tx.view_Transaction b) v, k) :=
  (Tx.refines_TransactionSplitInstall (Tx.refines_Transaction b).toE).on_encoding v f he hv k

/-- `TransactionMergeInstall.deserialize` = the body of `trans_merge_install$0111`, for every nesting budget. -/
theorem c16_src_TransactionMergeInstall (b : Nat) (v : Val) (f : Frag)
    (he : (Tx.transMergeInstall (transactionF b)).enc v = some f) (hv : v.noVar = true) (k : Frag) :
    SrcTx.TransactionMergeInstall (SrcTx.Transaction b) false (f ++ k) =
      some (Tx.view_TransactionMergeInstall (Tx.view_Transaction b) v, k) :=
  (Tx.refines_TransactionMergeInstall (Tx.refines_Transaction b).toE).on_encoding v f he hv k

/-- `TransactionDescr.deserialize` (tag dispatch `load_bits(3)` / `+ load_bit()` to the seven description classes), for every
    nesting budget `b` of a nested transaction: returns the object of the constructor's class with every field. -/
theorem c16_src_TransactionDescr (b : Nat) (v : Val) (f : Frag)
    (he : (transactionDescrF (transactionF b)).enc v = some f) (hv : v.noVar = true) (k : Frag) :
    SrcTx.TransactionDescr (SrcTx.Transaction b) false (f ++ k) =
      some (Tx.view_TransactionDescr (Tx.view_Transaction b) v, k) :=
  (Tx.refines_TransactionDescr (Tx.refines_Transaction b).toE).on_encoding v f he hv k

/-- `Transaction.deserialize` for EVERY nesting budget `b`: tag, the eight inline fields, the `^[ in_msg out_msgs ]` group
    (`in_msg` Maybe-reference; `out_msgs` = the values of the `HashmapE 15 ^(Message Any)` in key order, `[]` when empty),
    `total_fees`, `state_update:^HashUpdate`, `description:^TransactionDescr`. -/
theorem c16_src_Transaction (b : Nat) (v : Val) (f : Frag) (he : (transactionF b).enc v = some f) (hv : v.noVar = true)
    (k : Frag) :
    SrcTx.Transaction b false (f ++ k) = some (Tx.view_Transaction b v, k) :=
  (Tx.refines_Transaction b).on_encoding v f he hv k

/-- the hand model of `Slice.load_address()` (Model/TlbRdTx.lean `Rd.loadAddress`; NOT regenerated: boc/slice.py) reads a
    `MsgAddressExt` (`addr_none` → `None`, `addr_extern` → `ExternalAddress`) … -/
theorem c16_model_load_address_ext (v : Val) (f : Frag) (he : msgAddressExt.enc v = some f) (k : Frag) :
    Rd.loadAddress (f ++ k) = some (Tx.view_MsgAddressExt v, k) :=
  Tx.refines_MsgAddressExt.on_encoding v f he k

/-- … and a `MsgAddressInt` that is not `addr_var` (`addr_std`, with or without anycast → `Address`). -/
theorem c16_model_load_address_int (v : Val) (f : Frag) (he : msgAddressInt.enc v = some f) (hv : v.noVar = true) (k : Frag) :
    Rd.loadAddress (f ++ k) = some (Tx.view_MsgAddressInt v, k) :=
  Tx.refines_MsgAddressInt.on_encoding v f he hv k

/-- the dictionary walk of `load_dict` (Model/TlbRdTx.lean `Rd.dictWalk`) returns the entries of ANY decoded `Hashmap n X`
    tree value, in order, given a value reader that agrees with `X` on the leaves. -/
theorem c16_model_dict_walk (X : Codec) (rd : Frag → Rd.R) (w : Val → Val)
    (hrd : ∀ s v, X.dec s = some (v, ⟨[], []⟩) → ∃ k, rd s = some (w v, k))
    (n : Nat) (b : Bits) (r : List Cell) (tv : Val) (h : (hashmap n X).dec ⟨b, r⟩ = some (tv, ⟨[], []⟩)) :
    Rd.dictWalk rd (n + 1) n [] (Cell.mk false b r) = some (flattenF w (n + 1) n [] tv) :=
  dictWalk_sound X (fun _ => True) rd w (fun s v hd _ => hrd s v hd) (n + 1) n [] b r tv h (fun _ _ => trivial)

/-- non-vacuity of the `noVar` hypothesis: a `MsgMetadata` with an `addr_std` address is encodable, has no `addr_var`, … -/
example :
    let v := Val.record [("depth", .int 1), ("initiator_addr", .con "addr_std" (.record [("anycast", .unit),
      ("workchain_id", .int (-1)), ("address", .bits (List.replicate 256 true))])), ("initiator_lt", .int 5)]
    (msgMetadata.enc v).isSome = true ∧ v.noVar = true := by
  constructor
  · decide +kernel
  · decide +kernel

/-- … while a value with an `addr_var` address does not satisfy it (the library raises on it) -/
example : (Val.con "addr_var" .unit).noVar = false := by decide +kernel

/-- non-vacuity: `TrCreditPhase` with `due_fees_collected = 3` and no extra currencies, followed by a trailer bit: the regenerated
    parser returns the fields and leaves the trailer -/
example :
    SrcTx.TrCreditPhase false ⟨[true, false, false, false, true, false, false, false, false, false, false, true, true,
        false, false, false, false, false, true], []⟩ =
      some (Rd.obj "TrCreditPhase" [("due_fees_collected", .int 3),
        ("credit", Rd.obj "CurrencyCollection" [("grams", .int 0), ("other", Rd.obj "ExtraCurrencyCollection" [("dict_", .unit)])])],
        ⟨[true], []⟩) := by rfl


/-- non-vacuity of `c16_src_Transaction`: the concrete transaction is encodable with budget 1 and has no `addr_var`, so the
    regenerated `Transaction.deserialize` reads its encoding back, whatever follows -/
example : ∃ f, (transactionF 1).enc Tx.exampleTransaction = some f ∧
    ∀ k, SrcTx.Transaction 1 false (f ++ k) = some (Tx.view_Transaction 1 Tx.exampleTransaction, k) := by
  have h1 : ((transactionF 1).enc Tx.exampleTransaction).isSome = true := by decide +kernel
  have h2 : Tx.exampleTransaction.noVar = true := by decide +kernel
  obtain ⟨f, hf⟩ := Option.isSome_iff_exists.1 h1
  exact ⟨f, hf, fun k => c16_src_Transaction 1 Tx.exampleTransaction f hf h2 k⟩

/-! ## BEGIN tlbsrc2 — Source tie, third part: account.py / block.py / config.py classes (`c16_src_*`, continued)

`SrcBlk.<Class>` (Generated/TlbParsersBlk.lean) is regenerated on every run by harness/translate/tlbparsers_blk.py; `ConsensusConfig` and
`BlockInfo` are in Generated/TlbParsers.lean (first part; the translator reads constant tables `{b'\xd6': 'consensus_config', …}` and
turns an `if` that only assigns into ONE conditional `let`).  Declared views: Spec/Tlb/PyViewBlk.lean (namespace `Blk`).  Same statement as
above: on the spec encoding of ANY value followed by ANY trailer the parser of the working tree returns every field with its encoded
value and leaves exactly the trailer; `v.noVar = true` where the type contains a `MsgAddressInt` (`load_address` has no `addr_var`). -/

/-- `ConsensusConfig.deserialize` (all four constructors `#d6 … #d9`: tag looked up in the constant table, `flags = 0` and
    `round_candidates >= 1` asserted, `proto_version` / `catchain_max_blocks_coeff` only where the layout has them, `None` otherwise),
    regenerated from the source: on the spec encoding of ANY value followed by ANY trailer it returns every field with its encoded
    value (view `Blk.view_ConsensusConfig`) and consumes exactly the encoded bits. -/
theorem c16_src_ConsensusConfig (v : Val) (f : Frag) (he : consensusConfig.enc v = some f) (k : Frag) :
    Src.ConsensusConfig false (f ++ k) = some (Blk.view_ConsensusConfig v, k) :=
  Blk.refines_ConsensusConfig.on_encoding v f he k

/-- `BlockInfo.deserialize` + `BlockInfo.__init__` (tag, 20 inline fields, `flags . 0?GlobalVersion`, `not_master?^BlkMasterInfo`,
    `prev_ref:^(BlkPrevInfo after_merge)`, `vert_seqno_incr?^(BlkPrevInfo 0)`; `flags <= 1` and `vert_seq_no >= vert_seqno_incr` checked),
    regenerated from the source: on the spec encoding of ANY value followed by ANY trailer it returns every attribute with its encoded
    value (view `Blk.view_BlockInfo`; absent conditional fields are `None`) and consumes exactly the encoded bits and refs. -/
theorem c16_src_BlockInfo (v : Val) (f : Frag) (he : blockInfo.enc v = some f) (k : Frag) :
    Src.BlockInfo false (f ++ k) = some (Blk.view_BlockInfo v, k) :=
  Blk.refines_BlockInfo.on_encoding v f he k

/-- `DepthBalanceInfo.deserialize`, regenerated from the source: every field, exact consumption. -/
theorem c16_src_DepthBalanceInfo (v : Val) (f : Frag) (he : depthBalanceInfo.enc v = some f) (k : Frag) :
    SrcBlk.DepthBalanceInfo false (f ++ k) = some (Blk.view_DepthBalanceInfo v, k) :=
  Blk.refines_DepthBalanceInfo.on_encoding v f he k

/-- `ValueFlow.deserialize` (both tags `#b8e48dfb` and `#3ebf98b7`: the two `^[ … ]` groups of four CurrencyCollections each — with their
    extra-currency dictionaries — read from their own reference cells, `fees_collected` (and `burned`) inline in between),
    regenerated from the source: every field with its encoded value, exactly the encoded bits and refs consumed. -/
theorem c16_src_ValueFlow (v : Val) (f : Frag) (he : valueFlow.enc v = some f) (k : Frag) :
    SrcBlk.ValueFlow false (f ++ k) = some (Blk.view_ValueFlow v, k) :=
  Blk.refines_ValueFlow.on_encoding v f he k

/-- `ShardDescr.deserialize` (both tags `#b` inline fees and `#a` fees in a `^[ … ]` group; `flags = 0` checked; `split_merge_at` through
    the regenerated `FutureSplitMerge`), regenerated from the source: every field, exact consumption. -/
theorem c16_src_ShardDescr (v : Val) (f : Frag) (he : shardDescr.enc v = some f) (k : Frag) :
    SrcBlk.ShardDescr false (f ++ k) = some (Blk.view_ShardDescr v, k) :=
  Blk.refines_ShardDescr.on_encoding v f he k

/-- `AccountStorage.deserialize` (`last_trans_lt`, balance with its extra-currency dictionary, `AccountState`), regenerated from the source. -/
theorem c16_src_AccountStorage (v : Val) (f : Frag) (he : accountStorage.enc v = some f) (k : Frag) :
    SrcBlk.AccountStorage false (f ++ k) = some (Blk.view_AccountStorage v, k) :=
  Blk.refines_AccountStorage.on_encoding v f he k

/-- `Account.deserialize` (`account_none$0` ↦ `None`; `account$1`: address through `load_address`, `StorageInfo`, `AccountStorage`),
    regenerated from the source; `noVar`: the address is not `addr_var`. -/
theorem c16_src_Account (v : Val) (f : Frag) (he : account.enc v = some f) (hv : v.noVar = true) (k : Frag) :
    SrcBlk.Account false (f ++ k) = some (Blk.view_Account v, k) :=
  Blk.refines_Account.on_encoding v f he hv k

/-- `ShardAccount.deserialize` (`account:^Account` parsed from its own cell, `last_trans_hash`, `last_trans_lt`), regenerated from the
    source; the bookkeeping argument `cell=` (a copy of the slice) is not part of the statement. -/
theorem c16_src_ShardAccount (v : Val) (f : Frag) (he : shardAccount.enc v = some f) (hv : v.noVar = true) (k : Frag) :
    SrcBlk.ShardAccount false (f ++ k) = some (Blk.view_ShardAccount v, k) :=
  Blk.refines_ShardAccount.on_encoding v f he hv k

/-- `ValidatorSet.deserialize` (`validators#11`: inline `Hashmap 16 ValidatorDescr` read by `load_hashmap`; `validators_ext#12`:
    `total_weight` and a `HashmapE 16 ValidatorDescr` read by `load_dict`; `main <= total`, `main >= 1` checked), regenerated from the
    source: every field with its encoded value, `list` = the dict position ↦ ValidatorDescr of the decoded Patricia tree in key order
    (`None` for an empty `HashmapE`), exactly the encoded bits and refs consumed.  The dictionary walk is the hand model
    `Rd.dictWalk` / `Rd.dictWalkInline` proved sound against the spec tree (`c16_model_dict_walk`, `c16_model_dict_walk_inline`). -/
theorem c16_src_ValidatorSet (v : Val) (f : Frag) (he : validatorSet.enc v = some f) (k : Frag) :
    SrcBlk.ValidatorSet false (f ++ k) = some (Blk.view_ValidatorSet v, k) :=
  Blk.refines_ValidatorSet.on_encoding v f he k

/-- the hand model of `Slice.load_hashmap` (`Rd.dictWalkInline`: the Patricia walk started on the slice itself) returns the entries of
    ANY decoded inline `Hashmap n X` value, in order, and leaves exactly what the spec decoder leaves, given a value reader that
    refines `X`. -/
theorem c16_model_dict_walk_inline (X : Codec) (rd : Frag → Rd.R) (w : Val → Val) (hrd : Refines rd X w) (n : Nat) (s : Frag)
    (tv : Val) (s' : Frag) (h : (hashmap n X).dec s = some (tv, s')) :
    Rd.dictWalkInline rd n s = some (flattenF w (n + 1) n [] tv, s') :=
  Blk.dictWalkInline_sound X rd w hrd n s tv s' h

/-- `ShardAccounts.deserialize` = `load_hashmap_aug_e(256, ShardAccount.deserialize, DepthBalanceInfo.deserialize)`, regenerated from the
    source: on the spec encoding of ANY `HashmapAugE 256 ShardAccount DepthBalanceInfo` value (no `addr_var` inside) followed by ANY trailer
    it returns the tuple (dict key ↦ ShardAccount of the decoded Patricia tree in key order, list of the `extra:DepthBalanceInfo` of every
    node, children before their fork) — `({}, [extra])` for an empty dictionary — and consumes exactly the encoding, the top-level
    `extra` included.  The walk is the hand model `Rd.augWalk` proved sound against the spec tree (`c16_model_aug_walk`). -/
theorem c16_src_ShardAccounts (v : Val) (f : Frag) (he : shardAccounts.enc v = some f) (hv : v.noVar = true) (k : Frag) :
    SrcBlk.ShardAccounts false (f ++ k) = some (Blk.view_ShardAccounts v, k) :=
  Blk.refines_ShardAccounts.on_encoding v f he hv k

/-- `OldMcBlocksInfo.deserialize` = `load_hashmap_aug_e(32, KeyExtBlkRef.deserialize, KeyMaxLt.deserialize)`, regenerated from the source:
    the `(dict, extras)` tuple of the decoded `HashmapAugE 32 KeyExtBlkRef KeyMaxLt`, exact consumption. -/
theorem c16_src_OldMcBlocksInfo (v : Val) (f : Frag) (he : oldMcBlocksInfo.enc v = some f) (k : Frag) :
    SrcBlk.OldMcBlocksInfo false (f ++ k) = some (Blk.view_OldMcBlocksInfo v, k) :=
  Blk.refines_OldMcBlocksInfo.on_encoding v f he k

/-- `BlockCreateStats.deserialize` (`block_create_stats#17`: `load_dict(256, CreatorStats.deserialize)`; `block_create_stats_ext#34`:
    `load_hashmap_aug_e(256, CreatorStats.deserialize, load_uint(32))`), regenerated from the source: every field, exact consumption. -/
theorem c16_src_BlockCreateStats (v : Val) (f : Frag) (he : blockCreateStats.enc v = some f) (k : Frag) :
    SrcBlk.BlockCreateStats false (f ++ k) = some (Blk.view_BlockCreateStats v, k) :=
  Blk.refines_BlockCreateStats.on_encoding v f he k

/-- `ConfigParams.deserialize` (`config_addr`, then `config:^(Hashmap 32 ^Cell)` read by `load_hashmap` on the referenced cell with signed
    32-bit keys and a Slice over each parameter's cell as value), regenerated from the source: every field, exact consumption. -/
theorem c16_src_ConfigParams (v : Val) (f : Frag) (he : configParams.enc v = some f) (k : Frag) :
    SrcBlk.ConfigParams false (f ++ k) = some (Blk.view_ConfigParams v, k) :=
  Blk.refines_ConfigParams.on_encoding v f he k

/-- `McStateExtra.deserialize` (tag `#cc26`, shard hashes — `deserialize_shard_hashes`, a pinned hand model proved against
    `HashmapE 32 ^(BinTree ShardDescr)` with the REGENERATED `ShardDescr` parser on the leaves —, `ConfigParams`, the `^[ … ]` group:
    `flags <= 1` checked, `ValidatorInfo`, `OldMcBlocksInfo`, `after_key_block`, `last_key_block:(Maybe ExtBlkRef)`,
    `block_create_stats` iff `flags . 0`; `global_balance`), regenerated from the source: every field with its encoded value, exactly
    the encoded bits and refs consumed. -/
theorem c16_src_McStateExtra (v : Val) (f : Frag) (he : mcStateExtra.enc v = some f) (k : Frag) :
    SrcBlk.McStateExtra false (f ++ k) = some (Blk.view_McStateExtra v, k) :=
  Blk.refines_McStateExtra.on_encoding v f he k

/-- `ShardStateUnsplit.deserialize` (`shard_state#9023afe2`: the nine inline fields, `out_msg_queue_info` kept as a cell,
    `accounts:^ShardAccounts` through the regenerated `ShardAccounts`, the `^[ … ]` group read only when that cell is ordinary —
    `overload_history … libraries master_ref` —, `custom:(Maybe ^McStateExtra)` through the regenerated `McStateExtra`), regenerated from
    the source: every field with its encoded value, exactly the encoded bits and refs consumed.  Declared: the values of `libraries`
    (`load_dict(256)` without a value_deserializer) are raw Slices, compared by presence only. -/
theorem c16_src_ShardStateUnsplit (v : Val) (f : Frag) (he : shardStateUnsplit.enc v = some f) (hv : v.noVar = true) (k : Frag) :
    SrcBlk.ShardStateUnsplit false (f ++ k) = some (Blk.view_ShardStateUnsplit v, k) :=
  Blk.refines_ShardStateUnsplit.on_encoding v f he hv k

/-- `ShardState.deserialize` (`preload_bytes(4)` dispatch: `split_state#5f327da5` ↦ two `^ShardStateUnsplit`; otherwise the slice is an
    unsplit state, parsed with its own tag), regenerated from the source: every field, exact consumption. -/
theorem c16_src_ShardState (v : Val) (f : Frag) (he : shardState.enc v = some f) (hv : v.noVar = true) (k : Frag) :
    SrcBlk.ShardState false (f ++ k) = some (Blk.view_ShardState v, k) :=
  Blk.refines_ShardState.on_encoding v f he hv k

/-- `McBlockExtra.deserialize` (`masterchain_block_extra#cca5`: `key_block`, shard hashes, ShardFees = `load_maybe_ref()` + the two
    CurrencyCollections of its top-level extra, the `^[ … ]` group — `prev_blk_signatures` read without a value_deserializer, the two
    `Maybe ^InMsg` kept as cells —, `config` iff `key_block`), regenerated from the source: every field with its encoded value,
    exactly the encoded bits and refs consumed.  Declared: `shard_fees` (the root cell of a dictionary the parser does not walk) and the
    raw Slices of `prev_blk_signatures` are compared by presence only. -/
theorem c16_src_McBlockExtra (v : Val) (f : Frag) (he : mcBlockExtra.enc v = some f) (k : Frag) :
    SrcBlk.McBlockExtra false (f ++ k) = some (Blk.view_McBlockExtra v, k) :=
  Blk.refines_McBlockExtra.on_encoding v f he k

/-- `AccountBlock.deserialize` (`acc_trans#5`: `account_addr`, `transactions` = `load_hashmap_aug(64, Transaction by reference,
    CurrencyCollection)` — the `(dict, extras)` tuple of the inline `HashmapAug 64 ^Transaction CurrencyCollection`, every Transaction through the
    regenerated `Transaction` parser —, `state_update:^HashUpdate`), regenerated from the source: every field, exact consumption. -/
theorem c16_src_AccountBlock (v : Val) (f : Frag) (he : accountBlock.enc v = some f) (hv : v.noVar = true) (k : Frag) :
    SrcBlk.AccountBlock false (f ++ k) = some (Blk.view_AccountBlock v, k) :=
  Blk.refines_AccountBlock.on_encoding v f he hv k

/-- `BlockExtra.deserialize` (`block_extra#4a33f6fd`: `in_msg_descr`, `out_msg_descr`, `account_blocks` — each a `HashmapAugE 256 …` behind a
    reference, read by `load_hashmap_aug_e` with the regenerated `InMsg` / `OutMsg` / `AccountBlock` parsers on the leaves —, `rand_seed`,
    `created_by`, `custom:(Maybe ^McBlockExtra)`), regenerated from the source: every field, exact consumption. -/
theorem c16_src_BlockExtra (v : Val) (f : Frag) (he : blockExtra.enc v = some f) (hv : v.noVar = true) (k : Frag) :
    SrcBlk.BlockExtra false (f ++ k) = some (Blk.view_BlockExtra v, k) :=
  Blk.refines_BlockExtra.on_encoding v f he hv k

/-- `Block.deserialize` (`block#11ef55aa`: `global_id`, `info:^BlockInfo`, `value_flow:^ValueFlow`, `state_update`, `extra:^BlockExtra`, each
    through its regenerated parser), regenerated from the source: every field, exact consumption.  `MerkleUpdate.deserialize` (text
    pinned) is modelled for an ORDINARY `state_update` cell only (it returns `None`; hypothesis `ordinaryStateUpdate`): a real Merkle
    update (exotic cell, two nested shard states) is outside the model — the bundled main-net block is covered by the first two layers. -/
theorem c16_src_Block (v : Val) (f : Frag) (he : block.enc v = some f) (hv : v.noVar = true)
    (ho : Blk.ordinaryStateUpdate v = true) (k : Frag) :
    SrcBlk.Block false (f ++ k) = some (Blk.view_Block v, k) :=
  Blk.refines_Block.on_encoding v f he ⟨hv, ho⟩ k

/-- non-vacuity of `ordinaryStateUpdate`: an ordinary cell satisfies it, an exotic one does not -/
example : Blk.ordinaryStateUpdate (.record [("state_update", .cell (Cell.mk false [true] []))]) = true ∧
    Blk.ordinaryStateUpdate (.record [("state_update", .cell (Cell.mk true [true] []))]) = false := by
  constructor <;> decide +kernel

/-- the hand model of `deserialize_shard_hashes` + `BinTree.deserialize` (`Rd.loadShardHashes`; source text pinned by the translator)
    against `HashmapE 32 ^(BinTree X)`: `None` / the dict of BinTree objects whose `.list` holds the leaves left to right, each parsed by
    a leaf reader that agrees with `X`; exact consumption. -/
theorem c16_model_shard_hashes (X : Codec) (leaf : Bool → Frag → Rd.R) (w : Val → Val)
    (hleaf : ∀ s v s', X.dec s = some (v, s') → ∃ k, leaf false s = some (w v, k))
    (v : Val) (f : Frag) (he : (hashmapE 32 (ref (binTree X))).enc v = some f) [Lawful X] (k : Frag) :
    Rd.loadShardHashes leaf (f ++ k) = some (viewDict (Blk.viewBinTree w) 32 v, k) :=
  ((Blk.shardHashesK (X := X) (leaf := leaf) (w := w) (fun s v s' hd _ => hleaf s v s' hd) _ _ _).1
    (Lawful.law v f he k)).2

/-- the hand model of `parse_aug` (boc/hashmap/parse.py; `Rd.augWalk`) returns the entries (left to right) and the extras (children
    before their fork) of ANY decoded `HashmapAug n X Y` tree value, given a value reader that agrees with `X` and an extra reader
    that refines `Y` (exact rest: the leaf reads `extra` and then `value` from the same cell). -/
theorem c16_model_aug_walk (X Y : Codec) (x y : Frag → Rd.R) (wx wy : Val → Val)
    (hx : ∀ s v, X.dec s = some (v, ⟨[], []⟩) → ∃ k, x s = some (wx v, k)) (hy : Refines y Y wy)
    (n : Nat) (b : Bits) (r : List Cell) (tv : Val) (h : (hashmapAug n X Y).dec ⟨b, r⟩ = some (tv, ⟨[], []⟩)) :
    Rd.augWalk x y (n + 1) n [] (Cell.mk false b r) = some (Blk.flattenAug wx (n + 1) n [] tv, Blk.extrasAug wy (n + 1) n tv) :=
  Blk.augWalk_sound X Y (fun _ => True) x y wx wy (fun s v hd _ => hx s v hd) hy (n + 1) n [] b r tv h (fun _ _ => trivial)

/-- non-vacuity: an empty `OldMcBlocksInfo` (`ahme_empty$0` + `extra:KeyMaxLt`) is encodable, so `c16_src_OldMcBlocksInfo` applies:
    the regenerated parser returns `({}, [KeyMaxLt(False, 5)])` on its encoding, whatever follows -/
example : ∃ f, oldMcBlocksInfo.enc (.con "ahme_empty" (.record [("extra", .record [("key", .bool false), ("max_end_lt", .int 5)])])) = some f ∧
    ∀ k, SrcBlk.OldMcBlocksInfo false (f ++ k) =
      some (Rd.tuple [Rd.dict [], Rd.list [Rd.obj "KeyMaxLt" [("key", .bool false), ("max_end_lt", .int 5)]]], k) := by
  have h1 : (oldMcBlocksInfo.enc (.con "ahme_empty" (.record [("extra", .record [("key", .bool false), ("max_end_lt", .int 5)])]))).isSome
      = true := by decide +kernel
  obtain ⟨f, hf⟩ := Option.isSome_iff_exists.1 h1
  exact ⟨f, hf, fun k => c16_src_OldMcBlocksInfo _ f hf k⟩

/-- non-vacuity: `account_none$0` followed by a trailer bit is read as `None`, the trailer is left -/
example : SrcBlk.Account false ⟨[false, true], []⟩ = some (.unit, ⟨[true], []⟩) := rfl

/-- non-vacuity: a concrete `consensus_config_new#d7` value is encodable (so `c16_src_ConsensusConfig` applies to it) -/
example : (consensusConfig.enc (.con "consensus_config_new" (.record [("flags", .int 0), ("new_catchain_ids", .bool true),
    ("round_candidates", .int 3), ("next_candidate_delay_ms", .int 2000), ("consensus_timeout_ms", .int 16000),
    ("fast_attempts", .int 3), ("attempt_duration", .int 8), ("catchain_max_deps", .int 4), ("max_block_bytes", .int 2097152),
    ("max_collated_bytes", .int 2097152)]))).isSome = true := by decide +kernel

/-! ## END tlbsrc2 -/

end TonVerif.Tlb
