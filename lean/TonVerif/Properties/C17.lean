/-
C17 — TVM stack values round-trip and serialising does not consume them.

Model: `Model/VmStack.lean` (hand mirror of `pytoniq_core/tlb/vm_stack.py`), spec: `Spec/Tlb/VmStack.lean`
(block.tlb as relations).  Python lists are stored last-element-first in the model (a stack is written top
first, a tuple last entry first), see the header of the model file.  `mk` = `Builder.end_cell`, `view` =
what `begin_parse` shows, `ord` = "ordinary cell"; `Laws` = a constructed cell shows the data it was made
from and is ordinary.
-/
import TonVerif.Proofs.VmStack
import TonVerif.Proofs.VmStackInv
import TonVerif.Proofs.SrcArith2
import TonVerif.Generated.VmStackTests
import TonVerif.Proofs.SrcVmStack
import TonVerif.Proofs.SrcVmStackDe
namespace TonVerif.C17
open TonVerif TonVerif.Model TonVerif.Model.Vm TonVerif.Spec.Vm TonVerif.Proofs.Vm

variable {R : Type} {mk : Bits → List R → Option R} {view : R → Bits × List R} {ord : R → Bool}

/-- `c17_schema`: whenever `VmStack.serialize(vs)` returns a cell, the cell's content is an encoding of `vs`
    under the VmStack schema of block.tlb — for every stack, every nesting of tuples and every continuation
    kind: 24-bit depth, `VmStackList` chained through the first reference, `vm_stk_tinyint` exactly when
    −2^63 ≤ v < 2^63 and the 15-bit tag `0201_` + int257 otherwise, tuple chaining for lengths 0, 1, 2, 3+. -/
theorem c17_schema (L : Laws mk view ord) (vs : List (Val R)) (c : R) (h : serialize mk vs = some c) :
    IsStack view ord vs (view c).1 (view c).2 := by
  unfold serialize at h
  obtain ⟨bt, hbt, rfl⟩ := Option.map_eq_some_iff.mp h
  obtain ⟨hs, hmk⟩ := ser_stack L vs bt hbt
  rw [L.view_mk _ _ _ hmk]; exact hs


/-- a concrete instance of the hypotheses of `c17_schema`: cells as trees, `mk` never fails; a three-entry tuple,
    a small and a large integer and a `vmc_quit` continuation serialise, so `c17_schema` speaks about them -/
def mkTree (b : Bits) (r : List Cell) : Option Cell := some (.mk (-1) b r)
def viewTree : Cell → Bits × List Cell | .mk _ b r => (b, r)
def ordTree : Cell → Bool | .mk k _ _ => k == -1

theorem treeLaws : Laws mkTree viewTree ordTree :=
  ⟨fun b r c h => by simp [mkTree] at h; subst h; rfl, fun b r c h => by simp [mkTree] at h; subst h; rfl⟩

/-- stack (top first): quit(5), 2^63, −2^63, tuple (1, 2, 3) -/
def sample : List (Val Cell) :=
  [.cont (.quit 5), .int (2 ^ 63), .int (-(2 ^ 63)), .tuple [.int 3, .int 2, .int 1]]

/-! Over tree cells `end_cell` never fails, so `VmStack.serialize` returns a cell as soon as every store fits.  For an integer
that follows from its range alone (8 + 64 or 15 + 257 bits, no reference) and the bit string need not be computed; any other
entry is checked by running `serVal` on it. -/

/-- the cell of `v` exists and fits under a `VmStackList` node (and, for the top entry, behind the 24-bit depth) -/
def FitsVal (v : Val Cell) : Prop := ∃ bt, serVal mkTree v = some bt ∧ bt.bits.length ≤ 999 ∧ bt.refs.length ≤ 3

/-- `FitsVal` as a test the kernel can run: an integer by its range, any other entry by `serVal` itself -/
def fitsValB : Val Cell → Bool
  | .int v => decide (-(2 ^ 256 : Int) ≤ v ∧ v < 2 ^ 256)
  | v => (serVal mkTree v).any fun bt => decide (bt.bits.length ≤ 999) && decide (bt.refs.length ≤ 3)

theorem build_int_fits (pre : Bits) (v : Int) (n : Nat) (hn : 0 < n) (hr : -(2 ^ (n - 1) : Int) ≤ v ∧ v < 2 ^ (n - 1))
    (hp : pre.length + n ≤ 999) :
    ∃ bt, build mkTree (BOp.extend pre ⊳ BOp.storeInt v n) = some bt ∧ bt.bits.length ≤ 999 ∧ bt.refs.length ≤ 3 := by
  obtain ⟨xs, hi, hx⟩ : ∃ xs, BOp.int2baS v n = some xs ∧ xs.length = n := by
    have h1 : ¬ (v < -(2 ^ (n - 1) : Int) ∨ v ≥ 2 ^ (n - 1)) := by omega
    simp only [BOp.int2baS, Nat.ne_of_gt hn, h1, if_false]
    exact ⟨_, rfl, Proofs.Bits.natToBits_length _ _⟩
  refine ⟨⟨pre ++ xs, [], .mk (-1) (pre ++ xs) []⟩, ?_, by simpa [hx] using hp, by simp⟩
  have h2 : ¬ pre.length > 1023 := by omega
  have h3 : ¬ pre.length + n > 1023 := by omega
  simp [build, run, BOp.andThen, BOp.storeInt, hi, BOp.extend, finish, mkTree, Builder.empty, hx, h2, h3]

theorem fitsValB_sound (v : Val Cell) (h : fitsValB v = true) : FitsVal v := by
  cases v with
  | int v =>
    simp only [fitsValB, decide_eq_true_eq] at h
    unfold FitsVal
    rw [serVal]
    split
    · exact build_int_fits (bytesToBits [1]) v 64 (by decide) (by omega) (by decide)
    · exact build_int_fits tagInt257 v 257 (by decide) h (by decide)
  | _ =>
    unfold FitsVal
    revert h
    simp only [fitsValB]
    cases serVal mkTree _ with
    | none => simp
    | some bt => simp

theorem stackList_of_fits (vs : List (Val Cell)) (h : vs.all fitsValB = true) :
    ∃ bt, serStackList mkTree vs = some bt ∧ bt.bits.length ≤ 999 ∧ bt.refs.length ≤ 4 := by
  induction vs with
  | nil => exact ⟨_, rfl, by decide, by decide⟩
  | cons v rest ih =>
    simp only [List.all_cons, Bool.and_eq_true] at h
    obtain ⟨rc, hrc, _, _⟩ := ih h.2
    obtain ⟨vc, hvc, h1, h2⟩ := fitsValB_sound v h.1
    refine ⟨⟨vc.bits, rc.cell :: vc.refs, .mk (-1) vc.bits (rc.cell :: vc.refs)⟩, ?_, h1, by simp; omega⟩
    have h3 : ¬ vc.bits.length > 1023 := by omega
    have h4 : ¬ 1 + vc.refs.length > 4 := by omega
    simp [serStackList, hrc, hvc, build, run, BOp.andThen, BOp.storeRef, BOp.storeCell, BOp.extend, finish, mkTree,
      Builder.empty, h3, h4]

theorem serialize_of_fits (vs : List (Val Cell)) (hl : vs.length < 2 ^ 24) (h : vs.all fitsValB = true) :
    (serialize mkTree vs).isSome = true := by
  obtain ⟨l, hl', h1, h2⟩ := stackList_of_fits vs h
  have hu : BOp.int2baU (vs.length : Int) 24 = some (natToBits 24 vs.length) := by
    have h3 : ¬ ((vs.length : Int) < 0) := by omega
    simp [BOp.int2baU, h3]
    omega
  have h5 : ¬ 24 + l.bits.length > 1023 := by omega
  have h6 : ¬ l.refs.length > 4 := by omega
  simp [serialize, serStack, hl', build, run, BOp.andThen, BOp.storeUint, hu, BOp.storeCell, BOp.extend, finish, mkTree,
    Builder.empty, Proofs.Bits.natToBits_length, h5, h6]

theorem sample_serialises : (serialize mkTree sample).isSome = true :=
  serialize_of_fits _ (by decide) (by decide +kernel)

example : (serialize mkTree sample).isSome = true := sample_serialises

example : ∃ c, serialize mkTree sample = some c ∧ IsStack viewTree ordTree sample (viewTree c).1 (viewTree c).2 := by
  obtain ⟨c, hc⟩ := Option.isSome_iff_exists.mp sample_serialises
  exact ⟨c, hc, c17_schema treeLaws sample c hc⟩

/-- `c17_pure`: in the model of what a successful `VmStack.serialize(data)` leaves in the caller's objects
    (`serializeSt`, current code path `pop = false`), the caller's values after the call are the values before
    the call — for every stack, tuple nesting and continuation. -/
theorem c17_pure (mk : Bits → List R → Option R) (vs : List (Val R)) : (serializeSt false mk vs).2 = vs := by
  simp [serializeSt, postList_id]

/-- hence serialising the same objects twice gives the same cell (or fails twice) -/
theorem c17_twice (mk : Bits → List R → Option R) (vs : List (Val R)) :
    (serializeSt false mk (serializeSt false mk vs).2).1 = (serializeSt false mk vs).1 := by
  rw [c17_pure]

/-- non-vacuity of the state model: on the code before fix F20 (`pop = true`) the same model shows the defect —
    the tuple (1, 2, 3) is left as (1) … -/
example : (serializeSt true mkTree [Val.tuple [.int 3, .int 2, .int 1]]).2 = [Val.tuple [.int 1]] := by
  simp [serializeSt, postList, postVal, postTuple, postTupleRef]

/-- … and the second call returns a different cell (3 references the first time, 2 the second) -/
example : ((serializeSt true mkTree [Val.tuple [.int 3, .int 2, .int 1]]).1.map (fun c => (viewTree c).2.length) = some 3)
    ∧ ((serializeSt true mkTree (serializeSt true mkTree [Val.tuple [.int 3, .int 2, .int 1]]).2).1.map
        (fun c => (viewTree c).2.length) = some 2) := by
  decide +kernel


/-- `c17_parser_accepts_schema`: the parser accepts every schema-valid encoding and returns the encoded values.
    If the content of cell `c` is an encoding of the stack `vs` under the VmStack schema of block.tlb (`IsStack`:
    any depth < 2^24, any nesting of tuples, all ten continuation kinds, control data with or without a stack and
    a save list, tinyint / int257 in canonical form), then `VmStack.deserialize(c.begin_parse())` returns exactly
    `vs` — same values, same order — and leaves nothing of the cell unread.  `fuel` is the model's recursion budget
    (one unit per nested call; Python has none): the result is the same for every budget ≥ `fuelL vs`, an explicit
    bound linear in the size of `vs` (`Proofs/VmStackInv.lean`). -/
theorem c17_parser_accepts_schema (vs : List (Val R)) (c : R) (h : IsStack view ord vs (view c).1 (view c).2)
    (fuel : Nat) (hf : fuelL vs ≤ fuel) :
    De.stack view ord fuel ⟨(view c).1, (view c).2⟩ = (⟨[], []⟩, some vs) :=
  de_stack_cell h fuel hf

/-- `c17_roundtrip`: for every stack `vs` of supported values — null, integers (64-bit and 257-bit form), cells,
    slices, builders, arbitrarily nested tuples, all ten continuation kinds with their control data — whenever
    `VmStack.serialize(vs)` returns a cell `c`, `VmStack.deserialize(c.begin_parse())` returns `vs`: equal values in
    the same order.  (`Laws`: a constructed cell shows the data it was built from and is ordinary.) -/
theorem c17_roundtrip (L : Laws mk view ord) (vs : List (Val R)) (c : R) (h : serialize mk vs = some c)
    (fuel : Nat) (hf : fuelL vs ≤ fuel) : deserialize view ord fuel c = some vs := by
  rw [deserialize, c17_parser_accepts_schema vs c (c17_schema L vs c h) fuel hf]

/-- the round trip is injective: two stacks that serialise to the same cell are the same stack -/
theorem c17_serialize_injective (L : Laws mk view ord) (vs ws : List (Val R)) (c : R)
    (h1 : serialize mk vs = some c) (h2 : serialize mk ws = some c) : vs = ws := by
  have a := c17_roundtrip L vs c h1 (fuelL vs + fuelL ws) (by omega)
  have b := c17_roundtrip L ws c h2 (fuelL vs + fuelL ws) (by omega)
  rw [a] at b; exact Option.some.inj b

/-- non-vacuity of `c17_roundtrip`: two stacks (top first) that together use every value constructor, every
    continuation kind, control data with and without stack / save list / nargs / cp, nested tuples of length
    0, 1, 2 and 4 — they serialise over tree cells, so the theorem speaks about them and the parser returns them. -/
def leaf : Cell := .mk (-1) [true, false, true] []
def sampleVals : List (Val Cell) :=
  [ .null, .int 0, .int (-1), .int (2 ^ 63 - 1), .int (-(2 ^ 63)), .int (2 ^ 63), .int (-(2 ^ 256)),
    .cell leaf, .slice [true, true, false] [leaf], .builder [false, true] [leaf, leaf],
    .tuple [], .tuple [.int 7], .tuple [.null, .tuple [.int 1, .tuple []]],
    .tuple [.int 4, .int 3, .tuple [.int 2, .cell leaf, .slice [] []], .int 1] ]
def sampleConts : List (Val Cell) :=
  [ .cont (.quit (-5)), .cont .quitExc,
    .cont (.std (.mk (some 3) (some [.int 9, .tuple [.int 8, .null]]) (some leaf) (some (-2))) [true] [leaf]),
    .cont (.envelope (.mk none none none none) (.pushint 11 .quitExc)),
    .cont (.repeat_ 5 (.quit 1) (.again (.quit 2))),
    .cont (.until_ (.quit 3) .quitExc),
    .cont (.whileCond (.quit 4) .quitExc (.quit 5)),
    .cont (.whileBody .quitExc (.quit 6) (.envelope (.mk (some 0) (some []) none (some 0)) (.quit 7))) ]

/-- `sampleVals` serialises (integers by their range, the other entries by kernel evaluation of `serVal`) -/
theorem sampleVals_serialises : (serialize mkTree sampleVals).isSome = true :=
  serialize_of_fits _ (by decide) (by decide +kernel)
/-- `sampleConts` serialises -/
theorem sampleConts_serialises : (serialize mkTree sampleConts).isSome = true :=
  serialize_of_fits _ (by decide) (by decide +kernel)

example : ∃ c, serialize mkTree sampleVals = some c ∧
    ∀ fuel, 72 ≤ fuel → deserialize viewTree ordTree fuel c = some sampleVals := by
  obtain ⟨c, hc⟩ := Option.isSome_iff_exists.mp sampleVals_serialises
  have hb : fuelL sampleVals = 72 := by decide
  exact ⟨c, hc, fun fuel hf => c17_roundtrip treeLaws sampleVals c hc fuel (by omega)⟩

example : ∃ c, serialize mkTree sampleConts = some c ∧
    ∀ fuel, 55 ≤ fuel → deserialize viewTree ordTree fuel c = some sampleConts := by
  obtain ⟨c, hc⟩ := Option.isSome_iff_exists.mp sampleConts_serialises
  have hb : fuelL sampleConts = 55 := by decide
  exact ⟨c, hc, fun fuel hf => c17_roundtrip treeLaws sampleConts c hc fuel (by omega)⟩

/-- non-vacuity of `c17_parser_accepts_schema` on an encoding that is *not* produced by the serialiser: a slice value
    whose `VmCellSlice` window starts inside the cell (`st_bits = 1`, `st_ref = 1`; the serialiser always writes 0).
    Cell content: depth 1, reference to the empty rest list, tag 04, window [1,3) × [1,2) of `wide`. -/
def wide : Cell := .mk (-1) [true, false, true, true] [leaf, leaf]
def handMade : Cell :=
  .mk (-1) (uintBits 24 1 ++ (tagByte 4 ++ (uintBits 10 1 ++ uintBits 10 3 ++ uintBits 3 1 ++ uintBits 3 2)))
    [.mk (-1) [] [], wide]

example : De.stack viewTree ordTree 3 ⟨(viewTree handMade).1, (viewTree handMade).2⟩ =
    (⟨[], []⟩, some [Val.slice [false, true] [leaf]]) := by
  have hs := IsCellSlice.mk (view := viewTree) wide 1 3 1 2 (by decide) (by decide) (by decide) (by decide)
    (by decide) (by decide)
  have hv := IsValue.slice (ord := ordTree) hs
  have hl := IsStackList.cons (view := viewTree) (ord := ordTree) (n := 0) (rest := []) (.mk (-1) [] [])
    IsStackList.nil hv
  have h : IsStack viewTree ordTree [Val.slice [false, true] [leaf]] (viewTree handMade).1 (viewTree handMade).2 :=
    IsStack.mk (vs := [Val.slice [false, true] [leaf]]) (by decide) hl
  exact c17_parser_accepts_schema _ handMade h 3 (by decide)

/-- `c17_roundtrip_fields` (the field-level statement underneath `c17_roundtrip`): what the serialiser writes for an
    `intN` / `uintN` field and for a `VmCellSlice` record is read back by the parser's `load_int(n)` / `load_uint(n)` / `VmCellSlice.deserialize`
    as the same value, consuming exactly the field and leaving the rest of the slice untouched — for every width
    `n ≥ 1`, every in-range value (in particular int64 and int257 at ±2^63, ±2^256) and every slice. -/
theorem c17_roundtrip_fields (L : Laws mk view ord) :
    (∀ (n : Nat) (v : Int) (b : Builder R) (b1 : Builder R) (rest : Bits) (rs : List R), 0 < n →
        run (BOp.storeInt v n) b = some b1 →
        ∃ xs, b1.bits = b.bits ++ xs ∧ SOp.loadInt n (⟨xs ++ rest, rs⟩ : Slice R) = (⟨rest, rs⟩, some v)) ∧
    (∀ (n : Nat) (v : Int) (b : Builder R) (b1 : Builder R) (rest : Bits) (rs : List R), 0 < n →
        run (BOp.storeUint v n) b = some b1 →
        ∃ xs, b1.bits = b.bits ++ xs ∧ SOp.loadUint n (⟨xs ++ rest, rs⟩ : Slice R) = (⟨rest, rs⟩, some v)) ∧
    (∀ (bits : Bits) (refs : List R) (bt : Built R) (rest : Bits) (rs : List R),
        serCellSlice mk bits refs = some bt →
        De.cellSlice view ⟨bt.bits ++ rest, bt.refs ++ rs⟩ = (⟨rest, rs⟩, some (bits, refs))) := by
  refine ⟨?_, ?_, ?_⟩
  · intro n v b b1 rest rs hn h
    obtain ⟨⟨_, hok⟩, e⟩ := run_storeInt h
    exact ⟨intBits n v, e, by simpa using reads_loadInt (R := R) hn hok rest rs⟩
  · intro n v b b1 rest rs hn h
    obtain ⟨⟨_, hok⟩, e⟩ := run_storeUint h
    exact ⟨uintBits n v, e, by simpa using reads_loadUint (R := R) hn hok rest rs⟩
  · intro bits refs bt rest rs h
    exact reads_cellSlice (ser_cellSlice L h).1 rest rs

/-- the hypotheses are met: −2^63 is stored as int64 and read back; a partly consumed slice goes through VmCellSlice -/
example : run (BOp.storeInt (-(2 ^ 63)) 64) (Builder.empty : Builder Cell) ≠ none := by decide +kernel
example : (serCellSlice mkTree [true, false, true] [Cell.mk (-1) [] []]).isSome = true := by decide +kernel

/-! ## Source-regenerated tests (`Generated/VmStackTests.lean`: re-translated from tlb/vm_stack.py on every run)

`Generated.tinyIntFits value` is the test `-2**63 <= value < 2**63` that selects `vm_stk_tinyint` in
`VmStackValue.serialize`; `cellSliceBitsBad` / `cellSliceRefsBad` are the two `if not a <= b: raise VmError` tests of
`VmCellSlice.deserialize`. -/
section Src
open TonVerif.Proofs.SrcArith2
set_option linter.unusedSimpArgs false

/-- for EVERY integer: the source chooses the 64-bit form exactly for the int64 range (both bounds: −2^63 in, 2^63 out), and
the cell-slice window tests refuse exactly the inverted windows. -/
theorem c17_src_tests (v : Int) (a b : Nat) :
    (Generated.tinyIntFits_sideOk v ∧ Generated.cellSliceBitsBad_sideOk a b ∧ Generated.cellSliceRefsBad_sideOk a b) ∧
    Generated.tinyIntFits v = decide (-(2 ^ 63 : Int) ≤ v ∧ v < (2 ^ 63 : Int)) ∧
    Generated.cellSliceBitsBad a b = decide (¬ a ≤ b) ∧ Generated.cellSliceRefsBad a b = decide (¬ a ≤ b) := by
  refine ⟨⟨by simp only [Generated.tinyIntFits_sideOk] <;> src_prop, by simp only [Generated.cellSliceBitsBad_sideOk] <;> src_prop,
    by simp only [Generated.cellSliceRefsBad_sideOk] <;> src_prop⟩, ?_, ?_, ?_⟩
  · simp only [Generated.tinyIntFits] <;> src_bool
  · simp only [Generated.cellSliceBitsBad] <;> src_bool
  · simp only [Generated.cellSliceRefsBad] <;> src_bool

/-- `VmStackValue.serialize` of the hand model (what `c17_roundtrip` … are proved about) chooses between `vm_stk_tinyint`
and `vm_stk_int` by exactly the regenerated test. -/
theorem c17_src_model_int {R : Type} (mk : Bits → List R → Option R) (v : Int) :
    serVal mk (.int v) =
      (if Generated.tinyIntFits v then build mk (BOp.storeBytes [1] ⊳ BOp.storeInt v 64)
       else build mk (BOp.storeBits tagInt257 ⊳ BOp.storeInt v 257)) := by
  rw [(c17_src_tests v 0 0).2.1]
  rw [serVal]
  by_cases h : -(2 ^ 63 : Int) ≤ v ∧ v < (2 ^ 63 : Int) <;> simp [h]

/-- the regenerated test on both sides of both bounds. -/
example : Generated.tinyIntFits (-(2 ^ 63)) = true ∧ Generated.tinyIntFits (-(2 ^ 63) - 1) = false ∧
    Generated.tinyIntFits (2 ^ 63 - 1) = true ∧ Generated.tinyIntFits (2 ^ 63) = false ∧
    Generated.cellSliceBitsBad 3 2 = true ∧ Generated.cellSliceBitsBad 2 2 = false := by decide

end Src

/-! ### the WHOLE serialize / deserialize methods regenerated from tlb/vm_stack.py (Generated/VmStackSrc.lean)

`Generated.VmStackSrc.*` are re-translated from the current source text on every run (harness/translate/pytlb.py, vmsrc.py).
A serialiser returns the cell TOGETHER WITH the state of its argument after the call (a `pop()` on the caller's list shows up
there); `fuel` bounds the nesting of recursive calls (Python has no such bound): `sV / sT / sL / sK / sC` are explicit sufficient
budgets, linear in the size of the value. -/
section SrcWhole
open TonVerif.Generated.VmStackSrc TonVerif.Proofs.SrcVm TonVerif.Proofs.SrcVmDe

/-- `c17_src_serialize`: for EVERY stack / value / tuple / continuation / control data and every sufficient budget the
    regenerated `VmStack.serialize`, `VmStackValue.serialize`, `VmTuple.serialize`, `VmTupleRef.serialize`, `VmStackList.serialize`,
    `VmCont.serialize`, `VmControlData.serialize`, `VmCellSlice.serialize` raise exactly when the hand model's `serStack`,
    `serVal`, … (about which `c17_schema`, `c17_roundtrip` are proved) do, and return the same cell. -/
theorem c17_src_serialize (mk : Bits → List R → Option R) :
    (∀ (vs : List (Val R)) fuel, sL vs + 1 ≤ fuel → (VmStack_serialize mk fuel vs).map (·.1) = serStack mk vs) ∧
    (∀ (v : Val R) fuel, sV v ≤ fuel → (VmStackValue_serialize mk fuel v).map (·.1) = serVal mk v) ∧
    (∀ (vs : List (Val R)) fuel, sT vs ≤ fuel → (VmTuple_serialize mk fuel vs).map (·.1) = serTuple mk vs) ∧
    (∀ (vs : List (Val R)) fuel, sT vs + 1 ≤ fuel → (VmTupleRef_serialize mk fuel vs).map (·.1) = serTupleRef mk vs) ∧
    (∀ (vs : List (Val R)) fuel, sL vs ≤ fuel → (VmStackList_serialize mk fuel vs).map (·.1) = serStackList mk vs) ∧
    (∀ (k : Cont R) fuel, sK k ≤ fuel → VmCont_serialize mk fuel k = serCont mk k) ∧
    (∀ (cd : Ctl R) fuel, sC cd ≤ fuel → VmControlData_serialize mk fuel cd = serCtl mk cd) ∧
    (∀ bits (refs : List R), VmCellSlice_serialize mk (bits, refs) = serCellSlice mk bits refs) := by
  refine ⟨fun vs fuel h => ?_, fun v fuel h => ?_, fun vs fuel h => ?_, fun vs fuel h => ?_, fun vs fuel h => ?_,
    src_serCont, src_serCtl, TonVerif.Proofs.SrcVm.cellSlice_eq⟩
  · rw [src_serStack vs fuel h]; simp [Function.comp_def]
  · rw [src_serVal v fuel h]; simp [Function.comp_def]
  · rw [src_serTuple vs fuel h]; simp [Function.comp_def]
  · rw [src_serTupleRef vs fuel h]; simp [Function.comp_def]
  · rw [src_serStackList vs fuel h]; simp [Function.comp_def]

/-- `c17_src_pure`: serialising does not consume: whenever the regenerated `VmStack.serialize(data)` /
    `VmStackValue.serialize(value)` / `VmTuple.serialize(values)` / `VmTupleRef.serialize(values)` returns, the state of the
    caller's argument after the call (second component; a `pop()` on it would show up here) IS the argument.  For every stack,
    value, tuple nesting, continuation.  (`VmStackList.serialize` empties the list it is given, by design: `VmStack.serialize`
    hands it a copy.) -/
theorem c17_src_pure (mk : Bits → List R → Option R) :
    (∀ (vs : List (Val R)) fuel r, sL vs + 1 ≤ fuel → VmStack_serialize mk fuel vs = some r → r.2 = vs) ∧
    (∀ (v : Val R) fuel r, sV v ≤ fuel → VmStackValue_serialize mk fuel v = some r → r.2 = v) ∧
    (∀ (vs : List (Val R)) fuel r, sT vs ≤ fuel → VmTuple_serialize mk fuel vs = some r → r.2 = vs) ∧
    (∀ (vs : List (Val R)) fuel r, sT vs + 1 ≤ fuel → VmTupleRef_serialize mk fuel vs = some r → r.2 = vs) ∧
    (∀ (vs : List (Val R)) fuel r, sL vs ≤ fuel → VmStackList_serialize mk fuel vs = some r → r.2 = []) := by
  refine ⟨fun vs fuel r h e => ?_, fun v fuel r h e => ?_, fun vs fuel r h e => ?_, fun vs fuel r h e => ?_, fun vs fuel r h e => ?_⟩
  · rw [src_serStack vs fuel h] at e; obtain ⟨b, _, rfl⟩ := Option.map_eq_some_iff.mp e; rfl
  · rw [src_serVal v fuel h] at e; obtain ⟨b, _, rfl⟩ := Option.map_eq_some_iff.mp e; rfl
  · rw [src_serTuple vs fuel h] at e; obtain ⟨b, _, rfl⟩ := Option.map_eq_some_iff.mp e; rfl
  · rw [src_serTupleRef vs fuel h] at e; obtain ⟨b, _, rfl⟩ := Option.map_eq_some_iff.mp e; rfl
  · rw [src_serStackList vs fuel h] at e; obtain ⟨b, _, rfl⟩ := Option.map_eq_some_iff.mp e; rfl

/-- hence the regenerated `VmStack.serialize`, called again on what the first call left, returns the same cell -/
theorem c17_src_twice (mk : Bits → List R → Option R) (vs : List (Val R)) (fuel : Nat) (h : sL vs + 1 ≤ fuel)
    (r : Built R × List (Val R)) (e : VmStack_serialize mk fuel vs = some r) : VmStack_serialize mk fuel r.2 = some r := by
  rw [(c17_src_pure mk).1 vs fuel r h e]; exact e

/-- `c17_src_deserialize`: for EVERY slice and every budget the regenerated `VmStack.deserialize`, `VmStackValue.deserialize`,
    `VmTuple.deserialize`, `VmTupleRef.deserialize`, `VmStackList.deserialize`, `VmControlData.deserialize`,
    `VmCellSlice.deserialize` ARE the hand model's parsers `De.*` (same raise / return decision, same value, same slice state
    afterwards), and `VmCont.deserialize` is `De.cont` wherever a constructor tag matches and returns `None` otherwise. -/
theorem c17_src_deserialize (view : R → Bits × List R) (ord : R → Bool) (fuel : Nat) :
    VmStack_deserialize view ord fuel = De.stack view ord fuel ∧
    VmStackValue_deserialize view ord fuel = De.val view ord fuel ∧
    (∀ n : Nat, VmTuple_deserialize view ord fuel (n : Int) = De.tuple view ord fuel n) ∧
    (∀ n : Nat, VmTupleRef_deserialize view ord fuel (n : Int) = De.tupleRef view ord fuel n) ∧
    (∀ n : Nat, VmStackList_deserialize view ord fuel (n : Int) = De.stackList view ord fuel n) ∧
    VmCont_deserialize view ord fuel = contOpt view ord fuel ∧
    VmControlData_deserialize view ord fuel = De.ctl view ord fuel ∧
    VmCellSlice_deserialize view ord = De.cellSlice view :=
  ⟨src_stack_eq fuel, (src_de_all fuel).1, (src_de_all fuel).2.1, (src_de_all fuel).2.2.1, (src_de_all fuel).2.2.2.1,
    (src_de_all fuel).2.2.2.2.1, (src_de_all fuel).2.2.2.2.2, TonVerif.Proofs.SrcVmDe.cellSlice_eq⟩

/-- `c17_src_roundtrip`: the round trip for the REGENERATED code: whenever the regenerated `VmStack.serialize(vs)` returns a
    cell, the regenerated `VmStack.deserialize` of that cell's content returns `vs` (equal values, same order, every supported
    kind, any nesting) and leaves nothing unread. -/
theorem c17_src_roundtrip (L : Laws mk view ord) (vs : List (Val R)) (fuel fuel' : Nat) (h : sL vs + 1 ≤ fuel)
    (hf : fuelL vs ≤ fuel') (r : Built R × List (Val R)) (e : VmStack_serialize mk fuel vs = some r) :
    VmStack_deserialize view ord fuel' ⟨(view r.1.cell).1, (view r.1.cell).2⟩ = (⟨[], []⟩, some vs) := by
  rw [src_serStack vs fuel h] at e
  obtain ⟨b, hb, rfl⟩ := Option.map_eq_some_iff.mp e
  have hc : serialize mk vs = some b.cell := by simp [serialize, hb]
  rw [src_stack_eq]
  exact c17_parser_accepts_schema vs b.cell (c17_schema L vs b.cell hc) fuel' hf

theorem src_serialize_isSome (vs : List (Val R)) (fuel : Nat) (h : sL vs + 1 ≤ fuel) (hs : (serialize mk vs).isSome) :
    (VmStack_serialize mk fuel vs).isSome := by
  rw [serialize, ← (c17_src_serialize mk).1 vs fuel h] at hs
  simpa using hs

/-- non-vacuity: the regenerated serialiser returns on the two sample stacks (every value kind, every continuation kind,
    tuples of length 0/1/2/4) with budget 200, the returned state is the argument, and the regenerated parser reads the cell back -/
example : (VmStack_serialize mkTree 200 sampleVals).isSome = true ∧ (VmStack_serialize mkTree 200 sampleConts).isSome = true := by
  exact ⟨src_serialize_isSome _ _ (by decide) sampleVals_serialises, src_serialize_isSome _ _ (by decide) sampleConts_serialises⟩

example : ((VmStack_serialize mkTree 200 sampleVals).bind fun r =>
    (VmStack_deserialize viewTree ordTree 200 ⟨(viewTree r.1.cell).1, (viewTree r.1.cell).2⟩).2).isSome = true := by
  obtain ⟨r, e⟩ := Option.isSome_iff_exists.mp (src_serialize_isSome sampleVals 200 (by decide) sampleVals_serialises)
  rw [e, Option.bind_some, c17_src_roundtrip treeLaws sampleVals 200 200 (by decide) (by decide) r e]
  rfl

/-- the budget hypotheses are met by concrete numbers -/
example : sL sampleVals + 1 ≤ 200 ∧ sL sampleConts + 1 ≤ 200 := by decide

/-- a parser-side example: a continuation value whose tag matches no constructor parses to `None` (null), as the code does -/
example : ((VmStackValue_deserialize viewTree ordTree 5 ⟨[false,false,false,false,false,true,true,false, true,false,true,true], []⟩).2.map
    fun v => match v with | Val.null => true | _ => false) = some true := by decide +kernel

end SrcWhole

end TonVerif.C17
