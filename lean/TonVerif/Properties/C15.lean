/-
C15 -- messages, state-inits and currency values serialise per block.tlb and round-trip.

`Model.Message.*` mirrors `MessageAny`, the three `CommonMsgInfo` classes, `StateInit`, `TickTock`,
`CurrencyCollection` of pytoniq-core (after the fix of F17); `Spec.Tlb.*` is the independent reading of
block.tlb (encoder with both `Either` choices free, decoder `decodeMessage`).  Cells are abstract:
`ops.make` = `end_cell` (may refuse: depth), `ops.view` = bits and refs of a cell; `Lawful` = `view ∘ make = id`,
`Total` = every cell with at most 1023 bits and 4 refs exists (no depth overflow).
-/
import TonVerif.Proofs.Wrappers
import TonVerif.Proofs.SrcArith2
import TonVerif.Generated.MsgLayout
import TonVerif.Proofs.SrcMsg
import TonVerif.Proofs.SrcMsgSer
import TonVerif.Proofs.SrcWrap

namespace TonVerif.Properties.C15
open TonVerif TonVerif.Model TonVerif.Spec.Tlb TonVerif.Proofs.Message TonVerif.Proofs.MsgBits

variable {R : Type}

/-- **Serialising never fails for lack of room.**  For every message whose header encodes (all amounts and
addresses in range) into `ib` bits with `ib + 3 ≤ 1023` (`ib + 2` without a state-init), every state-init with
a split depth in range and every body cell (any 0..1023 bits, 0..4 refs), `MessageAny.serialize` returns a
cell: parts that do not fit inline are moved into references.  (The only other way to fail is a cell deeper
than 1023, excluded by `Total`.) -/
theorem c15_never_overflows (ops : CellOps R) (hl : ops.Lawful) (ht : ops.Total) (m : Msg R)
    {ib : Bits} {ir : List R} (hinfo : encInfo m.info = some (ib, ir))
    (hI : ib.length + (if m.init.isSome then 3 else 2) ≤ 1023)
    (hinit : ∀ s, m.init = some s → (encStateInit s).isSome)
    (hbody : m.body.1.length ≤ 1023 ∧ m.body.2.length ≤ 4) :
    (Message.serialize ops m).isSome := by
  obtain ⟨i, b, c, _, hs⟩ := serialize_cases ops hl ht m hinfo hI hinit hbody
  simp [hs]

/-- ... and what it returns is one of the (up to four) block.tlb encodings of the message -/
theorem c15_serialize_is_spec_encoding (ops : CellOps R) (hl : ops.Lawful) (ht : ops.Total) (m : Msg R)
    {ib : Bits} {ir : List R} (hinfo : encInfo m.info = some (ib, ir))
    (hI : ib.length + (if m.init.isSome then 3 else 2) ≤ 1023)
    (hinit : ∀ s, m.init = some s → (encStateInit s).isSome)
    (hbody : m.body.1.length ≤ 1023 ∧ m.body.2.length ≤ 4) :
    ∃ initRef bodyRef c, Message.serialize ops m = some c ∧ encMessage ops m initRef bodyRef = some c := by
  obtain ⟨i, b, c, he, hs⟩ := serialize_cases ops hl ht m hinfo hI hinit hbody
  exact ⟨i, b, c, hs, he⟩

/-- **The serialised cell decodes, under the independent reading of block.tlb, to the same logical message**
(same bound as `c15_never_overflows`; `WF`: a zero-length external address carries the value 0; an empty
extra-currency dictionary is `none` in the logical value, so `{}` and `None` are alike by construction). -/
theorem c15_spec_decodes (ops : CellOps R) (hl : ops.Lawful) (ht : ops.Total) (m : Msg R) (hwf : m.info.WF)
    {ib : Bits} {ir : List R} (hinfo : encInfo m.info = some (ib, ir))
    (hI : ib.length + (if m.init.isSome then 3 else 2) ≤ 1023)
    (hinit : ∀ s, m.init = some s → (encStateInit s).isSome)
    (hbody : m.body.1.length ≤ 1023 ∧ m.body.2.length ≤ 4) :
    ∃ c, Message.serialize ops m = some c ∧ decodeMessage ops c = some m := by
  obtain ⟨i, b, c, he, hs⟩ := serialize_cases ops hl ht m hinfo hI hinit hbody
  exact ⟨c, hs, spec_roundtrip ops hl m hwf i b he⟩

/-- the spec decoder inverts the spec encoder for all four inline/reference combinations -/
theorem c15_spec_roundtrip (ops : CellOps R) (hl : ops.Lawful) (m : Msg R) (hwf : m.info.WF) (initRef bodyRef : Bool) {c : R}
    (h : encMessage ops m initRef bodyRef = some c) : decodeMessage ops c = some m :=
  spec_roundtrip ops hl m hwf initRef bodyRef h

/-- the stand-alone `StateInit.serialize` never fails (12 bits, 3 refs at most) and is the spec encoding -/
theorem c15_state_init_serialize (ops : CellOps R) (ht : ops.Total) (s : StateInit R) {sc : Chunk R}
    (h : encStateInit s = some sc) :
    sc.1.length ≤ 12 ∧ sc.2.length ≤ 3 ∧ Message.serializeStateInit ops s = ops.make sc.1 sc.2 ∧
      (Message.serializeStateInit ops s).isSome := by
  have hsz := size_encStateInit s
  obtain ⟨e1, e2⟩ := enc_some_sizes h
  rw [e1, e2] at hsz
  exact ⟨hsz.1, hsz.2, cellOf_of_appends_some ops ht (appends_stateInitB s) h (by omega) (by omega)⟩

/-- the stand-alone `CurrencyCollection.serialize` is the spec encoding whenever the amount is a `Grams` -/
theorem c15_currency_serialize (ops : CellOps R) (c : Currency R) {cc : Chunk R}
    (h : encCurrency c = some cc) (hfit : cc.1.length ≤ 1023 ∧ cc.2.length ≤ 4) :
    Message.serializeCurrency ops c = ops.make cc.1 cc.2 := by
  have hrun := ((appends_currencyB c).sub.run h).1 hfit
  simp [Message.serializeCurrency, Message.cellOf, Message.runB, hrun]


/-- **The library's own parser agrees with the independent reading on EVERY valid encoding**: whenever a cell
denotes the message `m` under block.tlb (whatever inline/reference choices its author made, any `VarUInteger`
lengths), `MessageAny.deserialize` returns `m`. No hypothesis on `ops`. -/
theorem c15_own_parser (ops : CellOps R) (c : R) (m : Msg R) (h : decodeMessage ops c = some m) :
    Message.deserialize ops c = some m := own_parser ops c m h

/-- in particular it reads back all four encodings of a message, and its own serialisation -/
theorem c15_own_parser_all_encodings (ops : CellOps R) (hl : ops.Lawful) (m : Msg R) (hwf : m.info.WF)
    (initRef bodyRef : Bool) {c : R} (h : encMessage ops m initRef bodyRef = some c) :
    Message.deserialize ops c = some m :=
  own_parser ops c m (spec_roundtrip ops hl m hwf initRef bodyRef h)

theorem c15_round_trip (ops : CellOps R) (hl : ops.Lawful) (ht : ops.Total) (m : Msg R) (hwf : m.info.WF)
    {ib : Bits} {ir : List R} (hinfo : encInfo m.info = some (ib, ir))
    (hI : ib.length + (if m.init.isSome then 3 else 2) ≤ 1023)
    (hinit : ∀ s, m.init = some s → (encStateInit s).isSome)
    (hbody : m.body.1.length ≤ 1023 ∧ m.body.2.length ≤ 4) :
    ∃ c, Message.serialize ops m = some c ∧ Message.deserialize ops c = some m := by
  obtain ⟨c, hs, hd⟩ := c15_spec_decodes ops hl ht m hwf hinfo hI hinit hbody
  exact ⟨c, hs, own_parser ops c m hd⟩

/-- stand-alone `StateInit`: the spec decoder inverts the encoding (that `StateInit.deserialize` agrees with the spec decoder
is `c15_state_init_own_parser`) -/
theorem c15_state_init_decodes (ops : CellOps R) (hl : ops.Lawful) (s : StateInit R) {sc : Chunk R} {c : R}
    (h : encStateInit s = some sc) (hc : ops.make sc.1 sc.2 = some c) : decodeStateInit ops c = some s :=
  decode_of_rt ops hl (rt_stateInit s) h hc

theorem c15_state_init_own_parser (ops : CellOps R) (c : R) (s : StateInit R) (h : decodeStateInit ops c = some s) :
    Message.deserializeStateInit ops c = some s := own_parser_stateInit ops c s h

/-- stand-alone `CurrencyCollection` -/
theorem c15_currency_decodes (ops : CellOps R) (hl : ops.Lawful) (v : Currency R) {cc : Chunk R} {c : R}
    (h : encCurrency v = some cc) (hc : ops.make cc.1 cc.2 = some c) : decodeCurrency ops c = some v :=
  decode_of_rt ops hl (rt_currency v) h hc

theorem c15_currency_own_parser (ops : CellOps R) (c : R) (v : Currency R) (h : decodeCurrency ops c = some v) :
    Message.deserializeCurrency ops c = some v := own_parser_currency ops c v h


/-! ## the stand-alone wrappers: wallet data, wallet message, hash update, NFT item / sale data

For every wrapper `W` (spec: `Spec/Tlb/Wrappers.lean`, from the contracts' storage layouts; model:
`Model/Wrappers.lean`, from the Python code) three theorems, as for `StateInit`:
* `c15_<w>_serialize`   -- `W.serialize` never fails for fields in range and returns the cell of the spec encoding;
* `c15_<w>_decodes`     -- the spec decoder reads that cell back to the value;
* `c15_<w>_own_parser`  -- `W.deserialize` returns what the spec decoder returns on EVERY cell the decoder accepts.
`HighloadWalletData` and `WalletMessage` additionally get the full round trip: it is the statement that defect F23 violated
(`HighloadWalletData.serialize` dropping `old_queries`, `WalletMessage.deserialize` a stub). -/

/-! ### `WalletV3Data` -/

/-- `WalletV3Data(seqno, wallet_id, public_key).serialize()` with `seqno`, `wallet_id` < 2^32 and a 32-byte key
never fails and is the 320-bit cell `seqno:uint32 wallet_id:uint32 public_key:bits256`. -/
theorem c15_wallet_v3_serialize (ops : CellOps R) (ht : ops.Total) (w : WalletV3)
    (hs : 0 ≤ w.seqno ∧ w.seqno < 2 ^ 32) (hi : 0 ≤ w.walletId ∧ w.walletId < 2 ^ 32)
    (hk : w.publicKey.length = 32 ∧ Bytes.WF w.publicKey) :
    ∃ ch : Chunk R, encWalletV3 w = some ch ∧ ch.1.length = 320 ∧ ch.2.length = 0 ∧
      Message.serializeWalletV3 ops w = ops.make ch.1 ch.2 ∧ (Message.serializeWalletV3 ops w).isSome := by
  have he : (encWalletV3 w : Enc R) = some (natToBits 32 w.seqno.toNat ++ (natToBits 32 w.walletId.toNat ++ bytesToBits w.publicKey),
      [] ++ ([] ++ [])) := by
    simp only [encWalletV3, eUint_of_range 32 _ hs.1 hs.2, eUint_of_range 32 _ hi.1 hi.2, eBytes_of 32 _ hk.1 hk.2, Enc.cat]
  have hlen : (natToBits 32 w.seqno.toNat ++ (natToBits 32 w.walletId.toNat ++ bytesToBits w.publicKey)).length = 320 := by
    simp [natToBits_length, bytesToBits_length, hk.1]
  exact ⟨_, he, hlen, by simp, cellOf_of_appends_some ops ht (appends_walletV3B w) he (by simp [hlen]) (by simp)⟩

theorem c15_wallet_v3_decodes (ops : CellOps R) (hl : ops.Lawful) (w : WalletV3) {ch : Chunk R} {c : R}
    (h : encWalletV3 w = some ch) (hc : ops.make ch.1 ch.2 = some c) : decodeWalletV3 ops c = some w :=
  decode_of_rt ops hl (rt_walletV3 w) h hc

theorem c15_wallet_v3_own_parser (ops : CellOps R) (c : R) (w : WalletV3) (h : decodeWalletV3 ops c = some w) :
    Message.deserializeWalletV3 ops c = some w := parse_of_ref ops ref_loadWalletV3 h

/-! ### `WalletV4Data` -/

/-- as v3, followed by the plugin dictionary (`Maybe ^Cell`): 321 bits, at most one reference, never fails -/
theorem c15_wallet_v4_serialize (ops : CellOps R) (ht : ops.Total) (w : WalletV4 R)
    (hs : 0 ≤ w.seqno ∧ w.seqno < 2 ^ 32) (hi : 0 ≤ w.walletId ∧ w.walletId < 2 ^ 32)
    (hk : w.publicKey.length = 32 ∧ Bytes.WF w.publicKey) :
    ∃ ch : Chunk R, encWalletV4 w = some ch ∧ ch.1.length = 321 ∧ ch.2.length ≤ 1 ∧
      Message.serializeWalletV4 ops w = ops.make ch.1 ch.2 ∧ (Message.serializeWalletV4 ops w).isSome := by
  obtain ⟨pc, hp, hp1, hp2⟩ := eMaybeRef_some w.plugins
  have he : encWalletV4 w = some (natToBits 32 w.seqno.toNat ++ (natToBits 32 w.walletId.toNat ++ (bytesToBits w.publicKey ++ pc.1)),
      [] ++ ([] ++ ([] ++ pc.2))) := by
    simp only [encWalletV4, eUint_of_range 32 _ hs.1 hs.2, eUint_of_range 32 _ hi.1 hi.2, eBytes_of 32 _ hk.1 hk.2, hp, Enc.cat]
  have hlen : (natToBits 32 w.seqno.toNat ++ (natToBits 32 w.walletId.toNat ++ (bytesToBits w.publicKey ++ pc.1))).length = 321 := by
    simp [natToBits_length, bytesToBits_length, hk.1, hp1]
  have hr : (([] : List R) ++ ([] ++ ([] ++ pc.2))).length ≤ 1 := by simpa using hp2
  exact ⟨_, he, hlen, hr, cellOf_of_appends_some ops ht (appends_walletV4B w) he (by rw [hlen]; omega) (Nat.le_trans hr (by omega))⟩

theorem c15_wallet_v4_decodes (ops : CellOps R) (hl : ops.Lawful) (w : WalletV4 R) {ch : Chunk R} {c : R}
    (h : encWalletV4 w = some ch) (hc : ops.make ch.1 ch.2 = some c) : decodeWalletV4 ops c = some w :=
  decode_of_rt ops hl (rt_walletV4 w) h hc

theorem c15_wallet_v4_own_parser (ops : CellOps R) (c : R) (w : WalletV4 R) (h : decodeWalletV4 ops c = some w) :
    Message.deserializeWalletV4 ops c = some w := parse_of_ref ops ref_loadWalletV4 h

/-! ### `HighloadWalletData` (`serialize` stores `old_queries`; defect F23 was dropping it) -/

/-- `HighloadWalletData.serialize` never fails for fields in range and is
`wallet_id:uint32 last_cleaned:uint64 public_key:bits256 old_queries:(HashmapE 64 …)`: 353 bits, the dictionary root (if any)
as the only reference. -/
theorem c15_highload_serialize (ops : CellOps R) (ht : ops.Total) (w : Highload R)
    (hi : 0 ≤ w.walletId ∧ w.walletId < 2 ^ 32) (hc : 0 ≤ w.lastCleaned ∧ w.lastCleaned < 2 ^ 64)
    (hk : w.publicKey.length = 32 ∧ Bytes.WF w.publicKey) :
    ∃ ch : Chunk R, encHighload w = some ch ∧ ch.1.length = 353 ∧ ch.2.length ≤ 1 ∧
      Message.serializeHighload ops w = ops.make ch.1 ch.2 ∧ (Message.serializeHighload ops w).isSome := by
  obtain ⟨pc, hp, hp1, hp2⟩ := eMaybeRef_some w.oldQueries
  have he : encHighload w =
      some (natToBits 32 w.walletId.toNat ++ (natToBits 64 w.lastCleaned.toNat ++ (bytesToBits w.publicKey ++ pc.1)),
        [] ++ ([] ++ ([] ++ pc.2))) := by
    simp only [encHighload, eUint_of_range 32 _ hi.1 hi.2, eUint_of_range 64 _ hc.1 hc.2, eBytes_of 32 _ hk.1 hk.2, hp, Enc.cat]
  have hlen : (natToBits 32 w.walletId.toNat ++ (natToBits 64 w.lastCleaned.toNat ++ (bytesToBits w.publicKey ++ pc.1))).length = 353 := by
    simp [natToBits_length, bytesToBits_length, hk.1, hp1]
  have hr : (([] : List R) ++ ([] ++ ([] ++ pc.2))).length ≤ 1 := by simpa using hp2
  exact ⟨_, he, hlen, hr, cellOf_of_appends_some ops ht (appends_highloadB w) he (by rw [hlen]; omega) (Nat.le_trans hr (by omega))⟩

theorem c15_highload_decodes (ops : CellOps R) (hl : ops.Lawful) (w : Highload R) {ch : Chunk R} {c : R}
    (h : encHighload w = some ch) (hc : ops.make ch.1 ch.2 = some c) : decodeHighload ops c = some w :=
  decode_of_rt ops hl (rt_highload w) h hc

/-- `HighloadWalletData.deserialize` reads every valid cell as the spec decoder does (the dictionary as its root cell; each
value of it is read by `WalletMessage.deserialize`, see `c15_wallet_message_own_parser`) -/
theorem c15_highload_own_parser (ops : CellOps R) (c : R) (w : Highload R) (h : decodeHighload ops c = some w) :
    Message.deserializeHighload ops c = some w := parse_of_ref ops ref_loadHighload h

/-- **full round trip, old queries included** (the statement that defect F23 violated) -/
theorem c15_highload_round_trip (ops : CellOps R) (hl : ops.Lawful) (ht : ops.Total) (w : Highload R)
    (hi : 0 ≤ w.walletId ∧ w.walletId < 2 ^ 32) (hc : 0 ≤ w.lastCleaned ∧ w.lastCleaned < 2 ^ 64)
    (hk : w.publicKey.length = 32 ∧ Bytes.WF w.publicKey) :
    ∃ c, Message.serializeHighload ops w = some c ∧ decodeHighload ops c = some w ∧
      Message.deserializeHighload ops c = some w := by
  obtain ⟨ch, he, _, _, hser, hsome⟩ := c15_highload_serialize ops ht w hi hc hk
  obtain ⟨c, hcell⟩ := Option.isSome_iff_exists.mp hsome
  have hd := c15_highload_decodes ops hl w he (hser ▸ hcell)
  exact ⟨c, hcell, hd, c15_highload_own_parser ops c w hd⟩

/-! ### `WalletMessage` (`deserialize` parses; defect F23 was a stub in its place) -/

/-- `WalletMessage(send_mode, message).serialize()` with `send_mode` < 256 and a message within the bound of
`c15_never_overflows` never fails and is `send_mode:uint8 message:^(Message Any)`, the reference holding one of the
block.tlb encodings of the message. -/
theorem c15_wallet_message_serialize (ops : CellOps R) (hl : ops.Lawful) (ht : ops.Total) (w : WalletMsg R)
    (hmode : 0 ≤ w.sendMode ∧ w.sendMode < 256)
    {ib : Bits} {ir : List R} (hinfo : encInfo w.message.info = some (ib, ir))
    (hI : ib.length + (if w.message.init.isSome then 3 else 2) ≤ 1023)
    (hinit : ∀ s, w.message.init = some s → (encStateInit s).isSome)
    (hbody : w.message.body.1.length ≤ 1023 ∧ w.message.body.2.length ≤ 4) :
    ∃ initRef bodyRef, ∃ ch : Chunk R, encWalletMsg ops w initRef bodyRef = some ch ∧ ch.1.length = 8 ∧ ch.2.length = 1 ∧
      Message.serializeWalletMsg ops w = ops.make ch.1 ch.2 ∧ (Message.serializeWalletMsg ops w).isSome := by
  obtain ⟨i, b, c, he, hs⟩ := serialize_cases ops hl ht w.message hinfo hI hinit hbody
  have h1 := encWalletMsg_eq ops w hmode i b he
  have h2 := serializeWalletMsg_eq ops w hmode hs
  refine ⟨i, b, _, h1, by simp [natToBits_length], by simp, h2, ?_⟩
  rw [h2]; exact ht _ _ (by simp [natToBits_length]) (by simp)

/-- every spec encoding of a wallet message (either `Either` choice inside the referenced message) decodes to it -/
theorem c15_wallet_message_decodes (ops : CellOps R) (hl : ops.Lawful) (w : WalletMsg R) (hwf : w.message.info.WF)
    (initRef bodyRef : Bool) {ch : Chunk R} {c : R}
    (h : encWalletMsg ops w initRef bodyRef = some ch) (hc : ops.make ch.1 ch.2 = some c) :
    decodeWalletMsg ops c = some w :=
  decode_of_rt ops hl (rt_walletMsg ops hl w hwf initRef bodyRef) h hc

/-- `WalletMessage.deserialize` returns what the spec decoder returns on every cell that is a wallet message (whatever
`Either` choices the referenced message uses) -/
theorem c15_wallet_message_own_parser (ops : CellOps R) (c : R) (w : WalletMsg R) (h : decodeWalletMsg ops c = some w) :
    Message.deserializeWalletMsg ops c = some w := parse_of_ref ops (ref_loadWalletMsg ops) h

/-- round trip of `WalletMessage` (the statement that defect F23 violated) -/
theorem c15_wallet_message_round_trip (ops : CellOps R) (hl : ops.Lawful) (ht : ops.Total) (w : WalletMsg R)
    (hwf : w.message.info.WF) (hmode : 0 ≤ w.sendMode ∧ w.sendMode < 256)
    {ib : Bits} {ir : List R} (hinfo : encInfo w.message.info = some (ib, ir))
    (hI : ib.length + (if w.message.init.isSome then 3 else 2) ≤ 1023)
    (hinit : ∀ s, w.message.init = some s → (encStateInit s).isSome)
    (hbody : w.message.body.1.length ≤ 1023 ∧ w.message.body.2.length ≤ 4) :
    ∃ c, Message.serializeWalletMsg ops w = some c ∧ decodeWalletMsg ops c = some w ∧
      Message.deserializeWalletMsg ops c = some w := by
  obtain ⟨i, b, ch, he, _, _, hser, hsome⟩ := c15_wallet_message_serialize ops hl ht w hmode hinfo hI hinit hbody
  obtain ⟨c, hc⟩ := Option.isSome_iff_exists.mp hsome
  have hd := c15_wallet_message_decodes ops hl w hwf i b he (hser ▸ hc)
  exact ⟨c, hc, hd, c15_wallet_message_own_parser ops c w hd⟩

/-! ### `HashUpdate` -/

/-- `HashUpdate(old, new).serialize()` with two 32-byte hashes never fails and is `#72 old_hash:bits256 new_hash:bits256` -/
theorem c15_hash_update_serialize (ops : CellOps R) (ht : ops.Total) (h : HashUpd)
    (ho : h.oldHash.length = 32 ∧ Bytes.WF h.oldHash) (hn : h.newHash.length = 32 ∧ Bytes.WF h.newHash) :
    ∃ ch : Chunk R, encHashUpd h = some ch ∧ ch.1.length = 520 ∧ ch.2.length = 0 ∧
      Message.serializeHashUpd ops h = ops.make ch.1 ch.2 ∧ (Message.serializeHashUpd ops h).isSome := by
  have he : (encHashUpd h : Enc R) = some (bytesToBits [0x72] ++ (bytesToBits h.oldHash ++ bytesToBits h.newHash), [] ++ ([] ++ [])) := by
    simp only [encHashUpd, eBytes_of 1 [0x72] rfl (by decide), eBytes_of 32 _ ho.1 ho.2, eBytes_of 32 _ hn.1 hn.2, Enc.cat]
  have hlen : (bytesToBits [0x72] ++ (bytesToBits h.oldHash ++ bytesToBits h.newHash)).length = 520 := by
    simp [bytesToBits_length, ho.1, hn.1]
  exact ⟨_, he, hlen, by simp, cellOf_of_appends_some ops ht (appends_hashUpdateB h) he (by simp [hlen]) (by simp)⟩

theorem c15_hash_update_decodes (ops : CellOps R) (hl : ops.Lawful) (h : HashUpd) {ch : Chunk R} {c : R}
    (he : encHashUpd h = some ch) (hc : ops.make ch.1 ch.2 = some c) : decodeHashUpd ops c = some h :=
  decode_of_rt ops hl (rt_hashUpd h) he hc

theorem c15_hash_update_own_parser (ops : CellOps R) (c : R) (h : HashUpd) (hd : decodeHashUpd ops c = some h) :
    Message.deserializeHashUpd ops c = some h := parse_of_ref ops ref_loadHashUpdate hd

/-! ### `NftItemData` -/

/-- `NftItemData.serialize` is the cell of `index:uint64 collection:MsgAddress owner:MsgAddress content:^Cell` whenever
the fields are in range (= the encoding exists) and it fits a cell; it fails exactly when it does not fit. -/
theorem c15_nft_item_serialize (ops : CellOps R) (n : NftItem R) {ch : Chunk R} (h : encNftItem n = some ch) :
    (ch.1.length ≤ 1023 → Message.serializeNftItem ops n = ops.make ch.1 ch.2) ∧
    (¬ ch.1.length ≤ 1023 → Message.serializeNftItem ops n = none) ∧ ch.2.length = 1 := by
  have hr : ch.2.length = 1 := by
    have h1 : Enc.nrefs (encNftItem n) ≤ 1 :=
      nrefs_cat_le (x := 0) (y := 1) (nrefs_eUint _ _) (nrefs_cat_le (x := 0) (y := 1) (nrefs_eAddr _)
        (nrefs_cat_le (x := 0) (y := 1) (nrefs_eAddr _) (nrefs_eRef _)))
    rw [(enc_some_sizes h).2] at h1
    unfold encNftItem at h
    obtain ⟨_, y1, _, hy1, rfl⟩ := Enc.cat_some h
    obtain ⟨_, y2, _, hy2, rfl⟩ := Enc.cat_some hy1
    obtain ⟨_, y3, _, hy3, rfl⟩ := Enc.cat_some hy2
    simp only [eRef, Option.some.injEq] at hy3
    subst hy3
    simp only [List.length_append, List.length_cons, List.length_nil] at h1 ⊢
    omega
  refine ⟨fun hf => cellOf_of_appends ops (appends_nftItemB n) h ⟨hf, by omega⟩,
    fun hf => cellOf_of_appends_none ops (appends_nftItemB n) h (fun hh => hf hh.1), hr⟩

/-- with a collection and an owner that are not `addr_extern` (`addr_std`, with or without anycast, or `addr_none`)
it always fits: at most 64 + 302 + 302 bits -/
theorem c15_nft_item_never_overflows (ops : CellOps R) (ht : ops.Total) (n : NftItem R) {ch : Chunk R}
    (h : encNftItem n = some ch) (hc : ∀ l v, n.collection ≠ Addr.ext l v) (ho : ∀ l v, n.owner ≠ Addr.ext l v) :
    ch.1.length ≤ 668 ∧ (Message.serializeNftItem ops n).isSome := by
  have hb : Enc.nbits (encNftItem n) ≤ 64 + (302 + (302 + 0)) :=
    nbits_cat_le (nbits_eUint _ _) (nbits_cat_le (nbits_eAddr_nonext _ hc) (nbits_cat_le (nbits_eAddr_nonext _ ho) (nbits_eRef _)))
  rw [(enc_some_sizes h).1] at hb
  have hr := (c15_nft_item_serialize ops n h).2.2
  exact ⟨by omega, (cellOf_of_appends_some ops ht (appends_nftItemB n) h (by omega) (by omega)).2⟩

theorem c15_nft_item_decodes (ops : CellOps R) (hl : ops.Lawful) (n : NftItem R) (hwf : n.WF) {ch : Chunk R} {c : R}
    (h : encNftItem n = some ch) (hc : ops.make ch.1 ch.2 = some c) : decodeNftItem ops c = some n :=
  decode_of_rt ops hl (rt_nftItem n hwf.1 hwf.2) h hc

theorem c15_nft_item_own_parser (ops : CellOps R) (c : R) (n : NftItem R) (h : decodeNftItem ops c = some n) :
    Message.deserializeNftItem ops c = some n := parse_of_ref ops ref_loadNftItem h

/-! ### `NftItemSaleFees`, `NftItemSaleData` -/

theorem c15_sale_fees_serialize (ops : CellOps R) (f : SaleFees) {ch : Chunk R} (h : encSaleFees f = some ch) :
    (ch.1.length ≤ 1023 → Message.serializeSaleFees ops f = ops.make ch.1 ch.2) ∧
    (¬ ch.1.length ≤ 1023 → Message.serializeSaleFees ops f = none) ∧ ch.2.length = 0 := by
  have hr : ch.2.length = 0 := by
    have h1 : Enc.nrefs (encSaleFees f : Enc R) ≤ 0 :=
      nrefs_cat_le (x := 0) (y := 0) (nrefs_eAddr _) (nrefs_cat_le (x := 0) (y := 0) (nrefs_eGrams _)
        (nrefs_cat_le (x := 0) (y := 0) (nrefs_eAddr _) (nrefs_eGrams _)))
    rw [(enc_some_sizes h).2] at h1; omega
  refine ⟨fun hf => cellOf_of_appends ops (appends_saleFeesB f) h ⟨hf, by omega⟩,
    fun hf => cellOf_of_appends_none ops (appends_saleFeesB f) h (fun hh => hf hh.1), hr⟩

/-- with fee addresses that are not `addr_extern` it always fits: at most 302 + 124 + 302 + 124 bits -/
theorem c15_sale_fees_never_overflows (ops : CellOps R) (ht : ops.Total) (f : SaleFees) {ch : Chunk R}
    (h : encSaleFees f = some ch) (ha : ∀ l v, f.marketplaceFeeAddress ≠ Addr.ext l v) (hb : ∀ l v, f.royaltyAddress ≠ Addr.ext l v) :
    ch.1.length ≤ 852 ∧ (Message.serializeSaleFees ops f).isSome := by
  have hbits : Enc.nbits (encSaleFees f : Enc R) ≤ 302 + (124 + (302 + 124)) :=
    nbits_cat_le (nbits_eAddr_nonext _ ha) (nbits_cat_le (nbits_eGrams _) (nbits_cat_le (nbits_eAddr_nonext _ hb) (nbits_eGrams _)))
  rw [(enc_some_sizes h).1] at hbits
  have hr := (c15_sale_fees_serialize ops f h).2.2
  exact ⟨by omega, (cellOf_of_appends_some ops ht (appends_saleFeesB f) h (by omega) (by omega)).2⟩

theorem c15_sale_fees_decodes (ops : CellOps R) (hl : ops.Lawful) (f : SaleFees) (hwf : f.WF) {ch : Chunk R} {c : R}
    (h : encSaleFees f = some ch) (hc : ops.make ch.1 ch.2 = some c) : decodeSaleFees ops c = some f :=
  decode_of_rt ops hl (rt_saleFees f hwf) h hc

theorem c15_sale_fees_own_parser (ops : CellOps R) (c : R) (f : SaleFees) (h : decodeSaleFees ops c = some f) :
    Message.deserializeSaleFees ops c = some f := parse_of_ref ops ref_loadSaleFees h

/-- `NftItemSaleData.serialize` is the cell of `is_complete:Bool created_at:uint32 marketplace nft nft_owner:MsgAddress
full_price:Grams fees_cell:^NftItemSaleFees can_deploy_by_external:Bool` whenever that encoding exists (fields in range,
the fees fit their own cell) and fits a cell. -/
theorem c15_sale_data_serialize (ops : CellOps R) (s : SaleData) {ch : Chunk R} (h : encSaleData ops s = some ch)
    (hfit : ch.1.length ≤ 1023 ∧ ch.2.length ≤ 4) : Message.serializeSaleData ops s = ops.make ch.1 ch.2 :=
  serializeSaleData_eq ops s h hfit

/-- with marketplace / nft / owner addresses that are `addr_none` or `addr_std` without anycast it always fits (at most
1 + 32 + 3·267 + 124 + 1 = 959 bits, one reference), so `NftItemSaleData.serialize` never fails once the fields are in range
and the fees fit their own cell.  (Three anycast addresses and a maximal price make 1064 bits: that value has no cell.) -/
theorem c15_sale_data_never_overflows (ops : CellOps R) (ht : ops.Total) (s : SaleData) {ch : Chunk R}
    (h : encSaleData ops s = some ch) (hm : PlainAddr s.marketplace) (hn : PlainAddr s.nft) (ho : PlainAddr s.nftOwner) :
    ch.1.length ≤ 959 ∧ ch.2.length ≤ 1 ∧ (Message.serializeSaleData ops s).isSome := by
  obtain ⟨hb, hr⟩ := size_encSaleData ops s hm hn ho
  rw [(enc_some_sizes h).1] at hb
  rw [(enc_some_sizes h).2] at hr
  refine ⟨hb, hr, ?_⟩
  rw [serializeSaleData_eq ops s h ⟨by omega, by omega⟩]
  exact ht _ _ (by omega) (by omega)

theorem c15_sale_data_decodes (ops : CellOps R) (hl : ops.Lawful) (s : SaleData) (hwf : s.WF) {ch : Chunk R} {c : R}
    (h : encSaleData ops s = some ch) (hc : ops.make ch.1 ch.2 = some c) : decodeSaleData ops c = some s :=
  decode_of_rt ops hl (rt_saleData ops hl s hwf) h hc

theorem c15_sale_data_own_parser (ops : CellOps R) (c : R) (s : SaleData) (h : decodeSaleData ops c = some s) :
    Message.deserializeSaleData ops c = some s := parse_of_ref ops (ref_loadSaleData ops) h

/-! ### `Message X` proper: the strict reading -/

/-- the strict reader returns only messages whose addresses are in the classes block.tlb names (`int_msg_info`: both
`MsgAddressInt`; `ext_in_msg_info`: `src:MsgAddressExt dest:MsgAddressInt`; `ext_out_msg_info`: the converse), it agrees
with the union-class reader, and the library's parser returns the same message -/
theorem c15_strict_sound (ops : CellOps R) (c : R) (m : Msg R) (h : decodeMessageStrict ops c = some m) :
    m.info.Conforms ∧ decodeMessage ops c = some m ∧ Message.deserialize ops c = some m := by
  unfold decodeMessageStrict at h
  obtain ⟨m', hm', hif⟩ := Option.bind_eq_some_iff.mp h
  split at hif
  · rename_i hc
    cases hif
    exact ⟨hc, hm', own_parser ops c _ hm'⟩
  · simp at hif

theorem c15_strict_complete (ops : CellOps R) (c : R) (m : Msg R) (hd : decodeMessage ops c = some m)
    (hc : m.info.Conforms) : decodeMessageStrict ops c = some m := by
  simp [decodeMessageStrict, hd, hc]

/-- a message of `Message X` proper serialises (under the bound of `c15_never_overflows`) to a cell that the STRICT
reader maps back to it -/
theorem c15_strict_round_trip (ops : CellOps R) (hl : ops.Lawful) (ht : ops.Total) (m : Msg R) (hwf : m.info.WF)
    (hconf : m.info.Conforms)
    {ib : Bits} {ir : List R} (hinfo : encInfo m.info = some (ib, ir))
    (hI : ib.length + (if m.init.isSome then 3 else 2) ≤ 1023)
    (hinit : ∀ s, m.init = some s → (encStateInit s).isSome)
    (hbody : m.body.1.length ≤ 1023 ∧ m.body.2.length ≤ 4) :
    ∃ c, Message.serialize ops m = some c ∧ decodeMessageStrict ops c = some m := by
  obtain ⟨c, hs, hd⟩ := c15_spec_decodes ops hl ht m hwf hinfo hI hinit hbody
  exact ⟨c, hs, c15_strict_complete ops c m hd hconf⟩

/-- what `Conforms` says, constructor by constructor -/
theorem c15_conforms_iff (i : Info R) :
    i.Conforms ↔ match i with
      | .int _ _ _ src dest _ _ _ _ _ => (∃ a w h, src = Addr.std a w h) ∧ (∃ a w h, dest = Addr.std a w h)
      | .extIn src dest _ => (src = Addr.none ∨ ∃ l v, src = Addr.ext l v) ∧ (∃ a w h, dest = Addr.std a w h)
      | .extOut src dest _ _ => (∃ a w h, src = Addr.std a w h) ∧ (dest = Addr.none ∨ ∃ l v, dest = Addr.ext l v) := by
  have hint : ∀ a : Addr, Addr.isInt a = true ↔ ∃ x w h, a = Addr.std x w h := by
    intro a; cases a <;> simp [Addr.isInt]
  have hext : ∀ a : Addr, Addr.isExt a = true ↔ (a = Addr.none ∨ ∃ l v, a = Addr.ext l v) := by
    intro a; cases a <;> simp [Addr.isExt]
  cases i <;> simp only [Info.Conforms, hint, hext]

/-- **For `Message X` proper no size hypothesis is needed**: a message whose addresses are in the classes block.tlb names
(and, if internal, carry no anycast) has a header of at most 1007 bits, so whenever its fields are in range it serialises,
with any state-init and any body, to a cell that the strict reader and the library's parser map back to it.  (With anycast
in an internal header the bound can be exceeded: 4 + 2·302 + 125 + 2·124 + 96 = 1077 bits.) -/
theorem c15_conforming_round_trip (ops : CellOps R) (hl : ops.Lawful) (ht : ops.Total) (m : Msg R) (hwf : m.info.WF)
    (hconf : m.info.Conforms) (hna : m.info.IntNoAnycast) (hinfo : (encInfo m.info).isSome)
    (hinit : ∀ s, m.init = some s → (encStateInit s).isSome)
    (hbody : m.body.1.length ≤ 1023 ∧ m.body.2.length ≤ 4) :
    ∃ c, Message.serialize ops m = some c ∧ decodeMessageStrict ops c = some m ∧ Message.deserialize ops c = some m := by
  obtain ⟨⟨ib, ir⟩, h⟩ := Option.isSome_iff_exists.mp hinfo
  have hb := nbits_encInfo_conforms m.info hconf hna
  rw [(enc_some_sizes h).1] at hb
  have hI : ib.length + (if m.init.isSome then 3 else 2) ≤ 1023 := by
    have : ib.length ≤ 1007 := hb
    split <;> omega
  obtain ⟨c, hs, hd⟩ := c15_strict_round_trip ops hl ht m hwf hconf h hI hinit hbody
  exact ⟨c, hs, hd, (c15_strict_sound ops c m hd).2.2⟩

/-! ### non-vacuity and tightness on a concrete cell type -/

inductive T where
  | mk (bits : Bits) (refs : List T)

def tops : CellOps T := ⟨fun b r => some (T.mk b r), fun c => match c with | .mk b r => (b, r)⟩

theorem tops_lawful : tops.Lawful := by
  intro b r c h; simp [tops] at h; subst h; rfl

theorem tops_total : tops.Total := by
  intro b r _ _; simp [tops]

def leaf : T := .mk [true, false, true] []

/-- an internal message with extra currencies, a 3-ref state-init and a body with a ref (the F17 shape) -/
def m0 : Msg T :=
  ⟨Info.int true false false (Addr.std none 0 (List.replicate 32 17)) (Addr.std (some (3, 5)) (-1) (List.replicate 32 255))
      ⟨1000000000, some leaf⟩ 0 300 77 1700000000,
   some ⟨some 5, some ⟨true, false⟩, some leaf, some leaf, some leaf⟩,
   ([true, true, false], [leaf])⟩

/-- the hypotheses of the theorems above hold of `m0` -/
theorem m0_header : ∃ ib ir, encInfo m0.info = some (ib, ir) ∧ ib.length + 3 ≤ 1023 := by
  obtain ⟨⟨ib, ir⟩, h⟩ := Option.isSome_iff_exists.mp (show (encInfo m0.info).isSome = true by decide +kernel)
  have hlen : Enc.nbits (encInfo m0.info) + 3 ≤ 1023 := by decide +kernel
  rw [(enc_some_sizes h).1] at hlen
  exact ⟨ib, ir, h, hlen⟩

theorem m0_wf : m0.info.WF := by simp [m0, Info.WF, AddrWF]

theorem m0_init (s : StateInit T) (hs : m0.init = some s) : (encStateInit s).isSome := by
  simp [m0] at hs; subst hs; decide +kernel

example : Enc.nbits (encInfo m0.info) + 3 ≤ 1023 ∧ (encInfo m0.info).isSome := by
  obtain ⟨ib, ir, h, hlen⟩ := m0_header
  exact ⟨by rw [(enc_some_sizes h).1]; exact hlen, by rw [h]; rfl⟩

/-- the hypotheses of the three theorems are met by `m0`: it serialises, decodes and parses back -/
example : ∃ c, Message.serialize tops m0 = some c ∧ decodeMessage tops c = some m0 ∧ Message.deserialize tops c = some m0 := by
  obtain ⟨ib, ir, h, hlen⟩ := m0_header
  obtain ⟨c, hs, hd⟩ := c15_spec_decodes tops tops_lawful tops_total m0 m0_wf h hlen m0_init (by decide)
  exact ⟨c, hs, hd, c15_own_parser tops c m0 hd⟩

/-- it really used a reference for the state-init (F17: before the fix this input raised) -/
example : (Message.serialize tops m0).isSome = true := by
  obtain ⟨ib, ir, h, hlen⟩ := m0_header
  exact c15_never_overflows tops tops_lawful tops_total m0 h hlen m0_init (by decide)

/-- **the bound is tight**: a (valid) header of 1021 bits with a state-init cannot be serialised -/
def mBig : Msg T :=
  ⟨Info.int true false false (Addr.ext 507 0) (Addr.std (some (30, 0)) 0 (List.replicate 32 0))
      ⟨2 ^ 80 - 1, none⟩ 255 0 0 0,
   some ⟨none, none, none, none, none⟩, ([], [])⟩

/-- the 507 address bits are counted by `nbits_eAddr_ext`, not written out -/
theorem mBig_header : ∃ ib ir, encInfo mBig.info = some (ib, ir) ∧ ib.length = 1021 := by
  have h : (encInfo mBig.info).isSome := by decide +kernel
  obtain ⟨⟨ib, ir⟩, he⟩ := Option.isSome_iff_exists.mp h
  refine ⟨ib, ir, he, ?_⟩
  rw [← (enc_some_sizes he).1]
  simp only [mBig, encInfo, Enc.isSome_cat, Bool.and_eq_true] at h
  simp only [mBig, encInfo, Enc.nbits_cat, Enc.isSome_cat, h, Bool.and_self, nbits_eAddr_ext]
  decide +kernel

example : Enc.nbits (encInfo mBig.info) = 1021 ∧ (encInfo mBig.info).isSome ∧ (Message.serialize tops mBig).isSome = false := by
  obtain ⟨ib, ir, he, hlen⟩ := mBig_header
  refine ⟨by rw [(enc_some_sizes he).1, hlen], by rw [he]; rfl, ?_⟩
  cases hs : (Message.serialize tops mBig).isSome
  · rfl
  · have := serialize_some_bound tops tops_lawful mBig he hs
    simp [mBig, hlen] at this

/-- ... while the same header without a state-init (1021 + 2 ≤ 1023) can -/
example : (Message.serialize tops { mBig with init := none }).isSome = true := by
  obtain ⟨ib, ir, he, hlen⟩ := mBig_header
  exact c15_never_overflows tops tops_lawful tops_total { mBig with init := none } he (by simp [hlen]) nofun (by decide)


/-! ### the wrappers: the hypotheses are met by concrete values, and the two F23 statements bite -/

def key7 : Bytes := List.replicate 32 7

/-- boundary seqno 2^32 - 1, the default wallet id -/
def w3 : WalletV3 := ⟨2 ^ 32 - 1, 698983191, key7⟩

example : ∃ c, Message.serializeWalletV3 tops w3 = some c ∧ decodeWalletV3 tops c = some w3 ∧
    Message.deserializeWalletV3 tops c = some w3 := by
  obtain ⟨ch, he, _, _, hser, hsome⟩ := c15_wallet_v3_serialize tops tops_total w3 (by decide) (by decide) (by decide)
  obtain ⟨c, hc⟩ := Option.isSome_iff_exists.mp hsome
  have hd := c15_wallet_v3_decodes tops tops_lawful w3 he (hser ▸ hc)
  exact ⟨c, hc, hd, c15_wallet_v3_own_parser tops c w3 hd⟩

/-- the library does not check the key length: a 1-byte key "serialises", to a cell that is no `WalletV3Data` -/
example : (Message.serializeWalletV3 tops ⟨0, 0, [1]⟩).isSome = true ∧ (encWalletV3 ⟨0, 0, [1]⟩ : Enc T) = none := by
  decide +kernel

def w4 : WalletV4 T := ⟨0, 2 ^ 32 - 1, key7, some leaf⟩

example : ∃ c, Message.serializeWalletV4 tops w4 = some c ∧ decodeWalletV4 tops c = some w4 ∧
    Message.deserializeWalletV4 tops c = some w4 := by
  obtain ⟨ch, he, _, _, hser, hsome⟩ := c15_wallet_v4_serialize tops tops_total w4 (by decide) (by decide) (by decide)
  obtain ⟨c, hc⟩ := Option.isSome_iff_exists.mp hsome
  have hd := c15_wallet_v4_decodes tops tops_lawful w4 he (hser ▸ hc)
  exact ⟨c, hc, hd, c15_wallet_v4_own_parser tops c w4 hd⟩

/-- a highload wallet with a (non-empty) query dictionary round-trips (the case of defect F23) -/
def hq : Highload T := ⟨1, 2 ^ 64 - 1, key7, some leaf⟩

example : ∃ c, Message.serializeHighload tops hq = some c ∧ decodeHighload tops c = some hq ∧
    Message.deserializeHighload tops c = some hq :=
  c15_highload_round_trip tops tops_lawful tops_total hq (by decide) (by decide) (by decide)

/-- a wallet message around `m0` -/
def wm0 : WalletMsg T := ⟨3, m0⟩

example : ∃ c, Message.serializeWalletMsg tops wm0 = some c ∧ decodeWalletMsg tops c = some wm0 ∧
    Message.deserializeWalletMsg tops c = some wm0 := by
  obtain ⟨ib, ir, h, hlen⟩ := m0_header
  exact c15_wallet_message_round_trip tops tops_lawful tops_total wm0 m0_wf (by decide) h hlen m0_init (by decide)

def hu0 : HashUpd := ⟨key7, List.replicate 32 255⟩

example : ∃ c, Message.serializeHashUpd tops hu0 = some c ∧ decodeHashUpd tops c = some hu0 ∧
    Message.deserializeHashUpd tops c = some hu0 := by
  obtain ⟨ch, he, _, _, hser, hsome⟩ := c15_hash_update_serialize (R := T) tops tops_total hu0 (by decide) (by decide)
  obtain ⟨c, hc⟩ := Option.isSome_iff_exists.mp hsome
  have hd := c15_hash_update_decodes tops tops_lawful hu0 he (hser ▸ hc)
  exact ⟨c, hc, hd, c15_hash_update_own_parser tops c hu0 hd⟩

/-- the tag `#72` -/
example : bytesToBits [0x72] = [false, true, true, true, false, false, true, false] := by decide

/-- an NFT item with the maximal index, an anycast collection address and NO owner (`addr_none`) -/
def nft0 : NftItem T := ⟨2 ^ 64 - 1, Addr.std (some (30, 1)) (-1) key7, Addr.none, leaf⟩

example : ∃ c, Message.serializeNftItem tops nft0 = some c ∧ decodeNftItem tops c = some nft0 ∧
    Message.deserializeNftItem tops c = some nft0 := by
  obtain ⟨ch, h⟩ := Option.isSome_iff_exists.mp (show (encNftItem nft0).isSome = true by decide +kernel)
  obtain ⟨hlen, hsome⟩ := c15_nft_item_never_overflows tops tops_total nft0 h (by simp [nft0]) (by simp [nft0])
  obtain ⟨h1, _, _⟩ := c15_nft_item_serialize tops nft0 h
  obtain ⟨c, hc⟩ := Option.isSome_iff_exists.mp hsome
  have hd := c15_nft_item_decodes tops tops_lawful nft0 (by simp [nft0, NftItem.WF, AddrWF]) h ((h1 (by omega)) ▸ hc)
  exact ⟨c, hc, hd, c15_nft_item_own_parser tops c nft0 hd⟩

/-- two long external addresses do not fit: `NftItemData.serialize` raises (64 + 522 + 522 bits) -/
example : (encNftItem (⟨0, Addr.ext 511 1, Addr.ext 511 1, leaf⟩ : NftItem T)).isSome = true ∧
    Message.serializeNftItem tops ⟨0, Addr.ext 511 1, Addr.ext 511 1, leaf⟩ = none := by
  have h : (encNftItem (⟨0, Addr.ext 511 1, Addr.ext 511 1, leaf⟩ : NftItem T)).isSome := by decide +kernel
  refine ⟨h, ?_⟩
  obtain ⟨ch, he⟩ := Option.isSome_iff_exists.mp h
  refine (c15_nft_item_serialize tops _ he).2.1 ?_
  rw [← (enc_some_sizes he).1]
  simp only [encNftItem, Enc.isSome_cat, Bool.and_eq_true] at h
  simp only [encNftItem, Enc.nbits_cat, Enc.isSome_cat, h, Bool.and_self, nbits_eAddr_ext, nbits_eUint_eq]
  decide

def fees0 : SaleFees := ⟨Addr.std none 0 key7, 2 ^ 120 - 1, Addr.none, 0⟩
def sale0 : SaleData := ⟨true, 2 ^ 32 - 1, Addr.std none 0 key7, Addr.std none (-1) key7, Addr.none, 10 ^ 9, fees0, false⟩

example : ∃ c, Message.serializeSaleFees tops fees0 = some c ∧ decodeSaleFees tops c = some fees0 ∧
    Message.deserializeSaleFees tops c = some fees0 := by
  obtain ⟨ch, h⟩ := Option.isSome_iff_exists.mp (show (encSaleFees fees0 : Enc T).isSome = true by decide +kernel)
  obtain ⟨hlen, hsome⟩ := c15_sale_fees_never_overflows tops tops_total fees0 h (by simp [fees0]) (by simp [fees0])
  obtain ⟨h1, _, _⟩ := c15_sale_fees_serialize tops fees0 h
  obtain ⟨c, hc⟩ := Option.isSome_iff_exists.mp hsome
  have hd := c15_sale_fees_decodes tops tops_lawful fees0 (by simp [fees0, SaleFees.WF, AddrWF]) h ((h1 (by omega)) ▸ hc)
  exact ⟨c, hc, hd, c15_sale_fees_own_parser tops c fees0 hd⟩

example : ∃ c, Message.serializeSaleData tops sale0 = some c ∧ decodeSaleData tops c = some sale0 ∧
    Message.deserializeSaleData tops c = some sale0 := by
  obtain ⟨ch, h⟩ := Option.isSome_iff_exists.mp (show (encSaleData tops sale0).isSome = true by decide +kernel)
  have hfit : ch.1.length ≤ 1023 ∧ ch.2.length ≤ 4 := by
    obtain ⟨h1, h2, _⟩ := c15_sale_data_never_overflows tops tops_total sale0 h (Or.inr ⟨_, _, rfl⟩) (Or.inr ⟨_, _, rfl⟩) (Or.inl rfl)
    omega
  have hs := c15_sale_data_serialize tops sale0 h hfit
  have hd := c15_sale_data_decodes tops tops_lawful sale0 (by simp [sale0, fees0, SaleData.WF, SaleFees.WF, AddrWF]) h
    (c := T.mk ch.1 ch.2) rfl
  exact ⟨_, hs, hd, c15_sale_data_own_parser tops _ sale0 hd⟩

/-- `m0` is a `Message X` proper (internal, both addresses `addr_std`): the strict reader returns it -/
example : ∃ c, Message.serialize tops m0 = some c ∧ decodeMessageStrict tops c = some m0 := by
  obtain ⟨ib, ir, h, hlen⟩ := m0_header
  exact c15_strict_round_trip tops tops_lawful tops_total m0 m0_wf (by simp [m0, Info.Conforms, Addr.isInt]) h hlen m0_init (by decide)

/-- an external-in message whose source is an internal address is a `MessageRelaxed`-style value, not a `Message X`:
it decodes under the union reading and the library parses it, the strict reader refuses it -/
def mRelaxed : Msg T := ⟨Info.extIn (Addr.std none 0 key7) (Addr.std none 0 key7) 0, none, ([], [])⟩

example : ∃ c, Message.serialize tops mRelaxed = some c ∧ decodeMessage tops c = some mRelaxed ∧
    decodeMessageStrict tops c = none := by
  obtain ⟨⟨ib, ir⟩, h⟩ := Option.isSome_iff_exists.mp (show (encInfo mRelaxed.info).isSome = true by decide +kernel)
  have hlen : Enc.nbits (encInfo mRelaxed.info) + 2 ≤ 1023 := by decide +kernel
  rw [(enc_some_sizes h).1] at hlen
  obtain ⟨c, hs, hd⟩ := c15_spec_decodes tops tops_lawful tops_total mRelaxed (by simp [mRelaxed, Info.WF, AddrWF]) h
    (by simpa [mRelaxed] using hlen) (by simp [mRelaxed]) (by simp [mRelaxed])
  refine ⟨c, hs, hd, ?_⟩
  simp [decodeMessageStrict, hd, mRelaxed, Info.Conforms, Addr.isExt]

/-- `m0` without its anycast is within `c15_conforming_round_trip` (no size hypothesis) -/
def m1 : Msg T :=
  ⟨Info.int true false false (Addr.std none 0 (List.replicate 32 17)) (Addr.std none (-1) (List.replicate 32 255))
      ⟨2 ^ 120 - 1, some leaf⟩ (2 ^ 120 - 1) (2 ^ 120 - 1) (2 ^ 64 - 1) (2 ^ 32 - 1), m0.init, m0.body⟩

example : ∃ c, Message.serialize tops m1 = some c ∧ decodeMessageStrict tops c = some m1 ∧ Message.deserialize tops c = some m1 := by
  exact c15_conforming_round_trip tops tops_lawful tops_total m1 (by simp [m1, Info.WF, AddrWF]) (by simp [m1, Info.Conforms, Addr.isInt])
    ⟨⟨_, _, rfl⟩, ⟨_, _, rfl⟩⟩ (by decide +kernel) m0_init (by decide)

/-- its header has exactly the maximal 1007 bits -/
example : Enc.nbits (encInfo m1.info) = 1007 := by
  -- every field is in range, so the size is the sum of the field widths; the 120-bit amounts are not written out
  have h : (encInfo m1.info).isSome := by decide +kernel
  have hp : (0 : Int) ≤ 2 ^ 120 - 1 := by decide
  simp only [m1, encInfo, encCurrency, eGrams, eVarUint, hp, if_true, Enc.isSome_cat, Bool.and_eq_true] at h
  simp only [m1, encInfo, encCurrency, eGrams, eVarUint, hp, if_true, Enc.nbits_cat, Enc.isSome_cat, h, Bool.and_self, nbits_eUint_eq]
  decide +kernel

/-! ## Source-regenerated layout decisions (`Generated/MsgLayout.lean`: re-translated from tlb/transaction.py on every run)

`Generated.msgInitInline ab ar ib ir bb br` is the statement sequence `bits_left = …; refs_left = …; body_fits = …` of
`MessageAny.serialize` followed by the test of the `if` that stores the init inline (`bits_left >= 0 and body_fits`, fix F17), as a
function of `builder.available_bits/refs` (Python ints), the bit/ref counts of the init cell and of the body;
`Generated.msgBodyInline ab ar bb br` is the test of the `if` that stores the body inline. -/
section Src
open TonVerif.Proofs.SrcArith2 TonVerif.Model.Message TonVerif.Model.BOp
set_option linter.unusedSimpArgs false

/-- both decisions, for ALL integer budgets and ALL sizes: the init goes inline iff its bits (plus the two Either bits) fit and the body
still has a place behind it — a free reference, or no reference needed and the body's bits fit the rest; the body goes inline iff
its bits fit the remaining bits minus the Either bit and its references fit the remaining references. -/
theorem c15_src_layout_tests (ab ar : Int) (ib ir bb br : Nat) :
    (Generated.msgInitInline_sideOk ab ar ib ir bb br ∧ Generated.msgBodyInline_sideOk ab ar bb br) ∧
    Generated.msgInitInline ab ar ib ir bb br =
      (decide (ab - 2 - (ib : Int) ≥ 0) &&
        (decide (ar - (ir : Int) ≥ 1) || (decide (ar - (ir : Int) = 0) && decide (br = 0) && decide ((bb : Int) ≤ ab - 2 - (ib : Int))))) ∧
    Generated.msgBodyInline ab ar bb br = (decide ((bb : Int) ≤ ab - 1) && decide ((br : Int) ≤ ar)) := by
  refine ⟨⟨by simp only [Generated.msgInitInline_sideOk] <;> src_prop, by simp only [Generated.msgBodyInline_sideOk] <;> src_prop⟩, ?_, ?_⟩
  · simp only [Generated.msgInitInline] <;> src_bool
  · simp only [Generated.msgBodyInline] <;> src_bool

/-- the init part and the body part of `MessageAny.serialize` in the hand model (what `c15_never_overflows`, `c15_serialize_is_spec_encoding`,
`c15_round_trip` … are proved about) take the inline / reference branch by exactly the regenerated decisions, evaluated on
`available_bits = 1023 - used bits` and `available_refs = 4 - used refs` of the builder at that point. -/
theorem c15_src_model_layout (ops : CellOps R) (s : StateInit R) (body : Chunk R) (b : Builder R) :
    initB ops (some s) body b =
      (let r := storeBit true b
       if !r.2 then some r else
       match cellOf ops (stateInitB s) with
       | none => none
       | some ic =>
         if Generated.msgInitInline (1023 - (r.1.bits.length : Int)) (4 - (r.1.refs.length : Int)) (ops.view ic).1.length
              (ops.view ic).2.length body.1.length body.2.length
         then some ((storeBit false ⊳ storeCell (ops.view ic).1 (ops.view ic).2) r.1)
         else some ((storeBit true ⊳ storeRef ic) r.1)) ∧
    bodyB ops body b =
      (if Generated.msgBodyInline (1023 - (b.bits.length : Int)) (4 - (b.refs.length : Int)) body.1.length body.2.length
       then some ((storeBit false ⊳ storeCell body.1 body.2) b)
       else match ops.make body.1 body.2 with
         | none => none
         | some bc => some ((storeBit true ⊳ storeRef bc) b)) := by
  have hI := fun ab ar ib ir bb br => (c15_src_layout_tests ab ar ib ir bb br).2.1
  have hB := fun ab ar bb br => (c15_src_layout_tests ab ar 0 0 bb br).2.2
  constructor
  · have hE : body.2.isEmpty = decide (body.2.length = 0) := by cases body.2 <;> simp
    simp only [initB, hI, hE]
    split
    · rfl
    · cases cellOf ops (stateInitB s) with
      | none => rfl
      | some ic => simp only [Bool.and_assoc, ge_iff_le]
  · have : (decide ((body.2.length : Int) ≤ 4 - (b.refs.length : Int))) = decide (body.2.length + b.refs.length ≤ 4) := by
      simp only [decide_eq_decide]; omega
    simp only [bodyB, hB, this]
    split <;> rfl

/-- concrete decisions at the F17 boundary: with 0 references left behind an inline init a body holding a reference forces the init into
a reference; with one reference left it stays inline; a body of exactly `available_bits - 1` bits is inline, one more is not. -/
example : Generated.msgInitInline 500 3 100 3 0 1 = false ∧ Generated.msgInitInline 500 4 100 3 0 1 = true ∧
    Generated.msgInitInline 500 3 100 3 398 0 = true ∧ Generated.msgInitInline 500 3 100 3 399 0 = false ∧
    Generated.msgInitInline 101 4 100 0 0 0 = false ∧
    Generated.msgBodyInline 500 1 499 1 = true ∧ Generated.msgBodyInline 500 1 500 1 = false ∧ Generated.msgBodyInline 500 1 0 2 = false := by
  decide

end Src

/-! ### the WHOLE serialize / deserialize methods regenerated from the source (Generated/MsgSrc.lean)

`Generated.MsgSrc.*` are re-translated from tlb/transaction.py, tlb/account.py, tlb/block.py on every run
(harness/translate/pytlb.py, msgsrc.py). -/
section SrcWhole
open TonVerif.Generated.MsgSrc TonVerif.Proofs.SrcMsg TonVerif.Proofs.SrcMsgSer

/-- for EVERY slice the regenerated `MessageAny.deserialize`, `CommonMsgInfo.deserialize` (dispatch on
    `preload_bit` / `preload_bits(2)`), `InternalMsgInfo / ExternalMsgInfo / ExternalOutMsgInfo.deserialize` (tag check, field
    order and widths), `StateInit.deserialize` (five Maybe bits), `TickTock.deserialize`, `CurrencyCollection.deserialize`,
    `ExtraCurrencyCollection.deserialize` (dictionary = its optional root) ARE the hand model's parsers, about which
    `c15_own_parser`, `c15_round_trip`, `c15_state_init_own_parser`, `c15_currency_own_parser` are proved: same raise / return
    decision, same value, same slice state afterwards. -/
theorem c15_src_deserialize (ops : CellOps R) :
    MessageAny_deserialize ops.view = Message.loadMessage ops ∧
    CommonMsgInfo_deserialize ops.view = (Message.loadInfo : SOp R (Info R)) ∧
    InternalMsgInfo_deserialize ops.view = (Message.loadInfoInt : SOp R (Info R)) ∧
    ExternalMsgInfo_deserialize ops.view = (Message.loadInfoExtIn : SOp R (Info R)) ∧
    ExternalOutMsgInfo_deserialize ops.view = (Message.loadInfoExtOut : SOp R (Info R)) ∧
    StateInit_deserialize ops.view = (Message.loadStateInit : SOp R (StateInit R)) ∧
    TickTock_deserialize ops.view = (Message.loadTickTock : SOp R TickTock) ∧
    CurrencyCollection_deserialize ops.view = (Message.loadCurrency : SOp R (Currency R)) ∧
    ExtraCurrencyCollection_deserialize ops.view = (SOp.loadMaybeRef : SOp R (Option R)) :=
  ⟨message_de_eq ops, info_de_eq, infoInt_de_eq, infoExtIn_de_eq, infoExtOut_de_eq, stateInit_de_eq, tickTock_de_eq, currency_de_eq,
    extra_de_eq⟩

/-- **the regenerated serialisers ARE the hand model's**, for every message / state-init / currency value /
    header (`ops.Total`: `end_cell()` of a piece with ≤ 1023 bits and ≤ 4 references does not fail for depth; `ops.Lawful`: a cell
    shows the bits and references it was built from).  `MessageAny.serialize` as regenerated from tlb/transaction.py — header by
    `self.info.serialize()` + `store_cell`, the Maybe / Either bits, the init inline-or-reference decision with the room reserved
    for the body (fix F17), the body inline-or-reference decision, `end_cell()` — raises exactly when `Message.serialize` does and
    returns the same cell; likewise `StateInit.serialize` (five Maybe fields, the tick-tock piece), `CurrencyCollection.serialize`
    (Grams + the dictionary piece), the three `*MsgInfo.serialize` (tag, flags, addresses, value piece, fees, lt, at).  So
    `c15_never_overflows`, `c15_serialize_is_spec_encoding`, `c15_spec_decodes`, `c15_round_trip`, `c15_state_init_serialize`,
    `c15_currency_serialize` … speak about the regenerated code.
    The code calls `end_cell()` on every piece before `store_cell`ing it; the hand model appends the piece's bits and refs without
    building the cell (`Message.sub`): the two agree because every store that returns normally leaves the builder within 1023
    bits / 4 refs (`SrcMsgSer.Safe`, `sub_bridge`). -/
theorem c15_src_serialize (ops : CellOps R) (hl : ops.Lawful) (ht : ops.Total) :
    (∀ m : Msg R, (MessageAny_serialize ops.make m).map (·.cell) = Message.serialize ops m) ∧
    (∀ s : StateInit R, (StateInit_serialize ops.make s).map (·.cell) = Message.serializeStateInit ops s) ∧
    (∀ c : Currency R, (CurrencyCollection_serialize ops.make c).map (·.cell) = Message.serializeCurrency ops c) ∧
    (∀ i : Info R, (Info_serialize ops.make i).map (·.cell) = Message.cellOf ops (Message.infoB i)) ∧
    (∀ a b c src dest value ihr fwd lt at_, InternalMsgInfo_serialize ops.make (Info.int a b c src dest value ihr fwd lt at_) =
        Vm.build ops.make (Message.infoB (Info.int a b c src dest value ihr fwd lt at_))) ∧
    (∀ src dest fee, ExternalMsgInfo_serialize ops.make (Info.extIn src dest fee : Info R) =
        Vm.build ops.make (Message.infoB (Info.extIn src dest fee))) ∧
    (∀ src dest lt at_, ExternalOutMsgInfo_serialize ops.make (Info.extOut src dest lt at_ : Info R) =
        Vm.build ops.make (Message.infoB (Info.extOut src dest lt at_))) ∧
    (∀ o : Option R, ExtraCurrencyCollection_serialize ops.make o = Vm.build ops.make (BOp.storeMaybeRef o)) ∧
    (∀ t : TickTock, TickTock_serialize ops.make t = Vm.build ops.make (Message.tickTockB t)) :=
  ⟨src_message_ser_eq ops hl ht, src_stateInit_ser_eq ops ht, src_currency_ser_eq ops ht, src_info_ser_eq ops ht,
    fun a b c src dest value ihr fwd lt at_ => infoInt_ser_eq ht a b c src dest value ihr fwd lt at_,
    fun src dest fee => infoExtIn_ser_eq src dest fee, fun src dest lt at_ => infoExtOut_ser_eq src dest lt at_,
    extra_ser_eq, tickTock_ser_eq⟩

/-- **the regenerated `MessageAny.serialize` never fails for lack of room**, with the tight bound of
    `c15_never_overflows`: the header encodes into `ib` bits with `ib + 3 ≤ 1023` (`ib + 2` without a state-init), the state-init's
    split depth is in range, the body is any cell (0..1023 bits, 0..4 refs).  The returned cell object shows exactly the bits and
    references the method's builder held. -/
theorem c15_src_never_overflows (ops : CellOps R) (hl : ops.Lawful) (ht : ops.Total) (m : Msg R)
    {ib : Bits} {ir : List R} (hinfo : encInfo m.info = some (ib, ir))
    (hI : ib.length + (if m.init.isSome then 3 else 2) ≤ 1023)
    (hinit : ∀ s, m.init = some s → (encStateInit s).isSome)
    (hbody : m.body.1.length ≤ 1023 ∧ m.body.2.length ≤ 4) :
    ∃ p, MessageAny_serialize ops.make m = some p ∧ ops.view p.cell = (p.bits, p.refs) := by
  have h := c15_never_overflows ops hl ht m hinfo hI hinit hbody
  rw [← src_message_ser_eq ops hl ht] at h
  cases hp : MessageAny_serialize ops.make m with
  | none => simp [hp] at h
  | some p => exact ⟨p, rfl, message_built_view ops hl ht m hp⟩

/-- the bound is tight for the regenerated code too: `mBig` has a valid 1021-bit header and a state-init; the regenerated
    `MessageAny.serialize` raises; without the state-init (`ib + 2 ≤ 1023`) it returns -/
example : MessageAny_serialize tops.make mBig = none ∧ (MessageAny_serialize tops.make { mBig with init := none }).isSome = true := by
  obtain ⟨ib, ir, he, hlen⟩ := mBig_header
  constructor
  · cases h : MessageAny_serialize tops.make mBig with
    | none => rfl
    | some p =>
      have hs : (Message.serialize tops mBig).isSome := by
        rw [← src_message_ser_eq tops tops_lawful tops_total, h]; rfl
      have := serialize_some_bound tops tops_lawful mBig he hs
      simp [mBig, hlen] at this
  · obtain ⟨p, hp, _⟩ := c15_src_never_overflows tops tops_lawful tops_total { mBig with init := none } he (by simp [hlen]) nofun
      (by decide)
    rw [hp]; rfl

/-- **regenerated serialiser, then regenerated parser = identity**, for every message in the property's
    domain (the hypotheses of `c15_round_trip`): `MessageAny.serialize` as regenerated returns a cell, and `MessageAny.deserialize`
    as regenerated, run on a slice of that cell (`begin_parse()` shows `ops.view cell` = the bits and references the builder held),
    returns the message. -/
theorem c15_src_roundtrip (ops : CellOps R) (hl : ops.Lawful) (ht : ops.Total) (m : Msg R) (hwf : m.info.WF)
    {ib : Bits} {ir : List R} (hinfo : encInfo m.info = some (ib, ir))
    (hI : ib.length + (if m.init.isSome then 3 else 2) ≤ 1023)
    (hinit : ∀ s, m.init = some s → (encStateInit s).isSome)
    (hbody : m.body.1.length ≤ 1023 ∧ m.body.2.length ≤ 4) :
    ∃ p, MessageAny_serialize ops.make m = some p ∧
      (MessageAny_deserialize ops.view ⟨(ops.view p.cell).1, (ops.view p.cell).2⟩).2 = some m ∧
      (MessageAny_deserialize ops.view ⟨p.bits, p.refs⟩).2 = some m := by
  obtain ⟨c, hs, hd⟩ := c15_round_trip ops hl ht m hwf hinfo hI hinit hbody
  obtain ⟨p, hp, hv⟩ := c15_src_never_overflows ops hl ht m hinfo hI hinit hbody
  have hc : p.cell = c := by
    have := src_message_ser_eq ops hl ht m
    rw [hp, hs] at this
    simpa using this
  have h1 : (MessageAny_deserialize ops.view ⟨(ops.view p.cell).1, (ops.view p.cell).2⟩).2 = some m := by
    rw [(c15_src_deserialize ops).1, hc]; exact hd
  refine ⟨p, hp, h1, ?_⟩
  rw [hv] at h1; exact h1

/-- non-vacuity: `m0` (extra currencies + 3-reference state-init + body with a reference: the F17 shape) meets every hypothesis -/
example : ∃ p, MessageAny_serialize tops.make m0 = some p ∧ (MessageAny_deserialize tops.view ⟨p.bits, p.refs⟩).2 = some m0 := by
  obtain ⟨ib, ir, h, hlen⟩ := m0_header
  obtain ⟨p, hp, _, h2⟩ := c15_src_roundtrip tops tops_lawful tops_total m0 m0_wf h hlen m0_init (by decide)
  exact ⟨p, hp, h2⟩

/-- the inline / reference decisions of the regenerated WHOLE method are the regenerated decision LINES
    (`Generated/MsgLayout.lean`, `c15_src_layout_tests`): the regenerated `MessageAny.serialize` equals the chain
    `SrcMsgSer.serializeR` (info piece, `initR`, `bodyR`, `end_cell`), and `initR` / `bodyR` take the inline branch exactly when
    `Generated.msgInitInline` / `Generated.msgBodyInline` hold at `available_bits = 1023 - used`, `available_refs = 4 - refs`. -/
theorem c15_src_layout_connected (ops : CellOps R) (ht : ops.Total) (m : Msg R) (s : StateInit R) (body : Chunk R) (b : Builder R) :
    MessageAny_serialize ops.make m = serializeR ops m ∧
    initR ops (some s) body b =
      ((Vm.run (BOp.storeBit true) b).bind fun b1 => (Vm.build ops.make (Message.stateInitB s)).bind fun ic =>
        if Generated.msgInitInline (Py.Tlb.availableBits b1) (Py.Tlb.availableRefs b1) ic.bits.length ic.refs.length body.1.length body.2.length
        then Vm.run (BOp.storeBit false ⊳ BOp.storeCell ic.bits ic.refs) b1
        else Vm.run (BOp.storeBit true ⊳ BOp.storeRef ic.cell) b1) ∧
    bodyR ops body b =
      (if Generated.msgBodyInline (Py.Tlb.availableBits b) (Py.Tlb.availableRefs b) body.1.length body.2.length
       then Vm.run (BOp.storeBit false ⊳ BOp.storeCell body.1 body.2) b
       else (ops.make body.1 body.2).bind fun bc => Vm.run (BOp.storeBit true ⊳ BOp.storeRef bc) b) := by
  refine ⟨message_ser_eq ops ht m, ?_, ?_⟩
  · simp only [initR, (c15_src_layout_tests _ _ _ _ _ _).2.1, Py.Tlb.availableBits, Py.Tlb.availableRefs]
    refine congrArg _ (funext fun b1 => congrArg _ (funext fun ic => ?_))
    have hE : (body.2 = []) ↔ body.2.length = 0 := by cases body.2 <;> simp
    simp only [hE, Bool.and_eq_true, Bool.or_eq_true, decide_eq_true_eq, and_assoc]
  · simp only [bodyR, (c15_src_layout_tests _ _ 0 0 _ _).2.2, Py.Tlb.availableBits, Py.Tlb.availableRefs, Bool.and_eq_true, decide_eq_true_eq]
    have : ((body.2.length : Int) ≤ 4 - (b.refs.length : Int)) ↔ body.2.length + b.refs.length ≤ 4 := by omega
    simp only [this]

end SrcWhole

/-! ## the stand-alone wrappers regenerated from the source (Generated/WrapSrc.lean)

`Generated.WrapSrc.*` are re-translated from tlb/custom/wallet.py and tlb/custom/nft.py on every run (harness/translate/wrapsrc.py):
the constructors (`<Class>_init`, `none` = raises), `serialize`, `deserialize` of `WalletV3Data`, `WalletV4Data`,
`HighloadWalletData`, `WalletMessage`, `NftItemData`, `NftItemSaleFees`, `NftItemSaleData`. -/
section SrcWrappers
open TonVerif.Generated.MsgSrc TonVerif.Generated.WrapSrc TonVerif.Proofs.SrcMsg TonVerif.Proofs.SrcMsgSer TonVerif.Proofs.SrcWrap

/-- **the constructors as regenerated from the source.**  `WalletV3Data / WalletV4Data /
    HighloadWalletData(.., wallet_id, public_key, ..)`: `public_key is None` raises; otherwise the object holds the arguments, with
    `wallet_id` replaced by 698983191 exactly when it `is None` — every int is kept, **0 included** (`wallet_id or default` would
    lose it).  The other constructors store their arguments unchanged (the `isinstance(.., str)` conversions of the NFT classes
    never apply to an address value). -/
theorem c15_src_wrapper_defaults (s lc mode : Int) (w : Option Int) (pk : Option Bytes) (k : Bytes) (p q : Option R) :
    WalletV3Data_init s w pk = pk.map (fun k => ⟨s, w.getD 698983191, k⟩) ∧
    WalletV4Data_init s w pk p = pk.map (fun k => ⟨s, w.getD 698983191, k, p⟩) ∧
    HighloadWalletData_init w lc pk q = pk.map (fun k => ⟨w.getD 698983191, lc, k, q⟩) ∧
    WalletV3Data_init s none (some k) = some ⟨s, 698983191, k⟩ ∧
    WalletV3Data_init s (some 0) (some k) = some ⟨s, 0, k⟩ ∧
    WalletV3Data_init s w none = none ∧
    (∀ m : Msg R, WalletMessage_init mode m = some ⟨mode, m⟩) ∧
    (∀ (i : Int) (c o : Addr) (r : R), NftItemData_init i c o r = some ⟨i, c, o, r⟩) ∧
    (∀ (a : Addr) (f : Int) (b : Addr) (r : Int), NftItemSaleFees_init a f b r = some ⟨a, f, b, r⟩) ∧
    (∀ (c : Bool) (t : Int) (m n o : Addr) (pr : Int) (f : SaleFees) (e : Bool),
      NftItemSaleData_init c t m n o pr f e = some ⟨c, t, m, n, o, pr, f, e⟩) :=
  ⟨v3_init s w pk, v4_init s w pk p, hl_init w lc pk q, v3_init s none (some k), v3_init s (some 0) (some k), by rw [v3_init]; rfl,
    wm_init mode, nft_init, fees_init, sale_init⟩

/-- **the regenerated `serialize` / `deserialize` of every wrapper of tlb/custom/*.py ARE the hand model's**
    (`Model/Wrappers.lean`), for all inputs: same raise decision, same cell; the parsers (through the regenerated constructors)
    are the same function on every slice (value and slice state afterwards).  So the `c15_wallet_*`, `c15_highload_*`,
    `c15_wallet_message_*`, `c15_nft_item_*`, `c15_sale_*` theorems speak about the regenerated code.  `Lawful` / `Total` are needed
    only for `WalletMessage.serialize` (it contains `MessageAny.serialize`, see `c15_src_serialize`). -/
theorem c15_src_wrappers (ops : CellOps R) (hl : ops.Lawful) (ht : ops.Total) :
    ((∀ w, (WalletV3Data_serialize ops.make w).map (·.cell) = Message.serializeWalletV3 ops w) ∧
     (∀ w, (WalletV4Data_serialize ops.make w).map (·.cell) = Message.serializeWalletV4 ops w) ∧
     (∀ w, (HighloadWalletData_serialize ops.make w).map (·.cell) = Message.serializeHighload ops w) ∧
     (∀ w, (WalletMessage_serialize ops.make w).map (·.cell) = Message.serializeWalletMsg ops w) ∧
     (∀ n, (NftItemData_serialize ops.make n).map (·.cell) = Message.serializeNftItem ops n) ∧
     (∀ f, (NftItemSaleFees_serialize ops.make f).map (·.cell) = Message.serializeSaleFees ops f) ∧
     (∀ s, (NftItemSaleData_serialize ops.make s).map (·.cell) = Message.serializeSaleData ops s)) ∧
    (WalletV3Data_deserialize ops.view = (Message.loadWalletV3 : SOp R WalletV3) ∧
     WalletV4Data_deserialize ops.view = (Message.loadWalletV4 : SOp R (WalletV4 R)) ∧
     HighloadWalletData_deserialize ops.view = (Message.loadHighload : SOp R (Highload R)) ∧
     WalletMessage_deserialize ops.view = Message.loadWalletMsg ops ∧
     NftItemData_deserialize ops.view = (Message.loadNftItem : SOp R (NftItem R)) ∧
     NftItemSaleFees_deserialize ops.view = (Message.loadSaleFees : SOp R SaleFees) ∧
     NftItemSaleData_deserialize ops.view = Message.loadSaleData ops) :=
  ⟨⟨fun w => by rw [v3_ser_eq, build_cellOf]; rfl, fun w => by rw [v4_ser_eq, build_cellOf]; rfl,
    fun w => by rw [hl_ser_eq, build_cellOf]; rfl, wm_ser_eq ops hl ht, fun n => by rw [nft_ser_eq, build_cellOf]; rfl,
    fun f => by rw [fees_ser_eq, build_cellOf]; rfl, sale_ser_eq ops⟩,
   ⟨v3_de_eq, v4_de_eq, hl_de_eq, wm_de_eq ops, nft_de_eq, fees_de_eq, sale_de_eq ops⟩⟩

/-- the same for `HashUpdate` of tlb/utils.py (`store_bytes(b'\\x72')` + two hashes; the parser's tag test
    `load_bytes(1)[:1] != b'r'`): regenerated constructor, serialiser and parser = `Model/Wrappers.lean`, so `c15_hash_update_*`
    speak about the regenerated code -/
theorem c15_src_hash_update (ops : CellOps R) :
    (∀ o n : Bytes, HashUpdate_init o n = some ⟨o, n⟩) ∧
    (∀ h, (HashUpdate_serialize ops.make h).map (·.cell) = Message.serializeHashUpd ops h) ∧
    HashUpdate_deserialize ops.view = (Message.loadHashUpdate : SOp R HashUpd) :=
  ⟨hu_init, fun h => by rw [hu_ser_eq, build_cellOf]; rfl, hu_de_eq⟩

/-- non-vacuity: `hu0` through the regenerated code -/
example : ∃ p, HashUpdate_serialize tops.make hu0 = some p ∧
    (HashUpdate_deserialize tops.view ⟨(tops.view p.cell).1, (tops.view p.cell).2⟩).2 = some hu0 := by
  obtain ⟨ch, he, _, _, hser, hsome⟩ := c15_hash_update_serialize (R := T) tops tops_total hu0 (by decide) (by decide)
  obtain ⟨c, hc⟩ := Option.isSome_iff_exists.mp hsome
  have hd := c15_hash_update_own_parser tops c hu0 (c15_hash_update_decodes tops tops_lawful hu0 he (hser ▸ hc))
  have h := (c15_src_hash_update tops).2.1 hu0
  rw [hc] at h
  cases hp : HashUpdate_serialize tops.make hu0 with
  | none => simp [hp] at h
  | some p =>
    simp only [hp, Option.map_some, Option.some.injEq] at h
    refine ⟨p, rfl, ?_⟩
    rw [(c15_src_hash_update tops).2.2, h]
    exact hd

/-- **constructor → regenerated `serialize` → regenerated `deserialize` = the object**, the default
    included: for `seqno < 2^32`, a 32-byte key and `wallet_id` either `None` or an int `< 2^32` (0 allowed), the constructor
    returns the object `w` with `wallet_id` 698983191 resp. the given int, `serialize` returns a cell (320 bits, the spec
    encoding), and `deserialize` of that cell returns `w` (through the constructor again: an int is never replaced). -/
theorem c15_src_wallet_v3_roundtrip (ops : CellOps R) (hl : ops.Lawful) (ht : ops.Total) (seqno : Int) (wid : Option Int) (pk : Bytes)
    (hs : 0 ≤ seqno ∧ seqno < 2 ^ 32) (hi : ∀ i, wid = some i → 0 ≤ i ∧ i < 2 ^ 32) (hk : pk.length = 32 ∧ Bytes.WF pk) :
    ∃ w p, WalletV3Data_init seqno wid (some pk) = some w ∧ w = ⟨seqno, wid.getD 698983191, pk⟩ ∧
      WalletV3Data_serialize ops.make w = some p ∧
      (WalletV3Data_deserialize ops.view ⟨(ops.view p.cell).1, (ops.view p.cell).2⟩).2 = some w := by
  refine ⟨⟨seqno, wid.getD 698983191, pk⟩, ?_⟩
  have hw : 0 ≤ wid.getD 698983191 ∧ wid.getD 698983191 < 2 ^ 32 := by
    cases wid with
    | none => simp
    | some i => simpa using hi i rfl
  obtain ⟨ch, he, _, _, hser, hsome⟩ := c15_wallet_v3_serialize ops ht ⟨seqno, wid.getD 698983191, pk⟩ hs hw hk
  obtain ⟨c, hc⟩ := Option.isSome_iff_exists.mp hsome
  have hd := c15_wallet_v3_own_parser ops c _ (c15_wallet_v3_decodes ops hl _ he (hser ▸ hc))
  have hsrc := (c15_src_wrappers ops hl ht).1.1 ⟨seqno, wid.getD 698983191, pk⟩
  rw [hc] at hsrc
  obtain ⟨p, hp, hpc⟩ := Option.map_eq_some_iff.mp hsrc
  refine ⟨p, by rw [v3_init]; rfl, rfl, hp, ?_⟩
  rw [v3_de_eq, hpc]; exact hd

/-- non-vacuity / the two cases that matter: no wallet id → the default; wallet id 0 → 0 -/
example : ∃ p, WalletV3Data_serialize tops.make ⟨5, 698983191, key7⟩ = some p ∧ WalletV3Data_init 5 none (some key7) = some ⟨5, 698983191, key7⟩ ∧
    (WalletV3Data_deserialize tops.view ⟨(tops.view p.cell).1, (tops.view p.cell).2⟩).2 = some ⟨5, 698983191, key7⟩ := by
  obtain ⟨w, p, h1, h2, h3, h4⟩ := c15_src_wallet_v3_roundtrip tops tops_lawful tops_total 5 none key7 (by decide) (by intro i h; cases h)
    (by decide)
  subst h2
  exact ⟨p, h3, h1, h4⟩

example : ∃ p, WalletV3Data_serialize tops.make ⟨5, 0, key7⟩ = some p ∧ WalletV3Data_init 5 (some 0) (some key7) = some ⟨5, 0, key7⟩ ∧
    (WalletV3Data_deserialize tops.view ⟨(tops.view p.cell).1, (tops.view p.cell).2⟩).2 = some ⟨5, 0, key7⟩ := by
  obtain ⟨w, p, h1, h2, h3, h4⟩ := c15_src_wallet_v3_roundtrip tops tops_lawful tops_total 5 (some 0) key7 (by decide)
    (by intro i h; cases h; decide) (by decide)
  subst h2
  exact ⟨p, h3, h1, h4⟩

/-- the same for `HighloadWalletData`, old queries (the dictionary root) INCLUDED: the statement that defect F23 violated, about
    the regenerated `serialize` / `deserialize` -/
theorem c15_src_highload_roundtrip (ops : CellOps R) (hl : ops.Lawful) (ht : ops.Total) (w : Highload R)
    (hi : 0 ≤ w.walletId ∧ w.walletId < 2 ^ 32) (hc : 0 ≤ w.lastCleaned ∧ w.lastCleaned < 2 ^ 64)
    (hk : w.publicKey.length = 32 ∧ Bytes.WF w.publicKey) :
    ∃ p, HighloadWalletData_serialize ops.make w = some p ∧
      (HighloadWalletData_deserialize ops.view ⟨(ops.view p.cell).1, (ops.view p.cell).2⟩).2 = some w := by
  obtain ⟨c, hs, _, hd⟩ := c15_highload_round_trip ops hl ht w hi hc hk
  have hsrc := (c15_src_wrappers ops hl ht).1.2.2.1 w
  rw [hs] at hsrc
  obtain ⟨p, hp, hpc⟩ := Option.map_eq_some_iff.mp hsrc
  exact ⟨p, hp, by rw [hl_de_eq, hpc]; exact hd⟩

example : ∃ p, HighloadWalletData_serialize tops.make hq = some p ∧
    (HighloadWalletData_deserialize tops.view ⟨(tops.view p.cell).1, (tops.view p.cell).2⟩).2 = some hq :=
  c15_src_highload_roundtrip tops tops_lawful tops_total hq (by decide) (by decide) (by decide)

/-- regenerated `WalletMessage.serialize` (which runs the regenerated `MessageAny.serialize` and
    stores the cell by reference), then regenerated `WalletMessage.deserialize` (which runs the regenerated
    `MessageAny.deserialize` on the referenced cell) = the wallet message, under the bound of `c15_never_overflows` -/
theorem c15_src_wallet_message_roundtrip (ops : CellOps R) (hl : ops.Lawful) (ht : ops.Total) (w : WalletMsg R)
    (hwf : w.message.info.WF) (hmode : 0 ≤ w.sendMode ∧ w.sendMode < 256)
    {ib : Bits} {ir : List R} (hinfo : encInfo w.message.info = some (ib, ir))
    (hI : ib.length + (if w.message.init.isSome then 3 else 2) ≤ 1023)
    (hinit : ∀ s, w.message.init = some s → (encStateInit s).isSome)
    (hbody : w.message.body.1.length ≤ 1023 ∧ w.message.body.2.length ≤ 4) :
    ∃ p, WalletMessage_serialize ops.make w = some p ∧
      (WalletMessage_deserialize ops.view ⟨(ops.view p.cell).1, (ops.view p.cell).2⟩).2 = some w := by
  obtain ⟨c, hs, _, hd⟩ := c15_wallet_message_round_trip ops hl ht w hwf hmode hinfo hI hinit hbody
  have hsrc := (c15_src_wrappers ops hl ht).1.2.2.2.1 w
  rw [hs] at hsrc
  obtain ⟨p, hp, hpc⟩ := Option.map_eq_some_iff.mp hsrc
  exact ⟨p, hp, by rw [wm_de_eq, hpc]; exact hd⟩

end SrcWrappers
/-! ## C06 level: addresses and headers through the regenerated message code -/
section SrcAddr
open TonVerif.Generated.MsgSrc TonVerif.Proofs.SrcMsg TonVerif.Proofs.SrcMsgSer TonVerif.Proofs.SrcVm

/-- C06 level, as used by the message classes: for every address value that has an encoding
    (`addr_none`, `addr_extern` with `len < 512`, `val < 2^len`, `addr_std` with int8 workchain, 32-byte hash, anycast depth 1..30)
    and is well formed (a zero-length extern address carries 0), on every builder in range with room for it, `store_address`
    returns normally having appended exactly the encoding, and `load_address` on ANY slice that starts with those bits returns
    the address and leaves exactly what followed. -/
theorem c15_src_address_roundtrip (a : Addr) (hwf : AddrWF a) {c : Chunk R} (he : eAddr a = some c)
    (b : Builder R) (hb : WFB b) (hfit : Fits b c) :
    Vm.run (BOp.storeAddress a) b = some (app b c) ∧ c.2 = [] ∧
    ∀ (tb : Bits) (tr : List R), (SOp.loadAddress : SOp R Addr) ⟨c.1 ++ tb, tr⟩ = (⟨tb, tr⟩, some a) := by
  have h1 := ((appends_storeAddress a) b hb c he).1 hfit
  have hr : c.2 = [] := by
    have := nrefs_eAddr (R := R) a
    rw [(enc_some_sizes he).2] at this
    exact List.eq_nil_of_length_eq_zero (by omega)
  refine ⟨by simp [Vm.run, h1], hr, ?_⟩
  intro tb tr
  have h2 := rt_addr a hwf c he tb tr
  have h3 := ref_loadAddress (c.1 ++ tb) (c.2 ++ tr) a (tb, tr) h2
  simpa [hr] using h3

/-- **every header goes through the regenerated writer and the regenerated reader unchanged**: if the
    header has an encoding (flags, both addresses, amounts, lt / at in range) and its addresses are well formed, and the regenerated
    `<X>MsgInfo.serialize` returns a cell, then the regenerated `CommonMsgInfo.deserialize` (tag dispatch, then the class's own
    parser: `load_address` twice, …) on a slice of that cell returns the header — both addresses included — and leaves nothing
    unread; followed by anything (the rest of a message), it leaves exactly that. -/
theorem c15_src_header_roundtrip (ops : CellOps R) (ht : ops.Total) (i : Info R) (hwf : i.WF) (henc : (encInfo i).isSome)
    {p : Vm.Built R} (h : Info_serialize ops.make i = some p) :
    encInfo i = some (p.bits, p.refs) ∧
    ∀ (tb : Bits) (tr : List R),
      CommonMsgInfo_deserialize ops.view ⟨p.bits ++ tb, p.refs ++ tr⟩ = (⟨tb, tr⟩, some i) := by
  obtain ⟨c, hc⟩ := Option.isSome_iff_exists.mp henc
  rw [info_ser_eq ht] at h
  obtain ⟨b, hrun, hb1, hb2, _⟩ := build_some h
  have hfit : c.1.length ≤ 1023 ∧ c.2.length ≤ 4 := by
    apply Classical.byContradiction
    intro hn
    have := ((appends_infoB i).run hc).2 hn
    simp [Vm.run, this] at hrun
  have hr := ((appends_infoB i).run hc).1 hfit
  have hbc : b = ⟨c.1, c.2⟩ := by
    simp [Vm.run, hr] at hrun; exact hrun.symm
  have e1 : p.bits = c.1 := by rw [hb1, hbc]
  have e2 : p.refs = c.2 := by rw [hb2, hbc]
  refine ⟨by rw [e1, e2]; exact hc, ?_⟩
  intro tb tr
  rw [e1, e2, info_de_eq]
  exact ref_loadInfo _ _ i (tb, tr) (rt_info i hwf c hc tb tr)

/-- non-vacuity: the header of `m0` (anycast destination, extra currencies) -/
example : ∃ p, Info_serialize tops.make m0.info = some p ∧
    CommonMsgInfo_deserialize tops.view ⟨p.bits ++ [true], p.refs ++ [leaf]⟩ = (⟨[true], [leaf]⟩, some m0.info) := by
  obtain ⟨ib, ir, h, hlen⟩ := m0_header
  have hir : ir.length ≤ 1 := (enc_some_sizes h).2 ▸ nrefs_encInfo m0.info
  have hs : (Message.cellOf tops (Message.infoB m0.info)).isSome = true := by
    rw [cellOf_of_appends tops (appends_infoB m0.info) h ⟨Nat.le_of_add_right_le hlen, Nat.le_trans hir (by decide)⟩]; rfl
  rw [← src_info_ser_eq tops tops_total] at hs
  cases hp : Info_serialize tops.make m0.info with
  | none => simp [hp] at hs
  | some p => exact ⟨p, rfl, (c15_src_header_roundtrip tops tops_total m0.info m0_wf (by rw [h]; rfl) hp).2 _ _⟩

end SrcAddr
end TonVerif.Properties.C15
