/-
C05 — the BoC parser agrees with the format on foreign input and rejects corruption.

`Model.BocParse.deserialize mk` is the executable mirror of `Boc(data).deserialize(cls)` (`mk` = the cell
constructor `cls(bits, refs, type)`), `Model.BocParse.fromBoc H` = `Cell.from_boc` on bytes with the constructor
model of Model/Cell.lean (`H` = SHA-256, abstract).  `Spec.BocEncode.encodeWith fr cells roots` is the conforming
encoder with all freedoms (Spec/BocEncode.lean).  `none` = the library raises.
-/
import TonVerif.Proofs.BocParse
import TonVerif.Proofs.SrcBocHeader
import TonVerif.Proofs.SrcBocCell
import TonVerif.Proofs.SrcBocCells
import TonVerif.Proofs.SrcBocDeser
import TonVerif.Properties.C01

namespace TonVerif.Properties.C05
open TonVerif TonVerif.Model TonVerif.Model.BocParse TonVerif.Proofs.BocParse TonVerif.Spec.BocEncode

/-- dangling, backward and self references: if the header of `data` is accepted and the cell records are read, and
some record at position `k` carries a reference `r` with `r ≤ k` (backward or self) or `r ≥ cells` (dangling), then
`deserialize` raises — whatever the cell constructor does. -/
theorem c05_bad_refs {R : Type} (mk : Bits → List R → Int → Option R) (data : Bytes) (h : Header) (recs : List RawCell)
    (hh : deserializeBocHeader data = some h) (hrecs : readCells h.cellsNum h.cellsData h.fl.sizeBytes = some recs)
    (k : Nat) (c : RawCell) (r : Nat) (hk : recs[k]? = some c) (hr : r ∈ c.refs) (hbad : r ≤ k ∨ h.cellsNum ≤ r) :
    deserialize mk data = none := by
  have hl := readCells_length _ _ _ _ hrecs
  have := rebuildFrom_bad_ref mk recs 0 k c r hk hr (by omega)
  simp [deserialize, hh, hrecs, this]

theorem deserialize_header {R : Type} (mk : Bits → List R → Int → Option R) (d : Bytes)
    (h : deserialize mk d ≠ none) : ∃ hd, deserializeBocHeader d = some hd := by
  cases hh : deserializeBocHeader d with
  | none => simp [deserialize, hh] at h
  | some hd => exact ⟨hd, rfl⟩

/-- truncation / extension, intrinsic form: of a byte string and a proper extension of it the parser accepts at most
one (the header's length fields fix the only acceptable total length, and they lie inside every accepted prefix). -/
theorem c05_trunc_ext {R : Type} (mk : Bits → List R → Int → Option R) (p t : Bytes) (ht : t ≠ []) :
    deserialize mk p = none ∨ deserialize mk (p ++ t) = none := by
  by_cases h1 : deserialize mk p = none
  · exact Or.inl h1
  · by_cases h2 : deserialize mk (p ++ t) = none
    · exact Or.inr h2
    · obtain ⟨a, ha⟩ := deserialize_header mk p h1
      obtain ⟨b, hb⟩ := deserialize_header mk (p ++ t) h2
      exact absurd (header_prefix_unique p t a b ha hb) ht

/-- every proper prefix of an accepted input is rejected. -/
theorem c05_truncation {R : Type} (mk : Bits → List R → Int → Option R) (d : Bytes) (hd : deserialize mk d ≠ none)
    (p t : Bytes) (hpt : d = p ++ t) (ht : t ≠ []) : deserialize mk p = none := by
  subst hpt
  rcases c05_trunc_ext mk p t ht with h | h
  · exact h
  · exact absurd h hd

/-- every proper extension of an accepted input is rejected. -/
theorem c05_extension {R : Type} (mk : Bits → List R → Int → Option R) (d : Bytes) (hd : deserialize mk d ≠ none)
    (t : Bytes) (ht : t ≠ []) : deserialize mk (d ++ t) = none := by
  rcases c05_trunc_ext mk d t ht with h | h
  · exact absurd h hd
  · exact h

/-- CRC protection, intrinsic form: if `d` (bytes < 256) is accepted and carries a CRC (flag bit 6 of the generic
constructor, or magic acc3a728), then `d` with ANY single bit flipped is rejected — for every length of `d`. -/
theorem c05_crc_single_bit_accepted {R : Type} (mk : Bits → List R → Int → Option R) (d : Bytes) (hwf : Bytes.WF d)
    (h : Header) (hh : deserializeBocHeader d = some h) (hc : h.fl.hasCrc = true) (k : Nat) (hk : k < 8 * d.length) :
    deserialize mk (flipBit d k) = none := by
  have hj : k / 8 < d.length := by omega
  obtain ⟨m0, m1, m2⟩ := flipMask_props k
  have := header_crc_byte_error d hwf h hh hc (k / 8) hj (128 >>> (k % 8)) m0 m1 (fun _ => m2)
  unfold flipBit
  rw [show d.getD (k / 8) 0 = d[k / 8] by simp [List.getD_eq_getElem?_getD, hj]]
  simp [deserialize, this]

/-- more than single bits: any non-zero error pattern confined to one byte other than the flag byte. -/
theorem c05_crc_byte_error {R : Type} (mk : Bits → List R → Int → Option R) (d : Bytes) (hwf : Bytes.WF d)
    (h : Header) (hh : deserializeBocHeader d = some h) (hc : h.fl.hasCrc = true)
    (j : Nat) (hj : j < d.length) (hj4 : j ≠ 4) (e : Nat) (he0 : 0 < e) (he : e < 256) :
    deserialize mk (d.set j (d[j] ^^^ e)) = none := by
  have := header_crc_byte_error d hwf h hh hc j hj e he0 he (fun h => absurd h hj4)
  simp [deserialize, this]

/-! ## statements about the encodings of the spec encoder -/

/-- ACCEPTS: for every admissible choice of freedoms `fr` (any of the three constructors, any size ≤ 4 and off_bytes ≤ 8
that fit, index / CRC / cache bits, per-cell stored hashes and cache flags), every forward listing `cells` and root
positions `roots` (`Valid`), if the listing denotes the trees `trees` and each of them passes the cell constructor
(local hypothesis about the cells at hand; `H` arbitrary, no injectivity needed), then `Cell.from_boc` on the encoding
returns exactly the denoted roots, in order, each with the constructor's cached info. -/
theorem c05_accepts (H : Bytes → Bytes) (fr : Freedoms) (cells : List SCell) (roots : List Nat)
    (hv : Valid fr cells roots) (trees : List Cell) (hden : denote cells = some trees)
    (hcon : ∀ t ∈ trees, (Cell.info H t).isSome) :
    ∃ out, fromBoc H (encodeWith fr cells roots) = some out ∧
      roots.mapM (fun r => trees[r]?) = some (out.map (·.1)) ∧ ∀ p ∈ out, Cell.info H p.1 = some p.2 :=
  encode_accepts H fr cells roots hv trees hden hcon

/-- every proper prefix and every proper extension of a valid encoding is rejected. -/
theorem c05_trunc_ext_encoding (H : Bytes → Bytes) (fr : Freedoms) (cells : List SCell) (roots : List Nat)
    (hv : Valid fr cells roots) (trees : List Cell) (hden : denote cells = some trees)
    (hcon : ∀ t ∈ trees, (Cell.info H t).isSome) :
    (∀ p t, encodeWith fr cells roots = p ++ t → t ≠ [] → fromBoc H p = none) ∧
    (∀ t, t ≠ [] → fromBoc H (encodeWith fr cells roots ++ t) = none) := by
  obtain ⟨out, h, -⟩ := c05_accepts H fr cells roots hv trees hden hcon
  have hne : deserialize (mkCell H) (encodeWith fr cells roots) ≠ none := by
    unfold fromBoc at h; rw [h]; simp
  exact ⟨fun p t e ht => c05_truncation (mkCell H) _ hne p t e ht, fun t ht => c05_extension (mkCell H) _ hne t ht⟩

/-- with a CRC (generic constructor with has_crc32c, or acc3a728), flipping ANY single bit of a valid encoding makes
the parser raise — for every size of the bag. -/
theorem c05_crc_single_bit (H : Bytes → Bytes) (fr : Freedoms) (cells : List SCell) (roots : List Nat)
    (hv : Valid fr cells roots) (hcrc : fr.withCrc = true) (k : Nat) (hk : k < 8 * (encodeWith fr cells roots).length) :
    fromBoc H (flipBit (encodeWith fr cells roots) k) = none := by
  obtain ⟨h, h1, -, -, -, -, h6, h7⟩ := encode_header fr cells roots hv
  exact c05_crc_single_bit_accepted (mkCell H) _ h7 h h1 (by rw [h6, hcrc]) k hk

/-! ## non-vacuity -/

def exCells : List SCell := [
  { kind := -1, bits := [true, false, true], refs := [1, 1], mask := 0, hashes := [List.replicate 32 7], depths := [1] },
  { kind := -1, bits := [], refs := [], mask := 0, hashes := [List.replicate 32 9], depths := [0] } ]

def exFr : Freedoms :=
  { magic := .generic, size := 2, offBytes := 3, hasIdx := true, hasCrc := true, hasCacheBits := true,
    storeHashes := [true, false], cacheFlags := [false, true] }

def exTrees : List Cell := [.mk (-1) [true, false, true] [.mk (-1) [] [], .mk (-1) [] []], .mk (-1) [] []]

theorem exValid : Valid exFr exCells [0, 1] := by
  refine ⟨?_, by decide, by decide, by decide, by decide, ?_, ?_⟩
  · intro pos h
    have : pos = 0 ∨ pos = 1 := by simp [exCells] at h; omega
    rcases this with rfl | rfl
    · simp [exCells, CellOK, Spec.popcount, Bytes.WF]
    · simp [exCells, CellOK, Spec.popcount, Bytes.WF]
  · simp [exFr, exCells, Freedoms.withCache, Freedoms.withIdx, records, encodeCell, hashBlock, Spec.dataBytes, Spec.padBits,
      bitsToBytes, natToBE, Spec.d2]
  · simp [exFr, exCells]

theorem exDenote : denote exCells = some exTrees := by
  simp [denote, denoteFrom, exCells, exTrees]

open TonVerif.Proofs.OrdCell in
theorem exConstructible (H : Bytes → Bytes) : ∀ t ∈ exTrees, (Cell.info H t).isSome := by
  intro t ht
  simp only [exTrees, List.mem_cons, List.not_mem_nil, or_false] at ht
  have w1 : OrdWF (.mk (-1) [true, false, true] [.mk (-1) [] [], .mk (-1) [] []]) ∧
      ordDepth (.mk (-1) [true, false, true] [.mk (-1) [] [], .mk (-1) [] []]) ≤ 1023 := by
    simp [OrdWF, OrdWFs, ordDepth, ordDepthMax]
  have w2 : OrdWF (.mk (-1) [] []) ∧ ordDepth (.mk (-1) [] []) ≤ 1023 := by
    simp [OrdWF, OrdWFs, ordDepth]
  rcases ht with rfl | rfl
  · obtain ⟨i, hi, _⟩ := TonVerif.Properties.C01.c01_hash_depth H _ w1.1 w1.2
    simp [hi]
  · obtain ⟨i, hi, _⟩ := TonVerif.Properties.C01.c01_hash_depth H _ w2.1 w2.2
    simp [hi]

/-- non-vacuity of `c05_bad_refs`: a one-cell bag whose only cell refers to itself has an acceptable header and a
readable record with the self reference `0 ≤ 0`. -/
def selfRefBag : Bytes := [0xb5, 0xee, 0x9c, 0x72, 1, 1, 1, 1, 0, 3, 0, 1, 0, 0]

example : ∃ h recs c, deserializeBocHeader selfRefBag = some h ∧
    readCells h.cellsNum h.cellsData h.fl.sizeBytes = some recs ∧ recs[0]? = some c ∧ 0 ∈ c.refs ∧ (0 ≤ 0 ∨ h.cellsNum ≤ 0) := by
  refine ⟨{ fl := { generic := true, hasIdx := false, hasCrc := false, hasCacheBits := false, flags := 0, sizeBytes := 1 },
             offsetBytes := 1, cellsNum := 1, rootsNum := 1, absentNum := 0, totCellsSize := 3, rootList := [0], index := [],
             cellsData := [1, 0, 0] }, [{ bits := [], refs := [0], type := -1 }], { bits := [], refs := [0], type := -1 },
    by decide +kernel, by decide +kernel, rfl, by simp, Or.inl (Nat.le_refl 0)⟩

/-- the hypotheses of `c05_accepts`, `c05_trunc_ext_encoding` and `c05_crc_single_bit` are met by a concrete non-trivial
bag (two cells, a doubled reference, two roots, generic constructor with index, cache bits, CRC, one stored-hash record). -/
example (H : Bytes → Bytes) : ∃ out, fromBoc H (encodeWith exFr exCells [0, 1]) = some out ∧
    [0, 1].mapM (fun r => exTrees[r]?) = some (out.map (·.1)) ∧ ∀ p ∈ out, Cell.info H p.1 = some p.2 :=
  c05_accepts H exFr exCells [0, 1] exValid exTrees exDenote (exConstructible H)

example (H : Bytes → Bytes) (k : Nat) (hk : k < 8 * (encodeWith exFr exCells [0, 1]).length) :
    fromBoc H (flipBit (encodeWith exFr exCells [0, 1]) k) = none :=
  c05_crc_single_bit H exFr exCells [0, 1] exValid rfl k hk

/-! ## the header parser of the working tree (regenerated from the source on every run) -/

open TonVerif.Generated.BocHeader in
/-- SOURCE TIE for the header parser: `Generated.BocHeader.header` is regenerated on every run from the text of
`Boc.deserialize_boc_header` (pytoniq_core/boc/deserialize.py; `bytes_to_uint` from boc/utils.py, the three magic constants
from the module; translator harness/translate/pybytes.py).  For EVERY byte list it raises exactly when the hand model's
header parser `deserializeBocHeader` (about which all theorems above are proved) returns `none`, and otherwise returns
the dict with the hand model's `has_idx`, `hash_crc32`, `has_cache_bits` (as truth values), `flags`, `size_bytes`,
`offset_bytes`, `cells_num`, `roots_num`, `absent_num`, `tot_cells_size`, `root_list`, `index` (`None` exactly when there is
no index) and `cells_data` — including the CRC-32C comparison and the trailing-bytes check at the end.  `crc32c` is the
model of crypto/crc.py (its own source tie: C18). -/
theorem c05_src_header (data : Bytes) :
    header data = (deserializeBocHeader data).map HeaderOut.ofModel :=
  TonVerif.Proofs.SrcBocHeader.src_header_eq_model data

open TonVerif.Generated.BocHeader in
/-- consequence: the source's header parser and the hand model accept the same byte lists. -/
theorem c05_src_header_accepts (data : Bytes) : (header data).isSome = (deserializeBocHeader data).isSome := by
  rw [c05_src_header]; cases deserializeBocHeader data <;> rfl

open TonVerif.Generated.BocHeader in
/-- SOURCE TIE for the first part of the cell record reader: `Generated.BocHeader.cell_layout` is regenerated on every run
from the statements of `Boc.deserialize_cell` that precede `bits = bitarray()` (descriptor bytes `d1`, `d2`, absent-cell
marker, `popcount(level mask) + 1` stored hashes and depths, the length check).  For EVERY byte list and index width it raises
exactly when the hand model's `deserializeCell` fails in that part, and otherwise yields the hand model's number of
references, exotic flag, completion-tag flag, number of data bytes and data start position; and the hand model's
`deserializeCell` IS that part followed by `cellRest` (data bits, completion tag, exotic type byte, reference indices; the
whole reader is tied to the source by `c05_src_deserialize_cell`). -/
theorem c05_src_cell_layout (data : Bytes) (refSize : Nat) :
    cell_layout data refSize = cellLayout data refSize ∧
    deserializeCell data refSize = (cell_layout data refSize).bind (cellRest data refSize) := by
  have h := TonVerif.Proofs.SrcBocCell.src_cell_layout_eq data refSize
  exact ⟨h, by rw [h]; exact TonVerif.Proofs.SrcBocCell.deserializeCell_eq data refSize⟩

open TonVerif.Generated.BocHeader in
/-- non-vacuity of `c05_src_cell_layout`: an exotic record with stored hashes of a level-mask-1 cell (two hashes, two depths:
68 bytes), 36 data bytes with completion tag, one reference of width 2. -/
example : cell_layout ([0x39, 0x49] ++ List.replicate 68 0 ++ List.replicate 37 1 ++ [0, 5]) 2 =
    some { total_refs := 1, is_exotic := true, is_augmented := true, data_size := 37, i := 70 } := by
  decide +kernel

/-- non-vacuity of `c05_src_header`: a well-formed header (generic constructor, index present, one cell, one root, three
bytes of cell data) on which the regenerated parser and the hand model both return the expected fields. -/
def idxBag : Bytes := [0xb5, 0xee, 0x9c, 0x72, 0x81, 1, 1, 1, 0, 3, 0, 3, 0, 2, 0xaa]

def idxBagOut : Generated.BocHeader.HeaderOut :=
  { has_idx := true, hash_crc32 := false, has_cache_bits := false, flags := 0, size_bytes := 1, offset_bytes := 1,
    cells_num := 1, roots_num := 1, absent_num := 0, tot_cells_size := 3, root_list := [0], index := some [3],
    cells_data := [0, 2, 0xaa] }

def idxBagHeader : Header :=
  { fl := { generic := true, hasIdx := true, hasCrc := false, hasCacheBits := false, flags := 0, sizeBytes := 1 },
    offsetBytes := 1, cellsNum := 1, rootsNum := 1, absentNum := 0, totCellsSize := 3, rootList := [0], index := [3],
    cellsData := [0, 2, 0xaa] }

open TonVerif.Generated.BocHeader in
example : header idxBag = some idxBagOut ∧ deserializeBocHeader idxBag = some idxBagHeader := by
  constructor <;> decide +kernel

open TonVerif.Generated.BocHeader in
/-- and a rejected one (one byte missing): both raise. -/
example : header idxBag.dropLast = none ∧ deserializeBocHeader idxBag.dropLast = none := by
  constructor <;> decide +kernel

/-! ## the whole cell record reader of the working tree (regenerated from the source on every run) -/

open TonVerif.Generated.BocCells in
/-- SOURCE TIE for the cell record reader: `Generated.BocCells.deserialize_cell` is regenerated on every run from the text of
the WHOLE `Boc.deserialize_cell` (pytoniq_core/boc/deserialize.py; translator harness/translate/pyloops.py: `bitarray()`,
`frombytes`, the completion-tag loop `for j in range(-1, -8, -1)` with `break`, `bits[:end]` with `end` = `None` or a negative
index, `TvmBitarray(1023, ..)`, `ba2int(bits[:8], signed=True)`, the reference-index loop with `append`, the returned
`(dict, consumed)`).  For EVERY byte list and EVERY index width it raises exactly when the hand model's `deserializeCell`
(about which all theorems above are proved) returns `none`, and otherwise returns the same data bits, reference indices,
cell type (`-1` or the signed first data byte), `'result': None`, and the same number of consumed bytes. -/
theorem c05_src_deserialize_cell {R : Type} (data : Bytes) (refSize : Nat) :
    deserialize_cell (R := R) data refSize =
      (deserializeCell data refSize).map fun p => (CellOut.ofModel p.1, p.2) :=
  TonVerif.Proofs.SrcBocCells.src_deserialize_cell_eq data refSize

open TonVerif.Generated.BocCells in
/-- non-vacuity of `c05_src_deserialize_cell`: an exotic record (type byte 0xFE = -2) with 3 data bytes whose completion tag
is the fourth-last bit, and two references of width 2; both functions return the 20 data bits, `[5, 258]`, `-2`, 9 bytes. -/
example : deserialize_cell (R := Unit) [0x0a, 0x05, 0xfe, 0x12, 0x38, 0, 5, 1, 2, 0xff] 2 =
      some ({ bits := bytesToBits [0xfe, 0x12] ++ [false, false, true, true], refs := [5, 258], type := -2, result := none }, 9) ∧
    deserializeCell [0x0a, 0x05, 0xfe, 0x12, 0x38, 0, 5, 1, 2, 0xff] 2 =
      some ({ bits := bytesToBits [0xfe, 0x12] ++ [false, false, true, true], refs := [5, 258], type := -2 }, 9) := by
  constructor <;> decide +kernel

open TonVerif.Generated.BocCells in
/-- and a rejected one (an exotic record with fewer than eight data bits): both raise. -/
example : deserialize_cell (R := Unit) [0x08, 0x01, 0x90] 1 = none ∧ deserializeCell [0x08, 0x01, 0x90] 1 = none := by
  constructor <;> decide +kernel

/-! ## `Boc.deserialize` of the working tree (regenerated from the source on every run) -/

open TonVerif.Generated.BocCells in
/-- SOURCE TIE for the parser entry point: `Generated.BocCells.deserialize` is regenerated on every run from the text of
`Boc.deserialize` (pytoniq_core/boc/deserialize.py): the call of `deserialize_boc_header(self.data)`, the first loop
(`deserialize_cell` on `cells_data[i:]`, `i += j`, `cells_array.append`), the second loop over `reversed(range(cells_num))`
with the inner reference loop, the topological-order check `r < ci`, the constructor call and the in-place update
`cells_array[ci]['result'] = ..`, and the third loop over `root_list`.  It calls the regenerated header parser and the
regenerated cell reader (`c05_src_header`, `c05_src_deserialize_cell`).  The cell constructor `cls` stays a parameter: for EVERY
byte list and EVERY constructor model `mk`, the regenerated function with the callback `liftMk mk` (= `mk` on the children,
raising when a child is `None`, which is what a self reference picks up) raises exactly when the hand model
`Model.BocParse.deserialize mk` - about which `c05_bad_refs`, `c05_trunc_ext`, `c05_crc_single_bit_accepted` are proved, and
about whose instance `fromBoc H` = `deserialize (mkCell H)` `c05_accepts` and `c05_crc_single_bit` are proved -
returns `none`, and otherwise returns the same list of roots.  `Boc.__init__` (bytes / hex / base64 detection) is tied to the
source by `c03_src_forms` (C03.lean), the cell constructor itself by `c02_src_constructor` (C02.lean). -/
theorem c05_src_deserialize {R : Type} (mk : Bits → List R → Int → Option R) (data : Bytes) :
    Generated.BocCells.deserialize data (liftMk mk) = (Model.BocParse.deserialize mk data).map (·.map some) :=
  TonVerif.Proofs.SrcBocDeser.src_deserialize_eq mk data

open TonVerif.Generated.BocCells in
/-- the same for `Cell.from_boc` on bytes: the regenerated parser run with the constructor model of Model/Cell.lean. -/
theorem c05_src_from_boc (H : Bytes → Bytes) (data : Bytes) :
    Generated.BocCells.deserialize data (liftMk (mkCell H)) = (fromBoc H data).map (·.map some) :=
  c05_src_deserialize (mkCell H) data

/-- a constructor that just records what it is given (data length, number of children, then the children's records). -/
def mkFlat (bits : Bits) (refs : List (List Nat)) (_ty : Int) : Option (List Nat) := some (bits.length :: refs.length :: refs.flatten)

def triBag : Bytes := [0xb5, 0xee, 0x9c, 0x72, 1, 1, 3, 1, 0, 10, 0,  3, 0, 1, 1, 2,  1, 0, 2,  0, 0]
def triBagSelf : Bytes := [0xb5, 0xee, 0x9c, 0x72, 1, 1, 3, 1, 0, 10, 0,  3, 0, 0, 1, 2,  1, 0, 2,  0, 0]

open TonVerif.Generated.BocCells in
/-- non-vacuity of `c05_src_deserialize`: a three-cell bag (root with two references to the same child and one to a leaf; the
child refers to the leaf) parsed with `mkFlat`: both functions return the root with its children; with the root's first
reference rewritten to the root itself both raise. -/
example :
    Generated.BocCells.deserialize triBag (liftMk mkFlat) = some [some [0, 3, 0, 1, 0, 0, 0, 1, 0, 0, 0, 0]] ∧
    Model.BocParse.deserialize mkFlat triBag = some [[0, 3, 0, 1, 0, 0, 0, 1, 0, 0, 0, 0]] ∧
    Generated.BocCells.deserialize triBagSelf (liftMk mkFlat) = none ∧ Model.BocParse.deserialize mkFlat triBagSelf = none := by
  decide +kernel

end TonVerif.Properties.C05
