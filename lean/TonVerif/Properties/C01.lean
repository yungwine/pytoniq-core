/-
C01 — ordinary cell hash and depth are the TON representation hash and depth.

`Model.Cell.info H` is the executable mirror of the Python `Cell` constructor; `ordHash`/`ordDepth`
(Proofs/OrdCell.lean) are the textbook definitions (tvm.pdf 3.1.4-3.1.5):
  hash  = H( d1 d2 ++ data padded with the completion tag ++ children depths (2 bytes) ++ children hashes )
  depth = 0 without references, else 1 + max children depth.
`H` (SHA-256) is an arbitrary function.  The statements about trees quantify over EVERY tree of ordinary cells
(any bit length 0..1023, 0..4 references, any shape); `c01_src_observers` and `c01_twins_unequal` speak of every `CellInfo`
(any cell type and level mask).
-/
import TonVerif.Proofs.OrdCell
import TonVerif.Proofs.Binding
import TonVerif.Proofs.SrcArith
import TonVerif.Generated.CellArith
import TonVerif.Proofs.SrcCellArith
import TonVerif.Proofs.SrcCellCtor
import TonVerif.Proofs.SrcCellEntry
import TonVerif.Proofs.CellTwins

namespace TonVerif.Properties.C01
open TonVerif TonVerif.Model TonVerif.Proofs.OrdCell

/-- hash and depth: a tree of ordinary cells of depth ≤ 1023 is constructible, has level mask 0, and its
hash / depth at every level are the standard representation hash / depth. -/
theorem c01_hash_depth (H : Bytes → Bytes) (c : Cell) (wf : OrdWF c) (hd : ordDepth c ≤ 1023) :
    ∃ i, Cell.info H c = some i ∧ i.mask = 0 ∧ i.hash = ordHash H c ∧
      ∀ l, i.getHash l = some (ordHash H c) ∧ i.getDepth l = some (ordDepth c) := by
  obtain ⟨i, h1, h2, _, h4, h5⟩ := ord_info H c wf hd
  exact ⟨i, h1, h2, h4, h5⟩

/-- depth limit: constructible exactly when the depth is at most 1023. -/
theorem c01_constructible_iff (H : Bytes → Bytes) (c : Cell) (wf : OrdWF c) :
    (Cell.info H c).isSome ↔ ordDepth c ≤ 1023 := by
  constructor
  · intro h
    by_cases hd : ordDepth c ≤ 1023
    · exact hd
    · have := ord_too_deep H c wf (by omega)
      simp [this] at h
  · intro hd
    obtain ⟨i, h1, _⟩ := ord_info H c wf hd
    simp [h1]

/-- the explicitly recomputed representation hash agrees with the cached one. -/
theorem c01_repr_agrees (H : Bytes → Bytes) (kind : Int) (bits : Bits) (refs : List Cell)
    (wf : OrdWF (.mk kind bits refs)) (hd : ordDepth (.mk kind bits refs) ≤ 1023) :
    ∃ i ks, Cell.info H (.mk kind bits refs) = some i ∧ Cell.infos H refs = some ks ∧
      (representation i ks).map H = some i.hash :=
  ord_representation H kind bits refs wf hd

/-- `==` holds exactly when the hashes are equal. -/
theorem c01_eq_iff_hash (a b : CellInfo) : a.pyEq b = true ↔ a.hash = b.hash := pyEq_iff a b

/-- `__hash__` values (dict keys) coincide exactly when the hashes are equal (hashes being byte strings of equal length). -/
theorem c01_pyhash_iff_hash (a b : CellInfo) (ha : Bytes.WF a.hash) (hb : Bytes.WF b.hash)
    (hl : a.hash.length = b.hash.length) : a.pyHash = b.pyHash ↔ a.hash = b.hash :=
  pyHash_iff a b ha hb hl

/-! ## the representation determines the cell -/

/-- the standard representation `d1 d2 ++ padded data ++ child depths ++ child hashes` of an ordinary cell (≤ 4
references, 32-byte hashes) is injective: it determines the BIT STRING (the completion-tag padding is invertible given
`d2`, for every length 0..1023 and beyond), the number of references, and every child's depth field and hash. -/
theorem c01_repr_injective (H : Bytes → Bytes) (h32 : ∀ x, (H x).length = 32) (b1 b2 : Bits) (r1 r2 : List Cell)
    (hr1 : r1.length ≤ 4) (hr2 : r2.length ≤ 4)
    (h : [Spec.d1 r1.length false 0, Spec.d2 b1.length] ++ Spec.dataBytes b1 ++ ordDepthBytes r1 ++ ordHashes H r1
       = [Spec.d1 r2.length false 0, Spec.d2 b2.length] ++ Spec.dataBytes b2 ++ ordDepthBytes r2 ++ ordHashes H r2) :
    b1 = b2 ∧ r1.length = r2.length ∧ r1.map (fun c => Spec.be2 (ordDepth c)) = r2.map (fun c => Spec.be2 (ordDepth c)) ∧
      r1.map (ordHash H) = r2.map (ordHash H) := by
  rw [ordDepthBytes_eq, ordDepthBytes_eq, ordHashes_eq, ordHashes_eq] at h
  obtain ⟨en, _, _, eb, ed, eh⟩ := TonVerif.Proofs.Binding.repr_injective _ _ _ _ _ _ b1 b2 _ _ _ _ hr1 hr2
    (by simp) (by simp) (by simp) (by simp)
    (List.forall_mem_map.mpr fun c _ => by simp [Spec.be2]) (List.forall_mem_map.mpr fun c _ => by simp [Spec.be2])
    (List.forall_mem_map.mpr fun c _ => ordHash_length H h32 c) (List.forall_mem_map.mpr fun c _ => ordHash_length H h32 c) h
  exact ⟨eb, en, ed, eh⟩

/-- hence: two ordinary cells with the same hash, when `H` does not collide on their two representations, have the same
bit string, the same number of references and pairwise equal child hashes. -/
theorem c01_hash_binding (H : Bytes → Bytes) (h32 : ∀ x, (H x).length = 32) (k1 k2 : Int) (b1 b2 : Bits) (r1 r2 : List Cell)
    (hr1 : r1.length ≤ 4) (hr2 : r2.length ≤ 4)
    (nocoll : ∀ x y, H x = H y →
      x = [Spec.d1 r1.length false 0, Spec.d2 b1.length] ++ Spec.dataBytes b1 ++ ordDepthBytes r1 ++ ordHashes H r1 →
      y = [Spec.d1 r2.length false 0, Spec.d2 b2.length] ++ Spec.dataBytes b2 ++ ordDepthBytes r2 ++ ordHashes H r2 → x = y)
    (hh : ordHash H (.mk k1 b1 r1) = ordHash H (.mk k2 b2 r2)) :
    b1 = b2 ∧ r1.length = r2.length ∧ r1.map (ordHash H) = r2.map (ordHash H) := by
  rw [ordHash, ordHash] at hh
  obtain ⟨e1, e2, _, e4⟩ := c01_repr_injective H h32 b1 b2 r1 r2 hr1 hr2 (nocoll _ _ hh rfl rfl)
  exact ⟨e1, e2, e4⟩

/-! Non-vacuity: a 5-bit cell with two references to leaf cells satisfies the hypotheses. -/
def sample : Cell := .mk (-1) [true, false, true, true, false] [.mk (-1) [] [], .mk (-1) [true] []]
example : OrdWF sample ∧ ordDepth sample ≤ 1023 := by
  simp [sample, OrdWF, OrdWFs, ordDepth, ordDepthMax]

/-! ## Source-regenerated arithmetic (`Generated/CellArith.lean` is re-translated from cell.py on every run)

The definitions `Generated.refsDescriptor`, `bitsDescriptor`, `depthTooLarge` are the mechanical translation of
`Cell.get_refs_descriptor`, `Cell.get_bits_descriptor` and of the depth test in `Cell.calculate_hashes`
(harness/translate/pyarith.py).  Each theorem also proves the translator's side conditions (`*_sideOk`: no Nat
subtraction underflows, no division by zero), so the Lean `Nat` reading equals the Python `int` one. -/
section Src
open TonVerif.Proofs.SrcArith
set_option linter.unusedSimpArgs false

/-- `get_refs_descriptor` computes d1 = r + 8·exotic + 32·mask (tvm.pdf 3.1.4), for ALL reference counts, flags and masks. -/
theorem c01_src_d1 (r : Nat) (exotic : Bool) (mask : Nat) :
    Generated.refsDescriptor_sideOk r exotic mask ∧ Generated.refsDescriptor r exotic mask = Spec.d1 r exotic mask :=
  Proofs.SrcCellArith.refsDescriptor_eq r exotic mask

/-- `get_bits_descriptor` computes d2 = ⌊b/8⌋ + ⌈b/8⌉ (tvm.pdf 3.1.4), for ALL bit lengths. -/
theorem c01_src_d2 (b : Nat) : Generated.bitsDescriptor_sideOk b ∧ Generated.bitsDescriptor b = Spec.d2 b :=
  Proofs.SrcCellArith.bitsDescriptor_eq b

/-- the hand model's `descriptors` (what every hash in C01/C02 is computed over) is exactly the two source
computations, each written as ONE big-endian byte (`to_bytes(1, 'big')` — width and byte order are read from the source). -/
theorem c01_src_descriptors (r : Nat) (exotic : Bool) (b mask : Nat) :
    Generated.refsDescriptor_bigEndian = true ∧ Generated.bitsDescriptor_bigEndian = true ∧
    descriptors r exotic b mask =
      (do let d1 ← toBytesBE? Generated.refsDescriptor_width (Generated.refsDescriptor r exotic mask)
          let d2 ← toBytesBE? Generated.bitsDescriptor_width (Generated.bitsDescriptor b)
          pure (d1 ++ d2)) :=
  ⟨rfl, rfl, Proofs.SrcCellArith.descriptors_src r exotic b mask⟩

/-- within the cell limits (≤ 4 refs, mask ≤ 7, ≤ 1023 bits) both descriptors fit their single byte, so
`to_bytes` never raises. -/
theorem c01_src_descriptors_fit (r : Nat) (exotic : Bool) (b mask : Nat) (hr : r ≤ 4) (hm : mask ≤ 7) (hb : b ≤ 1023) :
    Generated.refsDescriptor r exotic mask < 256 ^ Generated.refsDescriptor_width ∧
    Generated.bitsDescriptor b < 256 ^ Generated.bitsDescriptor_width := by
  rw [(c01_src_d1 r exotic mask).2, (c01_src_d2 b).2]
  simp only [Spec.d1, Spec.d2, show Generated.refsDescriptor_width = 1 from rfl, show Generated.bitsDescriptor_width = 1 from rfl] <;>
    (cases exotic <;> src_arith)

/-- the depth test of `calculate_hashes` refuses exactly depths above 1023 (`c01_constructible_iff`'s bound), and the
hand model's test `depth0 + 1 >= 1024` is that test. -/
theorem c01_src_depth_limit (depth : Nat) :
    Generated.depthTooLarge_sideOk depth ∧ (Generated.depthTooLarge depth = false ↔ depth ≤ 1023) ∧
    Generated.depthTooLarge depth = decide (depth >= 1024) := by
  refine ⟨by simp only [Generated.depthTooLarge_sideOk]; src_arith, ?_, ?_⟩
  · simp only [Generated.depthTooLarge, decide_eq_false_iff_not] <;> omega
  · simp only [Generated.depthTooLarge, decide_eq_decide] <;> omega

/-- concrete values of the regenerated definitions (non-vacuity of the ranges in `c01_src_descriptors_fit`; 1023 bits,
4 refs, mask 7 are the largest admissible inputs). -/
example : Generated.bitsDescriptor 1023 = 255 ∧ Generated.bitsDescriptor 8 = 2 ∧ Generated.refsDescriptor 4 true 7 = 236 ∧
    Generated.depthTooLarge 1023 = false ∧ Generated.depthTooLarge 1024 = true := by decide

end Src

/-! ## Source-regenerated constructor (`Generated/CellCtor.lean`: `Cell.__init__` with `resolve_mask`, the `calculate_hashes`
loop, the descriptors and the completion-tag padding of `get_data_bytes`, re-translated from cell.py on every run by
harness/translate/cellctor.py + pyobj.py; `hashlib.sha256` is the parameter `H`, a child cell is its `CellInfo`)

The hand model `Model.construct`, about which every theorem above is proved, equals the regenerated constructor for ALL
inputs (`Proofs/SrcCellCtor.lean`); so the theorems hold for what the source computes, not for a transcription checked by
samples. -/
section SrcCtor
open TonVerif.Generated.CellCtor TonVerif.Proofs.SrcCellCtor

/-- ordinary cells (`cell_type = -1`): for ALL bit strings (any length) and ALL lists of child infos (any number, any level
masks, any stored hashes and depths) the regenerated `Cell.__init__` raises exactly when the hand model does and otherwise
returns the same level mask, `_hashes` and `_depths`, with `_hash` (`Cell.hash`) = the model's `CellInfo.hash`, `_descriptors` and
`_data_bytes` = the model's descriptor bytes and padded data (`CtorOut.ofModel`); the completion-tag padding is the spec's. -/
theorem c01_src_constructor (H : Bytes → Bytes) (bits : Bits) (refs : List CellInfo) :
    init H bits refs (-1) = (construct H (-1) bits refs).map CtorOut.ofModel ∧
    (init H bits refs (-1)).map CtorOut.toInfo = construct H (-1) bits refs ∧
    get_data_bytes (self_bits := bits) = some (dataBytes bits) ∧ dataBytes bits = Spec.dataBytes bits :=
  ⟨src_construct_eq_model H (-1) bits refs, src_construct_info H (-1) bits refs, get_data_bytes_eq bits,
    TonVerif.Proofs.CellSpec.dataBytes_eq bits⟩

/-- `c01_hash_depth` and `c01_constructible_iff` for the regenerated code: applying the REGENERATED constructor bottom-up to any
tree of ordinary cells succeeds exactly when the depth is at most 1023, and then the level mask is 0 and hash / depth at every
level are the standard representation hash / depth. -/
theorem c01_src_hash_depth (H : Bytes → Bytes) (c : Cell) (wf : OrdWF c) :
    ((srcInfo H c).isSome ↔ ordDepth c ≤ 1023) ∧
    (ordDepth c ≤ 1023 → ∃ i, srcInfo H c = some i ∧ i.mask = 0 ∧ i.hash = ordHash H c ∧
      ∀ l, i.getHash l = some (ordHash H c) ∧ i.getDepth l = some (ordDepth c)) := by
  rw [srcInfo_eq]
  exact ⟨c01_constructible_iff H c wf, c01_hash_depth H c wf⟩

/-! Non-vacuity: the regenerated constructor builds `sample` (5 bits, two references), for every hash function. -/
example (H : Bytes → Bytes) : (srcInfo H sample).isSome = true :=
  (c01_src_hash_depth H sample (by simp [sample, OrdWF, OrdWFs])).1.mpr (by simp [sample, ordDepth, ordDepthMax])

end SrcCtor

/-! ## Source-regenerated observers (`Generated/CellEntry.lean`: `Cell.get_representation`, `calculate_representation_hash`, the
property `hash`, `__eq__`, `__hash__`, re-translated from cell.py on every run by harness/translate/cellentry.py + pyobj.py in the
same program as the constructor, so `get_depth` / `get_hash` / `get_data_bytes` are the regenerated definitions above)

Each regenerated function equals the hand model (`Model.representation`, `CellInfo.pyEq`, `CellInfo.pyHash`) for ALL inputs
(`Proofs/SrcCellEntry.lean`); `c01_repr_agrees`, `c01_eq_iff_hash`, `c01_pyhash_iff_hash` are restated about what the source computes. -/
section SrcEntry
open TonVerif.Generated.CellCtor TonVerif.Generated.CellEntry TonVerif.Proofs.SrcCellCtor TonVerif.Proofs.SrcCellEntry

/-- the equality behind the three theorems below: for EVERY info `i` (any cell type, level mask, stored hashes), every list of
child infos and the descriptor bytes `d` the constructor stored for `i`, the regenerated `get_representation` returns the model's
representation (same decision to raise: `_hashes[-2]`, `to_bytes(2)` of a child depth, a child's `get_hash` / `get_depth`) and the
regenerated `calculate_representation_hash` its image under `H`; `__eq__` and `__hash__` never raise and return the model's values. -/
theorem c01_src_observers (H : Bytes → Bytes) (i : CellInfo) (refs : List CellInfo) (d : Bytes)
    (hd : descriptors i.nrefs (i.kind != kOrdinary) i.bits.length i.mask = some d) (b : CellInfo) :
    get_representation (self__descriptors := d) (self_bits := i.bits) (self__hashes := i.hashes) (self_level_mask := i.mask)
      (self_type_ := i.kind) (self_refs := refs) = representation i refs ∧
    calculate_representation_hash H (self__descriptors := d) (self_bits := i.bits) (self__hashes := i.hashes)
      (self_level_mask := i.mask) (self_type_ := i.kind) (self_refs := refs) = (representation i refs).map H ∧
    pyeq (other := b) (self__hash := i.hash) = some (i.pyEq b) ∧ pyhash (self__hash := i.hash) = some i.pyHash :=
  ⟨get_representation_eq i refs d hd, calculate_representation_hash_eq H i refs d hd, pyeq_eq i b, pyhash_eq i⟩

/-- `c01_repr_agrees` for the regenerated code: for every ordinary cell of depth ≤ 1023 (any bit string, 0..4 references, any
shape below) the REGENERATED constructor, applied bottom-up, builds the children (`ks`) and the cell (`o` = its attributes), and
the REGENERATED `calculate_representation_hash()` on these attributes returns exactly the cached `Cell.hash` (`o.hash = _hash`). -/
theorem c01_src_repr_agrees (H : Bytes → Bytes) (kind : Int) (bits : Bits) (refs : List Cell)
    (wf : OrdWF (.mk kind bits refs)) (hd : ordDepth (.mk kind bits refs) ≤ 1023) :
    ∃ o ks, srcInfos H refs = some ks ∧ init H bits ks kind = some o ∧
      calculate_representation_hash H (self__descriptors := o.descriptors) (self_bits := o.bits) (self__hashes := o.hashes)
        (self_level_mask := o.mask) (self_type_ := o.kind) (self_refs := ks) = some o.hash := by
  obtain ⟨i, ks, h1, h2, h3⟩ := c01_repr_agrees H kind bits refs wf hd
  have hc : construct H kind bits ks = some i := by
    simpa [Cell.info, h2] using h1
  refine ⟨CtorOut.ofModel i, ks, by rw [srcInfos_eq]; exact h2, by rw [src_construct_eq_model, hc]; rfl, ?_⟩
  cases hdesc : descriptors i.nrefs (i.kind != kOrdinary) i.bits.length i.mask with
  | none => simp [representation, hdesc] at h3
  | some d =>
    have := calculate_representation_hash_eq H i ks d hdesc
    simp only [CtorOut.ofModel, hdesc, Option.getD_some]
    rw [this, h3]

/-- `c01_eq_iff_hash` for the regenerated `__eq__` (with the regenerated property `hash`): it never raises and returns `True`
exactly when the two cached hashes are equal. -/
theorem c01_src_eq_iff_hash (a b : CellInfo) :
    ∃ r, pyeq (other := b) (self__hash := a.hash) = some r ∧ (r = true ↔ a.hash = b.hash) :=
  ⟨a.pyEq b, pyeq_eq a b, c01_eq_iff_hash a b⟩

/-- `c01_pyhash_iff_hash` for the regenerated `__hash__`: it never raises, and the dict keys of two cells coincide exactly when
their hashes are equal (hashes being byte strings of equal length). -/
theorem c01_src_pyhash_iff_hash (a b : CellInfo) (ha : Bytes.WF a.hash) (hb : Bytes.WF b.hash)
    (hl : a.hash.length = b.hash.length) :
    (pyhash (self__hash := a.hash)).isSome ∧ (pyhash (self__hash := a.hash) = pyhash (self__hash := b.hash) ↔ a.hash = b.hash) := by
  rw [pyhash_eq, pyhash_eq]
  refine ⟨rfl, ?_⟩
  rw [Option.some_inj]
  exact c01_pyhash_iff_hash a b ha hb hl

/-! Non-vacuity: `sample` (5 bits, two references) meets the hypotheses of `c01_src_repr_agrees` for every hash function; the
regenerated `__eq__` / `__hash__` on two concrete infos. -/
example (H : Bytes → Bytes) : ∃ o ks, srcInfos H [.mk (-1) [] [], .mk (-1) [true] []] = some ks ∧
    init H [true, false, true, true, false] ks (-1) = some o ∧
    calculate_representation_hash H (self__descriptors := o.descriptors) (self_bits := o.bits) (self__hashes := o.hashes)
      (self_level_mask := o.mask) (self_type_ := o.kind) (self_refs := ks) = some o.hash :=
  c01_src_repr_agrees H (-1) _ _ (by simp [OrdWF, OrdWFs]) (by simp [ordDepth, ordDepthMax])

example : pyeq (other := ⟨-1, [], 0, 0, [[1, 2]], [0]⟩) (self__hash := [1, 2]) = some true ∧
    pyeq (other := ⟨-1, [], 0, 0, [[1, 3]], [0]⟩) (self__hash := [1, 2]) = some false ∧ pyhash (self__hash := [1, 2]) = some 258 := by decide

end SrcEntry

/-! ## a tree next to its pruned twin

An ordinary cell above a pruned branch has level > 0 and several hashes: `get_hash(0)` is the hash of the tree it stands for - the
same as that of the unpruned tree - while `Cell.hash` (the representation hash, the identity of the cell) is the last one. `==` and
dictionary keys must follow the representation hash: a tree and its pruned twin are DIFFERENT cells although their level-0 hashes,
bits and kinds agree. -/
section Twins
open TonVerif.Generated.CellEntry TonVerif.Proofs.SrcCellEntry TonVerif.Proofs.CellTwins

/-- for ALL infos `a`, `b` (any kind, bits, stored hashes) with their child infos: if the cached hashes are the hashes of the
representations (`c01_repr_agrees` / `c01_src_repr_agrees` give this for constructed cells), the level masks differ (a tree vs. the same
tree with a sub-tree pruned, or pruned for another Merkle depth) and `H` does not collide on these two representations, then `==`
(model and regenerated `__eq__`) is `False` and the dict keys (`__hash__`, model and regenerated) differ - whatever the level-0
hashes are. -/
theorem c01_twins_unequal (H : Bytes → Bytes) (a b : CellInfo) (ka kb : List CellInfo) (ra rb : Bytes)
    (ha : representation a ka = some ra) (hb : representation b kb = some rb) (hha : a.hash = H ra) (hhb : b.hash = H rb)
    (hna : a.nrefs < 8) (hnb : b.nrefs < 8) (hm : a.mask ≠ b.mask) (nocoll : H ra = H rb → ra = rb) :
    a.pyEq b = false ∧ pyeq (other := b) (self__hash := a.hash) = some false ∧
      (Bytes.WF a.hash → Bytes.WF b.hash → a.hash.length = b.hash.length →
        a.pyHash ≠ b.pyHash ∧ pyhash (self__hash := a.hash) ≠ pyhash (self__hash := b.hash)) := by
  have hne : a.hash ≠ b.hash := by
    intro he
    rw [hha, hhb] at he
    exact representation_ne_of_mask_ne a b ka kb ra rb ha hb hna hnb hm (nocoll he)
  have hq : a.pyEq b = false := by
    cases h : a.pyEq b with
    | false => rfl
    | true => exact absurd ((c01_eq_iff_hash a b).1 h) hne
  refine ⟨hq, by rw [pyeq_eq, hq], ?_⟩
  intro wa wb hl
  have hp : a.pyHash ≠ b.pyHash := fun h => hne ((c01_pyhash_iff_hash a b wa wb hl).1 h)
  refine ⟨hp, ?_⟩
  rw [pyhash_eq, pyhash_eq]
  intro h
  exact hp (Option.some.inj h)

/-! Non-vacuity with the injective "hash" `H = id`: a 240-bit leaf (its representation is 32 bytes long, so a pruned branch can store
it), the pruned branch of that leaf, and the two parents `[1] -> leaf` and `[1] -> pruned(leaf)` built by the model constructor: a
tree next to its pruned twin - same bits, kind and level-0 hash, different level mask - meets every hypothesis. -/
def Hid : Bytes → Bytes := fun x => x
def twinLeaf : Option CellInfo := construct Hid (-1) (List.replicate 240 true) []
def twinPruned : Option CellInfo := twinLeaf.bind (fun l => construct Hid 1 (bytesToBits ([1, 1] ++ l.hash ++ [0, 0])) [])
def twinA : Option CellInfo := twinLeaf.bind (fun l => construct Hid (-1) [true] [l])
def twinB : Option CellInfo := twinPruned.bind (fun p => construct Hid (-1) [true] [p])
def twinCheck : Bool :=
  match twinLeaf, twinPruned, twinA, twinB with
  | some l, some p, some a, some b =>
    match representation a [l], representation b [p] with
    | some ra, some rb =>
      decide (a.hash = Hid ra) && decide (b.hash = Hid rb) && decide (a.nrefs < 8) && decide (b.nrefs < 8) &&
        decide (a.mask ≠ b.mask) && decide (a.getHash 0 = b.getHash 0) && decide (a.bits = b.bits) && decide (a.kind = b.kind) &&
        decide (a.hash ≠ b.hash)
    | _, _ => false
  | _, _, _, _ => false
example : twinCheck = true := by decide +kernel
example (x y : Bytes) (h : Hid x = Hid y) : x = y := h

end Twins

end TonVerif.Properties.C01
