/-
C03 — bag-of-cells serialisation round-trips for every DAG and option set; raw bytes, hex text and base64 text of the
same serialisation parse to the same result.

Proved here (emit side + input forms, for ALL inputs):
  * `c03_emit_decodes` — the bytes `to_boc` produces for any list of well-formed records with forward references and any of
    the 6 valid option sets decode, under the independent strict reader's byte-level layer, to the same records and root
    (this is the emit half of the round trip: nothing about the DAG is lost or altered by serialisation).
  * `c03_forms_hex`, `c03_forms_hex_upper`, `c03_forms_base64`, `c03_forms` — `Boc.__init__`'s input-form detection
    (bytes → as is; str → `bytes.fromhex`, on ValueError `base64.b64decode`; Model/BocForms.lean) yields the SAME bytes for the
    raw bytes, their hex text and their base64 text, for every byte string that starts with one of the three BoC magics;
    in particular for everything `to_boc` emits (`c03_forms_emit`).
  * `c03_magic_not_hex` — the only possible confusion, a base64 text that is also valid hex, cannot occur for a BoC: the
    base64 text of each of the three magics has a non-hex, non-space character among its first two characters
    ('t' in "te6cc…", 'P' in "aP9l8…", 'r' in "rMOnK…").

  * `c03_emit_denotes` — (the second half of C04's `c04_conforms`) the bytes `to_boc` emits for a spec-valid typed tree `t` denote, under the
    independent strict reader, exactly `[t]`.

THE COMPOSITION — proved here (helpers: Proofs/BocRoundTrip.lean):
  * `c03_roundtrip` — THE PROPERTY.  For every spec-valid typed tree `t` (C02's `TreeWF`, `Typed`), the object graph `p` that
    `Cell.__init__` builds for it, under the local `NoCollision p`, every fuel for which the model of `Cell.order` returns, each of
    the 6 valid option sets (within the format's own limits: < 2^32 cells, doubled payload < 2^64): the model of `to_boc`
    returns bytes `bs`, and the model of `Cell.from_boc` (Model/BocParse.lean: `deserialize_boc_header`, `deserialize_cell`,
    the rebuild loop, the cell constructor) applied to `bs`, to the hex text of `bs` and to the base64 text of `bs` — through
    BOTH models of `Boc.__init__` (`BocForms.inputBytes`, the reference model with CPython's non-strict decoder, and
    `BocParse.bocInit`) — returns exactly ONE root `(t', i')` with `t' = t` (identical kinds/types, data bits and references,
    recursively) and `i' = p.info` (the identical cached hashes, depths and level mask, hence the identical hash).
    Route: the emitted bytes ARE `Spec.BocEncode.encodeWith fr cells [0]` for the library's freedoms `fr` (generic magic,
    minimal size width, minimal offset width from the doubled length with cache bits, no stored hashes, one root) and the
    listing `cells` of the order (`toBoc_eq_encodeWith`), that listing is `Valid` and denotes the unfoldings of the ordered cells
    (`valid_order`, `denote_order`), so C05's `c05_accepts` applies.
  * `c03_roundtrip_total` — with existence of `p` and termination of `Cell.order` for the driver's fuel.
  * `c03_entry_cell`, `c03_entry_slice`, `c03_entry_builder` — the three `one_from_boc` entry points (Model/BocEntry.lean) on
    the three input forms: `Cell.one_from_boc` returns that root; `Slice.one_from_boc` returns the slice holding all data
    bits and all references of the root; `Builder.one_from_boc` returns the builder holding exactly the root's bits and
    references when the root is ordinary and RAISES when the root is exotic (`to_builder` refuses exotic cells: the
    recorded known finding `builder-entry:exotic-root-refused`).
  * `c03_store_cell` — the `store_cell` fact behind the Builder entry point.

THE SAME ON THE CODE AS REGENERATED FROM THE SOURCE (the `c03_src_*` ties and what they transport):
  * `c03_src_parser`, `c03_roundtrip_src` — the parser half run by the regenerated `Boc.deserialize`;
  * `c03_src_forms`, `c03_roundtrip_src2` — emitter, `Boc.__init__` and parser all regenerated;
  * `c03_src_entrypoints`, `c03_roundtrip_src3` — the regenerated entry points and conversions, on object values.
-/
import TonVerif.Proofs.BocEmit
import TonVerif.Proofs.BocForms
import TonVerif.Proofs.BocSemFinal
import TonVerif.Model.Builder
import TonVerif.Model.BocEntry
import TonVerif.Proofs.BocRoundTrip
import TonVerif.Proofs.SrcBocDeser
import TonVerif.Proofs.SrcBocEmit
import TonVerif.Proofs.SrcBocAny
import TonVerif.Proofs.BocRoundTripAny
import TonVerif.Proofs.SrcEntry

namespace TonVerif.Properties.C03
open TonVerif TonVerif.Model TonVerif.Model.BocForms TonVerif.Spec.Boc TonVerif.Proofs.BocEmit TonVerif.Proofs.BocForms
  TonVerif.Proofs.BocOrder TonVerif.Proofs.BocSem TonVerif.Proofs.CellSpec TonVerif.Proofs.BocRoundTrip TonVerif.Model.BocEntry

/-- emit half of the round trip: the emitted bytes decode (independent strict reader, byte-level layer) to exactly the
records that were serialised, with root index 0 — for every record list / valid order and all 6 option sets. -/
theorem c03_emit_decodes (o : Opts) (as : List ARec) (hv : o.valid = true) (h1 : 1 ≤ as.length) (hn : as.length < 2 ^ 32)
    (hP : (payloadOf (sizeW as) as).length * 2 < 2 ^ 64) (ok : ∀ a ∈ as, a.OK as.length) (fw : Forward as) :
    ∃ bs, emit (as.map ARec.toRec) o = some bs ∧ strictFlat bs = some ⟨as.map ARec.toSRec, [0]⟩ := by
  obtain ⟨bs, h1, _, h2⟩ := strictFlat_emit o as hv h1 hn hP ok fw
  exact ⟨bs, h1, h2⟩

/-- emit half, at full strength: the bytes `to_boc` emits for a spec-valid typed tree `t` (any of the 6 option sets) denote,
under the independent strict reader, exactly `[t]` — identical data bits, exotic flags (types) and references,
recursively; the order used is a valid order of the distinct cells. -/
theorem c03_emit_denotes (H : Bytes → Bytes) (t : Cell) (wf : TreeWF H t) (ty : Typed t) (p : PCell)
    (hb : Cell.build H t = some p) (nc : NoCollision p) (fuel : Nat) (ord : List PCell) (h : p.order fuel = some ord)
    (o : Opts) (hv : o.valid = true) (hn : ord.length < 2 ^ 32)
    (hP : (payloadOf (sizeW (orderRecs ord)) (orderRecs ord)).length * 2 < 2 ^ 64) :
    ∃ bs, p.toBoc fuel o = some bs ∧ strictParse H bs = some [toSCell t] :=
  (strictParse_toBoc H t wf ty p hb nc fuel ord h o hv hn hP).2

/-- the built object graph is a function of the tree: it caches exactly the model's `Cell.info` (hash, depth, mask at every
level) of every sub-tree — so "same tree" implies "identical hash". -/
theorem c03_same_tree_same_hash (H : Bytes → Bytes) (t : Cell) (p : PCell) (wf : TreeWF H t) (ty : Typed t)
    (hb : Cell.build H t = some p) : Cell.info H t = some p.info :=
  (build_sem H t p wf ty hb).1

/-- `bytes.fromhex(b.hex()) == b`, and `Boc(b.hex())` holds the same bytes as `Boc(b)`. -/
theorem c03_forms_hex (b : Bytes) (h : Bytes.WF b) :
    fromHex (hexEnc b) = some b ∧ inputBytes (.inr (hexEnc b)) = inputBytes (.inl b) :=
  ⟨fromHex_hexEnc b h, inputBytes_hex b h⟩

/-- the same for upper-case hex digits -/
theorem c03_forms_hex_upper (b : Bytes) (h : Bytes.WF b) :
    inputBytes (.inr (hexEncUpper b)) = inputBytes (.inl b) := inputBytes_hexUpper b h

/-- `base64.b64decode(base64.b64encode(b)) == b` for every byte string. -/
theorem c03_base64_roundtrip (b : Bytes) (h : Bytes.WF b) : b64Dec (b64Enc b) = some b := b64Dec_b64Enc b h

/-- the base64 text of a byte string starting with a BoC magic is never taken for hex: its first two characters contain a
character that is neither a hex digit nor whitespace, so `bytes.fromhex` raises. -/
theorem c03_magic_not_hex (rest : Bytes) :
    fromHex (b64Enc ([0xb5, 0xee, 0x9c, 0x72] ++ rest)) = none ∧
    fromHex (b64Enc ([0x68, 0xff, 0x65, 0xf3] ++ rest)) = none ∧
    fromHex (b64Enc ([0xac, 0xc3, 0xa7, 0x28] ++ rest)) = none :=
  ⟨fromHex_b64_magic rest, fromHex_b64_magic_leanBoc rest, fromHex_b64_magic_leanBocCrc rest⟩

/-- the concrete characters (first five base64 characters are fixed by the four magic bytes) -/
theorem c03_magic_prefix (rest : Bytes) :
    (b64Enc ([0xb5, 0xee, 0x9c, 0x72] ++ rest)).take 5 = ['t', 'e', '6', 'c', 'c'] ∧
    (b64Enc ([0x68, 0xff, 0x65, 0xf3] ++ rest)).take 5 = ['a', 'P', '9', 'l', '8'] ∧
    (b64Enc ([0xac, 0xc3, 0xa7, 0x28] ++ rest)).take 5 = ['r', 'M', 'O', 'n', 'K'] :=
  ⟨b64_magic_prefix rest, b64_magic_prefix_leanBoc rest, b64_magic_prefix_leanBocCrc rest⟩

/-- `Boc(base64 text)` holds the same bytes as `Boc(bytes)` for every byte string starting with one of the three magics. -/
theorem c03_forms_base64 (magic : Bytes)
    (hm : magic ∈ [[0xb5, 0xee, 0x9c, 0x72], [0x68, 0xff, 0x65, 0xf3], [0xac, 0xc3, 0xa7, 0x28]]) (rest : Bytes) (h : Bytes.WF rest) :
    inputBytes (.inr (b64Enc (magic ++ rest))) = inputBytes (.inl (magic ++ rest)) :=
  inputBytes_b64_magic magic hm rest h

/-- **the three input forms agree**: for a byte string that starts with the BoC magic, `Boc.__init__` ends up with the same
bytes whether it is given the bytes, their hex text or their base64 text. -/
theorem c03_forms (rest : Bytes) (h : Bytes.WF rest) :
    let b := [0xb5, 0xee, 0x9c, 0x72] ++ rest
    inputBytes (.inl b) = some b ∧ inputBytes (.inr (hexEnc b)) = some b ∧ inputBytes (.inr (b64Enc b)) = some b := by
  have hb : Bytes.WF ([0xb5, 0xee, 0x9c, 0x72] ++ rest) := TonVerif.Proofs.BocParse.wf_append (by decide) h
  refine ⟨rfl, ?_, ?_⟩
  · rw [inputBytes_hex _ hb]; rfl
  · rw [inputBytes_b64 rest h]; rfl

/-- everything `to_boc` emits is such a byte string: all three forms of an emitted serialisation are read back as the
emitted bytes. -/
theorem c03_forms_emit (o : Opts) (as : List ARec) (hv : o.valid = true) (h1 : 1 ≤ as.length) (hn : as.length < 2 ^ 32)
    (hP : (payloadOf (sizeW as) as).length * 2 < 2 ^ 64) (ok : ∀ a ∈ as, a.OK as.length) :
    ∃ bs, emit (as.map ARec.toRec) o = some bs ∧
      inputBytes (.inl bs) = some bs ∧ inputBytes (.inr (hexEnc bs)) = some bs ∧ inputBytes (.inr (b64Enc bs)) = some bs := by
  refine ⟨_, emit_eq o as hv h1 hn hP ok, ?_⟩
  have hwf := emitted_wf o as h1 hn hP ok
  have := c03_forms _ hwf
  simpa [bodyOf, bocMagic, List.append_assoc] using this

/-- the `store_cell` fact behind the Builder entry point: `Builder().store_cell(cell)` on a cell within the cell limits never
raises and the builder holds exactly the cell's data bits and references (so `end_cell()` rebuilds the same cell). -/
theorem c03_store_cell {R : Type} (bits : Bits) (refs : List R) (hb : bits.length ≤ 1023) (hr : refs.length ≤ 4) :
    BOp.storeCell bits refs (Builder.empty : Builder R) = (⟨bits, refs⟩, true) := by
  have h1 : ¬ (refs.length > 4) := by omega
  have h2 : ¬ (bits.length > 1023) := by omega
  simp [BOp.storeCell, BOp.extend, Builder.empty, h1, h2]

/-- **C03, THE ROUND TRIP.**  `t` ranges over all spec-valid trees of cells (any kinds incl. pruned / library / Merkle cells, any
nesting and sharing) whose exotic cells carry their type byte; `p` is the object graph `Cell.__init__` builds; `NoCollision p`
the local hypothesis that among the sub-cells at hand equal hashes mean equal cells; `o` any of the 6 valid option sets;
`ord` what `Cell.order` returns; `hn`/`hP` the format's own limits (size ≤ 4 bytes, off_bytes ≤ 8 bytes).
Then `to_boc` returns bytes `bs` and `Cell.from_boc` of `bs`, of `bs.hex()` and of `b64encode(bs)` — input-form detection as
modelled in Model/BocForms.lean (`fromBocAny`) and, independently, in Model/BocParse.lean (`fromBocInput`) — returns exactly
the one root `(t, p.info)`: the same tree (identical data bits, cell types and references, recursively) carrying the
identical cached hashes / depths / level mask (identical hash). -/
theorem c03_roundtrip (H : Bytes → Bytes) (t : Cell) (wf : TreeWF H t) (ty : Typed t) (p : PCell)
    (hb : Cell.build H t = some p) (nc : NoCollision p) (fuel : Nat) (ord : List PCell) (h : p.order fuel = some ord)
    (o : Opts) (hv : o.valid = true) (hn : ord.length < 2 ^ 32)
    (hP : (payloadOf (sizeW (orderRecs ord)) (orderRecs ord)).length * 2 < 2 ^ 64) :
    ∃ bs, p.toBoc fuel o = some bs ∧
      BocParse.fromBoc H bs = some [(t, p.info)] ∧
      (∀ form ∈ [Sum.inl bs, Sum.inr (hexEnc bs), Sum.inr (b64Enc bs)], fromBocAny H form = some [(t, p.info)]) ∧
      (∀ inp ∈ [BocParse.BocInput.bytes bs, .str (String.ofList (hexEnc bs)), .str (String.ofList (b64Enc bs))],
        BocParse.fromBocInput H inp = some [(t, p.info)]) := by
  obtain ⟨htb, hfb⟩ := fromBoc_toBoc H t wf ty p hb nc fuel ord h o hv hn hP
  obtain ⟨rest, hwf, hm⟩ := toBoc_magic p fuel ord o nc (build_ok H t p (shape_of H t wf ty) hb) h hn hP
  rw [hm] at htb hfb
  refine ⟨_, htb, hfb, ?_, ?_⟩
  · intro form hf
    simp only [fromBocAny, fromBocAnyG, forms_inputBytes rest hwf form hf, Option.bind_some]
    exact hfb
  · intro inp hi
    simp only [List.mem_cons, List.not_mem_nil, or_false] at hi
    simp only [BocParse.fromBocInput, forms_bocInit rest hwf inp hi, Option.bind_some, hfb]

/-- the same with existence and termination: a spec-valid tree can always be built, `Cell.order` returns with the fuel the
driver passes (`6·distinct cells + 2`), and then — within the format's size limits — every option set round-trips. -/
theorem c03_roundtrip_total (H : Bytes → Bytes) (t : Cell) (wf : TreeWF H t) (ty : Typed t) :
    ∃ p, Cell.build H t = some p ∧ ∀ (_ : NoCollision p) (fuel : Nat)
      (_ : 6 * ((subcells p).map PCell.key).eraseDups.length + 2 ≤ fuel),
      ∃ ord, p.order fuel = some ord ∧
        ∀ (o : Opts), o.valid = true → ord.length < 2 ^ 32 →
          (payloadOf (sizeW (orderRecs ord)) (orderRecs ord)).length * 2 < 2 ^ 64 →
          ∃ bs, p.toBoc fuel o = some bs ∧ BocParse.fromBoc H bs = some [(t, p.info)] := by
  obtain ⟨p, hb⟩ := tree_builds H t wf
  refine ⟨p, hb, ?_⟩
  intro nc fuel hf
  have okp := build_ok H t p (shape_of H t wf ty) hb
  obtain ⟨ord, ho, _⟩ := order_fuel_valid p fuel (fun c hc => (okp c hc).refs_le) nc hf
  refine ⟨ord, ho, ?_⟩
  intro o hv hn hP
  obtain ⟨bs, h1, h2, _⟩ := c03_roundtrip H t wf ty p hb nc fuel ord ho o hv hn hP
  exact ⟨bs, h1, h2⟩

/-- `Cell.one_from_boc` on the three input forms of `to_boc`'s output returns the root: same tree, identical cached info. -/
theorem c03_entry_cell (H : Bytes → Bytes) (t : Cell) (wf : TreeWF H t) (ty : Typed t) (p : PCell)
    (hb : Cell.build H t = some p) (nc : NoCollision p) (fuel : Nat) (ord : List PCell) (h : p.order fuel = some ord)
    (o : Opts) (hv : o.valid = true) (hn : ord.length < 2 ^ 32)
    (hP : (payloadOf (sizeW (orderRecs ord)) (orderRecs ord)).length * 2 < 2 ^ 64) :
    ∃ bs, p.toBoc fuel o = some bs ∧
      ∀ form ∈ [Sum.inl bs, Sum.inr (hexEnc bs), Sum.inr (b64Enc bs)], cellOne H form = some (t, p.info) := by
  obtain ⟨bs, h1, _, h3, _⟩ := c03_roundtrip H t wf ty p hb nc fuel ord h o hv hn hP
  refine ⟨bs, h1, fun form hf => ?_⟩
  have := h3 form hf
  simp only [fromBocAny] at this
  simp [cellOne, cellOneG, this]

/-- `Slice.one_from_boc` (= `cells[0].begin_parse()`) on the three input forms returns the untouched image of the root: all
its data bits and all its references (the child trees), nothing consumed. -/
theorem c03_entry_slice (H : Bytes → Bytes) (kind : Int) (bits : Bits) (refs : List Cell)
    (wf : TreeWF H (.mk kind bits refs)) (ty : Typed (.mk kind bits refs)) (p : PCell)
    (hb : Cell.build H (.mk kind bits refs) = some p) (nc : NoCollision p) (fuel : Nat) (ord : List PCell)
    (h : p.order fuel = some ord) (o : Opts) (hv : o.valid = true) (hn : ord.length < 2 ^ 32)
    (hP : (payloadOf (sizeW (orderRecs ord)) (orderRecs ord)).length * 2 < 2 ^ 64) :
    ∃ bs, p.toBoc fuel o = some bs ∧
      ∀ form ∈ [Sum.inl bs, Sum.inr (hexEnc bs), Sum.inr (b64Enc bs)], sliceOne H form = some ⟨bits, refs⟩ := by
  obtain ⟨bs, h1, _, h3, _⟩ := c03_roundtrip H _ wf ty p hb nc fuel ord h o hv hn hP
  refine ⟨bs, h1, fun form hf => ?_⟩
  have := h3 form hf
  simp only [fromBocAny] at this
  simp [sliceOne, sliceOneG, this, beginParse, beginParseG]

/-- `Builder.one_from_boc` (= `cells[0].to_builder()`) on the three input forms: for an ORDINARY root it returns the builder
holding exactly the root's data bits and references (`end_cell()` gives the root back); for an EXOTIC root it raises
(`to_builder` refuses exotic cells) — the recorded known finding `builder-entry:exotic-root-refused`: the Builder entry point
cannot round-trip a bag whose root is exotic, the Cell and Slice entry points do. -/
theorem c03_entry_builder (H : Bytes → Bytes) (kind : Int) (bits : Bits) (refs : List Cell)
    (wf : TreeWF H (.mk kind bits refs)) (ty : Typed (.mk kind bits refs)) (p : PCell)
    (hb : Cell.build H (.mk kind bits refs) = some p) (nc : NoCollision p) (fuel : Nat) (ord : List PCell)
    (h : p.order fuel = some ord) (o : Opts) (hv : o.valid = true) (hn : ord.length < 2 ^ 32)
    (hP : (payloadOf (sizeW (orderRecs ord)) (orderRecs ord)).length * 2 < 2 ^ 64) :
    ∃ bs, p.toBoc fuel o = some bs ∧
      ∀ form ∈ [Sum.inl bs, Sum.inr (hexEnc bs), Sum.inr (b64Enc bs)],
        builderOne H form = (if kind = kOrdinary then some ⟨bits, refs⟩ else none) := by
  obtain ⟨bs, h1, _, h3, _⟩ := c03_roundtrip H _ wf ty p hb nc fuel ord h o hv hn hP
  obtain ⟨l1, l2⟩ := root_limits H kind bits refs wf ty
  refine ⟨bs, h1, fun form hf => ?_⟩
  have h3' := h3 form hf
  simp only [fromBocAny] at h3'
  by_cases hk : kind = kOrdinary
  · simp [builderOne, builderOneG, h3', toBuilder, toBuilderG, hk, c03_store_cell bits refs l1 l2]
  · simp [builderOne, builderOneG, h3', toBuilder, toBuilderG, hk]

/-! ## Non-vacuity

A DAG WITH SHARING meets all hypotheses of `c03_roundtrip` at once (toy hash `H = id`, injective, as in C04's example): the
one-bit leaf is referenced by both inner cells and by the root — 6 tree nodes, 4 distinct cells. -/

def dagTree : Cell :=
  .mk (-1) [true, false, true]
    [.mk (-1) [false] [.mk (-1) [true] []], .mk (-1) [true, true] [.mk (-1) [true] []], .mk (-1) [true] []]

/-- evaluated once by the kernel: the built objects are collision-free, `Cell.order` needs fewer than 50 loop iterations and
lists 4 distinct cells, the payload is within the format's limit -/
theorem dagTree_checks :
    (match Cell.build id dagTree with
     | some p => noCollisionB p && decide (cost p ([], []) + 1 ≤ 50) && decide ((dfs p ([], [])).2.length = 4) &&
         decide ((payloadOf (sizeW (orderRecs (dfs p ([], [])).2)) (orderRecs (dfs p ([], [])).2)).length * 2 < 2 ^ 64)
     | none => false) = true := by decide +kernel

theorem dagTree_ok : TreeWF id dagTree ∧ Typed dagTree := by
  have h := ord_treeWF id dagTree (by simp [dagTree, Proofs.OrdCell.OrdWF, Proofs.OrdCell.OrdWFs])
    (by simp [dagTree, Proofs.OrdCell.ordDepth, Proofs.OrdCell.ordDepthMax])
  exact ⟨h.1, h.2.1⟩

/-- all hypotheses of `c03_roundtrip` hold for the DAG with sharing -/
theorem dagTree_hyps : ∃ p ord, Cell.build id dagTree = some p ∧ NoCollision p ∧ p.order 50 = some ord ∧ ord.length = 4 ∧
    (payloadOf (sizeW (orderRecs ord)) (orderRecs ord)).length * 2 < 2 ^ 64 := by
  obtain ⟨p, hp⟩ := tree_builds id dagTree dagTree_ok.1
  have hc := dagTree_checks
  rw [hp] at hc
  simp only [Bool.and_eq_true, decide_eq_true_eq] at hc
  obtain ⟨⟨⟨c1, c2⟩, c3⟩, c4⟩ := hc
  have nc := noCollision_of_B p c1
  exact ⟨p, _, hp, nc, order_eq_dfs p nc 50 c2, c3, c4⟩

example : TreeWF id dagTree ∧ Typed dagTree ∧ ∃ p ord, Cell.build id dagTree = some p ∧ NoCollision p ∧
    p.order 50 = some ord ∧ ord.length < 2 ^ 32 ∧
    (payloadOf (sizeW (orderRecs ord)) (orderRecs ord)).length * 2 < 2 ^ 64 := by
  obtain ⟨p, ord, h1, h2, h3, h4, h5⟩ := dagTree_hyps
  exact ⟨dagTree_ok.1, dagTree_ok.2, p, ord, h1, h2, h3, by omega, h5⟩

/-- … and therefore the conclusion: with index + CRC + cache bits, `to_boc` of the shared DAG parses back — from the bytes, the
hex text and the base64 text — to the same tree with the identical cached info; the Slice and Builder entry points return
the root's bits and its three child trees. -/
example : ∃ p bs, Cell.build id dagTree = some p ∧ p.toBoc 50 ⟨true, true, true, 0⟩ = some bs ∧
    (∀ form ∈ [Sum.inl bs, Sum.inr (hexEnc bs), Sum.inr (b64Enc bs)],
      fromBocAny id form = some [(dagTree, p.info)] ∧
      sliceOne id form = some ⟨[true, false, true],
        [.mk (-1) [false] [.mk (-1) [true] []], .mk (-1) [true, true] [.mk (-1) [true] []], .mk (-1) [true] []]⟩ ∧
      builderOne id form = some ⟨[true, false, true],
        [.mk (-1) [false] [.mk (-1) [true] []], .mk (-1) [true, true] [.mk (-1) [true] []], .mk (-1) [true] []]⟩) := by
  obtain ⟨p, ord, h1, h2, h3, h4, h5⟩ := dagTree_hyps
  obtain ⟨wf, ty⟩ := dagTree_ok
  have hv : (⟨true, true, true, 0⟩ : Opts).valid = true := by decide
  obtain ⟨bs, r1, _, r3, _⟩ := c03_roundtrip id dagTree wf ty p h1 h2 50 ord h3 _ hv (by omega) h5
  obtain ⟨bs', s1, s2⟩ := c03_entry_slice id _ _ _ wf ty p h1 h2 50 ord h3 _ hv (by omega) h5
  obtain ⟨bs'', b1, b2⟩ := c03_entry_builder id _ _ _ wf ty p h1 h2 50 ord h3 _ hv (by omega) h5
  have e1 : bs' = bs := Option.some.inj (s1.symm.trans r1)
  have e2 : bs'' = bs := Option.some.inj (b1.symm.trans r1)
  rw [e1] at s2; rw [e2] at b2
  refine ⟨p, bs, h1, r1, fun form hf => ⟨r3 form hf, s2 form hf, ?_⟩⟩
  have := b2 form hf
  simpa [kOrdinary] using this

example : Bytes.WF [0xb5, 0xee, 0x9c, 0x72, 0x01, 0x02] := by decide

/-! ## the parser half of the round trip on the working tree's own parser (regenerated from the source on every run) -/

/-- SOURCE TIE of the parser half: `Generated.BocCells.deserialize` is regenerated on every run from `Boc.deserialize`,
`Boc.deserialize_cell` and `Boc.deserialize_boc_header` (pytoniq_core/boc/deserialize.py; C05: `c05_src_deserialize`) and is
equal, for every byte list, to the hand model `BocParse.fromBoc H` that `c03_roundtrip` is stated with (the cell constructor
= Model/Cell.lean stays the hand model of C01 / C02; `liftMk` = it raises on a `None` child). -/
theorem c03_src_parser (H : Bytes → Bytes) (bs : Bytes) :
    Generated.BocCells.deserialize bs (Generated.BocCells.liftMk (BocParse.mkCell H)) = (BocParse.fromBoc H bs).map (·.map some) :=
  TonVerif.Proofs.SrcBocDeser.src_deserialize_eq (BocParse.mkCell H) bs

/-- hence THE ROUND TRIP through the regenerated parser: under the hypotheses of `c03_roundtrip`, the bytes the emitter model
returns are parsed by the regenerated `Boc.deserialize` (with the constructor model) to exactly the one root `(t, p.info)`. -/
theorem c03_roundtrip_src (H : Bytes → Bytes) (t : Cell) (wf : TreeWF H t) (ty : Typed t) (p : PCell)
    (hb : Cell.build H t = some p) (nc : NoCollision p) (fuel : Nat) (ord : List PCell) (h : p.order fuel = some ord)
    (o : Opts) (hv : o.valid = true) (hn : ord.length < 2 ^ 32)
    (hP : (payloadOf (sizeW (orderRecs ord)) (orderRecs ord)).length * 2 < 2 ^ 64) :
    ∃ bs, p.toBoc fuel o = some bs ∧
      Generated.BocCells.deserialize bs (Generated.BocCells.liftMk (BocParse.mkCell H)) = some [some (t, p.info)] := by
  obtain ⟨bs, h1, h2, _⟩ := c03_roundtrip H t wf ty p hb nc fuel ord h o hv hn hP
  exact ⟨bs, h1, by rw [c03_src_parser, h2]; rfl⟩

/-! ## the emitter half and the input forms on the working tree's own code (regenerated from the source on every run) -/

section SrcEmit
open TonVerif.Proofs.SrcBocEmit TonVerif.Generated.BocEmitSrc

/-- SOURCE TIE of the input forms: `Generated.BocEmitSrc.boc_init` is regenerated from `Boc.__init__`
(pytoniq_core/boc/deserialize.py: `isinstance(data, bytes)`, `bytes.fromhex`, on ValueError `base64.b64decode`) and equals the
hand model `BocForms.inputBytes` for every bytes / str argument (`fromHex` / `b64Dec` stay the hand models of the two CPython
library calls). -/
theorem c03_src_forms (data : Sum Bytes (List Char)) : boc_init data = inputBytes data := src_boc_init_eq data

/-- the regenerated emitter against the hand models of the input forms and of the parser: what `c03_roundtrip_src2` and
`c03_roundtrip_src3` transport along `c03_src_forms`, `c03_src_parser` and the entry-point equalities. -/
theorem roundtrip_src_emit (H : Bytes → Bytes) (t : Cell) (wf : TreeWF H t) (ty : Typed t) (p : PCell)
    (hb : Cell.build H t = some p) (nc : NoCollision p) (fuel : Nat) (d : Py.KDict PCell Unit) (h : order fuel p [] = some d)
    (o : Opts) (hv : o.valid = true) (hn : (Py.dictKeys d).length < 2 ^ 32)
    (hP : (payloadOf (sizeW (orderRecs (Py.dictKeys d))) (orderRecs (Py.dictKeys d))).length * 2 < 2 ^ 64) :
    ∃ bs, to_boc fuel p o.hasIdx o.hasCrc o.hasCache o.flags = some bs ∧
      (∀ form ∈ [Sum.inl bs, Sum.inr (hexEnc bs), Sum.inr (b64Enc bs)], inputBytes form = some bs) ∧
      BocParse.fromBoc H bs = some [(t, p.info)] := by
  obtain ⟨vo, htb⟩ := Proofs.SrcBocAny.src_toBoc_any fuel p d nc h o.hasIdx o.hasCrc o.hasCache o.flags
  obtain ⟨hem, hfb⟩ := fromBoc_anyOrder H t wf ty p hb nc (Py.dictKeys d) vo o hv hn hP
  obtain ⟨_, rest, hwf, hm⟩ := anyOrder_emits p (Py.dictKeys d) o hv (build_ok H t p (shape_of H t wf ty) hb) vo hn hP
  rw [hm] at hem hfb
  exact ⟨_, by rw [htb]; exact hem, forms_inputBytes rest hwf, hfb⟩

/-- **THE ROUND TRIP with the REGENERATED emitter, the REGENERATED input-form detection and the REGENERATED parser**: for every
spec-valid typed tree `t`, its object graph `p`, under the local no-collision hypothesis, whenever the regenerated `Cell.order`
returns (`d`; it does with budget `6·cells+2`: `c04_src_order_total`), for each of the 6 valid option sets (`hv`; `valid_opts`)
and within the format's limits: the regenerated `Cell.to_boc` returns bytes `bs`; the regenerated `Boc.__init__` maps `bs`, the
hex text of `bs` and the base64 text of `bs` to `bs`; and the regenerated `Boc.deserialize` (with the constructor model) parses
`bs` to exactly the one root `(t, p.info)` — the same tree (identical data bits, cell types and references, recursively) with the
identical cached hashes / depths / level mask. -/
theorem c03_roundtrip_src2 (H : Bytes → Bytes) (t : Cell) (wf : TreeWF H t) (ty : Typed t) (p : PCell)
    (hb : Cell.build H t = some p) (nc : NoCollision p) (fuel : Nat) (d : Py.KDict PCell Unit) (h : order fuel p [] = some d)
    (o : Opts) (hv : o.valid = true) (hn : (Py.dictKeys d).length < 2 ^ 32)
    (hP : (payloadOf (sizeW (orderRecs (Py.dictKeys d))) (orderRecs (Py.dictKeys d))).length * 2 < 2 ^ 64) :
    ∃ bs, to_boc fuel p o.hasIdx o.hasCrc o.hasCache o.flags = some bs ∧
      (∀ form ∈ [Sum.inl bs, Sum.inr (hexEnc bs), Sum.inr (b64Enc bs)], boc_init form = some bs) ∧
      Generated.BocCells.deserialize bs (Generated.BocCells.liftMk (BocParse.mkCell H)) = some [some (t, p.info)] := by
  obtain ⟨bs, h1, h2, h3⟩ := roundtrip_src_emit H t wf ty p hb nc fuel d h o hv hn hP
  exact ⟨bs, h1, fun form hf => by rw [src_boc_init_eq]; exact h2 form hf, by rw [c03_src_parser, h3]; rfl⟩

/-- the regenerated `Cell.order`, evaluated once by the kernel on the built `dagTree` with budget 50 -/
theorem dagTree_src_hyps : ∃ p d, Cell.build id dagTree = some p ∧ NoCollision p ∧ order 50 p [] = some d ∧ (Py.dictKeys d).length < 2 ^ 32 ∧
    (payloadOf (sizeW (orderRecs (Py.dictKeys d))) (orderRecs (Py.dictKeys d))).length * 2 < 2 ^ 64 := by
  obtain ⟨p, ord, h1, h2, h3, h4, h5⟩ := dagTree_hyps
  have hs : (match Cell.build id dagTree with
      | some p => (match order 50 p [] with
        | some d => decide ((Py.dictKeys d).length = 4) &&
            decide ((payloadOf (sizeW (orderRecs (Py.dictKeys d))) (orderRecs (Py.dictKeys d))).length * 2 < 2 ^ 64)
        | none => false)
      | none => false) = true := by decide +kernel
  rw [h1] at hs
  simp only at hs
  cases hd : order 50 p [] with
  | none => rw [hd] at hs; cases hs
  | some d =>
    rw [hd] at hs
    simp only [Bool.and_eq_true, decide_eq_true_eq] at hs
    exact ⟨p, d, h1, h2, hd, by omega, hs.2⟩

/-- non-vacuity: the DAG with sharing (`dagTree`, toy hash `id`) meets all hypotheses of `c03_roundtrip_src2` with the
regenerated `Cell.order` and budget 50 -/
example : ∃ p d, Cell.build id dagTree = some p ∧ NoCollision p ∧ order 50 p [] = some d ∧ (Py.dictKeys d).length < 2 ^ 32 ∧
    (payloadOf (sizeW (orderRecs (Py.dictKeys d))) (orderRecs (Py.dictKeys d))).length * 2 < 2 ^ 64 :=
  dagTree_src_hyps

end SrcEmit

/-! ## the entry points and conversions on the working tree's own code (regenerated from the source on every run)

`Generated/EntrySrc.lean` is regenerated from cell.py / slice.py / builder.py (harness/translate/entrysrc.py + pyvalue.py): the VALUE each
entry point / conversion returns and when it raises.  A constructed `Cell` is its object value `PCell` (cached attributes + child
objects); `Cell(bits, refs, type)` inside these methods and the class passed to `Boc.deserialize` is the REGENERATED constructor
(`Py.newCell`, Generated/CellCtor.lean), `Builder().store_cell` the REGENERATED `Builder.store_cell` (Generated/BuilderOps.lean), `Boc(data)` /
`boc.deserialize` the regenerated `Boc.__init__` / `Boc.deserialize` (lean/TonVerif/PyEntry.lean). -/
section SrcEntry
open TonVerif.Proofs.SrcEntry TonVerif.Generated.EntrySrc TonVerif.Generated.BocEmitSrc

/-- SOURCE TIE of the entry points: for EVERY argument `d` (bytes or str), cell object `p`, slice object `s` and builder object `b`, read
through the views (`cellView p` = the tree `p` unfolds to + its cached info, `sliceView` = remaining bits + trees of the REMAINING
references, `builderView`): the regenerated `Cell.from_boc` / `Cell.one_from_boc` (incl. the `len(cells) > 1` raise and the IndexError
of `cells[0]`) / `Slice.one_from_boc` / `Builder.one_from_boc` are the hand model's `fromBocAny` / `cellOne` / `sliceOne` / `builderOne`
(Model/BocEntry.lean), no returned root is `None`; `Cell.begin_parse` / `Cell.to_builder` (refusing exotic cells, and the two capacity
raises of `store_cell`) are the model's `beginParse` / `toBuilder`; `Cell.copy`, `Slice.to_cell` (the references from `ref_offset` on) and
`Builder.end_cell` are the constructor model `mkCell` on exactly these bits / references / type. -/
theorem c03_src_entrypoints (H : Bytes → Bytes) (d : Input) (p : PCell) (s : Py.SliceObj PCell) (b : Py.BuilderObj PCell) :
    (Cell_from_boc H d).map (List.map (Option.map cellView)) = (fromBocAny H d).map (List.map some) ∧
    Builder_from_boc H d = Cell_from_boc H d ∧
    (Cell_one_from_boc H d).map (Option.map cellView) = (cellOne H d).map some ∧
    (Slice_one_from_boc H d).map sliceView = sliceOne H d ∧
    (Builder_one_from_boc H d).map builderView = builderOne H d ∧
    (Cell_begin_parse H p).map sliceView = some (beginParse (treeOf p)) ∧ Cell_to_slice H p = Cell_begin_parse H p ∧
    (Cell_to_builder H p).map builderView = toBuilder (treeOf p) ∧
    (Cell_copy H p).map cellView = BocParse.mkCell H p.info.bits (p.refs.map cellView) p.info.kind ∧
    (Slice_to_cell H s).map cellView = BocParse.mkCell H s.bits ((s.refs.drop s.ref_offset).map cellView) s.type_ ∧
    (Builder_end_cell H b).map cellView = BocParse.mkCell H b.bits (b.refs.map cellView) b.type_ := by
  refine ⟨fromBoc_view H d, rfl, ?_, ?_, ?_, begin_parse_view H p, to_slice_eq H p, to_builder_view H p, ?_, ?_, ?_⟩
  · rw [one_from_boc_eq, ← cellOneG_view]
    cases cellOneG (Py.newCell H) d <;> rfl
  · rw [slice_one_from_boc_eq, sliceOneG_view]
  · rw [builder_one_from_boc_eq, builderOneG_view]
  · rw [copy_eq, newCell_view]
  · rw [slice_to_cell_eq, newCell_view]
  · rw [end_cell_eq, newCell_view]

/-- **THE ROUND TRIP through the regenerated emitter, the regenerated `Boc.__init__` / parser / CONSTRUCTOR and the regenerated entry
points, on object values**: under the hypotheses of `c03_roundtrip_src2` (root `.mk kind bits refs`, its object graph `p`), for each of
the 6 valid option sets the regenerated `to_boc` returns `bs`, and on `bs`, `bs.hex()` and `b64encode(bs)`: the regenerated
`Cell.one_from_boc` returns THE ORIGINAL OBJECT VALUE `p` (the same cached hashes / depths / mask / bits / type at the root and, recursively,
at every child object), `Cell.from_boc` the list `[p]`; `Slice.one_from_boc` the slice with all data bits, all child objects, the root's
type and nothing consumed; `Builder.one_from_boc` the builder with exactly these bits / child objects for an ordinary root and a raise
for an exotic one (the known finding); and converting back gives the original again: `begin_parse().to_cell()`, `copy()` and (ordinary
root) `to_builder().end_cell()` return `p`. -/
theorem c03_roundtrip_src3 (H : Bytes → Bytes) (kind : Int) (bits : Bits) (refs : List Cell)
    (wf : TreeWF H (.mk kind bits refs)) (ty : Typed (.mk kind bits refs)) (p : PCell)
    (hb : Cell.build H (.mk kind bits refs) = some p) (nc : NoCollision p) (fuel : Nat) (d : Py.KDict PCell Unit)
    (h : order fuel p [] = some d) (o : Opts) (hv : o.valid = true) (hn : (Py.dictKeys d).length < 2 ^ 32)
    (hP : (payloadOf (sizeW (orderRecs (Py.dictKeys d))) (orderRecs (Py.dictKeys d))).length * 2 < 2 ^ 64) :
    ∃ bs, to_boc fuel p o.hasIdx o.hasCrc o.hasCache o.flags = some bs ∧
      (∀ form ∈ [Sum.inl bs, Sum.inr (hexEnc bs), Sum.inr (b64Enc bs)],
        Cell_one_from_boc H form = some (some p) ∧ Cell_from_boc H form = some [some p] ∧
        Slice_one_from_boc H form = some ⟨bits, p.refs, kind, 0⟩ ∧
        Builder_one_from_boc H form = (if kind = -1 then some ⟨bits, p.refs, -1⟩ else none)) ∧
      (Cell_begin_parse H p).bind (Slice_to_cell H) = some p ∧ Cell_copy H p = some p ∧
      (kind = -1 → (Cell_to_builder H p).bind (Builder_end_cell H) = some p) := by
  obtain ⟨bs, h1, h2, hfb⟩ := roundtrip_src_emit H _ wf ty p hb nc fuel d h o hv hn hP
  have hdes := deserialize_roundtrip H _ p hb bs p.info hfb
  have htree := (build_tree H _ p hb).1
  rw [treeOf_eq] at htree
  have hk : p.info.kind = kind := by injection htree
  have hbits : p.info.bits = bits := by injection htree
  have hrefs : p.refs.map treeOf = refs := by injection htree
  obtain ⟨l1, l2⟩ := root_limits H kind bits refs wf ty
  have l2' : p.refs.length ≤ 4 := by rw [← hrefs] at l2; simpa using l2
  have hself := newCell_self H p (built_of_build H _ p hb)
  refine ⟨bs, h1, fun form hf => ?_, ?_, ?_, ?_⟩
  · have hin := h2 form hf
    refine ⟨?_, ?_, ?_, ?_⟩
    · rw [one_from_boc_eq]; simp [cellOneG, fromBocAnyG, hin, hdes]
    · rw [from_boc_eq]; simp [hin, hdes]
    · rw [slice_one_from_boc_eq]; simp [sliceOneG, fromBocAnyG, hin, hdes, hk, hbits]
    · rw [builder_one_from_boc_eq]
      simp only [builderOneG, fromBocAnyG, hin, hdes, Option.bind_some, List.getElem?_cons_zero]
      rw [to_builder_eq H p (by rw [hbits]; exact l1) l2', hk, hbits]
  · rw [begin_parse_eq]
    simp only [Option.bind_some]
    rw [slice_to_cell_eq]
    simpa using hself
  · rw [copy_eq]; exact hself
  · intro hkind
    rw [to_builder_eq H p (by rw [hbits]; exact l1) l2', hk, if_pos hkind]
    simp only [Option.bind_some]
    rw [end_cell_eq]
    simpa [hk, hkind] using hself

/-- non-vacuity: the DAG with sharing (`dagTree`, toy hash `id`, budget 50) meets the hypotheses of `c03_roundtrip_src3` (they are those
of `c03_roundtrip_src2`, see the example above), so with index + CRC + cache bits the regenerated `Cell.one_from_boc` returns the original
object value from the bytes, the hex text and the base64 text -/
example : ∃ p bs, Cell.build id dagTree = some p ∧ to_boc 50 p true true true 0 = some bs ∧
    ∀ form ∈ [Sum.inl bs, Sum.inr (hexEnc bs), Sum.inr (b64Enc bs)],
      Cell_one_from_boc id form = some (some p) ∧ Slice_one_from_boc id form = some ⟨[true, false, true], p.refs, -1, 0⟩ ∧
      Builder_one_from_boc id form = some ⟨[true, false, true], p.refs, -1⟩ := by
  obtain ⟨p, d, h1, h2, hd, hn, hP⟩ := dagTree_src_hyps
  obtain ⟨wf, ty⟩ := dagTree_ok
  obtain ⟨bs, r1, r2, _⟩ := c03_roundtrip_src3 id _ _ _ wf ty p h1 h2 50 d hd ⟨true, true, true, 0⟩ (by decide) hn hP
  refine ⟨p, bs, h1, r1, fun form hf => ?_⟩
  obtain ⟨a, _, c, e⟩ := r2 form hf
  exact ⟨a, c, by simpa using e⟩

end SrcEntry

end TonVerif.Properties.C03
