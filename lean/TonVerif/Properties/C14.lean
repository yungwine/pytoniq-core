/-
C14 — TL serialisation inverts TL parsing and follows TL framing for the bundled schemas.

`Model.Tl.serialize / deserialize` mirror `TlSchemas.serialize / deserialize` of pytoniq_core/tl/generator.py
and are generic in the schema table `T`; `Generated.Tl.table` is the table of all bundled constructors
(lite_api.tl, ton_api.tl, tonlib_api.tl), regenerated from the library on every run.  `Spec.Tl.tlEncode T P c v bs`
says: `v` is a well-typed canonical value of constructor `c` (any flag combination, nesting, polymorphic
objects, vectors, strings of any length < 2^24) and `bs` is its boxed TL binary encoding.  `fuel` is the
recursion-depth budget of the Python calls: statements hold for every sufficiently large budget.
The generic theorems need `TableOK T` (ids < 2^32; constructors sharing an id agree in name and fields; every
conditional field's flags variable precedes it and is the one `result.get('mode', result.get('flags'))`
finds), which `c14_table_wf` establishes for the bundled table by kernel evaluation.
With auto-deserialisation on the parse returns `normalize v` (Model/TlNorm.lean: every `bytes`/`string` content run
through the library's re-parse loop); `c14_fuel_suffices` bounds the needed budget by `tlFuel R (input length)` for
tables without a cycle of bare references (`NoBareCycle T R`; `c14_table_bare_depth`: R = 5 for the bundled table).
-/
import TonVerif.Proofs.TlTable
import TonVerif.Proofs.TlFuel
import TonVerif.Proofs.TlBare
import TonVerif.Proofs.TlVec
import TonVerif.Proofs.TlMono
import TonVerif.Proofs.SrcTl
import TonVerif.Generated.TlFraming
import TonVerif.Proofs.SrcTlEngine
import TonVerif.Proofs.SrcTlParser

namespace TonVerif.Properties.C14
open TonVerif TonVerif.Spec.Tl TonVerif.Model.Tl TonVerif.Proofs.Tl

/-- constructor ids: for EVERY bundled constructor the id the library computed (`TlRegistrator.get_id`, or the
explicit `#id`) equals the id of the independently normalised declaration text — CRC-32 (IEEE) recomputed
bit by bit in Lean. -/
theorem c14_table_ids : ∀ c ∈ Generated.Tl.ctors, c.id = tlId c.decl := Proofs.TlTable.table_ids

/-- the bundled table meets the well-formedness conditions used below (`TableOK`). -/
theorem c14_table_wf : TableOK Generated.Tl.table := Proofs.TlTable.table_ok

/-- wire format: for every table, every constructor and every well-typed value, `serialize` returns exactly
the TL binary encoding (little-endian id and integers, framed and padded strings, counted vectors, flag-selected
optional fields). -/
theorem c14_wire (T : Table) (P : Bytes → Prop) (c : Ctor) (v : Val) (bs : Bytes) (h : tlEncode T P c v bs) :
    ∃ N, ∀ fuel, N ≤ fuel → serialize T fuel c v = some bs := by
  obtain ⟨fs, body, rfl, _, hb, rfl⟩ := h
  exact wire_top T P c fs body hb

/-- round trip, auto-deserialisation off: parsing the serialisation of a well-typed value (followed by
anything) returns the same value and reports exactly the serialised length as consumed. -/
theorem c14_roundtrip_plain (T : Table) (hT : TableOK T) (c : Ctor) (hc : c ∈ T.ctors) (v : Val) (bs : Bytes)
    (h : tlEncode T (fun _ => True) c v bs) :
    ∃ N, ∀ fuel, N ≤ fuel → ∀ rest,
      serialize T fuel c v = some bs ∧ deserialize T false fuel (bs ++ rest) = some (v, bs.length) := by
  have h1 := c14_wire T _ c v bs h
  obtain ⟨fs, body, rfl, hcan, hb, rfl⟩ := h
  exact Ev.mp2 h1 (roundtrip_top T _ false hT (fun h => by cases h) c hc fs body hcan hb) fun fuel a b rest => ⟨a, b rest⟩

/-- round trip, auto-deserialisation ON, in general (DESIGN §6 `c14_roundtrip_auto`): for every constructor of any
table satisfying `TableOK`, every well-typed value `v` and whatever follows the serialisation,
`deserialize(serialize(c, v) + rest)` returns `(normalize v, len(serialize(c, v)))`, and raises exactly when `normalize v`
is `none`.  `normalize T fuel c v` (Model/TlNorm.lean) is `v` in which the content `b` of every `bytes` field - except
the untouchables of a boxed object - has been replaced by `reparse T _ b`, i.e. by what the library's loop
`temp, j = deserialize(b); while j < len(b): ...` makes of it (an object, a list, or `b` itself); a `string` field
whose content is re-parsed into anything but bytes makes the call raise.  No side condition on the contents. -/
theorem c14_roundtrip_auto (T : Table) (hT : TableOK T) (c : Ctor) (hc : c ∈ T.ctors) (v : Val) (bs : Bytes)
    (h : tlEncode T (fun _ => True) c v bs) :
    ∃ N, ∀ fuel, N ≤ fuel → ∀ rest,
      serialize T fuel c v = some bs ∧
      deserialize T true fuel (bs ++ rest) = (normalize T fuel c v).map (fun w => (w, bs.length)) := by
  have h1 := c14_wire T _ c v bs h
  obtain ⟨fs, body, rfl, _, hb, rfl⟩ := h
  exact Ev.mp2 h1 (normalized_top T hT c hc fs body hb) fun fuel a b rest => ⟨a, b rest⟩

/-- `normalize v = v` whenever no `bytes`/`string` content of `v` starts with a registered constructor id
(`byIdLE T b = none` for every content `b`: decidable). -/
theorem c14_normalize_id (T : Table) (hT : TableOK T) (c : Ctor) (hc : c ∈ T.ctors) (v : Val) (bs : Bytes)
    (h : tlEncode T (fun b => byIdLE T b = none) c v bs) :
    ∃ N, ∀ fuel, N ≤ fuel → normalize T fuel c v = some v := by
  obtain ⟨fs, body, rfl, hcan, hb, rfl⟩ := h
  exact normalize_id T hT c hc fs body hcan hb

/-- hence, under that side condition, the round trip with auto-deserialisation on is the identity: same value,
exactly the serialised length consumed. -/
theorem c14_roundtrip_auto_id (T : Table) (hT : TableOK T) (c : Ctor) (hc : c ∈ T.ctors) (v : Val) (bs : Bytes)
    (h : tlEncode T (fun b => byIdLE T b = none) c v bs) :
    ∃ N, ∀ fuel, N ≤ fuel → ∀ rest,
      serialize T fuel c v = some bs ∧ deserialize T true fuel (bs ++ rest) = some (v, bs.length) := by
  refine Ev.mp2 (c14_roundtrip_auto T hT c hc v bs
    (by obtain ⟨fs, body, a, b, hb, d⟩ := h; exact ⟨fs, body, a, b, enc_mono T (fun _ _ => trivial) hb, d⟩))
    (c14_normalize_id T hT c hc v bs h) fun fuel a b rest => ?_
  have a := a rest
  rwa [b] at a

/-- the other side of the side condition, in closed form.  A `bytes` content that is the serialisation of ONE
well-typed object is replaced by that object's own normal form (the outer call raises iff the inner one does);
a content that consists of TWO OR MORE serialised well-typed objects (`catSer l`) becomes the list of their normal
forms (`normEach`).  Together with the definition of `normalize` this relates the result for nested objects to
the nested objects' own round trips. -/
theorem c14_reparse_objects (T : Table) (hT : TableOK T) :
    (∀ (c : Ctor) (v : Val) (b : Bytes), c ∈ T.ctors → tlEncode T (fun _ => True) c v b →
      ∃ N, ∀ fuel, N ≤ fuel → reparse T fuel b = normalize T fuel c v) ∧
    (∀ (x y : Ctor × Fields × Bytes) (l : List (Ctor × Fields × Bytes)), AllEnc T (x :: y :: l) →
      ∃ N, ∀ fuel, N ≤ fuel →
        reparse T fuel (catSer (x :: y :: l)) = (normEach T fuel (x :: y :: l)).map (fun ws => .list ws)) := by
  refine ⟨fun c v b hc h => ?_, fun x y l hl => reparse_many T hT x y l hl⟩
  obtain ⟨fs, body, rfl, _, hb, rfl⟩ := h
  exact reparse_one T hT c hc fs body hb

/-- the depth budget is monotone for EVERY table and EVERY input: a parse that returns with budget `fuel` returns the
same value and consumed count with every larger budget (more budget can only turn "recursion too deep" into a result);
hence a normal form that exists (`some w`) at a large budget is the normal form at every larger budget. -/
theorem c14_fuel_monotone (T : Table) :
    (∀ (auto : Bool) (d : Bytes) (fuel fuel' : Nat) (r : Val × Nat), fuel ≤ fuel' →
      deserialize T auto fuel d = some r → deserialize T auto fuel' d = some r) ∧
    (∀ (c : Ctor) (v : Val) (bs : Bytes), TableOK T → c ∈ T.ctors → tlEncode T (fun _ => True) c v bs →
      ∃ N, ∀ fuel fuel' w, N ≤ fuel → fuel ≤ fuel' → normalize T fuel c v = some w → normalize T fuel' c v = some w) := by
  refine ⟨fun auto d fuel fuel' r hf hr => deserialize_mono T auto d fuel fuel' hf r hr, fun c v bs hT hc h => ?_⟩
  obtain ⟨N, hN⟩ := c14_roundtrip_auto T hT c hc v bs h
  refine ⟨N, fun fuel fuel' w h1 h2 hw => ?_⟩
  have a := (hN fuel h1 []).2
  have b := (hN fuel' (by omega) []).2
  rw [hw] at a
  rw [deserialize_mono T true _ fuel fuel' h2 _ a] at b
  cases hn : normalize T fuel' c v with
  | none => rw [hn] at b; simp at b
  | some w' => rw [hn] at b; simp only [Option.map_some, Option.some.injEq, Prod.mk.injEq, and_true] at b; rw [b]

/-- "fuel suffices": if no constructor of the table reaches itself through bare references (`NoBareCycle T R`: bare
references nest at most `R` deep), then for ANY input `d` (well formed or not) and either mode the recursion depth of
`deserialize` is at most `tlFuel R |d| = (|d|/4 + 1)(R + 2)`: every budget from there on gives the same value and
consumed count, or raises alike.  The same holds for the re-parse of a content. -/
theorem c14_fuel_suffices (T : Table) (R : Nat) (hR : NoBareCycle T R) (auto : Bool) (d : Bytes) (fuel : Nat)
    (hf : tlFuel R d.length ≤ fuel) :
    deserialize T auto fuel d = deserialize T auto (tlFuel R d.length) d ∧
      reparse T fuel d = reparse T (tlFuel R d.length) d :=
  ⟨fuel_suffices T R hR auto d fuel hf, reparse_fuel_suffices T R hR d fuel hf⟩

/-- the bundled table has no cycle of bare references: they nest at most 5 deep (kernel evaluation over the
regenerated table). -/
theorem c14_table_bare_depth : NoBareCycle Generated.Tl.table 5 := Proofs.TlBare.no_bare_cycle

/-- the auto round trip with an explicit budget: under `NoBareCycle T R` the normal form `normalize T fuel c v` is
the same `w` for all large budgets, and `deserialize(serialize(c, v) + rest)` returns `(w, len)` (or raises, if `w` is
`none`) with EVERY budget of at least `tlFuel R (len + |rest|)`. -/
theorem c14_roundtrip_auto_explicit (T : Table) (hT : TableOK T) (R : Nat) (hR : NoBareCycle T R) (c : Ctor)
    (hc : c ∈ T.ctors) (v : Val) (bs : Bytes) (h : tlEncode T (fun _ => True) c v bs) :
    ∃ w : Option Val, (∃ N, ∀ fuel, N ≤ fuel → normalize T fuel c v = w) ∧
      ∀ rest fuel, tlFuel R (bs ++ rest).length ≤ fuel →
        deserialize T true fuel (bs ++ rest) = w.map (fun x => (x, bs.length)) := by
  obtain ⟨fs, body, rfl, _, hb, rfl⟩ := h
  exact normalized_explicit T hT R hR c hc fs body hb

/-- the side condition of the vector rule of the spec (`Enc.vector`: element count ≤ encoded length, because the
parser rejects a declared count larger than the remaining input) is implied by the table: a well-typed
element list of a type whose values occupy at least one byte (`minLen T k e ≥ 1`, bare references followed `k` deep)
is never longer than its encoding; every vector field of the bundled table has such an element type (`VecOK`, kernel
evaluation over the regenerated table). -/
theorem c14_vector_side_condition (T : Table) (P : Bytes → Prop) (k : Nat) :
    (∀ (e : ETy) (vs : List Val) (bs : Bytes), 1 ≤ minLen T k e → Enc T P (.many e vs) bs → vs.length ≤ bs.length) ∧
    VecOK Generated.Tl.table 1 :=
  ⟨fun e vs bs hmin h => many_length_le T P k e vs bs hmin h, bundled_vecOK⟩

/-- the round trips instantiated for ALL bundled constructors at once: auto-deserialisation off; on, under the side
condition (identity); on, in general (normal form, explicit budget `tlFuel 5`). -/
theorem c14_bundled (c : Ctor) (hc : c ∈ Generated.Tl.ctors) (v : Val) (bs : Bytes) :
    (tlEncode Generated.Tl.table (fun _ => True) c v bs → ∃ N, ∀ fuel, N ≤ fuel → ∀ rest,
      serialize Generated.Tl.table fuel c v = some bs ∧
      deserialize Generated.Tl.table false fuel (bs ++ rest) = some (v, bs.length)) ∧
    (tlEncode Generated.Tl.table (fun b => byIdLE Generated.Tl.table b = none) c v bs → ∃ N, ∀ fuel, N ≤ fuel → ∀ rest,
      serialize Generated.Tl.table fuel c v = some bs ∧
      deserialize Generated.Tl.table true fuel (bs ++ rest) = some (v, bs.length)) ∧
    (tlEncode Generated.Tl.table (fun _ => True) c v bs →
      ∃ w : Option Val, (∃ N, ∀ fuel, N ≤ fuel → normalize Generated.Tl.table fuel c v = w) ∧
        ∀ rest fuel, tlFuel 5 (bs ++ rest).length ≤ fuel →
          deserialize Generated.Tl.table true fuel (bs ++ rest) = w.map (fun x => (x, bs.length))) :=
  ⟨c14_roundtrip_plain _ c14_table_wf c hc v bs, c14_roundtrip_auto_id _ c14_table_wf c hc v bs,
    c14_roundtrip_auto_explicit _ c14_table_wf 5 c14_table_bare_depth c hc v bs⟩

/-- framing of `bytes`/`string` for EVERY length below 2^24 (0, 253, 254, 2^24-1, every residue mod 4):
what `serialize_field` writes is the TL framing, its length is a multiple of 4, and the parser's framing
reader returns exactly the content and skips exactly the frame, whatever follows. -/
theorem c14_string_lengths (b rest : Bytes) (hl : b.length < 2 ^ 24) :
    frame b = encodeBytes b ∧ (encodeBytes b).length % 4 = 0 ∧
      readFrame (encodeBytes b ++ rest) = (b, b.length, (encodeBytes b).length) :=
  ⟨frame_eq_encodeBytes b, encodeBytes_length_mod4 b, readFrame_encodeBytes b rest hl⟩

/-- block ids: `BlockIdExt.from_bytes(b.to_bytes())` is `b` (80 bytes) for in-range fields and 32-byte hashes;
`from_dict(to_dict())` is the identity for `BlockIdExt` and `BlockId`; `a == b` implies `a = b` and equal
`__hash__` values (`H` = Python's tuple hash, an `int`). -/
theorem c14_blockid (b : BlockIdExt) (s : BlockId) (H : Int × Int × Int × Bytes × Bytes → Int)
    (hw : -2^31 ≤ b.workchain ∧ b.workchain < 2^31) (hs : -2^63 ≤ b.shard ∧ b.shard < 2^63)
    (hq : -2^31 ≤ b.seqno ∧ b.seqno < 2^31) (hr : b.rootHash.length = 32) (hf : b.fileHash.length = 32) :
    (∃ d, b.toBytes = some d ∧ d.length = 80 ∧ BlockIdExt.fromBytes d = b) ∧
    BlockIdExt.fromDict b.toDict = some b ∧ BlockId.fromDict s.toDict = s ∧
    (∀ a, a.pyEq b = true → a = b ∧ a.pyHash H = b.pyHash H) :=
  ⟨blockIdExt_bytes b hw hs hq hr hf, blockIdExt_dict b, blockId_dict s, fun a h => blockIdExt_eq_hash H a b h⟩

/-! ### non-vacuity -/

/-- a toy table: `c10 mode:# data:mode.0?bytes xs:(vector int) = C11` and `c20 inner:c10 any:C11 = C21`. -/
def c10 : Ctor := ⟨10, 11, 0x12345678, [⟨0, none, false, .nat⟩, ⟨2, some (0, 0), false, .bytes⟩, ⟨3, none, true, .int⟩], []⟩
def c20 : Ctor := ⟨20, 21, 0x9abcdef0, [⟨4, none, false, .bare 10⟩, ⟨5, none, false, .boxed 11⟩], []⟩
def toy : Table := ⟨[c10, c20], 0, 1, []⟩

example : TableOK toy := by unfold TableOK; decide

def v10 : Fields := [(0, .int 1), (2, .bytes [1, 2, 3]), (3, .list [.int 5, .int (-1)])]
def b10 : Bytes := intLE 4 1 ++ (encodeBytes [1, 2, 3] ++ ((natToLE 4 2 ++ (intLE 4 5 ++ (intLE 4 (-1) ++ []))) ++ []))

theorem enc10 (P : Bytes → Prop) (hP : P [1, 2, 3]) : Enc toy P (.body c10.args v10) b10 :=
  Enc.bodyReq rfl rfl (Enc.scalar rfl (Enc.nat (by decide) (by decide)))
    (Enc.bodyOn (fl := 0) (bit := 0) (m := 1) rfl rfl (by decide) (by decide) rfl
      (Enc.scalar rfl (Enc.bytes (by decide) (by decide) hP))
      (Enc.bodyReq rfl rfl
        (Enc.vector rfl (by decide) (by decide)
          (Enc.manyCons (Enc.int (by decide) (by decide)) (Enc.manyCons (Enc.int (by decide) (by decide)) Enc.manyNil)))
        Enc.bodyNil))

/-- a value with a set flag bit, a present optional `bytes` field and a two-element vector is well typed. -/
example : tlEncode toy (fun _ => True) c10 (.obj (some 10) v10) (natToLE 4 0x12345678 ++ b10) :=
  ⟨v10, b10, rfl, rfl, enc10 _ trivial, rfl⟩

/-- ... also under the auto-deserialise side condition (its content `010203` is not a registered id). -/
example : tlEncode toy (fun b => byIdLE toy b = none) c10 (.obj (some 10) v10) (natToLE 4 0x12345678 ++ b10) :=
  ⟨v10, b10, rfl, rfl, enc10 _ (by decide), rfl⟩

/-- nesting: a bare and a boxed (polymorphic) reference to `c10`. -/
example : tlEncode toy (fun _ => True) c20
    (.obj (some 20) [(4, .obj (some 10) v10), (5, .obj (some 10) v10)]) (natToLE 4 0x9abcdef0 ++ (b10 ++ ((natToLE 4 0x12345678 ++ b10) ++ []))) :=
  ⟨_, _, rfl, rfl,
    Enc.bodyReq rfl rfl (Enc.scalar rfl (Enc.bare (c := c10) (iv := false) rfl rfl (enc10 _ trivial)))
      (Enc.bodyReq rfl rfl (Enc.scalar rfl (Enc.boxed (c := c10) (iv := false) (by decide) rfl rfl (enc10 _ trivial))) Enc.bodyNil),
    rfl⟩

/-- the other side of the side condition: a `bytes` content that IS a serialised registered object comes back
as that object under auto-deserialisation (and as the raw bytes without it). -/
def inner : Bytes := natToLE 4 0x12345678 ++ (intLE 4 0 ++ natToLE 4 0)
example : byIdLE toy inner ≠ none := by decide
example : deserialize toy true 5 (natToLE 4 0x12345678 ++ (intLE 4 1 ++ (encodeBytes inner ++ natToLE 4 0))) =
    some (.obj (some 10) [(0, .int 1), (2, .obj (some 10) [(0, .int 0), (3, .list [])]), (3, .list [])], 28) := by rfl
example : deserialize toy false 5 (natToLE 4 0x12345678 ++ (intLE 4 1 ++ (encodeBytes inner ++ natToLE 4 0))) =
    some (.obj (some 10) [(0, .int 1), (2, .bytes inner), (3, .list [])], 28) := by rfl

/-- `normalize` on both sides of the side condition: content `010203` (no registered id) is left alone ... -/
example : normalize toy 5 c10 (.obj (some 10) v10) = some (.obj (some 10) v10) := by rfl
/-- ... a content that is one serialised `c10` becomes that object ... -/
example : normalize toy 5 c10 (.obj (some 10) [(0, .int 1), (2, .bytes inner), (3, .list [])]) =
    some (.obj (some 10) [(0, .int 1), (2, .obj (some 10) [(0, .int 0), (3, .list [])]), (3, .list [])]) := by rfl
/-- ... two of them become a list of two objects, three bytes of an unknown id after an object stay bytes in the
list, and contents nest: an object whose own `bytes` field holds an object. -/
example : normalize toy 5 c10 (.obj (some 10) [(0, .int 1), (2, .bytes (inner ++ inner)), (3, .list [])]) =
    some (.obj (some 10) [(0, .int 1),
      (2, .list [.obj (some 10) [(0, .int 0), (3, .list [])], .obj (some 10) [(0, .int 0), (3, .list [])]]),
      (3, .list [])]) := by rfl
example : normalize toy 5 c10 (.obj (some 10) [(0, .int 1), (2, .bytes (inner ++ [7, 7, 7])), (3, .list [])]) =
    some (.obj (some 10) [(0, .int 1),
      (2, .list [.obj (some 10) [(0, .int 0), (3, .list [])], .bytes [7, 7, 7]]), (3, .list [])]) := by rfl
def inner2 : Bytes := natToLE 4 0x12345678 ++ (intLE 4 1 ++ (encodeBytes inner ++ natToLE 4 0))
example : normalize toy 5 c10 (.obj (some 10) [(0, .int 1), (2, .bytes inner2), (3, .list [])]) =
    some (.obj (some 10) [(0, .int 1),
      (2, .obj (some 10) [(0, .int 1), (2, .obj (some 10) [(0, .int 0), (3, .list [])]), (3, .list [])]),
      (3, .list [])]) := by rfl
/-- the value with the nested content is well typed (hypothesis of `c14_roundtrip_auto`), and `inner` is a
serialisation as `c14_reparse_objects` wants it. -/
example : tlEncode toy (fun _ => True) c10 (.obj (some 10) [(0, .int 1), (2, .bytes inner), (3, .list [])])
    (natToLE 4 0x12345678 ++ (intLE 4 1 ++ (encodeBytes inner ++ ((natToLE 4 0 ++ []) ++ [])))) :=
  ⟨_, _, rfl, rfl,
    Enc.bodyReq rfl rfl (Enc.scalar rfl (Enc.nat (by decide) (by decide)))
      (Enc.bodyOn (fl := 0) (bit := 0) (m := 1) rfl rfl (by decide) (by decide) rfl
        (Enc.scalar rfl (Enc.bytes (by decide) (by decide) trivial))
        (Enc.bodyReq rfl rfl (Enc.vector rfl (by decide) (by decide) Enc.manyNil) Enc.bodyNil)), rfl⟩
example : tlEncode toy (fun _ => True) c10 (.obj (some 10) [(0, .int 0), (3, .list [])])
    (natToLE 4 0x12345678 ++ (intLE 4 0 ++ ((natToLE 4 0 ++ []) ++ []))) :=
  ⟨_, _, rfl, rfl,
    Enc.bodyReq rfl rfl (Enc.scalar rfl (Enc.nat (by decide) (by decide)))
      (Enc.bodyOff (fl := 0) (bit := 0) (m := 0) rfl rfl (by decide) (by decide) rfl
        (Enc.bodyReq rfl rfl (Enc.vector rfl (by decide) (by decide) Enc.manyNil) Enc.bodyNil)), rfl⟩

/-- a `string` whose UTF-8 bytes start with a registered id: `normalize` is `none` and the library call raises
(`c30 s:string = C31`, id 0x64636261 = "abcd" little-endian; the content "abcd" is re-parsed into an object and
`.decode()` fails), while without auto-deserialisation the value comes back. -/
def c30 : Ctor := ⟨30, 31, 0x64636261, [⟨6, none, false, .string⟩], []⟩
def toy2 : Table := ⟨[c10, c20, c30], 0, 1, []⟩
example : TableOK toy2 := by unfold TableOK; decide
example : byIdLE toy2 [97, 98, 99, 100] ≠ none := by decide
example : normalize toy2 5 c30 (.obj (some 30) [(6, .str [97, 98, 99, 100])]) = none := by rfl
example : deserialize toy2 true 5 (natToLE 4 0x64636261 ++ encodeBytes [97, 98, 99, 100]) = none := by rfl
example : deserialize toy2 false 5 (natToLE 4 0x64636261 ++ encodeBytes [97, 98, 99, 100]) =
    some (.obj (some 30) [(6, .str [97, 98, 99, 100])], 12) := by rfl

/-- depth budgets: `toy` has no bare cycle (bare references nest 2 deep), 28 input bytes need at most depth 32; in a
table whose constructor refers to itself by a bare reference (`cyc x:cyc = Cyc`) no budget suffices - `deserialize`
fails for every `fuel` (Python: RecursionError), so the side condition of `c14_fuel_suffices` is needed. -/
example : NoBareCycle toy 2 := by unfold NoBareCycle; decide
example : tlFuel 2 28 = 32 := by decide
def cyc : Table := ⟨[⟨1, 2, 7, [⟨3, none, false, .bare 1⟩], []⟩], 0, 1, []⟩
example (R : Nat) : ¬ NoBareCycle cyc R := by
  intro h
  have key : ∀ k, bareArgsOK cyc k [⟨3, none, false, .bare 1⟩] = false := by
    intro k
    induction k with
    | zero => rfl
    | succ k ih =>
      have hb : cyc.byName 1 = some ⟨1, 2, 7, [⟨3, none, false, .bare 1⟩], []⟩ := by decide
      simp [bareArgsOK, hb, ih]
  have := h _ (List.mem_singleton.mpr rfl)
  rw [key] at this
  cases this
example (fuel : Nat) : deserialize cyc true fuel (natToLE 4 7) = none := by
  have hb : cyc.byName 1 = some ⟨1, 2, 7, [⟨3, none, false, .bare 1⟩], []⟩ := by decide
  have key : ∀ f d, deserObj cyc true f d (some [⟨3, none, false, .bare 1⟩]) = none := by
    intro f
    induction f with
    | zero => intro d; rfl
    | succ f ih => intro d; simp [deserObj, deserBody, deserArg, deserOne, hb, ih]
  cases fuel with
  | zero => rfl
  | succ f =>
    have hid : byIdLE cyc (natToLE 4 7) = some ⟨1, 2, 7, [⟨3, none, false, .bare 1⟩], []⟩ := by decide
    simp [deserialize, deserObj, hid, deserBody, deserArg, deserOne, hb, key]

/-- the hypothesis `VecOK` of `c14_vector_side_condition` holds of the toy table (`xs:(vector int)`: elements occupy 4 bytes). -/
example : VecOK toy 0 := vecOK_of_b toy 0 (by decide)

/-- block ids: the masterchain shard id with 32-byte hashes meets the hypotheses. -/
example : let b : BlockIdExt := ⟨-1, -9223372036854775808, 5, List.replicate 32 7, List.replicate 32 9⟩
    (-2^31 ≤ b.workchain ∧ b.workchain < 2^31) ∧ (-2^63 ≤ b.shard ∧ b.shard < 2^63) ∧ b.rootHash.length = 32 := by
  decide

/-- the standard CRC-32 check value ("123456789") and the well-known id of `boolTrue = Bool`. -/
example : crc32 [49, 50, 51, 52, 53, 54, 55, 56, 57] = 0xCBF43926 := by decide +kernel
example : tlId [98, 111, 111, 108, 84, 114, 117, 101, 32, 61, 32, 66, 111, 111, 108] = boolTrueId := by decide +kernel

/-! ## Source-regenerated framing arithmetic (`Generated/TlFraming.lean`: re-translated from tl/generator.py on every run)

From `TlSchemas.serialize_field` (bytes / string): `tlShortLen n` = the test `bytes_len <= 253`; `tlShortHeader n` /
`tlLongHeader n` = what is appended to `temp` in the two branches (`n.to_bytes(1, 'little')`, `b'\xFE' + n.to_bytes(3, 'little')`);
`tlPad temp` = the statement `if len(temp) % 4: temp += (4 - len(temp) % 4) * b'\x00'`.
From `TlSchemas.deserialize` (bytes / string): `tlHdrLong data i` = the test `data[i:i+1] == b'\xFE'`; `tlHdrLen`, `tlHdrAttach`,
`tlHdrNext` = the values of `byte_len`, `attach_len`, `i` after the header `if`; `tlSkip i n a` = the value of `i` after
`i += byte_len; if (byte_len + attach_len) % 4: i += 4 - (byte_len + attach_len) % 4`; `tlVecTooLong length total i` = the test of the
vector-length guard (fix 110bf4a) over Python ints. -/
section Src
open TonVerif.Proofs.SrcArith2 TonVerif.Proofs.SrcTl
set_option linter.unusedSimpArgs false

/-- serialising side, for ALL lengths / byte strings: the one-byte form is chosen exactly below 254; the headers are the
little-endian length in 1 byte, resp. `FE` + 3 bytes (whenever the length has such an encoding: `to_bytes` raises beyond, which is
the side condition); the padding statement brings the length to the next multiple of 4 with zero bytes. -/
theorem c14_src_frame_tests (n : Nat) (temp : Bytes) :
    (Generated.tlShortLen_sideOk n ∧ (n < 256 → Generated.tlShortHeader_sideOk n) ∧ (n < 2 ^ 24 → Generated.tlLongHeader_sideOk n) ∧
     Generated.tlPad_sideOk temp) ∧
    Generated.tlShortLen n = decide (n ≤ 253) ∧
    Generated.tlShortHeader n = natToLE 1 n ∧
    Generated.tlLongHeader n = 254 :: natToLE 3 n ∧
    Generated.tlPad temp = (if temp.length % 4 ≠ 0 then temp ++ List.replicate (4 - temp.length % 4) 0 else temp) := by
  -- each regenerated definition is unfolded; `src_prop` / `src_bool` / `src_close` (SrcArith2) then turn Python's Boolean tests
  -- and bytes built-ins into the model's propositions and functions and leave the arithmetic to `omega` / `grind`
  refine ⟨⟨by simp only [Generated.tlShortLen_sideOk] <;> src_prop, ?_, ?_, ?_⟩, ?_, ?_, ?_, ?_⟩
  · intro h; simp only [Generated.tlShortHeader_sideOk] <;> omega
  · intro h; simp only [Generated.tlLongHeader_sideOk] <;> omega
  · simp only [Generated.tlPad_sideOk] <;> omega
  · simp only [Generated.tlShortLen] <;> src_bool
  · simp only [Generated.tlShortHeader, py_toBytes_le] <;> src_close
  · simp only [Generated.tlLongHeader, py_toBytes_le, List.cons_append, List.nil_append, List.singleton_append] <;> src_close
  · simp only [Generated.tlPad, py_repeat_zero] <;> src_close

/-- `frame` of the hand model (the framing `c14_wire`, `c14_roundtrip_plain` … are proved about) is exactly the composition of
the regenerated pieces. -/
theorem c14_src_model_frame (b : Bytes) :
    frame b = Generated.tlPad ((if Generated.tlShortLen b.length then Generated.tlShortHeader b.length
                                else Generated.tlLongHeader b.length) ++ b) := by
  obtain ⟨_, h1, h2, h3, _⟩ := c14_src_frame_tests b.length []
  have h4 := fun t => (c14_src_frame_tests 0 t).2.2.2.2
  simp only [h1, h2, h3, h4, frame, decide_eq_true_eq]

/-- parsing side, for ALL inputs and offsets: the long form is recognised by the byte `FE` at `i`; the declared length is the
little-endian number in `data[i+1:i+4]` resp. `data[i:i+1]`; the offset moves by 4 resp. 1; after the content the offset is
advanced to the next multiple of 4 counted from the header. -/
theorem c14_src_read_tests (data : Bytes) (i n a : Nat) :
    (Generated.tlHdrLong_sideOk data i ∧ Generated.tlHdrLen_sideOk data i ∧ Generated.tlHdrAttach_sideOk data i ∧
     Generated.tlHdrNext_sideOk data i ∧ Generated.tlSkip_sideOk i n a) ∧
    Generated.tlHdrLong data i = decide ((data.drop i).take 1 = [254]) ∧
    Generated.tlHdrLen data i = (if (data.drop i).take 1 = [254] then natOfLE (((data.drop i).drop 1).take 3)
                                 else natOfLE ((data.drop i).take 1)) ∧
    Generated.tlHdrAttach data i = (if (data.drop i).take 1 = [254] then 4 else 1) ∧
    Generated.tlHdrNext data i = i + (if (data.drop i).take 1 = [254] then 4 else 1) ∧
    Generated.tlSkip i n a = i + n + (if (n + a) % 4 ≠ 0 then 4 - (n + a) % 4 else 0) := by
  have s1 : Py.slice data i (i + 1) = (data.drop i).take 1 := py_slice_shift0 data i 1
  have s3 : Py.slice data (i + 1) (i + 4) = ((data.drop i).drop 1).take 3 := by
    rw [py_slice_shift data i 1 4]; simp [Py.slice, List.take_drop]
  refine ⟨⟨by simp only [Generated.tlHdrLong_sideOk] <;> src_prop, by simp only [Generated.tlHdrLen_sideOk] <;> src_prop,
    by simp only [Generated.tlHdrAttach_sideOk] <;> src_prop, by simp only [Generated.tlHdrNext_sideOk] <;> src_prop,
    by simp only [Generated.tlSkip_sideOk] <;> omega⟩, ?_, ?_, ?_, ?_, ?_⟩
  · simp only [Generated.tlHdrLong, s1] <;> src_bool
  · simp only [Generated.tlHdrLen, s1, s3, py_fromBytes_le] <;> src_close
  · simp only [Generated.tlHdrAttach, s1, s3] <;> src_close
  · simp only [Generated.tlHdrNext, s1, s3] <;> src_close
  · simp only [Generated.tlSkip] <;> src_close

/-- `readFrame` of the hand model on `data[i:]` = (content, declared length, bytes consumed) written with the regenerated
pieces evaluated at the absolute offset `i`. -/
theorem c14_src_model_read (data : Bytes) (i : Nat) :
    readFrame (data.drop i) =
      ((data.drop (Generated.tlHdrNext data i)).take (Generated.tlHdrLen data i), Generated.tlHdrLen data i,
       Generated.tlSkip (Generated.tlHdrNext data i) (Generated.tlHdrLen data i) (Generated.tlHdrAttach data i) - i) := by
  obtain ⟨_, _, h2, h3, h4, _⟩ := c14_src_read_tests data i 0 0
  have h5 := fun i n a => (c14_src_read_tests data i n a).2.2.2.2.2
  rw [h5, h2, h3, h4]
  unfold readFrame
  split <;> simp only [List.drop_drop] <;>
    exact Prod.ext (by simp [Nat.add_comm]) (Prod.ext rfl (by simp only; split <;> omega))

/-- the vector-length guard (fix 110bf4a) over Python ints is the model's test on the remaining input: with the 4-byte count read
at offset `i0` of `data`, the guard fires exactly when fewer than `4 + count` bytes remain from `i0` — also when `i0` is already
past the end (`len(data) - i` negative) — and then `deserArg` of the hand model fails. -/
theorem c14_src_vector_guard (data : Bytes) (i0 cnt : Nat) :
    Generated.tlVecTooLong_sideOk cnt data.length (i0 + 4) ∧
    Generated.tlVecTooLong cnt data.length ((i0 : Int) + 4) = decide ((data.drop i0).length < 4 + cnt) := by
  refine ⟨by simp only [Generated.tlVecTooLong_sideOk] <;> src_prop, ?_⟩
  simp only [Generated.tlVecTooLong, List.length_drop, decide_eq_decide] <;> omega

/-- concrete values: 253 / 254 bytes, the two headers, padding of 5 bytes to 8; a long-form header read at offset 2; a guard that
fires past the end of the input. -/
example : Generated.tlShortLen 253 = true ∧ Generated.tlShortLen 254 = false ∧ Generated.tlShortHeader 5 = [5] ∧
    Generated.tlLongHeader 258 = [254, 2, 1, 0] ∧ Generated.tlPad [5, 1, 2, 3, 4] = [5, 1, 2, 3, 4, 0, 0, 0] ∧
    Generated.tlHdrLong [9, 9, 254, 2, 1, 0] 2 = true ∧ Generated.tlHdrLen [9, 9, 254, 2, 1, 0] 2 = 258 ∧
    Generated.tlHdrNext [9, 9, 254, 2, 1, 0] 2 = 6 ∧ Generated.tlSkip 1 5 1 = 8 ∧
    Generated.tlVecTooLong 0 3 4 = true ∧ Generated.tlVecTooLong 2 6 4 = false := by decide

end Src

/-! ### The engine regenerated from source (Generated/TlEngine.lean)

`harness/translate/tlengine.py` (translator `pydyn.py` on `pyobj.py`) re-translates on every run the METHODS of
`pytoniq_core/tl/generator.py`: the class dict `TlSchemas.base_types` (`baseKey` / `baseLen`), `TlSchema.little_id`,
`TlSchemas.serialize_field` and `TlSchemas.serialize` as Lean functions over dynamically typed values (`Val`), schema records (`Ctor`
of the regenerated table) and classified type strings (`Py.Tl.TyS`); recursion is open (`rec_serialize`, `rec_serialize_field`) and tied
by `serializeF` with an explicit depth budget (one unit per nested `serialize`).  Meaning of the Python built-ins: `PyTl.lean`. -/
section SrcEngine
open TonVerif.Generated.TlEngine TonVerif.Proofs.SrcTlEngine TonVerif.Py.Tl

/-- THE TIE of the serialiser, for ALL tables, constructors, values (well typed or not) and depth budgets: the regenerated
`schemas.serialize(schema, data, boxed)` is the hand model's `serObj` (same bytes, same decision to raise: OverflowError of
`to_bytes`, KeyError of a missing field, unknown `@type`, `bytes.fromhex`, unknown implicit value, a content of 2^24 bytes or more,
`None` for the schema, a non-dict for an object with fields), hence `Model.Tl.serialize` on dicts; and the regenerated
`serialize_field(type_, value)` on the type string of ANY field (flags prefix stripped as `serialize` does) is the model's `serArg`:
`isinstance` dispatch bool / bytes / int / str of the fixed-size types with `signed = type_ != '#'`, the string / bytes framing with the
`<= 253` boundary and zero padding, nested objects in `bytes`, boxed classes with one / several constructors, bare references written
without id, vectors with their 4-byte count. -/
theorem c14_src_serializer (T : Table) (fuel : Nat) (c : Ctor) (v : Val) (boxed : Bool) :
    serializeF T fuel (some c) v boxed = (objFields? c v).bind (fun fs => serObj T fuel c fs boxed) ∧
    serializeF T fuel none v boxed = none ∧
    (∀ ty fs, serializeF T fuel (some c) (.obj ty fs) true = Model.Tl.serialize T fuel c (.obj ty fs)) ∧
    (∀ (a : Arg) x, serializeFieldAt T (serializeF T fuel) ⟨none, a.vec, a.ty⟩ x = serArg T (serObj T fuel) a x) :=
  ⟨(src_serialize_rel T fuel).2 c v boxed, (src_serialize_rel T fuel).1 v boxed,
   fun ty fs => by rw [src_serialize_eq_model]; rfl,
   fun a x => serialize_field_arg T _ _ _ (src_serialize_rel T fuel)
     (fun e y => serialize_field_one T _ _ _ (src_serialize_rel T fuel) e y) a x⟩

/-- `c14_wire` for the REGENERATED serialiser: for every table, every constructor and every well-typed value the code's
`serialize` returns exactly the TL binary encoding (for every large enough depth budget). -/
theorem c14_src_wire (T : Table) (P : Bytes → Prop) (c : Ctor) (v : Val) (bs : Bytes) (h : tlEncode T P c v bs) :
    ∃ N, ∀ fuel, N ≤ fuel → serializeF T fuel (some c) v true = some bs := by
  have hN := c14_wire T P c v bs h
  obtain ⟨fs, body, rfl, _, _, _⟩ := h
  exact Ev.mp hN fun fuel a => by rw [src_serialize_eq_model]; exact a

/-- `c14_string_lengths`, serialising side, for the REGENERATED `serialize_field` and EVERY content: a `bytes` value (and a `str`
value of a `string` field, through `.encode()`) of fewer than 2^24 bytes is written as the TL framing `encodeBytes` - one length byte
below 254, `FE` + 3 little-endian bytes from 254 on, zero padding to a multiple of 4 - whose length is a multiple of 4; from 2^24
bytes on the call raises (`to_bytes(3)` overflows) instead of writing a truncated length.  (Parsing side: `c14_src_read_tests`,
`c14_src_model_read`, `c14_string_lengths`.) -/
theorem c14_src_string_lengths (T : Table) (ser : Option Ctor → Val → Bool → Option Bytes) (recf : TyS → Val → Option Bytes) (b : Bytes) :
    (b.length < 2 ^ 24 →
      serialize_field T ser recf (TyS.base .bytes) (.bytes b) = some (encodeBytes b) ∧
      serialize_field T ser recf (TyS.base .string) (.str b) = some (encodeBytes b) ∧
      serialize_field T ser recf (TyS.base .string) (.bytes b) = some (encodeBytes b) ∧
      (encodeBytes b).length % 4 = 0) ∧
    (¬ b.length < 2 ^ 24 → serialize_field T ser recf (TyS.base .bytes) (.bytes b) = none) := by
  -- no dict value, so `ser` is not called: `serialize_field_bytes` with any `ser'`; `serOne` then computes to `frame? b`
  have fr : ∀ e v, isDict v = false → e = .bytes ∨ e = .string →
      serialize_field T ser recf (TyS.base e) v = serOne T (fun _ _ _ => none) e v :=
    fun e v hv he => serialize_field_bytes T ser _ recf e v (fun h => by rw [hv] at h; cases h) he
  have k1 : serialize_field T ser recf (TyS.base .bytes) (.bytes b) = frame? b := fr _ _ rfl (Or.inl rfl)
  have k2 : serialize_field T ser recf (TyS.base .string) (.str b) = frame? b := fr _ _ rfl (Or.inr rfl)
  have k3 : serialize_field T ser recf (TyS.base .string) (.bytes b) = frame? b := fr _ _ rfl (Or.inr rfl)
  refine ⟨fun hl => ?_, fun hl => by rw [k1]; simp [frame?, hl]⟩
  simp [k1, k2, k3, frame?, hl, frame_eq_encodeBytes, encodeBytes_length_mod4]

/-- the regenerated tables: what `base_types` holds (fixed sizes, `None` for the framed types) -/
theorem c14_src_base_types (e : ETy) :
    baseLen (TyS.base e) = fixedLen e ∧
    (baseKey (TyS.base e) = true ↔ e = .int ∨ e = .long ∨ e = .nat ∨ e = .int128 ∨ e = .int256 ∨ e = .bool ∨ e = .bytes ∨ e = .string) ∧
    ∀ c : Ctor, little_id (idBytes c) = some (natToLE 4 c.id) := by
  refine ⟨by cases e <;> rfl, by cases e <;> simp [baseKey, TyS.base], little_id_eq⟩

/-- non-vacuity: the regenerated serialiser evaluated on the toy table (flags field, conditional bytes, vector, bare and boxed
reference), on the 253 / 254 boundary and on a signed / unsigned `#` distinction; an ill-typed value raises. -/
example : serializeF toy 3 (some c10) (.obj (some 10) v10) true = some (natToLE 4 0x12345678 ++ b10) := by decide
example : serializeF toy 3 (some c20) (.obj (some 20) [(4, .obj none [(0, .int 0), (3, .list [])]), (5, .obj (some 10) [(0, .int 0), (3, .list [])])]) true =
    some (natToLE 4 0x9abcdef0 ++ ((natToLE 4 0 ++ natToLE 4 0) ++ (natToLE 4 0x12345678 ++ (natToLE 4 0 ++ natToLE 4 0)))) := by decide
example : serializeFieldAt toy (serializeF toy 1) (TyS.base .nat) (.int (2 ^ 31)) = some [0, 0, 0, 128] ∧
    serializeFieldAt toy (serializeF toy 1) (TyS.base .int) (.int (2 ^ 31)) = none ∧
    serializeFieldAt toy (serializeF toy 1) (TyS.base .nat) (.int (-1)) = none ∧
    serializeFieldAt toy (serializeF toy 1) (TyS.base .bool) (.bool true) = some [0xb5, 0x75, 0x72, 0x99] := by decide
example : (serializeFieldAt toy (serializeF toy 1) (TyS.base .bytes) (.bytes (List.replicate 253 7))).map List.length = some 256 ∧
    ((serializeFieldAt toy (serializeF toy 1) (TyS.base .bytes) (.bytes (List.replicate 254 7))).map (fun x => (x.take 4, x.length))) =
      some ([254, 254, 0, 0], 260) := by decide +kernel

/-- block.py REGENERATED (`Generated.TlEngine.Block`: `BlockIdExt.__init__`, `to_bytes`, `from_bytes`, `__eq__`, `__hash__`; declared:
the first three attributes are ints, the hashes are bytes): for ALL ids the regenerated methods are the model's `toBytes` (big-endian
signed 4 / 8 / 4 bytes, OverflowError = raises), `fromBytes`, `pyEq`, `pyHash`; hence `c14_blockid` holds of the code as regenerated:
`from_bytes(to_bytes(b)) = b` on 80 bytes for in-range ids, and `a == b` implies `a = b` and equal hashes. -/
theorem c14_src_blockid (a b : BlockIdExt) (d : Bytes) (H : Int × Int × Int × Bytes × Bytes → Int) :
    Block.to_bytes b.fileHash b.rootHash b.seqno b.shard b.workchain = b.toBytes ∧
    Block.from_bytes d = some (BlockIdExt.fromBytes d) ∧
    Block.eq b a.fileHash a.rootHash a.seqno a.shard a.workchain = some (a.pyEq b) ∧
    Block.hash H a.fileHash a.rootHash a.seqno a.shard a.workchain = some (a.pyHash H) ∧
    ((-2^31 ≤ b.workchain ∧ b.workchain < 2^31) → (-2^63 ≤ b.shard ∧ b.shard < 2^63) → (-2^31 ≤ b.seqno ∧ b.seqno < 2^31) →
      b.rootHash.length = 32 → b.fileHash.length = 32 →
      ∃ x, Block.to_bytes b.fileHash b.rootHash b.seqno b.shard b.workchain = some x ∧ x.length = 80 ∧ Block.from_bytes x = some b) ∧
    (Block.eq b a.fileHash a.rootHash a.seqno a.shard a.workchain = some true →
      a = b ∧ Block.hash H a.fileHash a.rootHash a.seqno a.shard a.workchain = Block.hash H b.fileHash b.rootHash b.seqno b.shard b.workchain) := by
  refine ⟨block_to_bytes_eq b, block_from_bytes_eq d, block_eq_eq a b, block_hash_eq H a, ?_, ?_⟩
  · intro hw hs hq hr hf
    obtain ⟨x, h1, h2, h3⟩ := blockIdExt_bytes b hw hs hq hr hf
    exact ⟨x, by rw [block_to_bytes_eq]; exact h1, h2, by rw [block_from_bytes_eq, h3]⟩
  · intro h
    rw [block_eq_eq] at h
    have := blockIdExt_eq_hash H a b (by simpa using h)
    exact ⟨this.1, by rw [block_hash_eq, block_hash_eq, this.2]⟩

example : Block.to_bytes [9] [7] 5 (-9223372036854775808) (-1) =
    some ([255, 255, 255, 255] ++ [128, 0, 0, 0, 0, 0, 0, 0] ++ [0, 0, 0, 5] ++ [7] ++ [9]) ∧
    Block.to_bytes [] [] 0 0 (2 ^ 31) = none := by decide

/-- block.py, the dict forms, REGENERATED (`Generated.TlEngine.Block.to_dict / from_dict / init_dyn`, `BlockIdS.init / init_dyn / to_dict /
from_dict` from `BlockIdExt` / `BlockId`): a Python dict with the str keys `workchain … file_hash` is `dictVal d` (the model's `BlockDict`; hashes
as `.hex()` strings).  For ALL ids / dicts: `to_dict` of both classes is the model's `toDict`; `from_dict` is the model's `fromDict` - `__init__` read
with dynamically typed arguments: `isinstance(root_hash, str)` → `bytes.fromhex`, an absent hash builds no `BlockIdExt`, extra keys are ignored
by `BlockId.from_dict`; hence `from_dict(to_dict(x)) = x` for both classes of the regenerated code; a dict WITHOUT `shard` gets the masterchain shard
`-2^63` (`if shard is None`). -/
theorem c14_src_blockid_dict (b : BlockIdExt) (s : BlockId) (d : BlockDict) (w q : Int) :
    Block.to_dict b.fileHash b.rootHash b.seqno b.shard b.workchain = some (dictVal b.toDict) ∧
    Block.from_dict (dictVal d) = BlockIdExt.fromDict d ∧
    BlockIdS.to_dict s.seqno s.shard s.workchain = some (dictVal s.toDict) ∧
    BlockIdS.from_dict (dictVal d) = some (BlockId.fromDict d) ∧
    Block.from_dict (dictVal b.toDict) = some b ∧ BlockIdS.from_dict (dictVal s.toDict) = some s ∧
    BlockIdS.from_dict (.obj none [(kWorkchain, .int w), (kSeqno, .int q)]) = some ⟨w, -9223372036854775808, q⟩ := by
  refine ⟨block_to_dict_eq b, block_from_dict_eq d, blockid_to_dict_eq s, blockid_from_dict_eq d, ?_, ?_, ?_⟩
  · rw [block_from_dict_eq]; exact blockIdExt_dict b
  · rw [blockid_from_dict_eq, blockId_dict]
  · simp [BlockIdS.from_dict, BlockIdS.init_dyn, dictGet?, List.lookup, kWorkchain, kShard, kSeqno, asInt?]

example : Block.from_dict (.obj none [(kWorkchain, .int (-1)), (kShard, .int 5), (kSeqno, .int 7), (kRootHash, .hex [1, 2]), (kFileHash, .hex [3])]) =
    some ⟨-1, 5, 7, [1, 2], [3]⟩ ∧
    Block.from_dict (.obj none [(kWorkchain, .int (-1)), (kShard, .int 5), (kSeqno, .int 7), (kRootHash, .hex [1, 2])]) = none := by decide

end SrcEngine

/-! ### The PARSER regenerated from source (Generated/TlEngine.lean: `deserialize`, `deserialize_loop1/2/3`, `deserialize_rest1`)

`TlSchemas.deserialize` is re-translated on every run as ONE Lean function per loop body: `deserialize` (the call: id lookup through
`get_by_id(data[0:4], 'little')`, the `@type` entry, the field loop), `deserialize_loop1` (one field: the flags test through
`bin(..)[::-1]`), `deserialize_rest1` (the value of a present field: fixed-size reads, `bytes` / `string` framing and the auto-deserialise
branch, vectors with the guard of fix 110bf4a, bare / boxed references), `deserialize_loop2` (one iteration of `while j < byte_len`),
`deserialize_loop3` (one vector element).  `deserializeF T auto slack fuel` ties the knot: depth budget `fuel` (one unit per nested call; the
call through the pseudo schema `{'_': subtype}` runs at the same depth) and `len(data) + 2 + slack` iterations for the `while` loop.
`TableArgsOK T`: the field names of every constructor are distinct (`schema.args` is a Python dict). -/
section SrcParser
open TonVerif.Generated.TlEngine TonVerif.Proofs.SrcTlParser TonVerif.Py.Tl

/-- THE TIE of the parser, for ALL byte strings (well formed or not), both modes, all depth budgets, all loop budgets from
`len(data) + 2` on and EVERY schema table with distinct field names: the regenerated `schemas.deserialize(data)` is the hand model's
`deserialize` (same value, same consumed count, same decision to raise: `bin(None)`, `.decode()` of invalid UTF-8 or of a re-parsed
object, the vector guard, a missing `'_'` of an invalid `Bool` element, `None.items()`); a boxed call ignores `args`; the bare call
`deserialize(data, False, args)` is the model's bare parse. -/
theorem c14_src_parser (T : Table) (hT : TableArgsOK T) (auto : Bool) (slack fuel : Nat) (d : Bytes) :
    deserializeF T auto slack fuel d true none = Model.Tl.deserialize T auto fuel d ∧
    (∀ args, deserializeF T auto slack fuel d true args = deserObj T auto fuel d none) ∧
    (∀ as, ArgsOK as → deserializeF T auto slack fuel d false (some as) = deserObj T auto fuel d (some as)) :=
  ⟨(src_parser T hT auto slack fuel).1 d none, (src_parser T hT auto slack fuel).1 d, (src_parser T hT auto slack fuel).2 d⟩

/-- the bundled table has distinct field names in every constructor (kernel evaluation over the regenerated table). -/
theorem c14_table_args : TableArgsOK Generated.Tl.table := by
  unfold TableArgsOK ArgsOK; decide +kernel

/-- `c14_roundtrip_plain` on the REGENERATED code on both sides: regenerated `deserialize` ∘ regenerated `serialize` is the identity on
well-typed values (auto-deserialisation off), consuming exactly the serialised length, whatever follows, for every loop budget. -/
theorem c14_src_roundtrip_plain (T : Table) (hT : TableOK T) (hA : TableArgsOK T) (c : Ctor) (hc : c ∈ T.ctors) (v : Val) (bs : Bytes)
    (h : tlEncode T (fun _ => True) c v bs) :
    ∃ N, ∀ fuel, N ≤ fuel → ∀ rest slack,
      serializeF T fuel (some c) v true = some bs ∧ deserializeF T false slack fuel (bs ++ rest) true none = some (v, bs.length) := by
  exact Ev.mp2 (c14_roundtrip_plain T hT c hc v bs h) (c14_src_wire T _ c v bs h) fun fuel a b rest slack =>
    ⟨b, by rw [(c14_src_parser T hA false slack fuel _).1]; exact (a rest).2⟩

/-- `c14_roundtrip_auto` on the REGENERATED code on both sides (auto-deserialisation ON): the parse of the serialisation returns
`normalize v` and the serialised length, and raises exactly when `normalize v` is `none`. -/
theorem c14_src_roundtrip_auto (T : Table) (hT : TableOK T) (hA : TableArgsOK T) (c : Ctor) (hc : c ∈ T.ctors) (v : Val) (bs : Bytes)
    (h : tlEncode T (fun _ => True) c v bs) :
    ∃ N, ∀ fuel, N ≤ fuel → ∀ rest slack,
      serializeF T fuel (some c) v true = some bs ∧
      deserializeF T true slack fuel (bs ++ rest) true none = (normalize T fuel c v).map (fun w => (w, bs.length)) := by
  exact Ev.mp2 (c14_roundtrip_auto T hT c hc v bs h) (c14_src_wire T _ c v bs h) fun fuel a b rest slack =>
    ⟨b, by rw [(c14_src_parser T hA true slack fuel _).1]; exact (a rest).2⟩

/-- `c14_string_lengths`, READING side, for the regenerated code and EVERY content `b` below 2^24 bytes (0, 253, 254, every residue
mod 4): the regenerated field step on a `bytes` field (auto-deserialisation off) at offset `i`, where the input continues with the TL
framing of `b` followed by anything, stores exactly `b` and advances by exactly the frame length (header + content + padding); on a
`string` field it stores the decoded text when `b` is valid UTF-8 and raises otherwise. -/
theorem c14_src_string_lengths_reader (T : Table) (rg rp : Bytes → Bool → Option (List Arg) → Option (Val × Nat))
    (rm : Bytes → Option (List Arg) → Option (Val × Nat)) (hr : RecOK T rg rm) (L : Nat) (data : Bytes) (hL : data.length + 2 ≤ L)
    (k i : Nat) (ty : Option Nat) (acc : Fields) (schema : Option Ctor) (hk : acc.lookup k = none) (b rest : Bytes)
    (hb : b.length < 2 ^ 24) (hd : data.drop i = encodeBytes b ++ rest) :
    deserialize_rest1 T rg rp L false data k i (.obj ty acc) schema (TyS.base .bytes) =
      some (i + (encodeBytes b).length, .obj ty (acc ++ [(k, .bytes b)])) ∧
    deserialize_rest1 T rg rp L false data k i (.obj ty acc) schema (TyS.base .string) =
      (if utf8Valid b then some (i + (encodeBytes b).length, .obj ty (acc ++ [(k, .str b)])) else none) := by
  have hf := readFrame_encodeBytes b rest hb
  constructor
  · have := rest1_bytes T rg rp rm hr L false data k i ty acc schema .bytes hk hL (Or.inl rfl)
    rw [show TyS.base .bytes = ⟨none, false, .bytes⟩ from rfl, this, hd]
    simp [deserOne, hf, stepRes]
  · have := rest1_bytes T rg rp rm hr L false data k i ty acc schema .string hk hL (Or.inr rfl)
    rw [show TyS.base .string = ⟨none, false, .string⟩ from rfl, this, hd]
    by_cases hu : utf8Valid b = true <;> simp [deserOne, hf, stepRes, hu]

/-- non-vacuity: the regenerated parser evaluated on the toy table (flags field, conditional bytes, vector, bare + boxed reference),
with a re-parsed content (auto on) and raw (auto off); the toy tables have distinct field names; an invalid `Bool` is left unset. -/
example : TableArgsOK toy ∧ TableArgsOK toy2 := by unfold TableArgsOK ArgsOK; decide
example : deserializeF toy true 0 5 (natToLE 4 0x12345678 ++ (intLE 4 1 ++ (encodeBytes inner ++ natToLE 4 0))) true none =
    some (.obj (some 10) [(0, .int 1), (2, .obj (some 10) [(0, .int 0), (3, .list [])]), (3, .list [])], 28) := by rfl
example : deserializeF toy false 0 5 (natToLE 4 0x12345678 ++ (intLE 4 1 ++ (encodeBytes inner ++ natToLE 4 0))) true none =
    some (.obj (some 10) [(0, .int 1), (2, .bytes inner), (3, .list [])], 28) := by rfl
example : deserializeF toy true 0 5 (natToLE 4 0x12345678 ++ (intLE 4 1 ++ (encodeBytes (inner ++ inner) ++ natToLE 4 0))) true none =
    some (.obj (some 10) [(0, .int 1),
      (2, .list [.obj (some 10) [(0, .int 0), (3, .list [])], .obj (some 10) [(0, .int 0), (3, .list [])]]), (3, .list [])], 40) := by
  rfl
example : deserializeF toy2 true 0 5 (natToLE 4 0x64636261 ++ encodeBytes [97, 98, 99, 100]) true none = none := by rfl

end SrcParser

end TonVerif.Properties.C14
