/-
C19 (part): the BYTES fed to SHA-256 by the cell constructor, on the REGENERATED constructor (`Generated.CellCtor.init`, re-translated from
pytoniq_core/boc/cell.py on every run and tied to `Model.construct` for all inputs by `c02_src_constructor`).  The cost model's `ctorBytes` /
`buildBytes` (Model/Cost.lean) are thereby theorems about the code as written, not only a measured model.
Proofs: Proofs/SrcCtorBytes.lean.
-/
import TonVerif.Proofs.SrcCtorBytes
import TonVerif.Proofs.SrcCtorCnt
import TonVerif.Model.Cost
import TonVerif.Proofs.SrcHeaderWork

namespace TonVerif.Properties.C19
open TonVerif TonVerif.Model TonVerif.Model.Cost TonVerif.Generated.CellCtor
open TonVerif.Proofs.SrcCtorBytes TonVerif.Proofs.SrcCtorCnt TonVerif.Proofs.SrcCellCtor

/-! ## BEGIN c19src2 -/

/-- BYTES HASHED PER CONSTRUCTED CELL, on the constructor as written.  `H` = `hashlib.sha256` is any function with outputs of at most 32 bytes; the
children are any records whose stored hashes are at most 32 bytes (true of every cell this constructor returned - last clause - and of a
pruned branch, whose `get_hash` slices 32 bytes out of its data).  Whenever `Cell.__init__` returns: its `_hashes` are `H` applied to a list
`ins` of byte strings - the SHA-256 inputs of this call, one per stored hash - with
 * at most `bit_length(level mask) + 1` of them (`levelIters`: the iterations of `for li in range(level + 1)`, `c19_src_hash_work`),
 * each at most `levelBound bits refs = 2 + max(len(data_bytes), 32) + 34·len(refs)` bytes long,
 * in total at most `ctorBytes levels len(refs) (2 + len(data_bytes))` bytes - the cost model's count, a theorem about the source -
 * which for a cell the builder can produce (≤ 1023 bits, ≤ 4 references) is `≤ levels · 266` (2 + 128 + 4·(2 + 32)),
and every stored hash is again at most 32 bytes.  The constructor never descends into a child (it reads the cached `_hashes` / `_depths`), so hashing
`n` cells feeds SHA-256 `≤ Σ levels · 266` bytes: O(n) (`c19_src_build_bytes`). -/
theorem c19_src_hash_bytes (H : Bytes → Bytes) (hH : ∀ b, (H b).length ≤ 32) (bits : Bits) (refs : List CellInfo) (ty : Int)
    (hr : ∀ r ∈ refs, ∀ x ∈ r.hashes, x.length ≤ 32) (out : CtorOut) (h : init H bits refs ty = some out) :
    ∃ ins : List Bytes, out.hashes = ins.map H ∧
      ins.length ≤ levelIters ty refs bits ∧
      (∀ p ∈ ins, p.length ≤ levelBound bits refs) ∧
      (ins.map List.length).sum ≤ ctorBytes (levelIters ty refs bits) refs.length (2 + (dataBytes bits).length) ∧
      (bits.length ≤ 1023 → refs.length ≤ 4 → (ins.map List.length).sum ≤ levelIters ty refs bits * 266) ∧
      ∀ x ∈ out.hashes, x.length ≤ 32 := by
  obtain ⟨i, hc, hhash, hmask⟩ := init_construct H bits refs ty out h
  obtain ⟨ins, he, hl, hb⟩ := (construct_inputs H H hH ty bits refs hr (fun _ _ => rfl)).2 i hc
  have hlv : levelIters ty refs bits = bitLength i.mask + 1 := by
    unfold levelIters
    rw [init_mask H bits refs ty out h, hmask]
    show Py.bitLength out.mask + 1 = bitLength out.mask + 1
    rw [TonVerif.Proofs.SrcArith.py_bitLength_eq]
  have hsum := sum_len_le _ ins hb
  have hmono : ins.length * levelBound bits refs ≤ levelIters ty refs bits * levelBound bits refs :=
    Nat.mul_le_mul_right _ (by omega)
  refine ⟨ins, by rw [← hhash]; exact he, by omega, hb, ?_, fun h1 h2 => ?_, fun x hx => ?_⟩
  · have : ctorBytes (levelIters ty refs bits) refs.length (2 + (dataBytes bits).length) = levelIters ty refs bits * levelBound bits refs := by
      unfold ctorBytes levelBound
      congr 1
      omega
    omega
  · have := Nat.mul_le_mul_left (levelIters ty refs bits) (levelBound_le bits refs h1 h2)
    omega
  · rw [← hhash, he] at hx
    obtain ⟨p, _, rfl⟩ := List.mem_map.1 hx
    exact hH p

/-- NOTHING LONGER IS EVER HASHED, stated without naming the inputs: a hash function `G` that agrees with `H` on every byte string of at most
`levelBound` bytes makes the regenerated constructor raise / return exactly as `H` does, with the same `_hashes`, `_depths`, `hash` - so the
code as written applies `hashlib.sha256` to no string longer than that (for any cell type, also exotic ones; any number of references). -/
theorem c19_src_hash_input_len (H G : Bytes → Bytes) (hH : ∀ b, (H b).length ≤ 32) (bits : Bits) (refs : List CellInfo) (ty : Int)
    (hr : ∀ r ∈ refs, ∀ x ∈ r.hashes, x.length ≤ 32) (hG : ∀ b, b.length ≤ levelBound bits refs → G b = H b) :
    init G bits refs ty = init H bits refs ty := by
  rw [src_construct_eq_model, src_construct_eq_model, (construct_inputs H G hH ty bits refs hr hG).1]

/-- BUILDING A DAG: `n` constructor calls (one per distinct cell, children first), each on ≤ 1023 bits and ≤ 4 references whose stored hashes are ≤ 32
bytes, each returning: the SHA-256 inputs of all calls together are `≤ 266 · Σ levels` bytes, where `levels ≤ 4` per call for a non-pruned cell over
children of level ≤ 3 and `≤ 9` in general (`c19_src_hash_work`, `c19_src_build_linear_any`): `≤ 1064·n` resp. `≤ 2394·n` bytes - linear in the number of
distinct cells, independent of the number of paths. -/
theorem c19_src_build_bytes (H : Bytes → Bytes) (hH : ∀ b, (H b).length ≤ 32) (calls : List (Bits × List CellInfo × Int × CtorOut × List Bytes))
    (hok : ∀ c ∈ calls, c.1.length ≤ 1023 ∧ c.2.1.length ≤ 4 ∧ (∀ r ∈ c.2.1, r.mask ≤ 255 ∧ ∀ x ∈ r.hashes, x.length ≤ 32) ∧
      init H c.1 c.2.1 c.2.2.1 = some c.2.2.2.1 ∧ c.2.2.2.1.hashes = c.2.2.2.2.map H ∧ c.2.2.2.2.length ≤ levelIters c.2.2.1 c.2.1 c.1 ∧
      ∀ p ∈ c.2.2.2.2, p.length ≤ levelBound c.1 c.2.1) :
    (calls.map (fun c => (c.2.2.2.2.map List.length).sum)).sum ≤ 2394 * calls.length := by
  induction calls with
  | nil => simp
  | cons c cs ih =>
    have ih' := ih (fun x hx => hok x (by simp [hx]))
    obtain ⟨h1, h2, h3, _, _, h6, h7⟩ := hok c (by simp)
    have hs := sum_len_le _ c.2.2.2.2 h7
    have hb : levelBound c.1 c.2.1 ≤ 266 := levelBound_le c.1 c.2.1 h1 h2
    have hlv : levelIters c.2.2.1 c.2.1 c.1 ≤ 9 :=
      levelIters_le 8 _ _ _ fun m hm => Nat.lt_succ_of_le (resolve_mask_le255 _ _ _ (fun r hr => (h3 r hr).1) m hm)
    have : c.2.2.2.2.length * levelBound c.1 c.2.1 ≤ 9 * 266 := Nat.mul_le_mul (by omega) hb
    simp only [List.map_cons, List.sum_cons, List.length_cons]
    omega

/-- non-vacuity (all hypotheses hold and the bound is met): with `H` = "first 32 bytes, zero padded", an ordinary cell of one bit over two leaves
returns one hash (its single SHA input is 2 + 1 + 2·(2 + 32) = 71 bytes; `levelBound` = 2 + 32 + 68 = 102). -/
example : let H : Bytes → Bytes := fun x => (x ++ List.replicate 32 0).take 32
    let leaf : CellInfo := { kind := -1, bits := [], nrefs := 0, mask := 0, hashes := [List.replicate 32 7], depths := [0] }
    ((init H [true] [leaf, leaf] (-1)).map fun o => o.hashes.length) = some 1 ∧ levelBound [true] [leaf, leaf] = 102 ∧
      levelIters (-1) [leaf, leaf] [true] = 1 := by decide +kernel

/-- HEADER WORK, on the regenerated `Boc.deserialize_boc_header` (`Generated.BocHeader.header`, re-translated from deserialize.py on every run), for
every byte string on which it RETURNS.  The three comprehensions of the code: (1) `[bytes_to_uint(data[i:i+size]) for i in range(6, 6+3·size, size)]` runs a
FIXED 3 times (it is unpacked into `cells_num, roots_num, absent_num`; `size_bytes ≥ 1`, otherwise `range` raises), after the pre-check
`len − 5 ≥ 1 + 3·size`; (2) the root list runs `roots_num` times (`len(root_list) = roots_num`), after the check `len − i ≥ roots_num·size`; (3) the index
runs `cells_num` times with `offset_bytes ≥ 1`-wide reads, after the check `len − i ≥ offset_bytes·cells_num`.  Together `3 + len(root_list) + len(index) ≤
len(data) − 3`.  The Python-level CRC loop runs once, over exactly the first `len(data) − 4` bytes, and only when the flag is set.
PARTIAL: the full statement - for EVERY run, also the raising ones, comprehension iterations ≤ len(data) and CRC bytes ≤ len(data) − 4 (a raising run may
have computed the CRC over `i ≤ len − 4` bytes before "Too many bytes in boc") - needs an iteration-counting copy of the header text (the comprehensions
are `List.map` over `Py.range?`, the CRC is `Model.crc32c` there); for raising runs the count remains the cost model's `bocCost.hdr` / `crc`, whose
stage structure is C05's `Path` relation (`c19_boc_parse_all` bounds it by the input length). -/
theorem c19_src_header_work_partial (data : Bytes) (h : Generated.BocHeader.HeaderOut) (hh : Generated.BocHeader.header data = some h) :
    1 ≤ h.size_bytes ∧
    3 + h.root_list.length + (match h.index with | some ix => ix.length | none => 0) + 3 ≤ data.length ∧
    h.root_list.length = h.roots_num ∧
    (∀ ix, h.index = some ix → ix.length = h.cells_num ∧ 1 ≤ h.offset_bytes ∧ h.cells_num * h.offset_bytes ≤ data.length) ∧
    (h.hash_crc32 = true → 4 ≤ data.length ∧
      ∃ c, Model.crc32c (data.take (data.length - 4)) = some c ∧ c = data.drop (data.length - 4)) :=
  TonVerif.Proofs.SrcHeaderWork.header_work data h hh

/-- non-vacuity: the 13-byte generic bag header with one root and an empty cell (size 1, offset 1, no index, no CRC) is accepted: 1 root read -/
example : ((Generated.BocHeader.header [181, 238, 156, 114, 1, 1, 1, 1, 0, 2, 0, 0, 0]).map fun h => (h.root_list.length, h.size_bytes)) = some (1, 1) := by
  decide +kernel

/-! ## END c19src2 -/

end TonVerif.Properties.C19
