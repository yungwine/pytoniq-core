/-
C08, the typed stores / loads at the alias level: each of the 18 `store_*` of Generated/BuilderOps.lean in `TypedStore` (all but
`store_address_externaladdress`) and of the 27 `load_*` / `preload_*` / `skip_bits` of Generated/SliceOps.lean in `TypedLoad` (all but
`load_address` / `preload_address`) (both regenerated from boc/builder.py / boc/slice.py on every run by harness/translate/bsops.py)
touches only the receiver's OWN containers.  Helper lemmas: Proofs/SrcHeapOps.lean.
-/
import TonVerif.Proofs.SrcHeapOps

namespace TonVerif.Properties.C08Typed
open TonVerif TonVerif.Model TonVerif.Proofs.Heap TonVerif.Proofs.SrcHeapOps
open TonVerif.Model.Heap (State)

/-- ALL TYPED STORES AND LOADS STAY IN THEIR OWN CONTAINERS.  On every heap satisfying the invariant (so: after every history):

(stores) for a live builder `b`, live cells `A` and any of the 18 regenerated `store_*` methods `f` of Generated/BuilderOps.lean in `TypedStore`
(`store_uint / int / bits / bytes / bool / bit / bit_int / ref / maybe_ref / dict / var_uint / var_int / coins / string / cell / slice /
address none / std`) whose reference arguments are among `A`: running `f` on the builder's value and writing the result back (`liftB`: the
write-back is a definition here, not a regenerated heap transformer) - the state reached by a RAISING call included - only appends to the builder's own bit array and own list (`OwnB`): `Sep ∧ WF ∧ Coh` again, nothing
allocated, no object record changed, every other container as it was, every cell (record, hashes, both containers) as it was;

(loads) for a live slice `i` and any of the 27 regenerated `load_* / preload_* / skip_bits` of Generated/SliceOps.lean in `TypedLoad` (`bits, uint, int, bytes,
bit, bool, ref, maybe_ref, var_uint, var_int, coins, string, dict`; not `address`), written back by `liftS`: the result only lost a prefix of the slice's own bit array and
moved its own `ref_offset` forward, never past the end (`OwnS`): the list is not written, no other container, no other record, no cell
changes, nothing is allocated.

Both are instances of ONE generic lemma each (`liftB_ownB` for extend-only transformers, `liftS_ownS` for prefix-deleting ones). -/
theorem c08_src_typed_ops_own_containers (H : Bytes → Bytes) (σ : State) (h : Inv H σ) :
    (∀ (b : Nat) (A : List Nat) (f : Builder Nat → Builder Nat × Option Unit),
      σ.has b .builder = true → CellsAt σ A → TypedStore A f → OwnB H σ b (liftB (asBOp f) σ b)) ∧
    (∀ (i : Nat) (α : Type) (f : Py.SliceSt Nat → Py.SliceSt Nat × Option α),
      σ.has i .slice = true → TypedLoad f → OwnS H σ i (liftS f σ i)) :=
  ⟨fun b A f hb hA hf => liftB_ownB H σ h b hb A hA (asBOp f) (typedStore_ext hf),
   fun i α f hs hf => liftS_ownS H σ h i hs f (typedLoad_shr hf)⟩

/-- non-vacuity: the empty heap plus one builder / one slice meets the hypotheses, and `store_ref` / `load_uint` are in the families -/
example : TypedStore [3] (Generated.BuilderOps.store_ref 3) ∧ TypedLoad (Generated.SliceOps.load_uint (R := Nat) 8) ∧
    (Model.Heap.step (fun x => x) Model.Heap.init .builderNew).1.has 0 .builder = true ∧
    (Model.Heap.step (fun x => x) Model.Heap.init (.sliceFresh [true] [] (-1))).1.has 0 .slice = true :=
  ⟨.ref 3 (by simp), .load_uint 8, by decide, by decide⟩

end TonVerif.Properties.C08Typed
