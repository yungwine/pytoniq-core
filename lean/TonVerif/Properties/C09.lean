/-
C09 — dictionary (HashMap) serialise/parse round trip.

`Model.Hashmap` mirrors `HashMap.set_int_key/set/serialize/parse/from_cell`, `build_tree … serialize_dict`,
`parse_hashmap` and `store_dict/load_dict`; a value serialiser is a function `ser : V → Option (bits, refs)`
(what it appends to the leaf cell; `none` = it raises).  The label constructor is chosen by the function
translated from utils.py on every run.

First the round trip and the key checks on the hand model (`c09_roundtrip`, `c09_bad_keys`, `c09_good_keys`); then the
same with the pieces regenerated from the source: the key-range test (section Src), `parse_hashmap` (SrcParser),
`serialize_dict` and the full round trip (SrcFull), the `HashMap` / `Slice` methods around them (SrcGlue).
-/
import TonVerif.Proofs.Hashmap
import TonVerif.Proofs.SrcArith2
import TonVerif.Generated.DictKey
import TonVerif.Proofs.SrcHashmap
import TonVerif.Proofs.SrcHashmapSer
import TonVerif.Proofs.SrcHashmapGlue

namespace TonVerif.Properties.C09
open TonVerif TonVerif.Model TonVerif.Model.Hashmap TonVerif.Spec.Hashmap TonVerif.Proofs.Hashmap
open TonVerif.Generated.LabelFns

/-- EMPTY MAP: `serialize()` of the empty map returns None (no cell); `store_dict(None)` writes the single bit 0;
`load_dict`/`preload_dict` on it return None. -/
theorem c09_empty {V : Type} (n : Nat) (ser : V → Option Val) :
    serialize n ser ([] : Dict V) = some none ∧
    storeDictCell none = .mk (-1) [false] [] ∧
    (∀ refs, (match loadDict [false] refs n with | .none => True | _ => False)) := by
  simp [serialize, storeDictCell, loadDict]

/-- BAD KEYS: `set_int_key(k, v)` with k < 0 or k ≥ 2^n raises (and the map is not touched: the model returns no new map),
    for every width n (also n = 0) -/
theorem c09_bad_keys {V : Type} (n : Nat) (k : Int) (v : V) (d : Dict V) (h : k < 0 ∨ k ≥ 2 ^ n) :
    setIntKey n k v d = none := by
  rw [setIntKey_eq, if_neg (by omega)]

/-- GOOD KEYS: `set_int_key(k, v)` with 0 ≤ k < 2^n is accepted and stores `v` under exactly k. -/
theorem c09_good_keys {V : Type} (n : Nat) (k : Int) (v : V) (d : Dict V) (h0 : 0 ≤ k) (h : k < 2 ^ n) :
    setIntKey n k v d = some (dictSet k.toNat v d) := by
  rw [setIntKey_eq, if_pos ⟨h0, h⟩]

/-- NO ALIASING: the padded bit string `build_tree` derives from an accepted key has exactly n bits and denotes the key,
so distinct accepted keys give distinct bit strings. -/
theorem c09_no_alias (n a b : Nat) (hn : 0 < n) (ha : a < 2 ^ n) (_hb : b < 2 ^ n) :
    (keyBits n a).length = n ∧ natOfBits (keyBits n a) = a ∧ (keyBits n a = keyBits n b → a = b) := by
  refine ⟨keyBits_length n a hn ha, natOfBits_keyBits n a, fun h => ?_⟩
  have := congrArg natOfBits h
  simpa [natOfBits_keyBits] using this


/-- every map reached by accepted `set_int_key` calls satisfies `DictOK` -/
theorem c09_dict_ok {V : Type} (n : Nat) (ins : List (Int × V)) (d : Dict V) (h : setAll n ins [] = some d) : DictOK n d :=
  setAll_ok n ins [] d ⟨by simp, by simp⟩ h

/-- the map after a sequence of accepted `set_int_key` calls holds, for each key, the last value written (and nothing else) -/
theorem c09_last_write_wins {V : Type} (n : Nat) (ins : List (Int × V)) (d : Dict V) (hset : setAll n ins [] = some d) (k : Nat) :
    dictGet k d = lastWrite ins k := by
  have := dictGet_setAll n ins [] d hset k
  simpa [dictGet] using this


/-- ROUND TRIP.  For every key width n ≥ 1, every value serialiser and EVERY sequence `ins` of `set_int_key(k, v)` calls on a
fresh HashMap (any order, keys may repeat) all of which are accepted (`setAll … = some d`): if `serialize()` returns a cell `c`
(the only way it can fail is a cell over 1023 bits / 4 refs, see `c09_capacity_explicit`), then `HashMap.parse(c.begin_parse(), n)`,
`HashMap.from_cell(c, n).map` and `store_dict(c)` + `load_dict(n)`/`preload_dict(n)` all return the same dict `r` with
  * keys strictly ascending (in iteration order), and
  * (k ↦ val) ∈ r  iff  the LAST value v written for k in `ins` serialises to val  (`lastWrite` = last write wins);
so the result is exactly the set of pairs of the map, independent of the insertion order. -/
theorem c09_roundtrip {V : Type} (n : Nat) (hn : 0 < n) (ser : V → Option Val) (ins : List (Int × V)) (d : Dict V) (c : Cell)
    (hset : setAll n ins [] = some d) (hser : serialize n ser d = some (some c)) :
    ∃ r : Dict Val,
      hashMapParse c n = .dict r ∧ fromCell c n = some r ∧
      (match storeDictCell (some c) with | .mk _ bits refs => loadDict bits refs n) = .dict r ∧
      r.Pairwise (fun a b => a.1 < b.1) ∧
      ∀ k val, (k, val) ∈ r ↔ ∃ v, lastWrite ins k = some v ∧ ser v = some val := by
  have hd := c09_dict_ok n ins d hset
  have hget := c09_last_write_wins n ins d hset
  obtain ⟨kv, hcan, hsorted, hlen, hmem⟩ := serialize_canonical n hn ser d c hd hser
  obtain ⟨b, rf, rfl⟩ := valid_ordinary hcan
  have hp : parseHashmap (.mk (-1) b rf) n = some kv := parseHashmap_valid hn hcan
  refine ⟨kv.map (fun p => (natOfBits p.1, p.2)), ?_, ?_, ?_, ?_, ?_⟩
  · simp [hashMapParse, hp, intKeys_sorted kv hsorted]
  · simp [fromCell, hp, intKeys_sorted kv hsorted]
  · simp [storeDictCell, loadDict, hashMapParse, hp, intKeys_sorted kv hsorted]
  · rw [List.pairwise_map]; exact hsorted
  · intro k val
    simp only [List.mem_map, Prod.mk.injEq]
    constructor
    · rintro ⟨⟨kb, val'⟩, hin, hk, rfl⟩
      obtain ⟨k', v, hd', hkb, hs⟩ := (hmem kb val').1 hin
      simp only at hk hkb
      rw [hkb, natOfBits_keyBits] at hk
      subst hk
      exact ⟨v, by rw [← hget]; exact (dictGet_mem d hd.1 k' v).1 hd', hs⟩
    · rintro ⟨v, hl, hs⟩
      rw [← hget] at hl
      have hd' := (dictGet_mem d hd.1 k v).2 hl
      exact ⟨(keyBits n k, val), (hmem _ _).2 ⟨k, v, hd', rfl, hs⟩, natOfBits_keyBits n k, rfl⟩

def exSerH (v : Bool) : Option Val := some ([v, v], [])

/-- HISTORY INDEPENDENCE of `serialize()`.  On one `HashMap` object, after ANY history of `set_int_key` and `serialize()`
calls (interleaved in any way, rejected keys included), the object's map is the one the `set` calls alone produce, and a
`serialize()` made now returns `serialize` of THAT map: earlier `serialize()` calls leave no trace (nothing is memoised), so the
round-trip theorem applies to the cell returned at any point of an object's life, e.g. after a key was overwritten. -/
theorem c09_serialize_history_free {V : Type} (n : Nat) (ser : V → Option Val) (ops : List (HOp V)) (d : Dict V) :
    (runOps n ser ops d).1 = applySets n (setsOf ops) d ∧
    (runOps n ser (ops ++ [.serialize]) d).2.getLast? = some (serialize n ser (applySets n (setsOf ops) d)) := by
  induction ops generalizing d with
  | nil => simp [runOps, setsOf, applySets]
  | cons op rest ih =>
    cases op with
    | set k v => simpa [runOps, setsOf, applySets] using ih _
    | serialize =>
      obtain ⟨h1, h2⟩ := ih d
      refine ⟨by simpa [runOps, setsOf] using h1, ?_⟩
      simp only [List.cons_append, runOps, setsOf]
      rw [List.getLast?_cons]
      simp [h2]

/-- when every `set` of the history is accepted, the lenient application is `setAll` (so `c09_roundtrip` speaks about it) -/
theorem c09_applySets_eq_setAll {V : Type} (n : Nat) (ins : List (Int × V)) (d d' : Dict V) (h : setAll n ins d = some d') :
    applySets n ins d = d' := by
  induction ins generalizing d with
  | nil => simpa [setAll, applySets] using h
  | cons kv rest ih =>
    obtain ⟨k, v⟩ := kv
    obtain ⟨d1, hs, h⟩ := Option.bind_eq_some_iff.1 h
    simpa [applySets, hs] using ih d1 h

/-- non-vacuity: set 2↦T, serialize, overwrite 2↦F (same entry count), serialize: the second result is the cell of {2↦F}, not the first one -/
example : (runOps 2 exSerH [.set 2 true, .serialize, .set 2 false, .serialize] []).2
    = [serialize 2 exSerH [(2, true)], serialize 2 exSerH [(2, false)]] := by
  simp [runOps, setIntKey, bitLength, dictSet]

/-! non-vacuity of the round trip: a 2-bit map written as 2 ↦ T, 1 ↦ F, 2 ↦ F is accepted and serialises -/
def exSer (v : Bool) : Option Val := some ([v, v], [])
def exIns : List (Int × Bool) := [(2, true), (1, false), (2, false)]
-- (`bitLength` is defined by well-founded recursion: evaluation has to unfold it explicitly)
example : setAll 2 exIns [] = some [(2, false), (1, false)] := by
  with_unfolding_all rfl
set_option maxRecDepth 4000 in
example : ∃ c, serialize 2 exSer [(2, false), (1, false)] = some (some c) :=
  ⟨_, by with_unfolding_all rfl⟩


/-- CAPACITY, EXPLICITLY.  For a non-empty map built by `set_int_key` (`DictOK`: distinct keys < 2^n) the Patricia tree `t` of
`build_tree` always exists (the assertions of `fork_map` never fire; recursion depth ≤ n+1) and spells n-bit keys, and
`serialize()` returns a cell  iff  every cell of the tree fits (`Edge.Fits`): for each edge, the encoded label in the reference
constructor — 2+2·len (short), 2+k+len (long) or 3+k (same) bits, k = bit_length(remaining key length) — plus, on a leaf, the
value's bits is ≤ 1023 and the value has ≤ 4 refs (and the value serialiser itself does not raise).  So cell capacity is the only
way serialisation fails, and the hypothesis of `c09_roundtrip` is not vacuous. -/
theorem c09_capacity_explicit {V : Type} (n : Nat) (hn : 0 < n) (ser : V → Option Val) (d : Dict V) (hd : DictOK n d) (hne : d ≠ []) :
    ∃ t, buildTree n d = some t ∧ Edge.Sized t n ∧ ((serialize n ser d).isSome ↔ Edge.Fits ser t n) :=
  serialize_iff_fits n hn ser d hd hne

theorem bl1023 : bitLength 1023 = 10 := by simp [bitLength]

/-- width 1023, the single all-zero key: the label is `hml_same` (13 bits); any value of ≤ 1010 bits and ≤ 4 refs fits. -/
theorem c09_capacity_zero_key_1023 {V : Type} (ser : V → Option Val) (v : V) (vb : Bits) (vr : List Cell) (hv : ser v = some (vb, vr))
    (hb : vb.length ≤ 1010) (hr : vr.length ≤ 4) : Edge.Fits ser (.leaf (List.replicate 1023 false) v) 1023 := by
  have hs : allSame (List.replicate 1023 false) = true := (allSame_iff _).2 ⟨false, by rw [List.length_replicate]⟩
  refine ⟨vb, vr, hv, ?_, hr⟩
  simp only [List.length_replicate, hs, refLabelKind, lenBits, bl1023, encLen]
  simp; omega

/-- width 1023, a single key that is not all-0/all-1 can never be serialised: its shortest label needs 2+10+1023 bits. -/
theorem c09_capacity_wide_key_1023 {V : Type} (ser : V → Option Val) (v : V) (s : Bits) (hl : s.length = 1023) (hs : allSame s = false) :
    ¬ Edge.Fits ser (.leaf s v) 1023 := by
  rintro ⟨vb, vr, _, h, _⟩
  simp only [hl, hs, refLabelKind, lenBits, bl1023, encLen] at h
  simp at h
  omega

/-- width 1: both keys present — root fork (label short, 2 bits), two leaves with 2-bit labels: fits with 2-bit values. -/
example : Edge.Fits exSer (.fork [] (.leaf [] true) (.leaf [] false)) 1 := by
  simp [Edge.Fits, exSer, encLen, refLabelKind, lenBits, bitLength, allSame]

/-! non-vacuity of the key checks -/
example : setIntKey 8 (-1) 7 ([] : Dict Nat) = none := by decide
example : setIntKey 8 256 7 ([] : Dict Nat) = none := by simp [setIntKey, bitLength]
example : setIntKey 8 255 7 ([] : Dict Nat) = some [(255, 7)] := by simp [setIntKey, bitLength, dictSet]

/-! ## Source-regenerated key-range test (`Generated/DictKey.lean`: re-translated from boc/hashmap/hashmap.py on every run)

`Generated.keyRejected key size` is the test of the `if …: raise DictError('Key sizes must be the same.')` of
`HashMap.set_int_key` (the case of defect F11): `int_key < 0 or int_key.bit_length() > self.size`. -/
section Src
open TonVerif.Proofs.SrcArith TonVerif.Proofs.SrcArith2
set_option linter.unusedSimpArgs false

/-- for EVERY integer key and EVERY width: `set_int_key` raises exactly for the keys outside `0 ≤ k < 2^n` — the
hypothesis of `c09_good_keys` / the complement of `c09_bad_keys`; the test is the one of the hand model. -/
theorem c09_src_key_range (k : Int) (n : Nat) :
    Generated.keyRejected_sideOk k n ∧
    Generated.keyRejected k n = decide (k < 0 ∨ bitLength k.natAbs > n) ∧
    (Generated.keyRejected k n = false ↔ 0 ≤ k ∧ k < 2 ^ n) := by
  have hb : ∀ m : Nat, bitLength m ≤ n ↔ m < 2 ^ n := fun m => Proofs.CellSpec.bitLength_le_iff m n
  have hp : (2 : Int) ^ n = ((2 ^ n : Nat) : Int) := by simp
  refine ⟨by simp only [Generated.keyRejected_sideOk] <;> src_prop, ?_, ?_⟩
  · simp only [Generated.keyRejected, py_bitLength_eq] <;> src_bool
  · simp only [Generated.keyRejected, py_bitLength_eq, decide_eq_false_iff_not, not_or, Nat.not_lt, Int.not_lt, gt_iff_lt, hb, hp]
    omega

/-- `set_int_key` of the hand model (what `c09_roundtrip`, `c09_serialize_history_free` … are proved about) accepts and
rejects by exactly the regenerated test. -/
theorem c09_src_model_set {V : Type} (n : Nat) (k : Int) (v : V) (d : Dict V) :
    setIntKey n k v d = (if Generated.keyRejected k n then none else some (dictSet k.toNat v d)) := by
  rw [(c09_src_key_range k n).2.1]
  unfold setIntKey
  by_cases h : k < 0 ∨ bitLength k.natAbs > n <;> simp [h]

/-- the regenerated test at the boundary of an 8-bit and of a 0-bit dictionary. -/
example : Generated.keyRejected 255 8 = false ∧ Generated.keyRejected 256 8 = true ∧ Generated.keyRejected (-1) 8 = true ∧
    Generated.keyRejected 0 0 = false ∧ Generated.keyRejected 1 0 = true := by decide

end Src

/-! ### the round trip through the parser REGENERATED from parse.py (Generated/HashmapSrc.lean) -/
section SrcParser
open TonVerif.Generated.HashmapSrc TonVerif.Proofs.SrcHashmap

/-- ROUND TRIP WITH THE PARSER FROM THE SOURCE.  Under the hypotheses of `c09_roundtrip` (accepted `set_int_key` calls, `serialize()`
returned `c`) the function `parse_hashmap` as regenerated from the current text of parse.py — `parse`, `deserialize_hashmap_node`,
`deserialize_hml`, `deserialize_unary`, for every fuel ≥ 2n + 2 — returns on `c.begin_parse()` a list `kv` of (key string, ordinary
slice behind the leaf label) whose int-keyed form `r` is the dict of `c09_roundtrip`: keys strictly ascending, and `(k ↦ val) ∈ r` iff
the LAST value written for `k` serialises to `val`. -/
theorem c09_src_roundtrip {V : Type} (n : Nat) (hn : 0 < n) (ser : V → Option Val) (ins : List (Int × V)) (d : Dict V) (c : Cell)
    (hset : setAll n ins [] = some d) (hser : serialize n ser d = some (some c)) (fuel : Nat) (hf : 2 * n + 2 ≤ fuel) :
    ∃ (kv : List (Bits × Val)) (r : Dict Val),
      (parse_hashmap fuel (Py.beginParse c) (n : Int)).map (·.1) = some (kv.map fun p => (p.1, valSlice p.2)) ∧
      intKeys kv = r ∧ hashMapParse c n = .dict r ∧
      r.Pairwise (fun a b => a.1 < b.1) ∧
      ∀ k val, (k, val) ∈ r ↔ ∃ v, lastWrite ins k = some v ∧ ser v = some val := by
  obtain ⟨r, h1, h2, _, h4, h5⟩ := c09_roundtrip n hn ser ins d c hset hser
  rcases hp : parseHashmap c n with _ | kv
  · simp [fromCell, hp] at h2
  · simp only [fromCell, hp, Option.map_some, Option.some.injEq] at h2
    refine ⟨kv, r, ?_, h2, h1, h4, h5⟩
    rw [src_parse_hashmap_eq fuel c n hf, hp]; rfl

/-- the regenerated `parse_hashmap` (label reader and parse recursion of parse.py) IS the hand model's `parseHashmap` on every cell -/
theorem c09_src_parse_is_model (fuel : Nat) (c : Cell) (n : Nat) (hf : 2 * n + 2 ≤ fuel) :
    (parse_hashmap fuel (Py.beginParse c) (n : Int)).map (·.1) =
      (parseHashmap c n).map fun kv => kv.map fun p => (p.1, valSlice p.2) :=
  src_parse_hashmap_eq fuel c n hf

/-- non-vacuity (the hypotheses are those of `c09_roundtrip`, whose examples above show a map that is accepted and serialises): the
regenerated parser on the canonical cell of the 1-bit dictionary {0 ↦ 1, 1 ↦ 0} -/
example : (parse_hashmap 4 (Py.beginParse (.mk (-1) [false, false] [.mk (-1) [false, false, true] [], .mk (-1) [false, false, false] []])) 1).map (·.1)
    = some [([false], ⟨-1, [true], []⟩), ([true], ⟨-1, [false], []⟩)] := by rfl

end SrcParser

/-! ### the round trip through the serialiser AND the parser regenerated from utils.py / parse.py -/
section SrcFull
open TonVerif.Generated.HashmapSrc TonVerif.Proofs.SrcHashmap TonVerif.Proofs.SrcHashmapSer

/-- the serialiser the round trip rests on is the regenerated one: `serialize_dict(map, n, serializer).end_cell()` from utils.py is
what the hand model's `serialize()` returns for every non-empty map reached by accepted `set_int_key` calls -/
theorem c09_src_serialize_is_model {V : Type} (n : Nat) (hn : 0 < n) (ser : V → Option Val) (ins : List (Int × V)) (d : Dict V)
    (hset : setAll n ins [] = some d) (hne : d ≠ []) (fuel : Nat) (hf : 2 * n + 2 ≤ fuel) :
    (serialize_dict (serCb ser) fuel d n).map (fun b => some b.endCell) = serialize n ser d :=
  serialize_dict_eq n hn ser d (c09_dict_ok n ins d hset) hne fuel hf

/-- FULL ROUND TRIP FROM THE SOURCE.  For every key width n ≥ 1, every value serialiser and EVERY sequence `ins` of accepted
`set_int_key(k, v)` calls on a fresh HashMap (any order, keys may repeat): if `serialize_dict(map, n, serializer)` AS REGENERATED FROM
utils.py returns a builder `b`, then `parse_hashmap(b.end_cell().begin_parse(), n)` AS REGENERATED FROM parse.py returns a list `kv` of
(key string, ordinary slice behind the leaf label) whose int-keyed form `r` has strictly ascending keys and contains `(k ↦ val)` iff the
LAST value written for `k` serialises to `val` — the regenerated serialiser followed by the regenerated parser is the identity on
every finite map of every key width (fuels: any ≥ 2n + 2 on both sides; Python has none). -/
theorem c09_src_roundtrip_full {V : Type} (n : Nat) (hn : 0 < n) (ser : V → Option Val) (ins : List (Int × V)) (d : Dict V) (b : Py.Bld)
    (hset : setAll n ins [] = some d) (fuel : Nat) (hf : 2 * n + 2 ≤ fuel)
    (hser : serialize_dict (serCb ser) fuel d n = some b) (fuel' : Nat) (hf' : 2 * n + 2 ≤ fuel') :
    ∃ (kv : List (Bits × Val)) (r : Dict Val),
      (parse_hashmap fuel' (Py.beginParse b.endCell) (n : Int)).map (·.1) = some (kv.map fun p => (p.1, valSlice p.2)) ∧
      intKeys kv = r ∧
      r.Pairwise (fun a b => a.1 < b.1) ∧
      ∀ k val, (k, val) ∈ r ↔ ∃ v, lastWrite ins k = some v ∧ ser v = some val := by
  have hne : d ≠ [] := by rintro rfl; rw [serialize_dict_nil] at hser; simp at hser
  have hm := c09_src_serialize_is_model n hn ser ins d hset hne fuel hf
  rw [hser] at hm
  obtain ⟨kv, r, h1, h2, _, h4, h5⟩ := c09_src_roundtrip n hn ser ins d b.endCell hset hm.symm fuel' hf'
  exact ⟨kv, r, h1, h2, h4, h5⟩

/-- non-vacuity: the map written as 2 ↦ T, 1 ↦ F, 2 ↦ F (see `exIns` above) is accepted, and the regenerated serialiser returns a builder for it -/
example : ∃ b, serialize_dict (serCb exSer) 6 [(2, false), (1, false)] 2 = some b :=
  ⟨_, by with_unfolding_all rfl⟩

end SrcFull

/-! ### the HashMap / Slice methods around the serialiser and the parser, REGENERATED from hashmap.py and slice.py
(Generated/HashmapGlue.lean, translator hashmapglue.py = specialiser + pyrec.py; proofs in Proofs/SrcHashmapGlue.lean) -/
section SrcGlue
open TonVerif.Generated TonVerif.Generated.HashmapSrc TonVerif.Proofs.SrcHashmap TonVerif.Proofs.SrcHashmapSer TonVerif.Proofs.SrcHashmapGlue

/-- `HashMap.set_int_key(int_key, value)` as regenerated from hashmap.py IS the hand model's `setIntKey`, for every map, width, int key:
it raises exactly for `int_key < 0 or int_key.bit_length() > size` and otherwise performs `self.map[int_key] = value`. -/
theorem c09_src_set_int_key {V : Type} (d : Dict V) (size : Nat) (k : Int) (v : V) :
    HashmapGlue.set_int_key d size k v = setIntKey size k v d := set_int_key_eq d size k v

/-- KEY NORMALISATION FROM THE SOURCE.  `HashMap.set(key, value[, hash_key])` as regenerated from hashmap.py, specialised to each key
form the method dispatches on — int; bytes (`int.from_bytes(key, 'big', signed=False)`); '0'/'1' string (`int(key, 2)`, ValueError on
''); Address (`Builder().store_address(key).end_cell().begin_parse().load_uint(267)`); text with `hash_key=True` (sha256 of the text,
then as bytes) — equals the hand model's `set` = `normKey` followed by `setIntKey`, for every map, width and key. -/
theorem c09_src_set_forms {V : Type} (H : Bytes → Bytes) (d : Dict V) (size : Nat) (v : V) :
    (∀ k : Int, HashmapGlue.set_int d size k v = Hashmap.set H size (.int k) v d) ∧
    (∀ bs : Bytes, HashmapGlue.set_bytes d size bs v = Hashmap.set H size (.bytes bs) v d) ∧
    (∀ s : Bits, HashmapGlue.set_str d size s v = Hashmap.set H size (.bitstr s) v d) ∧
    (∀ a : Addr, HashmapGlue.set_addr d size a v = Hashmap.set H size (.addr a) v d) ∧
    (∀ u : Bytes, HashmapGlue.set_hashed H d size u v = Hashmap.set H size (.hashed u) v d) := set_forms_eq H d size v

/-- `HashMap.set` with a `key_serializer`: the int it returns goes through `set_int_key` (so it is range-checked like any int key) -/
theorem c09_src_set_key_serializer {V K : Type} (ks : K → Option Int) (d : Dict V) (size : Nat) (key : K) (v : V) :
    HashmapGlue.set_ks ks d size key v = (ks key).bind fun k => setIntKey size k v d := set_ks_eq ks d size key v

/-- `HashMap.serialize()` as regenerated from hashmap.py (None for the empty map, else `serialize_dict(...).end_cell()` with the
regenerated `serialize_dict`) IS the hand model's `serialize`, for every map built by `set_int_key` -/
theorem c09_src_serialize {V : Type} (n : Nat) (hn : 0 < n) (ser : V → Option Val) (d : Dict V) (hd : DictOK n d)
    (fuel : Nat) (hf : 2 * n + 2 ≤ fuel) :
    HashmapGlue.serialize (serCb ser) fuel d n = serialize n ser d := serialize_eq n hn ser d hd fuel hf

/-- `HashMap.parse` (default deserialisers), `HashMap.from_cell(...).map`, `Slice.load_dict / preload_dict / load_hashmap` as
regenerated from hashmap.py / slice.py ARE the hand model's `hashMapParse`, `fromCell`, `loadDict` (`outP` / `outDict` render the
model's result: raise = none, None = some none, each value the ordinary slice behind the leaf label); `load_dict` consumes the
presence bit and one reference, `preload_dict` nothing. -/
theorem c09_src_parse_api (fuel : Nat) (c : Cell) (n : Nat) (hf : 2 * n + 2 ≤ fuel) (sl : Py.Slice) :
    (HashmapGlue.hm_parse fuel (Py.beginParse c) (n : Int)).map (·.1) = outP (hashMapParse c n) ∧
    HashmapGlue.from_cell fuel c (n : Int) = (fromCell c n).map outDict ∧
    (HashmapGlue.load_hashmap fuel (Py.beginParse c) (n : Int)).map (·.1) = outP (hashMapParse c n) ∧
    (HashmapGlue.load_dict fuel sl (n : Int)).map (·.1) = outP (loadDict sl.bits sl.refs n) ∧
    (∀ r sl', HashmapGlue.load_dict fuel sl (n : Int) = some (r, sl') →
      sl'.kind = sl.kind ∧ sl'.bits = sl.bits.tail ∧ sl'.refs = (if sl.bits.head? = some true then sl.refs.tail else sl.refs)) ∧
    HashmapGlue.preload_dict fuel sl (n : Int) = outP (loadDict sl.bits sl.refs n) :=
  ⟨hm_parse_eq fuel c n hf, from_cell_eq fuel c n hf, load_hashmap_eq fuel c n hf, (load_dict_eq fuel sl n hf).1,
    (load_dict_eq fuel sl n hf).2, preload_dict_eq fuel sl n hf⟩

/-- a sequence of `set_int_key` calls through the regenerated method -/
def setAllSrc {V : Type} (size : Nat) : List (Int × V) → Dict V → Option (Dict V)
  | [], d => some d
  | (k, v) :: rest, d => (HashmapGlue.set_int_key d size k v).bind (setAllSrc size rest)

theorem setAllSrc_eq {V : Type} (size : Nat) (ins : List (Int × V)) (d : Dict V) : setAllSrc size ins d = setAll size ins d := by
  induction ins generalizing d with
  | nil => rfl
  | cons x rest ih =>
    obtain ⟨k, v⟩ := x
    simp only [setAllSrc, setAll, set_int_key_eq]
    cases setIntKey size k v d with
    | none => rfl
    | some d' => simp [ih]

/-- ROUND TRIP THROUGH THE API, EVERYTHING FROM THE SOURCE.  For every key width n ≥ 1, value serialiser and sequence `ins` of
`set_int_key` calls, all through the REGENERATED methods: if the calls are accepted and `HashMap.serialize()` returns a cell `c`, then
`HashMap.parse(c.begin_parse(), n)`, `HashMap.from_cell(c, n).map`, and `store_dict(c)` followed by `load_dict(n)` / `preload_dict(n)`
all return the dict `outDict r`, where `r` has strictly ascending keys and `(k ↦ val) ∈ r` iff the LAST value written for `k`
serialises to `val`. -/
theorem c09_src_roundtrip_api {V : Type} (n : Nat) (hn : 0 < n) (ser : V → Option Val) (ins : List (Int × V)) (d : Dict V) (c : Cell)
    (fuel : Nat) (hf : 2 * n + 2 ≤ fuel)
    (hset : setAllSrc n ins [] = some d) (hser : HashmapGlue.serialize (serCb ser) fuel d n = some (some c)) :
    ∃ r : Dict Val,
      (HashmapGlue.hm_parse fuel (Py.beginParse c) (n : Int)).map (·.1) = some (some (outDict r)) ∧
      HashmapGlue.from_cell fuel c (n : Int) = some (outDict r) ∧
      (HashmapGlue.load_dict fuel (Py.beginParse (storeDictCell (some c))) (n : Int)).map (·.1) = some (some (outDict r)) ∧
      HashmapGlue.preload_dict fuel (Py.beginParse (storeDictCell (some c))) (n : Int) = some (some (outDict r)) ∧
      r.Pairwise (fun a b => a.1 < b.1) ∧
      ∀ k val, (k, val) ∈ r ↔ ∃ v, lastWrite ins k = some v ∧ ser v = some val := by
  rw [setAllSrc_eq] at hset
  rw [serialize_eq n hn ser d (c09_dict_ok n ins d hset) fuel hf] at hser
  obtain ⟨r, h1, h2, h3, h4, h5⟩ := c09_roundtrip n hn ser ins d c hset hser
  refine ⟨r, ?_, ?_, ?_, ?_, h4, h5⟩
  · rw [hm_parse_eq fuel c n hf, h1]; rfl
  · rw [from_cell_eq fuel c n hf, h2]; rfl
  · have := (load_dict_eq fuel (Py.beginParse (storeDictCell (some c))) n hf).1
    rw [this]
    simp only [storeDictCell, Py.beginParse] at h3 ⊢
    rw [h3]; rfl
  · rw [preload_dict_eq fuel (Py.beginParse (storeDictCell (some c))) n hf]
    simp only [storeDictCell, Py.beginParse] at h3 ⊢
    rw [h3]; rfl

/-! non-vacuity of the key forms: the regenerated `set` on a 8-bit map -/
example : HashmapGlue.set_bytes ([] : Dict Nat) 8 [5] 7 = some [(5, 7)] ∧ HashmapGlue.set_bytes ([] : Dict Nat) 8 [1, 0] 7 = none ∧
    HashmapGlue.set_str ([] : Dict Nat) 8 [true, false, true] 7 = some [(5, 7)] ∧ HashmapGlue.set_str ([] : Dict Nat) 8 [] 7 = none ∧
    HashmapGlue.set_int ([] : Dict Nat) 8 (-1) 7 = none ∧ HashmapGlue.set_int ([(5, 1)] : Dict Nat) 8 5 7 = some [(5, 7)] := by
  refine ⟨?_, ?_, ?_, ?_, ?_, ?_⟩ <;> with_unfolding_all rfl

end SrcGlue

end TonVerif.Properties.C09
