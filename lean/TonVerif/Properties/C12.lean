/-
C12 — block signature sets are accepted only with a genuine validator supermajority.

`Model.Sig.checkBlockSignatures H verify nodes sigs blk` is the executable mirror of
`pytoniq_core.proof.check_proof.check_block_signatures(nodes, signatures, blk)` (`true` = returns,
`false` = raises ProofError / any exception).  `H` (SHA-256) and `verify` (Ed25519 `verify_sign`)
are ARBITRARY functions: the theorems are about the decision logic for every validator list, every
signature list (any length, order, multiset) and every block id.

Vocabulary (`nodeIdShort`, `toSign`: Model/Sig.lean; the rest: Proofs/Sig.lean):
  `nodeIdShort H key   = H (c6b41348 ++ key)`                     (calculate_node_id_short)
  `toSign blk          = 706e0bc5 ++ root_hash ++ file_hash`      (the signed payload)
  `validatorOf H nodes id`  = the LAST entry of `nodes` with `nodeIdShort H key = id`
  `weightOf H nodes id`     = that entry's weight (0 if none)
  `signedWeight H nodes sigs = Σ_{s∈sigs} weightOf s.nodeId`,  `totalWeight nodes = Σ_{v∈nodes} v.weight`
  `GoodSig … s`  = `validatorOf s.nodeId = some v ∧ verify v.key (toSign blk) s.signature`

Subtle points, visible in the statements:
  * two list entries with the same node id (same key twice, or an `H` collision): the map keeps the
    LAST one (its key verifies, its weight is credited) while BOTH weights count in the total — this
    can only lower the signed share.  With pairwise distinct node ids (`c12_accept_iff_distinct`)
    `validatorOf` is plain membership.
  * weights are naturals (`uint64` in the TL-B scheme); the comparison is `3·signed > 2·total` in ℕ,
    no division, no overflow.

After the theorems about the model: the decision lines regenerated from check_proof.py (section Src) and the whole
function regenerated and proved equal to the model (section SrcFull).
-/
import TonVerif.Proofs.Sig
import TonVerif.Generated.SigCheck
import TonVerif.Proofs.SrcSig

namespace TonVerif.Properties.C12
open TonVerif TonVerif.Model.Sig TonVerif.Proofs.Sig

/-- MAIN: the check returns iff every signature entry names a validator of the set (by node id) whose
key verifies it over this block's payload, the signer ids are pairwise distinct, and three times the
signed weight strictly exceeds twice the total weight. -/
theorem c12_accept_iff (H : Bytes → Bytes) (verify : Bytes → Bytes → Bytes → Bool)
    (nodes : List Validator) (sigs : List SigEntry) (blk : Blk) :
    checkBlockSignatures H verify nodes sigs blk = true ↔
      (∀ s ∈ sigs, GoodSig H verify nodes blk s) ∧ (sigs.map (·.nodeId)).Nodup ∧
      3 * signedWeight H nodes sigs > 2 * totalWeight nodes := by
  unfold checkBlockSignatures runSigs
  rw [buildNodes_eq]
  simp only
  cases hr : sigs.foldl (sigStep verify (mapOf H nodes) (toSign blk)) (some ([], 0)) with
  | none =>
    simp only [Bool.false_eq_true, false_iff]
    rintro ⟨h1, h2, _⟩
    have := (fold_some verify (mapOf H nodes) (toSign blk) sigs [] 0 _).2
      ⟨by simpa only [GoodSig, lookup_mapOf] using h1, h2, by simp, rfl⟩
    rw [hr] at this; cases this
  | some r =>
    obtain ⟨h1, h2, _, h4⟩ := (fold_some verify (mapOf H nodes) (toSign blk) sigs [] 0 r).1 hr
    subst h4
    simp only [decide_eq_true_eq, Nat.zero_add, lookup_mapOf]
    constructor
    · intro h
      refine ⟨by simpa only [GoodSig, lookup_mapOf] using h1, h2, ?_⟩
      unfold signedWeight weightOf; omega
    · rintro ⟨_, _, h⟩
      unfold signedWeight weightOf at h; omega

/-- `validatorOf` finds nothing iff no entry of the list has this node id. -/
theorem validatorOf_eq_none (H : Bytes → Bytes) (nodes : List Validator) (id : Bytes) :
    validatorOf H nodes id = none ↔ ∀ v ∈ nodes, nodeIdShort H v.key ≠ id := by
  unfold validatorOf
  simp only [List.find?_eq_none, List.mem_reverse, beq_iff_eq, ne_eq]
  exact ⟨fun h v hv e => h v hv e.symm, fun h v hv e => h v hv e.symm⟩

/-- a validator found by id is an entry of the list with that id. -/
theorem validatorOf_some_mem (H : Bytes → Bytes) (nodes : List Validator) (id : Bytes) (v : Validator)
    (h : validatorOf H nodes id = some v) : v ∈ nodes ∧ nodeIdShort H v.key = id := by
  unfold validatorOf at h
  have h1 := List.find?_some h
  have h2 := List.mem_of_find?_eq_some h
  simp only [beq_iff_eq] at h1
  exact ⟨by simpa using h2, h1.symm⟩

/-- with pairwise distinct node ids in the validator list, `validatorOf` is membership. -/
theorem validatorOf_distinct (H : Bytes → Bytes) (nodes : List Validator) (id : Bytes) (v : Validator)
    (hd : (nodes.map (fun v => nodeIdShort H v.key)).Nodup) :
    validatorOf H nodes id = some v ↔ v ∈ nodes ∧ nodeIdShort H v.key = id := by
  refine ⟨validatorOf_some_mem H nodes id v, ?_⟩
  rintro ⟨hm, hid⟩
  cases hf : validatorOf H nodes id with
  | none => exact absurd hid ((validatorOf_eq_none H nodes id).1 hf v hm)
  | some w =>
    obtain ⟨hw, hwid⟩ := validatorOf_some_mem H nodes id w hf
    rw [Proofs.Bits.inj_of_nodup_map _ nodes hd hw hm (hwid.trans hid.symm)]

/-- ACCEPTANCE CRITERION for validator lists with pairwise distinct node ids:
accepted iff every signature is by SOME member of the set with that id and verifies under the member's
key, signer ids are distinct, and `3·Σ signed > 2·Σ total`. -/
theorem c12_accept_iff_distinct (H : Bytes → Bytes) (verify : Bytes → Bytes → Bytes → Bool)
    (nodes : List Validator) (sigs : List SigEntry) (blk : Blk)
    (hd : (nodes.map (fun v => nodeIdShort H v.key)).Nodup) :
    checkBlockSignatures H verify nodes sigs blk = true ↔
      (∀ s ∈ sigs, ∃ v ∈ nodes, nodeIdShort H v.key = s.nodeId ∧
          verify v.key (toSign blk) s.signature = true) ∧
      (sigs.map (·.nodeId)).Nodup ∧
      3 * signedWeight H nodes sigs > 2 * totalWeight nodes := by
  rw [c12_accept_iff]
  have : ∀ s, GoodSig H verify nodes blk s ↔ ∃ v ∈ nodes, nodeIdShort H v.key = s.nodeId ∧
      verify v.key (toSign blk) s.signature = true := by
    intro s
    unfold GoodSig
    constructor
    · rintro ⟨v, hv, hver⟩
      obtain ⟨h1, h2⟩ := (validatorOf_distinct H nodes s.nodeId v hd).1 hv
      exact ⟨v, h1, h2, hver⟩
    · rintro ⟨v, h1, h2, hver⟩
      exact ⟨v, (validatorOf_distinct H nodes s.nodeId v hd).2 ⟨h1, h2⟩, hver⟩
  simp only [this]

/-- combined weight of the DISTINCT members of the validator list whose node id occurs among the signer ids
(a sum over the validator list, each member at most once — not a sum over signature entries). -/
def membersWeight (H : Bytes → Bytes) (nodes : List Validator) (sigs : List SigEntry) : Nat :=
  sumWhere (fun v => nodeIdShort H v.key) (·.weight) (sigs.map (·.nodeId)) nodes

/-- with distinct node ids in the set, distinct signer ids and known signers, the weight the loop adds up
entry by entry IS the combined weight of the distinct members who signed. -/
theorem c12_signed_weight_members (H : Bytes → Bytes) (nodes : List Validator) (sigs : List SigEntry)
    (hd : (nodes.map (fun v => nodeIdShort H v.key)).Nodup) (hs : (sigs.map (·.nodeId)).Nodup)
    (hk : ∀ s ∈ sigs, ∃ v ∈ nodes, nodeIdShort H v.key = s.nodeId) :
    signedWeight H nodes sigs = membersWeight H nodes sigs := by
  induction sigs with
  | nil =>
    have : nodes.filter (fun _ => false) = [] := List.filter_eq_nil_iff.2 (by simp)
    simp [signedWeight, membersWeight, sumWhere, this]
  | cons s ss ih =>
    simp only [List.map_cons, List.nodup_cons] at hs
    obtain ⟨v, hv, hid⟩ := hk s (List.mem_cons_self ..)
    have ih' := ih hs.2 (fun x hx => hk x (List.mem_cons_of_mem _ hx))
    have hw : weightOf H nodes s.nodeId = v.weight := by
      unfold weightOf
      rw [(validatorOf_distinct H nodes s.nodeId v hd).2 ⟨hv, hid⟩]; rfl
    unfold signedWeight membersWeight at ih' ⊢
    simp only [List.map_cons, List.sum_cons, hw, ih']
    rw [← hid]
    exact (sumWhere_cons (fun v => nodeIdShort H v.key) (·.weight) (ss.map (·.nodeId)) nodes hd v hv
      (by rw [hid]; exact hs.1)).symm

/-- the property in its own words, for validator sets with pairwise distinct node ids: accepted iff every entry
is a valid signature over the block's payload by a member of the set, no signer id occurs twice, and the
COMBINED WEIGHT OF THE DISTINCT MEMBERS WHO SIGNED exceeds two thirds of the total (`3·signed > 2·total`). -/
theorem c12_accept_iff_members (H : Bytes → Bytes) (verify : Bytes → Bytes → Bytes → Bool)
    (nodes : List Validator) (sigs : List SigEntry) (blk : Blk)
    (hd : (nodes.map (fun v => nodeIdShort H v.key)).Nodup) :
    checkBlockSignatures H verify nodes sigs blk = true ↔
      (∀ s ∈ sigs, ∃ v ∈ nodes, nodeIdShort H v.key = s.nodeId ∧
          verify v.key (toSign blk) s.signature = true) ∧
      (sigs.map (·.nodeId)).Nodup ∧
      3 * membersWeight H nodes sigs > 2 * totalWeight nodes := by
  rw [c12_accept_iff_distinct H verify nodes sigs blk hd]
  refine and_congr_right fun h1 => and_congr_right fun h2 => ?_
  rw [c12_signed_weight_members H nodes sigs hd h2 (fun s hs => let ⟨v, hv, hid, _⟩ := h1 s hs; ⟨v, hv, hid⟩)]

/-- the signed payload determines the block's hashes: for 32-byte root/file hashes, equal payloads mean equal
(root_hash, file_hash) — a signature checked here was checked against THIS block's identifier hashes.
(workchain/shard/seqno are not part of the payload, as in the reference node.) -/
theorem c12_payload_injective (b b' : Blk) (hr : b.rootHash.length = 32) (hr' : b'.rootHash.length = 32)
    (h : toSign b = toSign b') : b = b' := by
  cases b with | mk r f => cases b' with | mk r' f' =>
  simp only [toSign, List.append_assoc, List.append_cancel_left_eq] at h
  have := List.append_inj h (by simpa using hr.trans hr'.symm)
  simp [this.1, this.2]

/-- rejected if any entry fails verification under the key its node id denotes. -/
theorem c12_reject_invalid (H : Bytes → Bytes) (verify : Bytes → Bytes → Bytes → Bool)
    (nodes : List Validator) (sigs : List SigEntry) (blk : Blk) (s : SigEntry) (v : Validator)
    (hs : s ∈ sigs) (hv : validatorOf H nodes s.nodeId = some v)
    (hbad : verify v.key (toSign blk) s.signature = false) :
    checkBlockSignatures H verify nodes sigs blk = false := by
  rw [← Bool.not_eq_true, c12_accept_iff]
  rintro ⟨h, _⟩
  obtain ⟨w, hw, hver⟩ := h s hs
  rw [hv] at hw; cases hw
  rw [hbad] at hver; cases hver

/-- rejected if any entry's node id belongs to no validator of the set (unknown / foreign signer),
whatever its signature. -/
theorem c12_reject_unknown (H : Bytes → Bytes) (verify : Bytes → Bytes → Bytes → Bool)
    (nodes : List Validator) (sigs : List SigEntry) (blk : Blk) (s : SigEntry)
    (hs : s ∈ sigs) (hu : ∀ v ∈ nodes, nodeIdShort H v.key ≠ s.nodeId) :
    checkBlockSignatures H verify nodes sigs blk = false := by
  rw [← Bool.not_eq_true, c12_accept_iff]
  rintro ⟨h, _⟩
  obtain ⟨w, hw, _⟩ := h s hs
  rw [(validatorOf_eq_none H nodes s.nodeId).2 hu] at hw; cases hw

/-- rejected if two entries (at different positions) carry the same node id — a validator is never
counted twice, whether the repeated entry is a copy or a different byte string. -/
theorem c12_reject_duplicate (H : Bytes → Bytes) (verify : Bytes → Bytes → Bytes → Bool)
    (nodes : List Validator) (sigs : List SigEntry) (blk : Blk) (i j : Nat) (hij : i < j)
    (hj : j < sigs.length) (hsame : (sigs[i]'(by omega)).nodeId = (sigs[j]'hj).nodeId) :
    checkBlockSignatures H verify nodes sigs blk = false := by
  rw [← Bool.not_eq_true, c12_accept_iff]
  rintro ⟨_, hn, _⟩
  rw [List.Nodup, List.pairwise_iff_getElem] at hn
  have := hn i j (by simp; omega) (by simpa using hj) hij
  simp only [List.getElem_map] at this
  exact this hsame

/-- an empty validator set accepts nothing, not even the empty signature list. -/
theorem c12_reject_empty_set (H : Bytes → Bytes) (verify : Bytes → Bytes → Bytes → Bool)
    (sigs : List SigEntry) (blk : Blk) :
    checkBlockSignatures H verify [] sigs blk = false := by
  rw [← Bool.not_eq_true, c12_accept_iff]
  rintro ⟨h, _, hw⟩
  cases sigs with
  | nil => simp [signedWeight, totalWeight] at hw
  | cons s ss =>
    obtain ⟨v, hv, _⟩ := h s (List.mem_cons_self ..)
    simp [validatorOf] at hv

/-- rejected when the signed weight is exactly two thirds of the total (or anything not strictly above). -/
theorem c12_reject_two_thirds_exact (H : Bytes → Bytes) (verify : Bytes → Bytes → Bytes → Bool)
    (nodes : List Validator) (sigs : List SigEntry) (blk : Blk)
    (hw : 3 * signedWeight H nodes sigs ≤ 2 * totalWeight nodes) :
    checkBlockSignatures H verify nodes sigs blk = false := by
  rw [← Bool.not_eq_true, c12_accept_iff]
  rintro ⟨_, _, h⟩
  omega

/-- completeness: every signature list that meets the condition is accepted. -/
theorem c12_accept_all_valid (H : Bytes → Bytes) (verify : Bytes → Bytes → Bytes → Bool)
    (nodes : List Validator) (sigs : List SigEntry) (blk : Blk)
    (hgood : ∀ s ∈ sigs, GoodSig H verify nodes blk s) (hnd : (sigs.map (·.nodeId)).Nodup)
    (hw : 3 * signedWeight H nodes sigs > 2 * totalWeight nodes) :
    checkBlockSignatures H verify nodes sigs blk = true :=
  (c12_accept_iff H verify nodes sigs blk).2 ⟨hgood, hnd, hw⟩

/-- the verdict does not depend on the order of the signature entries. -/
theorem c12_order_irrelevant (H : Bytes → Bytes) (verify : Bytes → Bytes → Bytes → Bool)
    (nodes : List Validator) (sigs sigs' : List SigEntry) (blk : Blk) (hp : sigs.Perm sigs') :
    checkBlockSignatures H verify nodes sigs blk = checkBlockSignatures H verify nodes sigs' blk := by
  rw [Bool.eq_iff_iff, c12_accept_iff, c12_accept_iff]
  have h1 : (∀ s ∈ sigs, GoodSig H verify nodes blk s) ↔ (∀ s ∈ sigs', GoodSig H verify nodes blk s) :=
    ⟨fun h s hs => h s (hp.mem_iff.2 hs), fun h s hs => h s (hp.mem_iff.1 hs)⟩
  have h2 : (sigs.map (·.nodeId)).Nodup ↔ (sigs'.map (·.nodeId)).Nodup := (hp.map _).nodup_iff
  have h3 : signedWeight H nodes sigs = signedWeight H nodes sigs' := by
    unfold signedWeight
    exact (hp.map _).sum_nat
  rw [h1, h2, h3]

/-! ## Non-vacuity and the examples of DESIGN §6

Toy primitives: `H` = identity (node id = magic ++ key), a signature verifies iff it equals
`key ++ msg`.  Validators `0..n-1` with key `[i]`, all weights 1. -/

def toyH : Bytes → Bytes := id
def toyVerify (key msg sig : Bytes) : Bool := sig == key ++ msg
def toyBlk : Blk := ⟨[1, 2, 3], [4, 5]⟩
def toyNodes (n : Nat) : List Validator := (List.range n).map (fun i => ⟨[i], 1⟩)
def toySig (i : Nat) : SigEntry := ⟨nodeIdMagic ++ [i], [i] ++ toSign toyBlk⟩
def toySigs (k : Nat) : List SigEntry := (List.range k).map toySig

/-- 7 of 10 equal weights: accepted (21 > 20). -/
example : checkBlockSignatures toyH toyVerify (toyNodes 10) (toySigs 7) toyBlk = true := by decide
/-- 6 of 9 equal weights — exactly two thirds: rejected (18 > 18 fails). -/
example : checkBlockSignatures toyH toyVerify (toyNodes 9) (toySigs 6) toyBlk = false := by decide
/-- 7 of 9: accepted; the same 7 with one entry repeated: rejected; one validator seven times: rejected. -/
example : checkBlockSignatures toyH toyVerify (toyNodes 9) (toySigs 7) toyBlk = true := by decide
example : checkBlockSignatures toyH toyVerify (toyNodes 9) (toySigs 7 ++ [toySig 3]) toyBlk = false := by decide
example : checkBlockSignatures toyH toyVerify (toyNodes 10) (List.replicate 7 (toySig 0)) toyBlk = false := by decide
/-- a foreign signer (id 11 not in the set) or an altered signature spoils an otherwise sufficient list. -/
example : checkBlockSignatures toyH toyVerify (toyNodes 10) (toySigs 8 ++ [toySig 11]) toyBlk = false := by decide
example : checkBlockSignatures toyH toyVerify (toyNodes 10)
    (toySigs 8 ++ [⟨nodeIdMagic ++ [9], [9] ++ toSign ⟨[1, 2, 3], [4, 6]⟩⟩]) toyBlk = false := by decide
/-- empty set, empty list: rejected. -/
example : checkBlockSignatures toyH toyVerify [] [] toyBlk = false := by decide
/-- same key twice in the validator list (weights 5 then 1): the map keeps the last (weight 1) but the
total counts both (5 + 1 + 1 = 7); one signature of that key is credited 1, not 5 and not 6. -/
example : signedWeight toyH [⟨[0], 5⟩, ⟨[0], 1⟩, ⟨[1], 1⟩] [toySig 0] = 1 ∧
    totalWeight [⟨[0], 5⟩, ⟨[0], 1⟩, ⟨[1], 1⟩] = 7 := by decide
/-- the hypotheses of `c12_accept_all_valid` / `c12_accept_iff_distinct` are met by the 7-of-10 instance. -/
example : (∀ s ∈ toySigs 7, GoodSig toyH toyVerify (toyNodes 10) toyBlk s) ∧
    ((toySigs 7).map (·.nodeId)).Nodup ∧
    3 * signedWeight toyH (toyNodes 10) (toySigs 7) > 2 * totalWeight (toyNodes 10) ∧
    ((toyNodes 10).map (fun v => nodeIdShort toyH v.key)).Nodup :=
  ⟨((c12_accept_iff toyH toyVerify (toyNodes 10) (toySigs 7) toyBlk).1 (by decide)).1,
   by decide, by decide, by decide⟩
example : membersWeight toyH (toyNodes 10) (toySigs 7) = 7 ∧ signedWeight toyH (toyNodes 10) (toySigs 7) = 7 := by decide
example : toyBlk.rootHash.length = 3 ∧ toSign toyBlk = [0x70, 0x6e, 0x0b, 0xc5, 1, 2, 3, 4, 5] := by decide
/-- the hypotheses of the rejection corollaries are met by concrete instances. -/
example : validatorOf toyH (toyNodes 10) (nodeIdMagic ++ [9]) = some ⟨[9], 1⟩ ∧
    toyVerify [9] (toSign toyBlk) ([9] ++ toSign ⟨[1, 2, 3], [4, 6]⟩) = false := by decide
example : ∀ v ∈ toyNodes 10, nodeIdShort toyH v.key ≠ (toySig 11).nodeId := by decide
example : 3 * signedWeight toyH (toyNodes 9) (toySigs 6) ≤ 2 * totalWeight (toyNodes 9) := by decide

/-! ## Source-regenerated decision lines (`Generated/SigCheck.lean`: re-translated from proof/check_proof.py on every run)

`Generated.sigAccept signed total` is the test of the only `if …: return` of `check_block_signatures` (the acceptance test
after both loops), `sigUnknown` / `sigDuplicate` / `sigInvalid` are the tests of the three `if …: raise ProofError` of the
signature loop, read over the truth values of `node is None`, `node_id in seen`, `result`. -/
section Src
set_option linter.unusedSimpArgs false

/-- the acceptance line of the source is the strict two-thirds test, for ALL weights (unbounded naturals, no division):
`check_block_signatures` returns after the loops iff `3·signed > 2·total`; at exactly two thirds it does not.  (`sigAccept_sideOk`: the
condition the translator emits beside each regenerated `f`, that no Python-int subtraction or division in it leaves `Nat`; `True` here.) -/
theorem c12_src_threshold (signed total : Nat) :
    Generated.sigAccept_sideOk signed total ∧
    Generated.sigAccept signed total = decide (signed * 3 > total * 2) ∧
    (Generated.sigAccept signed total = true ↔ 3 * signed > 2 * total) := by
  refine ⟨by simp only [Generated.sigAccept_sideOk], ?_, ?_⟩
  · simp only [Generated.sigAccept, decide_eq_decide] <;> omega
  · simp only [Generated.sigAccept, decide_eq_true_eq] <;> omega

/-- the three rejection lines of the signature loop raise exactly on an unknown id, on an id seen before, on a failed
verification (polarity of each test, for both truth values). -/
theorem c12_src_loop_tests (missing seen ok : Bool) :
    (Generated.sigUnknown_sideOk missing ∧ Generated.sigDuplicate_sideOk seen ∧ Generated.sigInvalid_sideOk ok) ∧
    Generated.sigUnknown missing = missing ∧ Generated.sigDuplicate seen = seen ∧ Generated.sigInvalid ok = !ok := by
  refine ⟨⟨by simp only [Generated.sigUnknown_sideOk], by simp only [Generated.sigDuplicate_sideOk],
    by simp only [Generated.sigInvalid_sideOk]⟩, ?_, ?_, ?_⟩
  · cases missing <;> simp [Generated.sigUnknown]
  · cases seen <;> simp [Generated.sigDuplicate]
  · cases ok <;> simp [Generated.sigInvalid]

/-- the hand model (what `c12_accept_iff` and its corollaries are proved about) decides with exactly these source lines:
the loop body raises by the three regenerated tests in the order of the code, and the final verdict is the regenerated
acceptance test applied to the two accumulated weights. -/
theorem c12_src_model (H : Bytes → Bytes) (verify : Bytes → Bytes → Bytes → Bool)
    (nodes : List Validator) (sigs : List SigEntry) (blk : Blk) (map : NodeMap) (msg : Bytes)
    (seen : List Bytes) (signed : Nat) (sig : SigEntry) :
    checkBlockSignatures H verify nodes sigs blk =
      (match runSigs verify (buildNodes H nodes).2 (toSign blk) sigs with
       | none => false
       | some (_, sw) => Generated.sigAccept sw (buildNodes H nodes).1) ∧
    sigStep verify map msg (some (seen, signed)) sig =
      (if Generated.sigUnknown (map.lookup sig.nodeId).isNone then none
       else if Generated.sigDuplicate (decide (sig.nodeId ∈ seen)) then none
       else match map.lookup sig.nodeId with
         | none => none
         | some node =>
           if Generated.sigInvalid (verify node.key msg sig.signature) then none
           else some (sig.nodeId :: seen, signed + node.weight)) := by
  constructor
  · have hA : ∀ s t, Generated.sigAccept s t = decide (s * 3 > t * 2) := fun s t => (c12_src_threshold s t).2.1
    simp only [checkBlockSignatures, hA]
    cases runSigs verify (buildNodes H nodes).2 (toSign blk) sigs with
    | none => rfl
    | some r => rfl
  · have hU : ∀ b, Generated.sigUnknown b = b := fun b => (c12_src_loop_tests b false false).2.1
    have hD : ∀ b, Generated.sigDuplicate b = b := fun b => (c12_src_loop_tests false b false).2.2.1
    have hI : ∀ b, Generated.sigInvalid b = !b := fun b => (c12_src_loop_tests false false b).2.2.2
    simp only [hU, hD, hI, sigStep]
    cases hl : map.lookup sig.nodeId with
    | none => simp
    | some node =>
      by_cases hs : sig.nodeId ∈ seen <;> cases hv : verify node.key msg sig.signature <;> simp [hs, hv]

/-- concrete values of the regenerated tests on both sides of the threshold (6 of 9 is exactly two thirds; 2^63-weights). -/
example : Generated.sigAccept 7 10 = true ∧ Generated.sigAccept 6 9 = false ∧ Generated.sigAccept 7 9 = true ∧
    Generated.sigAccept (2 * 2^63) (3 * 2^63) = false ∧ Generated.sigAccept (2 * 2^63 + 1) (3 * 2^63) = true ∧
    Generated.sigAccept 0 0 = false ∧ Generated.sigDuplicate true = true ∧ Generated.sigInvalid false = true := by decide

end Src

/-! ## The WHOLE function regenerated from the source (`Generated/SigFull.lean`: `check_block_signatures` and
`calculate_node_id_short` re-translated from proof/check_proof.py on every run by harness/translate/pyfunc.py)

`Generated.SigFull.check_block_signatures H verify nodes signatures blk : Option Unit` is the function body statement by
statement: the loop over `nodes` (weight total, `node_map[calculate_node_id_short(key)] = node`), the payload, the loop over
`signatures` (`node_map.get`, the three `raise`, `seen.add`, `verify_sign`, weight accumulation) and the threshold; `some ()` =
returns, `none` = raises.  `H` (SHA-256) and `verify` (`verify_sign`) are parameters.  Declared reading of the arguments
(harness/translate/sigfull.py): a `ValidatorDescr` is read through `.weight` (a natural) and `.public_key.pubkey`, a signature
entry through `bytes.fromhex(sig['node_id_short'])` and `sig['signature']`, the block id through `.root_hash` / `.file_hash`. -/
section SrcFull
open TonVerif.Generated.SigFull

/-- the regenerated function IS the hand model: for every validator list, signature list, block id, hash function and
verification function it returns exactly when `Model.Sig.checkBlockSignatures` is `true` and raises otherwise; the regenerated
`calculate_node_id_short` is `sha256(c6b41348 ++ key)` and never raises. -/
theorem c12_src_function (H : Bytes → Bytes) (verify : Bytes → Bytes → Bytes → Bool)
    (nodes : List Validator) (sigs : List SigEntry) (blk : Blk) (key : Bytes) :
    check_block_signatures H verify nodes sigs blk =
      (if checkBlockSignatures H verify nodes sigs blk then some () else none) ∧
    calculate_node_id_short H key = some (nodeIdShort H key) :=
  ⟨Proofs.SrcSig.src_check_block_signatures_eq H verify nodes sigs blk, Proofs.SrcSig.src_node_id_eq H key⟩

/-- `c12_accept_iff` for the regenerated function: `check_block_signatures` (as re-translated from the current source)
returns iff every signature entry names a validator of the set whose key verifies it over this block's payload, the signer ids
are pairwise distinct, and three times the signed weight strictly exceeds twice the total weight. -/
theorem c12_src_accept_iff (H : Bytes → Bytes) (verify : Bytes → Bytes → Bytes → Bool)
    (nodes : List Validator) (sigs : List SigEntry) (blk : Blk) :
    check_block_signatures H verify nodes sigs blk = some () ↔
      (∀ s ∈ sigs, GoodSig H verify nodes blk s) ∧ (sigs.map (·.nodeId)).Nodup ∧
      3 * signedWeight H nodes sigs > 2 * totalWeight nodes := by
  rw [Proofs.SrcSig.src_check_block_signatures_eq, ← c12_accept_iff]
  cases checkBlockSignatures H verify nodes sigs blk <;> simp

/-- the property in its own words for the regenerated function (validator sets with pairwise distinct node ids): it returns
iff every entry is a valid signature by a member, no signer id occurs twice and the combined weight of the DISTINCT members who
signed exceeds two thirds of the total. -/
theorem c12_src_accept_iff_members (H : Bytes → Bytes) (verify : Bytes → Bytes → Bytes → Bool)
    (nodes : List Validator) (sigs : List SigEntry) (blk : Blk)
    (hd : (nodes.map (fun v => nodeIdShort H v.key)).Nodup) :
    check_block_signatures H verify nodes sigs blk = some () ↔
      (∀ s ∈ sigs, ∃ v ∈ nodes, nodeIdShort H v.key = s.nodeId ∧
          verify v.key (toSign blk) s.signature = true) ∧
      (sigs.map (·.nodeId)).Nodup ∧
      3 * membersWeight H nodes sigs > 2 * totalWeight nodes := by
  rw [Proofs.SrcSig.src_check_block_signatures_eq, ← c12_accept_iff_members H verify nodes sigs blk hd]
  cases checkBlockSignatures H verify nodes sigs blk <;> simp

/-- the regenerated function raises (`none`) on: a signed weight of at most two thirds (in particular exactly two thirds), two
entries with the same node id, an entry of an unknown signer, an entry whose signature does not verify, an empty validator set. -/
theorem c12_src_rejects (H : Bytes → Bytes) (verify : Bytes → Bytes → Bytes → Bool)
    (nodes : List Validator) (sigs : List SigEntry) (blk : Blk) :
    (3 * signedWeight H nodes sigs ≤ 2 * totalWeight nodes → check_block_signatures H verify nodes sigs blk = none) ∧
    (¬ (sigs.map (·.nodeId)).Nodup → check_block_signatures H verify nodes sigs blk = none) ∧
    ((∃ s ∈ sigs, ∀ v ∈ nodes, nodeIdShort H v.key ≠ s.nodeId) → check_block_signatures H verify nodes sigs blk = none) ∧
    ((∃ s ∈ sigs, ∃ v, validatorOf H nodes s.nodeId = some v ∧ verify v.key (toSign blk) s.signature = false) →
      check_block_signatures H verify nodes sigs blk = none) ∧
    check_block_signatures H verify [] sigs blk = none := by
  have hn : ∀ ns, checkBlockSignatures H verify ns sigs blk = false → check_block_signatures H verify ns sigs blk = none := by
    intro ns h; rw [Proofs.SrcSig.src_check_block_signatures_eq, h]; rfl
  refine ⟨fun h => hn _ (c12_reject_two_thirds_exact H verify nodes sigs blk h), fun h => hn _ ?_, ?_, ?_,
    hn _ (c12_reject_empty_set H verify sigs blk)⟩
  · rw [← Bool.not_eq_true, c12_accept_iff]; exact fun ⟨_, h2, _⟩ => h h2
  · rintro ⟨s, hs, hu⟩; exact hn _ (c12_reject_unknown H verify nodes sigs blk s hs hu)
  · rintro ⟨s, hs, v, hv, hbad⟩; exact hn _ (c12_reject_invalid H verify nodes sigs blk s v hs hv hbad)

/-- the regenerated function accepts every list meeting the condition, in any order. -/
theorem c12_src_accept_all_valid (H : Bytes → Bytes) (verify : Bytes → Bytes → Bytes → Bool)
    (nodes : List Validator) (sigs sigs' : List SigEntry) (blk : Blk) (hp : sigs.Perm sigs')
    (hgood : ∀ s ∈ sigs, GoodSig H verify nodes blk s) (hnd : (sigs.map (·.nodeId)).Nodup)
    (hw : 3 * signedWeight H nodes sigs > 2 * totalWeight nodes) :
    check_block_signatures H verify nodes sigs' blk = some () := by
  rw [Proofs.SrcSig.src_check_block_signatures_eq, ← c12_order_irrelevant H verify nodes sigs sigs' blk hp,
    c12_accept_all_valid H verify nodes sigs blk hgood hnd hw]
  rfl

/-- non-vacuity: the regenerated function itself, evaluated on the DESIGN §6 instances (toy `H`, `verify`): 7 of 10 returns,
6 of 9 (exactly two thirds) raises, 7 of 9 returns, 7 of 9 plus a repeated entry raises, one validator seven times raises, a
foreign signer raises, the empty set raises. -/
example : check_block_signatures toyH toyVerify (toyNodes 10) (toySigs 7) toyBlk = some () ∧
    check_block_signatures toyH toyVerify (toyNodes 9) (toySigs 6) toyBlk = none ∧
    check_block_signatures toyH toyVerify (toyNodes 9) (toySigs 7) toyBlk = some () ∧
    check_block_signatures toyH toyVerify (toyNodes 9) (toySigs 7 ++ [toySig 3]) toyBlk = none ∧
    check_block_signatures toyH toyVerify (toyNodes 10) (List.replicate 7 (toySig 0)) toyBlk = none ∧
    check_block_signatures toyH toyVerify (toyNodes 10) (toySigs 8 ++ [toySig 11]) toyBlk = none ∧
    check_block_signatures toyH toyVerify [] [] toyBlk = none := by decide
/-- the hypotheses of `c12_src_accept_all_valid` are met by the 7-of-10 instance in reversed order. -/
example : (toySigs 7).Perm (toySigs 7).reverse ∧
    check_block_signatures toyH toyVerify (toyNodes 10) (toySigs 7).reverse toyBlk = some () :=
  ⟨(List.reverse_perm _).symm, by decide⟩

end SrcFull

end TonVerif.Properties.C12
