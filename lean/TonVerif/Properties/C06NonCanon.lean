/-
C06, reading NON-CANONICAL variable-length integers.

TL-B: `var_uint$_ {n:#} len:(#< n) value:(uint (len * 8)) = VarUInteger n;` (`var_int$_ … value:(int (len * 8))`).
`len` is a field of its own: EVERY `len` with `value < 2^(8·len)` (signed: `value` representable in `len` bytes of two's
complement) is a valid encoding of `value`, not only the minimal one that `store_var_uint` / `store_coins` / `store_var_int`
write (`c06_varint_minimal`).  The theorems of Properties/C06.lean about loads speak of what the stores wrote; these speak of
every legal encoding: `load_var_uint` / `load_coins` / `load_var_int` return the value and consume exactly the `len` field and
`len` bytes, whatever follows - for the hand model and, through `c06_src_load`'s ties, for the methods REGENERATED from slice.py.
-/
import TonVerif.Properties.C06

namespace TonVerif.Properties.C06NonCanon
open TonVerif TonVerif.Model TonVerif.Spec.Tlb TonVerif.Proofs.Builder TonVerif.Proofs.Slice TonVerif.Proofs.Bits
variable {R : Type}

/-- `load_var_uint(k)` on ANY legal encoding: a `k`-bit length field holding `len` (`len < 2^k`), then `v` written as an
unsigned `8·len`-bit number (`v < 2^(8·len)`; nothing says `len` is minimal), then any continuation `kb` / `kr`: the call returns
`v` and leaves exactly the continuation. -/
theorem c06_var_uint_any_len (k len : Nat) (v : Int) (hk : 0 < k) (hlen : len < 2 ^ k) (hv : FitsUint (8 * len) v)
    (kb : Bits) (kr : List R) :
    SOp.loadVarUint k ⟨uintBits k len ++ (uintBits (8 * len) v.toNat ++ kb), kr⟩ = (⟨kb, kr⟩, some v) := by
  rw [← List.append_assoc]
  exact (reads_loadVarUint k len v hk hlen hv).run kb kr

/-- `load_coins()` = `load_var_uint(4)`: `Grams` written with ANY `len < 16` that holds the amount. -/
theorem c06_coins_any_len (len : Nat) (v : Int) (hlen : len < 16) (hv : FitsUint (8 * len) v) (kb : Bits) (kr : List R) :
    SOp.loadCoins ⟨uintBits 4 len ++ (uintBits (8 * len) v.toNat ++ kb), kr⟩ = (⟨kb, kr⟩, some v) :=
  c06_var_uint_any_len 4 len v (by omega) (by omega) hv kb kr

/-- `load_var_int(k)` on ANY legal encoding: length field `len`, then `v` in `8·len` bits of two's complement. -/
theorem c06_var_int_any_len (k len : Nat) (v : Int) (hk : 0 < k) (hlen : len < 2 ^ k) (hv : FitsInt (8 * len) v)
    (kb : Bits) (kr : List R) :
    SOp.loadVarInt k ⟨uintBits k len ++ (intBits (8 * len) v ++ kb), kr⟩ = (⟨kb, kr⟩, some v) := by
  rw [← List.append_assoc]
  exact (reads_loadVarInt k len v hk hlen hv).run kb kr

section Src
open TonVerif.Proofs.SrcSlice TonVerif.Generated.SliceOps

/-- the same for the methods REGENERATED from slice.py (Generated/SliceOps.lean): on a slice whose remaining bits are a legal
`VarUInteger` encoding with ANY `len` followed by `kb`, `load_var_uint` returns `v` and leaves exactly `kb` (references and
`ref_offset` as seen through `view` unchanged); likewise `load_coins` and `load_var_int`. -/
theorem c06_src_var_any_len (k len : Nat) (hk : 0 < k) (hlen : len < 2 ^ k) (kb : Bits) (refs : List R) (off : Nat) :
    (∀ v : Int, FitsUint (8 * len) v →
      viewR (fun (n : Nat) => (n : Int)) (load_var_uint k (⟨uintBits k len ++ (uintBits (8 * len) v.toNat ++ kb), refs, off⟩ : Py.SliceSt R))
        = (⟨kb, refs.drop off⟩, some v)) ∧
    (∀ v : Int, k = 4 → FitsUint (8 * len) v →
      viewR (fun (n : Nat) => (n : Int)) (load_coins (⟨uintBits 4 len ++ (uintBits (8 * len) v.toNat ++ kb), refs, off⟩ : Py.SliceSt R))
        = (⟨kb, refs.drop off⟩, some v)) ∧
    (∀ v : Int, FitsInt (8 * len) v →
      viewR id (load_var_int k (⟨uintBits k len ++ (intBits (8 * len) v ++ kb), refs, off⟩ : Py.SliceSt R))
        = (⟨kb, refs.drop off⟩, some v)) := by
  refine ⟨fun v hv => ?_, fun v h4 hv => ?_, fun v hv => ?_⟩
  · rw [src_load_var_uint_eq]; exact c06_var_uint_any_len k len v hk hlen hv kb _
  · subst h4; rw [src_load_coins_eq]; exact c06_coins_any_len len v (by omega) hv kb _
  · rw [src_load_var_int_eq]; exact c06_var_int_any_len k len v hk hlen hv kb _

end Src

/-- non-vacuity: 5 nanograms written with `len = 3` (`0011 00000000 00000000 00000101`) followed by the bit `1`: `load_coins`
returns 5 and leaves `[1]`; and the hypotheses of the general statements hold for it. -/
example : SOp.loadCoins (R := Unit) ⟨uintBits 4 3 ++ (uintBits 24 5 ++ [true]), []⟩ = (⟨[true], []⟩, some 5) ∧
    (3 < 16 ∧ FitsUint (8 * 3) 5) ∧ FitsInt (8 * 2) (-1) :=
  ⟨c06_coins_any_len 3 5 (by omega) (by unfold FitsUint; omega) [true] [], ⟨by omega, by unfold FitsUint; omega⟩,
    by unfold FitsInt; omega⟩

end TonVerif.Properties.C06NonCanon
