/-
C06 — typed Builder stores and Slice loads are mutually inverse and bit-exact.

Model: `Model/Builder.lean` (`BOp`: builder state after the call + "returned normally"; `SOp`: slice
state after the call + result, `none` = raised).  `TVal` has one constructor per typed `store_*` call,
`TVal.store` is that call, `Kind.load` / `Kind.preload` are the matching `load_*` / `preload_*` calls.
Spec: `Spec/TlbPrim.lean` (TL-B encodings written from the TL-B rules), `Spec/TlbVal.lean`
(`enc`/`refsOf` of a typed value, `InRange`, `WF`).  `Inv b` = the builder is within capacity
(1023 bits, 4 refs) — an invariant of every reachable builder (C07 `c07_invariant`).
All statements quantify over EVERY width, value, byte length class, address form and continuation.
-/
import TonVerif.Proofs.Typed
import TonVerif.Proofs.Snake
import TonVerif.Proofs.SnakeDepth
import TonVerif.Proofs.SrcArith
import TonVerif.Generated.VarLen
import TonVerif.Proofs.SrcTyped
import TonVerif.Proofs.SrcSnake
import TonVerif.Proofs.SrcForms

namespace TonVerif.Properties.C06
open TonVerif TonVerif.Model TonVerif.Spec.Tlb TonVerif.Proofs.Builder TonVerif.Proofs.Slice
  TonVerif.Proofs.Typed TonVerif.Proofs.Snake TonVerif.Proofs.Bits TonVerif.Proofs.SnakeDepth TonVerif.Proofs.OrdCell
variable {R : Type}

/-- bit-exactness: a typed store that returns normally has appended exactly the TL-B encoding of the
value to the data bits and exactly its references to the reference list. -/
theorem c06_bits_exact (tv : TVal R) (b b' : Builder R) (hb : Inv b) (h : tv.store b = (b', true)) :
    b'.bits = b.bits ++ enc tv ∧ b'.refs = b.refs ++ refsOf tv := by
  obtain ⟨_, rfl⟩ := (store_spec tv).of_eq hb h
  exact ⟨rfl, rfl⟩

/-- store → load: if `store_X(v)` returned normally on builder `b`, then a slice positioned at the
first bit / reference it wrote, followed by ANY continuation `kb`/`kr` (whatever is stored later),
`load_X` returns `v` and leaves exactly the continuation. (`WF`: `bytes` hold bytes, hash parts have
32 bytes, a string read with an explicit length is non-empty.) -/
theorem c06_store_load (tv : TVal R) (b b' : Builder R) (hb : Inv b) (h : tv.store b = (b', true))
    (hw : WF tv) (kb : Bits) (kr : List R) :
    tv.kind.load ⟨b'.bits.drop b.bits.length ++ kb, b'.refs.drop b.refs.length ++ kr⟩
      = (⟨kb, kr⟩, some tv) := by
  obtain ⟨hr, rfl⟩ := (store_spec tv).of_eq hb h
  rw [List.drop_left, List.drop_left]
  exact load_rt tv hr hw kb kr

/-- the same, for a value in range, independent of any builder: reading the TL-B encoding back. -/
theorem c06_decode_encode (tv : TVal R) (hr : InRange tv) (hw : WF tv) (kb : Bits) (kr : List R) :
    tv.kind.load ⟨enc tv ++ kb, refsOf tv ++ kr⟩ = (⟨kb, kr⟩, some tv) :=
  load_rt tv hr hw kb kr

/-- sequences (induction over the list): storing any list of typed values into an empty builder, if
every store returns normally, and loading the kinds back in the same order from the resulting cell
returns the same values and leaves no bit and no reference unread. -/
theorem c06_sequence (tvs : List (TVal R)) (b : Builder R) (h : storeAll tvs Builder.empty = (b, true))
    (hw : ∀ tv ∈ tvs, WF tv) :
    loadAll (tvs.map TVal.kind) ⟨b.bits, b.refs⟩ = (⟨[], []⟩, some tvs) := by
  obtain ⟨hr, rfl⟩ := (storeAll_spec tvs).of_eq inv_empty h
  simpa [Builder.empty] using loadAll_rt tvs (fun tv ht => ⟨hr tv ht, hw tv ht⟩) [] ([] : List R)

/-- the bits / references of the cell produced by a sequence of stores are the concatenated TL-B encodings. -/
theorem c06_sequence_bits (tvs : List (TVal R)) (b : Builder R) (h : storeAll tvs Builder.empty = (b, true)) :
    b.bits = encAll tvs ∧ b.refs = refsAll tvs := by
  obtain ⟨_, rfl⟩ := (storeAll_spec tvs).of_eq inv_empty h
  exact ⟨rfl, rfl⟩

/-- the length prefix of a variable-length integer is MINIMAL: `byteLenU v` / `byteLenS v` (the `len`
written by `store_var_uint` / `store_var_int` / `store_coins`, see `enc`) is the least `l` such that `v`
fits `uint (8·l)` / `int (8·l)` — both signs. -/
theorem c06_varint_minimal :
    (∀ v l : Nat, byteLenU v ≤ l ↔ v < 2 ^ (8 * l)) ∧ (∀ (v : Int) (l : Nat), byteLenS v ≤ l ↔ FitsInt (8 * l) v) ∧
    (∀ (k : Nat) (v : Int), enc (R := R) (.varUint k v)
        = uintBits k (byteLenU v.toNat) ++ uintBits (8 * byteLenU v.toNat) v.toNat) ∧
    (∀ (k : Nat) (v : Int), enc (R := R) (.varInt k v)
        = uintBits k (byteLenS v) ++ intBits (8 * byteLenS v) v) :=
  ⟨byteLenU_le_iff_pow2, byteLenS_le_iff, fun _ _ => rfl, fun _ _ => rfl⟩


/-- concrete instances of the minimal length, incl. values whose top magnitude bit fills the byte. -/
theorem c06_varint_minimal_values :
    byteLenS 127 = 1 ∧ byteLenS 128 = 2 ∧ byteLenS 255 = 2 ∧ byteLenS 32767 = 2 ∧ byteLenS 32768 = 3 ∧
    byteLenS (-1) = 1 ∧ byteLenS (-128) = 1 ∧ byteLenS (-129) = 2 ∧ byteLenS (-32768) = 2 ∧ byteLenS (-32769) = 3 ∧
    byteLenS 0 = 0 ∧ byteLenU 0 = 0 ∧ byteLenU 255 = 1 ∧ byteLenU 256 = 2 ∧ byteLenU 65535 = 2 ∧ byteLenU 65536 = 3 := by
  simp [byteLenS, magS, byteLenU]

/-- peek = read: whenever the consuming read `load_X` returns a value, the non-consuming `preload_X`
on the same slice returns the same value and leaves the slice unchanged — for every kind: uint, int,
var-uint, var-int, coins, bit, bits, bytes, string, ref, maybe-ref, dict and address (`preload_address`
has its own parsing logic for none / extern / std-without-anycast and re-reads a copy for anycast).

The design's formulation `preload_X s = (load_X s).map fst` for ALL slices is false for the
library: on an over-read `load_uint` raises while `preload_uint` returns the value of the bits that
are left (`c06_preload_overread_differs` below); the property only speaks of what the consuming read
would RETURN. -/
theorem c06_preload_eq_load (k : Kind) (s s' : Slice R) (v : TVal R)
    (h : k.load s = (s', some v)) : k.preload s = (s, some v) := by
  cases k with
  | uint n => exact peek_map preloadUint_of_load _ h
  | int n => exact peek_map preloadInt_of_load _ h
  | varUint k => exact peek_map preloadVarUint_of_load _ h
  | varInt k => exact peek_map preloadVarInt_of_load _ h
  | coins => exact peek_map preloadVarUint_of_load _ h
  | bit => exact peek_map preloadBit_of_load _ h
  | bits n => exact peek_map peekBits_of_load _ h
  | bytes n => exact peek_map preloadBytes_of_load _ h
  | string n => exact peek_map preloadString_of_load _ h
  | ref => exact peek_map preloadRef_of_load _ h
  | maybeRef => exact peek_map preloadMaybeRef_of_load _ h
  | dict => exact peek_map preloadDict_of_load _ h
  | addr => exact peek_map preloadAddress_of_load _ h

/-- the converse direction fails in the library as it is: with 3 bits left `load_uint(10)` raises but
`preload_uint(10)` returns 5. -/
theorem c06_preload_overread_differs :
    (SOp.loadUint 10 (⟨[true, false, true], []⟩ : Slice Nat)).2 = none ∧
    (SOp.preloadUint 10 (⟨[true, false, true], []⟩ : Slice Nat)).2 = some 5 := by
  constructor
  · rw [loadUint_eq]; simp
  · simp [SOp.preloadUint, SOp.bind, SOp.peekBits, SOp.ofOption, SOp.ba2intU, natOfBits]

/-- the spec is self-consistent: the number denoted by `uint n` / `int n` encodings is the value -/
theorem c06_spec_consistent (n : Nat) :
    (∀ v : Nat, v < 2 ^ n → bitsVal (uintBits n v) = v) ∧
    (∀ v : Int, 0 < n → FitsInt n v → bitsValS (intBits n v) = v) := by
  constructor
  · intro v h
    rw [← natToBits_eq_uintBits, ← natOfBits_eq_bitsVal]; exact natOfBits_natToBits n v h
  · intro v hn h
    have h1 := ba2intS_intBits n v hn h
    have hne : (intBits n v).isEmpty = false := by
      cases hh : intBits n v with
      | nil => have : (intBits n v).length = n := by unfold intBits; exact uintBits_length _ _
               rw [hh] at this; simp at this; omega
      | cons _ _ => rfl
    rw [ba2intS_eq_bitsValS _ hne] at h1
    exact Option.some.inj h1

/-- an address that passes the library's range checks, has a 32-byte hash part and (for anycast) a depth
of at most 30 is encoded as a VALID TL-B `MsgAddress` -/
theorem c06_addr_valid (a : Addr) (hr : InRange (R := R) (.addr a)) (hw : WF (R := R) (.addr a))
    (hd : match a with | .std (some (d, _)) _ _ => d ≤ 30 | _ => True) : (addrOf a).Valid := by
  cases a with
  | none => trivial
  | ext len val =>
    simp only [InRange] at hr
    simp [addrOf, MsgAddress.Valid, hr.1]
  | std any wc h =>
    simp only [InRange] at hr
    simp only [WF] at hw
    cases any with
    | none => simp [addrOf, MsgAddress.Valid, hr.2, hw.2]
    | some dp =>
      obtain ⟨d, p⟩ := dp
      simp only at hr hd
      simp [addrOf, MsgAddress.Valid, hr.2, hw.2, hr.1.1, hd]

/-- non-vacuity of `c06_addr_valid`: an anycast address with depth 30 -/
example : InRange (R := Nat) (.addr (.std (some (30, 5)) (-1) (List.replicate 32 7))) ∧
    WF (R := Nat) (.addr (.std (some (30, 5)) (-1) (List.replicate 32 7))) := by
  simp [InRange, WF, FitsUint, FitsInt, Bytes.WF]

/-! ### snake data

DESIGN §6: for every byte string `bs`, `load_snake_bytes(store_snake_bytes(bs, builder).end_cell()) = bs` whenever the
chain depth is ≤ 1023, and the depth check of the cell constructor refuses the chain beyond.

`c06_snake_any_constructor` / `c06_snake_never_refused`: the round trip for every cell constructor `mk` (= `end_cell`) /
view (= `begin_parse`) pair with `view (mk bits refs) = (bits, refs)`, whenever the store returns.
`c06_snake_depth_exact`, `c06_snake_store_iff`: `mk` instantiated with the depth-checking constructor of C01
(`mkC H` = `Cell.info`, raises at depth ≥ 1024) on cell trees, depth in closed form
`snakeDepth p n = 0` if `n ≤ (1023-p)/8`, else `⌈(n - (1023-p)/8) / 127⌉` (`p` = bits already in the first builder).
Where exactly the library raises: the `end_cell` calls inside `store_snake_bytes` build the tail cells, whose depths are
`0 .. snakeDepth-1`, so `store_snake_bytes` itself raises iff `snakeDepth > 1024`; the root gets depth `snakeDepth`, so its
own `end_cell` raises iff `snakeDepth > 1023`.  `c06_snake_is_snakedata`: the produced tree is `Spec.Tlb.snakeCell` of the chunks.
Python's recursion limit is outside the model and plays no part: `store_snake_bytes` and `load_snake_bytes` are loops, not recursive. -/

/-- snake round trip for ANY cell constructor: what `store_snake_bytes(bs)` appended after the content
of `b` is byte-aligned, and `load_snake_bytes` on it (with the references of the result) returns `bs`,
for every recursion budget `≥ len + 2`. -/
theorem c06_snake_any_constructor (mk : Bits → List R → Option R) (view : R → Bits × List R)
    (hv : ∀ bits refs c, mk bits refs = some c → view c = (bits, refs))
    (bs : Bytes) (hw : Bytes.WF bs) (b b' : Builder R) (hb : Proofs.Builder.Inv b) (hr : b.refs = [])
    (h : BOp.storeSnake mk bs b = (b', true)) :
    ∃ tail, b'.bits = b.bits ++ tail ∧ tail.length % 8 = 0 ∧
      ∀ fuel, bs.length + 2 ≤ fuel → (SOp.loadSnakeFuel view fuel ⟨tail, b'.refs⟩).2 = some bs :=
  snake_rt mk view hv bs hw b b' hb.1 hr h

/-- `store_snake_bytes` is never refused on a within-capacity builder with a free reference slot when
the cell constructor does not fail (chain depth within the limit) — any length. -/
theorem c06_snake_never_refused (mk : Bits → List R → Option R) (hmk : ∀ bits refs, (mk bits refs).isSome)
    (bs : Bytes) (b : Builder R) (hb : Proofs.Builder.Inv b) (hr : b.refs.length < 4) :
    (BOp.storeSnake mk bs b).2 = true :=
  snake_ok mk hmk bs b hb.1 hr

/-- both together on bare cell trees (`Spec.Tlb.SCell`, constructor total): storing ANY byte string
into the empty builder succeeds and loading the resulting cell returns it. Non-vacuity of the two
theorems above as well. -/
theorem c06_snake_trees (bs : Bytes) (hw : Bytes.WF bs) :
    ∃ b', BOp.storeSnake (fun bits refs => some (SCell.mk bits refs)) bs (Builder.empty : Builder SCell) = (b', true) ∧
      ∀ fuel, bs.length + 2 ≤ fuel →
        (SOp.loadSnakeFuel (fun c => match c with | SCell.mk bits refs => (bits, refs)) fuel ⟨b'.bits, b'.refs⟩).2 = some bs := by
  have hok := c06_snake_never_refused (R := SCell) (fun bits refs => some (SCell.mk bits refs)) (fun _ _ => rfl) bs
    Builder.empty inv_empty (by simp [Builder.empty])
  refine ⟨(BOp.storeSnake (fun bits refs => some (SCell.mk bits refs)) bs (Builder.empty : Builder SCell)).1,
    Prod.ext rfl hok, ?_⟩
  obtain ⟨tail, e1, _, e3⟩ := c06_snake_any_constructor (R := SCell) (fun bits refs => some (SCell.mk bits refs))
    (fun c => match c with | SCell.mk bits refs => (bits, refs))
    (by intro bits refs c hc; simp only [Option.some.injEq] at hc; subst hc; rfl)
    bs hw Builder.empty _ inv_empty rfl (Prod.ext rfl hok)
  have e1' : (BOp.storeSnake (fun bits refs => some (SCell.mk bits refs)) bs (Builder.empty : Builder SCell)).1.bits
      = tail := by rw [e1]; rfl
  rw [e1']; exact e3

/-- `store_snake_bytes` with the real (depth-checking) `end_cell`, for EVERY prefill of the first builder the library
allows (any `p ≤ 1023` bits - byte-aligned or not - and up to 3 references): the call returns normally exactly when the
chain depth `snakeDepth p n` is at most 1024, i.e. when every tail cell it has to build has depth ≤ 1023. -/
theorem c06_snake_store_iff (H : Bytes → Bytes) (bs : Bytes) (b : Builder Cell) (hb : Proofs.Builder.Inv b)
    (hr : b.refs.length < 4) :
    (BOp.storeSnake (mkC H) bs b).2 = true ↔ snakeDepth b.bits.length bs.length ≤ 1024 :=
  (chain_any H bs b hb.1 hr).1

/-- depth-exact snake round trip.  `b` = any within-capacity builder without references holding `p` bits, `n` bytes
stored, `D = snakeDepth p n`: (1) `store_snake_bytes` returns iff `D ≤ 1024`; when it returns, (2) the root cell
(`b'.bits`, `b'.refs`) has depth exactly `D`, (3) `end_cell()` on it succeeds iff `D ≤ 1023` - so a cell holding the
snake exists exactly for `D ≤ 1023` and the library raises the depth error beyond - and (4) what was appended is
byte-aligned and `load_snake_bytes` on it returns `bs` (every recursion budget ≥ len + 2). -/
theorem c06_snake_depth_exact (H : Bytes → Bytes) (bs : Bytes) (hw : Bytes.WF bs) (b : Builder Cell)
    (hb : Proofs.Builder.Inv b) (hr : b.refs = []) :
    ((BOp.storeSnake (mkC H) bs b).2 = true ↔ snakeDepth b.bits.length bs.length ≤ 1024) ∧
    ((BOp.storeSnake (mkC H) bs b).2 = true →
      ordDepth (.mk (-1) (BOp.storeSnake (mkC H) bs b).1.bits (BOp.storeSnake (mkC H) bs b).1.refs) =
        snakeDepth b.bits.length bs.length ∧
      ((mkC H (BOp.storeSnake (mkC H) bs b).1.bits (BOp.storeSnake (mkC H) bs b).1.refs).isSome ↔
        snakeDepth b.bits.length bs.length ≤ 1023) ∧
      ∃ tail, (BOp.storeSnake (mkC H) bs b).1.bits = b.bits ++ tail ∧ tail.length % 8 = 0 ∧
        ∀ fuel, bs.length + 2 ≤ fuel →
          (SOp.loadSnakeFuel viewC fuel ⟨tail, (BOp.storeSnake (mkC H) bs b).1.refs⟩).2 = some bs) := by
  have hiff := c06_snake_store_iff H bs b hb (by simp [hr])
  refine ⟨hiff, fun hok => ?_⟩
  have e : BOp.storeSnake (mkC H) bs b = (_, true) := Prod.ext rfl hok
  have hc := (chain_any H bs b hb.1 (by simp [hr])).2 _ e hr
  refine ⟨hc.depth, ?_, ?_⟩
  · rw [mkC_isSome_iff H _ _ hc.bits (Nat.le_trans hc.refs (by decide)) hc.wf, hc.depth]
  · exact c06_snake_any_constructor (mkC H) viewC (viewC_mkC H) bs hw b _ hb hr e

/-- the cells form the TL-B `SnakeData` chain (`Spec.Tlb.snakeCell`): whenever `store_snake_bytes` with the real
`end_cell` returns, the root read as a bare tree (`cellToS`: data bits and references, kinds dropped) is
`snakeCell first rest` with `first` = what the builder held ++ the first `(1023-p)/8` bytes and `rest` = the
127-byte chunks of the remaining bytes, and the data of that chain (`snakeData`) is what the builder held followed by
exactly the stored bytes. -/
theorem c06_snake_is_snakedata (H : Bytes → Bytes) (bs : Bytes) (b b' : Builder Cell) (hb : Proofs.Builder.Inv b)
    (hr : b.refs = []) (h : BOp.storeSnake (mkC H) bs b = (b', true)) :
    SCell.mk b'.bits (b'.refs.map cellToS) =
      snakeCell (b.bits ++ bytesToBits (bs.take ((1023 - b.bits.length) / 8)))
        ((chunks127 (bs.drop ((1023 - b.bits.length) / 8))).map bytesToBits) ∧
    snakeData (b.bits ++ bytesToBits (bs.take ((1023 - b.bits.length) / 8)))
        ((chunks127 (bs.drop ((1023 - b.bits.length) / 8))).map bytesToBits) = b.bits ++ bytesToBits bs :=
  chain_shape (mkC H) cellToS (cellToS_mkC H) bs b b' hb.1 hr h

/-! ### non-vacuity -/

/-- eleven typed values of different kinds (references are numbers here) -/
def sampleVals : List (TVal Nat) :=
  [.uint 8 200, .int 8 (-3), .varInt 4 (-129), .coins 1000, .bit true, .maybeRef (some 7), .dict none,
   .addr (.ext 3 5), .addr (.std (some (3, 5)) (-1) (List.replicate 32 171)), .bytes [1, 255],
   .string [104, 105]]

theorem sampleVals_ok : (∀ tv ∈ sampleVals, InRange tv) ∧ (∀ tv ∈ sampleVals, WF tv) ∧
    (encAll sampleVals).length = 380 ∧ (refsAll sampleVals).length = 1 := by
  refine ⟨?_, ?_, by decide +kernel, by decide +kernel⟩
  · simp only [sampleVals, List.forall_mem_cons, List.not_mem_nil, false_imp_iff, implies_true, InRange, FitsUint, FitsInt]
    decide +kernel
  · simp only [sampleVals, List.forall_mem_cons, List.not_mem_nil, false_imp_iff, implies_true, WF, Bytes.WF]
    decide

/-- the hypotheses of `c06_sequence` (and hence of `c06_bits_exact`, `c06_store_load` for each element)
are met by `sampleVals`: all eleven stores return normally. -/
example : ∃ b, storeAll sampleVals Builder.empty = (b, true) ∧ ∀ tv ∈ sampleVals, WF tv := by
  obtain ⟨hr, hw, hl, hq⟩ := sampleVals_ok
  have h := ((storeAll_spec sampleVals).1 Builder.empty inv_empty).1.mpr
    ⟨hr, by simp [Builder.empty, hl], by simp [Builder.empty, hq]⟩
  exact ⟨(storeAll sampleVals Builder.empty).1, Prod.ext rfl h, hw⟩

/-- a `load` that returns a value exists (hypothesis of `c06_preload_eq_load`) -/
example : (Kind.varInt 4).load (⟨enc (R := Nat) (.varInt 4 (-129)), []⟩ : Slice Nat)
    = (⟨[], []⟩, some (.varInt 4 (-129))) := by
  have := c06_decode_encode (R := Nat) (.varInt 4 (-129))
    (by simp [InRange, byteLenS, magS, byteLenU]) (by simp [WF]) [] []
  simpa [refsOf, TVal.kind] using this

/-! ## Source-regenerated arithmetic (`Generated/VarLen.lean`: re-translated from builder.py on every run)

`Generated.varUintIsZero / varUintByteLen` (`varIntIsZero / varIntByteLen`) are the translations of the `value == 0` test
and of the `byte_length = math.ceil(...)` assignment of `Builder.store_var_uint` (`store_var_int`);
`Generated.coinsLenBits` is the width `store_coins` passes.  `math.ceil(a / 8)` is read as the integer ceiling
(harness/translate/pyarith.py; exact for bit lengths below 2^53). -/
section Src
open TonVerif.Proofs.SrcArith
set_option linter.unusedSimpArgs false

/-- the source's `byte_length` computations, in the hand model's terms -/
theorem varUintByteLen_eq (v : Int) : Generated.varUintByteLen v = (BOp.bitLen v.natAbs + 7) / 8 := by
  simp only [Generated.varUintByteLen, py_bitLength_eq_bitLen]; src_arith

theorem varIntByteLen_eq (v : Int) : Generated.varIntByteLen v = (BOp.bitLen (magS v) + 1 + 7) / 8 := by
  unfold magS
  by_cases hp : v ≥ 0
  · have hn : v.natAbs = v.toNat := by omega
    simp only [Generated.varIntByteLen, py_bitLength_eq_bitLen, hp, if_true, hn]; src_arith
  · have hn : (-v - 1).natAbs = (-v - 1).toNat := by omega
    simp only [Generated.varIntByteLen, py_bitLength_eq_bitLen, hp, if_false, hn]; src_arith

/-- minimal-length variable integers, unsigned: for EVERY value ≥ 0 the length prefix that `store_var_uint` writes
(0 for the value 0, otherwise the source's `byte_length`) is the TL-B minimal byte length `byteLenU`. -/
theorem c06_src_varuint_len (v : Int) (hv : 0 ≤ v) :
    Generated.varUintIsZero_sideOk v ∧ Generated.varUintByteLen_sideOk v ∧
    (if Generated.varUintIsZero v then 0 else Generated.varUintByteLen v) = byteLenU v.toNat ∧
    Generated.varUintByteLen v = byteLenU v.toNat := by
  have hn : v.natAbs = v.toNat := by omega
  have key : Generated.varUintByteLen v = byteLenU v.toNat := by rw [varUintByteLen_eq, hn, byteLen_model]
  refine ⟨by simp only [Generated.varUintIsZero_sideOk]; src_arith,
          by simp only [Generated.varUintByteLen_sideOk]; src_arith, ?_, key⟩
  by_cases h0 : v = 0
  · subst h0; simp [Generated.varUintIsZero, byteLenU]
  · rw [key]; simp [Generated.varUintIsZero, h0]

/-- minimal-length variable integers, signed: for EVERY integer the length prefix that `store_var_int` writes
(0 for the value 0, otherwise the source's `byte_length`) is the TL-B minimal two's complement byte length `byteLenS`
(`c06_varint_minimal`: the least `l` with `-2^(8l-1) ≤ v < 2^(8l-1)`). -/
theorem c06_src_varint_len (v : Int) :
    Generated.varIntIsZero_sideOk v ∧ Generated.varIntByteLen_sideOk v ∧
    (if Generated.varIntIsZero v then 0 else Generated.varIntByteLen v) = byteLenS v := by
  refine ⟨by simp only [Generated.varIntIsZero_sideOk]; src_arith,
          by simp only [Generated.varIntByteLen_sideOk]; src_arith, ?_⟩
  by_cases h0 : v = 0
  · subst h0; simp [Generated.varIntIsZero, byteLenS]
  · have hz : Generated.varIntIsZero v = false := by simp [Generated.varIntIsZero, h0]
    simp only [hz, Bool.false_eq_true, if_false, byteLenS, h0]
    rw [varIntByteLen_eq, byteLenS_model]

/-- the hand model's `storeVarUint` / `storeVarInt` / `storeCoins` (what `c06_bits_exact`, `c06_store_load` are proved about)
use exactly the source's zero test and byte length. -/
theorem c06_src_model_var (v : Int) (k : Nat) :
    (BOp.storeVarUint v k : BOp R) =
      (if Generated.varUintIsZero v then BOp.storeUint 0 k
       else BOp.storeUint (Generated.varUintByteLen v) k ⊳ BOp.storeUint v (Generated.varUintByteLen v * 8)) ∧
    (BOp.storeVarInt v k : BOp R) =
      (if Generated.varIntIsZero v then BOp.storeUint 0 k
       else BOp.storeUint (Generated.varIntByteLen v) k ⊳ BOp.storeInt v (Generated.varIntByteLen v * 8)) ∧
    (BOp.storeCoins v : BOp R) = BOp.storeVarUint v Generated.coinsLenBits := by
  refine ⟨?_, ?_, rfl⟩
  · unfold BOp.storeVarUint
    by_cases h0 : v = 0
    · simp [h0, Generated.varUintIsZero]
    · simp [h0, Generated.varUintIsZero, varUintByteLen_eq]
  · unfold BOp.storeVarInt
    by_cases h0 : v = 0
    · simp [h0, Generated.varIntIsZero]
    · simp [h0, Generated.varIntIsZero, varIntByteLen_eq, magS]

/-- `store_coins` uses a 4-bit length prefix (`Grams = VarUInteger 16`). -/
theorem c06_src_coins : Generated.coinsLenBits_sideOk ∧ Generated.coinsLenBits = 4 := ⟨trivial, rfl⟩

/-- concrete values of the regenerated length computation at the byte boundaries of both signs (the hypothesis `0 ≤ v` of
`c06_src_varuint_len` is met by 255, 256). -/
example : Generated.varIntByteLen 127 = 1 ∧ Generated.varIntByteLen 128 = 2 ∧ Generated.varIntByteLen (-128) = 1 ∧
    Generated.varIntByteLen (-129) = 2 ∧ Generated.varUintByteLen 255 = 1 ∧ Generated.varUintByteLen 256 = 2 := by
  decide +kernel

end Src

/-! ## Source-regenerated METHODS (`Generated/BuilderOps.lean`, `Generated/SliceOps.lean`: the whole `store_*` / `load_*` /
`preload_*` methods and the `TvmBitarray` methods they call, re-translated from builder.py / slice.py / tvm_bitarray.py /
address.py on every run)

A regenerated method is `args → self → (self after the call, returned value)`, `none` = the Python code raised.  `srcStore mk tv` /
`srcLoad k` / `srcPreload k` (Proofs/SrcTyped.lean) are the regenerated methods of a typed value / kind — EVERY `TVal` / `Kind`:
ints, var-ints, coins, bits, bytes, strings, refs, maybe-refs, dicts, addresses (`None`, `ExternalAddress` via its `to_cell()`,
`Address` with anycast).  A regenerated `Slice` keeps all references and an offset; `view` = the model's slice (remaining bits,
remaining references).  `mk` = `Cell(bits, refs, type_)` as `end_cell` calls it (only `ExternalAddress.to_cell()` uses it); `MkOk mk`
= a reference-free cell is always built and holds the given bits (what C01's constructor does at depth 0). -/
section SrcMethods
open TonVerif.Proofs.SrcBuilder TonVerif.Proofs.SrcSlice TonVerif.Proofs.SrcTyped

/-- THE TIE, store side: for every typed value, every builder state and every argument, the regenerated `store_*` method computes
exactly what the hand model's `TVal.store` computes: the same decision to raise (`int2ba` range and width errors, `check_overflow`,
the reference tests, the 127-byte limit of `store_string`) and the same builder afterwards — also after a raise half-way (the
length prefix of a var-int, the tag bits of an address stay written). All theorems of this file about `TVal.store` are therefore
theorems about the source. -/
theorem c06_src_store (mk : Bits → List R → Option (Py.CellV R)) (hmk : MkOk mk) (tv : TVal R) (b : Builder R) :
    srcStore mk tv b = ofFlag (tv.store b) := srcStore_eq mk hmk tv b

/-- THE TIE, load side: the regenerated `load_*` / `preload_*` method of every kind, seen through `view`, is the hand model's
`Kind.load` / `Kind.preload`: same decision to raise, same value, same slice afterwards (also after a raise half-way);
`preload_address` with its own parsing of none / extern / std and its copy-and-load for anycast included. -/
theorem c06_src_load (k : Kind) (s : Py.SliceSt R) :
    viewR id (srcLoad k s) = k.load (view s) ∧ viewR id (srcPreload k s) = k.preload (view s) :=
  ⟨srcLoad_eq k s, srcPreload_eq k s⟩

/-- `c06_bits_exact` for the regenerated methods: a regenerated `store_*` call that returns has appended exactly the TL-B
encoding of the value and exactly its references. -/
theorem c06_src_bits_exact (mk : Bits → List R → Option (Py.CellV R)) (hmk : MkOk mk) (tv : TVal R)
    (b b' : Builder R) (hb : Inv b) (h : srcStore mk tv b = (b', some ())) :
    b'.bits = b.bits ++ enc tv ∧ b'.refs = b.refs ++ refsOf tv := by
  rw [srcStore_eq mk hmk tv b] at h
  exact c06_bits_exact tv b b' hb (ofFlag_ok h)

/-- `c06_store_load` for the regenerated methods: if the regenerated `store_X(v)` returned on builder `b`, then on ANY slice
state (any consumed references `pre`) positioned at the first bit / reference it wrote and followed by ANY continuation, the
regenerated `load_X` returns `v` and leaves exactly the continuation. -/
theorem c06_src_store_load (mk : Bits → List R → Option (Py.CellV R)) (hmk : MkOk mk) (tv : TVal R)
    (b b' : Builder R) (hb : Inv b) (h : srcStore mk tv b = (b', some ())) (hw : WF tv) (kb : Bits) (pre kr : List R) :
    viewR id (srcLoad tv.kind ⟨b'.bits.drop b.bits.length ++ kb, pre ++ (b'.refs.drop b.refs.length ++ kr), pre.length⟩)
      = (⟨kb, kr⟩, some tv) := by
  rw [srcStore_eq mk hmk tv b] at h
  rw [srcLoad_eq tv.kind]
  simpa [view] using c06_store_load tv b b' hb (ofFlag_ok h) hw kb kr

/-- `c06_preload_eq_load` for the regenerated methods: whenever the regenerated `load_X` returns a value, the regenerated
`preload_X` on the same slice returns the same value and leaves the (viewed) slice unchanged — every kind. -/
theorem c06_src_preload_eq_load (k : Kind) (s : Py.SliceSt R) (v : TVal R) (h : (srcLoad k s).2 = some v) :
    viewR id (srcPreload k s) = (view s, some v) := by
  rw [srcPreload_eq k]
  have hl := srcLoad_eq k s
  have : k.load (view s) = (view (srcLoad k s).1, some v) := by
    rw [← hl]; simp [viewR, h]
  exact c06_preload_eq_load k (view s) _ v this

/-- the regenerated methods on concrete inputs (the hypotheses above are met): `store_uint(5, 3)`, `store_var_int(-129, 4)` into an
empty builder, reading back with the regenerated loads; a constructor satisfying `MkOk`. -/
example :
    (Generated.BuilderOps.store_uint 5 3 (Builder.empty : Builder Nat)).1.bits = [true, false, true] ∧
    (Generated.BuilderOps.store_uint 5 3 (Builder.empty : Builder Nat)).2 = some () ∧
    (Generated.BuilderOps.store_uint 8 3 (Builder.empty : Builder Nat)).2 = none ∧
    (Generated.BuilderOps.store_var_int (-129) 4 (Builder.empty : Builder Nat)).1.bits.length = 20 ∧
    (Generated.SliceOps.load_uint 3 (⟨[true, false, true, true], [7], 0⟩ : Py.SliceSt Nat)).2 = some 5 ∧
    (Generated.SliceOps.load_uint 3 (⟨[true, false, true, true], [7], 0⟩ : Py.SliceSt Nat)).1.bits = [true] ∧
    (Generated.SliceOps.load_uint 5 (⟨[true, false, true, true], [7], 0⟩ : Py.SliceSt Nat)).2 = none ∧
    (Generated.SliceOps.load_ref (⟨[], [7, 8], 1⟩ : Py.SliceSt Nat)).2 = some 8 ∧
    (Generated.SliceOps.load_ref (⟨[], [7, 8], 1⟩ : Py.SliceSt Nat)).1.ref_offset = 2 ∧
    MkOk (fun bits (refs : List Nat) => some (⟨bits, refs⟩ : Py.CellV Nat)) ∧
    (srcStore (fun bits (refs : List Nat) => some (⟨bits, refs⟩ : Py.CellV Nat)) (.addr (.ext 3 5)) Builder.empty).1.bits
      = [false, true, false, false, false, false, false, false, false, true, true, true, false, true] := by
  refine ⟨by decide, by decide, by decide, by decide +kernel, by decide, by decide, by decide, by decide, by decide,
    fun _ => rfl, by decide +kernel⟩

end SrcMethods

/-! ## Source-regenerated SNAKE methods (`Generated/SnakeOps.lean`: `Builder.store_snake_bytes / store_snake_string`,
`Slice.load_snake_bytes / load_snake_string` re-translated from builder.py / slice.py on every run)

The code is ITERATIVE (the head bytes, then the tail cells built from the END of the chain in a loop-carried local; the reader a
`while True:` over a cursor that starts as an alias of `self`), the hand model RECURSIVE from the head.  `Proofs/SrcSnake.lean`
proves them equal for every byte string and every builder / slice state; the snake theorems above are restated here for the
regenerated code.  `mk` = `Cell(bits, refs, type_)` as `end_cell` calls it (here C01's depth-checking constructor `mkC H`), `viewV` =
what `begin_parse()` reads of a referenced cell, `fuel` = the declared bound on the iterations of the reader's `while True:`. -/
section SrcSnake
open TonVerif.Proofs.SrcBuilder TonVerif.Proofs.SrcSnake TonVerif.Generated.SnakeOps

/-- `c.begin_parse()` for the cell trees of C01: data bits and references -/
def viewV (c : Cell) : Py.CellV Cell := ⟨(viewC c).1, (viewC c).2⟩

theorem viewP_viewV : viewP viewV = viewC := rfl

/-- THE TIE, snake: regenerated = hand model, for ALL byte strings, ALL builder states (also outside the capacity invariant) and,
for the reader, all slice states with `ref_offset ≤ len(refs)` and every iteration bound. -/
theorem c06_src_snake (mk : Bits → List R → Option R) (view : R → Py.CellV R) (bs : Bytes) (p : Bool) (b : Builder R)
    (fuel : Nat) (s : Py.SliceSt R) (hs : s.ref_offset ≤ s.refs.length) :
    store_snake_bytes mk bs b = ofFlag (BOp.storeSnake mk bs b) ∧
    store_snake_string mk bs p b = ofFlag (BOp.storeSnakeString mk bs p b) ∧
    Proofs.SrcSlice.viewR id (Slice_load_snake_bytes view fuel s) = SOp.loadSnakeFuel (viewP view) fuel (Proofs.SrcSlice.view s) ∧
    Proofs.SrcSlice.viewR id (Slice_load_snake_string view fuel s) =
      SOp.loadSnakeStringFuel (viewP view) fuel (Proofs.SrcSlice.view s) :=
  ⟨src_store_snake_bytes_eq mk bs b, src_store_snake_string_eq mk bs p b, src_load_snake_bytes_eq view fuel s hs,
   src_load_snake_string_eq view fuel s hs⟩

/-- `c06_snake_store_iff` for the regenerated method: with the real (depth-checking) `end_cell`, on every builder with ≤ 1023 bits
(any alignment) and a free reference slot, the regenerated `store_snake_bytes` returns EXACTLY when the chain depth
`snakeDepth p n` is at most 1024. -/
theorem c06_src_snake_store_iff (H : Bytes → Bytes) (bs : Bytes) (b : Builder Cell) (hb : Proofs.Builder.Inv b)
    (hr : b.refs.length < 4) :
    (store_snake_bytes (mkC H) bs b).2 = some () ↔ snakeDepth b.bits.length bs.length ≤ 1024 := by
  rw [src_store_snake_bytes_eq, ofFlag_some]
  exact c06_snake_store_iff H bs b hb hr

/-- `c06_snake_depth_exact` for the regenerated methods.  `b` = any within-capacity builder without references holding `p` bits,
`n` bytes stored, `D = snakeDepth p n`: (1) the regenerated `store_snake_bytes` returns iff `D ≤ 1024`; when it returns, (2) the
root (`b'.bits`, `b'.refs`) has depth exactly `D`, (3) the regenerated `end_cell` on it succeeds iff `D ≤ 1023`, and (4) what was
appended is byte-aligned and the regenerated `load_snake_bytes` on it returns `bs` (every iteration bound ≥ len + 2). -/
theorem c06_src_snake_depth_exact (H : Bytes → Bytes) (bs : Bytes) (hw : Bytes.WF bs) (b : Builder Cell)
    (hb : Proofs.Builder.Inv b) (hr : b.refs = []) :
    ((store_snake_bytes (mkC H) bs b).2 = some () ↔ snakeDepth b.bits.length bs.length ≤ 1024) ∧
    ((store_snake_bytes (mkC H) bs b).2 = some () →
      ordDepth (.mk (-1) (store_snake_bytes (mkC H) bs b).1.bits (store_snake_bytes (mkC H) bs b).1.refs) =
        snakeDepth b.bits.length bs.length ∧
      ((end_cell (mkC H) (store_snake_bytes (mkC H) bs b).1).2.isSome ↔ snakeDepth b.bits.length bs.length ≤ 1023) ∧
      ∃ tail, (store_snake_bytes (mkC H) bs b).1.bits = b.bits ++ tail ∧ tail.length % 8 = 0 ∧
        ∀ fuel, bs.length + 2 ≤ fuel →
          (Slice_load_snake_bytes viewV fuel ⟨tail, (store_snake_bytes (mkC H) bs b).1.refs, 0⟩).2 = some bs) := by
  have h := c06_snake_depth_exact H bs hw b hb hr
  rw [src_store_snake_bytes_eq, ofFlag_some, ofFlag_fst, end_cell_eq]
  refine ⟨h.1, fun hok => ?_⟩
  obtain ⟨h2, h3, tail, e1, e2, e3⟩ := h.2 hok
  refine ⟨h2, h3, tail, e1, e2, fun fuel hf => ?_⟩
  have hl := src_load_snake_bytes_eq viewV fuel ⟨tail, (BOp.storeSnake (mkC H) bs b).1.refs, 0⟩ (Nat.zero_le _)
  have := congrArg Prod.snd hl
  simp only [Proofs.SrcSlice.viewR, Option.map_id, id] at this
  rw [this]
  exact e3 fuel hf

/-- the snake round trip through the regenerated code, with the boundary: a reference-free builder `b` (`p` bits, within
capacity), `n` bytes.  If the chain depth `snakeDepth p n ≤ 1023`: `store_snake_bytes` returns, `end_cell` builds the cell `c`, and
`load_snake_bytes` on `c.begin_parse()` after skipping the `p` bits `b` held returns exactly `bs`.  Beyond (`> 1023`) the library
refuses: no cell comes out of `store_snake_bytes` + `end_cell` (the store itself raises from depth 1025 on, `end_cell` at 1024). -/
theorem c06_src_snake_roundtrip (H : Bytes → Bytes) (bs : Bytes) (hw : Bytes.WF bs) (b : Builder Cell)
    (hb : Proofs.Builder.Inv b) (hr : b.refs = []) :
    (snakeDepth b.bits.length bs.length ≤ 1023 →
      ∃ b' c, store_snake_bytes (mkC H) bs b = (b', some ()) ∧ end_cell (mkC H) b' = (b', some c) ∧
        ∀ fuel, bs.length + 2 ≤ fuel →
          (Slice_load_snake_bytes viewV fuel ⟨(viewV c).bits.drop b.bits.length, (viewV c).refs, 0⟩).2 = some bs) ∧
    (1023 < snakeDepth b.bits.length bs.length →
      ¬ ∃ b' c, store_snake_bytes (mkC H) bs b = (b', some ()) ∧ end_cell (mkC H) b' = (b', some c)) := by
  have h := c06_src_snake_depth_exact H bs hw b hb hr
  constructor
  · intro hd
    have hok := h.1.mpr (by omega)
    obtain ⟨_, h3, tail, e1, _, e3⟩ := h.2 hok
    have hc := h3.mpr hd
    rw [end_cell_eq] at hc
    obtain ⟨c, hc⟩ := Option.isSome_iff_exists.mp hc
    simp only at hc
    refine ⟨(store_snake_bytes (mkC H) bs b).1, c, Prod.ext rfl hok, by rw [end_cell_eq, hc], fun fuel hf => ?_⟩
    have hv := viewC_mkC H _ _ c hc
    have hb1 : (viewV c).bits = (store_snake_bytes (mkC H) bs b).1.bits := congrArg Prod.fst hv
    have hb2 : (viewV c).refs = (store_snake_bytes (mkC H) bs b).1.refs := congrArg Prod.snd hv
    rw [hb1, hb2, e1, List.drop_left]
    exact e3 fuel hf
  · intro hd ⟨b', c, h1, h2⟩
    have hok : (store_snake_bytes (mkC H) bs b).2 = some () := by rw [h1]
    have h3 := (h.2 hok).2.1
    have hb' : (store_snake_bytes (mkC H) bs b).1 = b' := by rw [h1]
    rw [hb', h2] at h3
    have := h3.mp rfl
    omega

/-- the regenerated snake methods on concrete inputs: 3 bytes into an empty builder over bare trees (constructor total), a
130-byte string splits 127 + 3 with one reference, and the regenerated reader returns it; hypotheses of the theorems above are
met (`Inv`, reference-free, `snakeDepth 0 130 = 1`). -/
example :
    (store_snake_bytes (fun bits refs => some (SCell.mk bits refs)) [1, 2, 3] (Builder.empty : Builder SCell)).2 = some () ∧
    (store_snake_bytes (fun bits refs => some (SCell.mk bits refs)) (List.replicate 130 7) (Builder.empty : Builder SCell)).1.refs.length = 1 ∧
    (store_snake_bytes (fun bits refs => some (SCell.mk bits refs)) (List.replicate 130 7) (Builder.empty : Builder SCell)).1.bits.length = 1016 ∧
    (Slice_load_snake_bytes (fun c => match c with | SCell.mk bits refs => (⟨bits, refs⟩ : Py.CellV SCell)) 5
      ⟨(store_snake_bytes (fun bits refs => some (SCell.mk bits refs)) (List.replicate 130 7) (Builder.empty : Builder SCell)).1.bits,
       (store_snake_bytes (fun bits refs => some (SCell.mk bits refs)) (List.replicate 130 7) (Builder.empty : Builder SCell)).1.refs, 0⟩).2
      = some (List.replicate 130 7) ∧
    snakeDepth 0 130 = 1 := by
  decide +kernel

/-- `preload_ref(offset)` for EVERY offset (the regenerated method; the hand model `SOp.preloadRef` only has offset 0): it returns
the reference `offset` places after the next unread one, raises (IndexError) when there is none, and changes nothing. -/
theorem c06_src_preload_ref_offset (k : Nat) (s : Py.SliceSt R) :
    Generated.SliceOps.preload_ref k s = (s, (Proofs.SrcSlice.view s).refs[k]?) := by
  unfold Generated.SliceOps.preload_ref Py.bindO Proofs.SrcSlice.view
  simp only [List.getElem?_drop]
  cases s.refs[s.ref_offset + k]? <;> rfl

example : (Generated.SliceOps.preload_ref 1 (⟨[], [7, 8, 9], 1⟩ : Py.SliceSt Nat)).2 = some 9 ∧
    (Generated.SliceOps.preload_ref 2 (⟨[], [7, 8, 9], 1⟩ : Py.SliceSt Nat)).2 = none := by decide

end SrcSnake

/-! ## Source-regenerated ARGUMENT FORMS (`Generated/ArgForms.lean`: `store_bit` / `store_bits` at every argument type the code
distinguishes, `store_address(str)`; re-translated from builder.py / tvm_bitarray.py on every run)

A str travels as its UTF-8 bytes; `Py.intOfStr?` = Python's `int(text)`, `Py.bitsOfStr?` / `Py.bitsOfInts?` = what `bitarray.extend`
accepts of a text / a list of ints (trusted readings in PyBits.lean, validated against CPython / bitarray on every change). -/
section SrcForms
open TonVerif.Proofs.SrcBuilder TonVerif.Proofs.SrcForms TonVerif.Generated.ArgForms

/-- what EVERY argument form of `store_bit` / `store_bits` accepts, refuses and stores, for all arguments and builder states
(`ofFlag (BOp.storeBit ..)` / `ofFlag (BOp.storeBits ..)` = the hand model's store of those bits: capacity test, then append):
* `store_bit(bool)`: that bit;  `store_bit(text)`: `int(text)` must be 0 or 1, that bit;  `store_bit(TvmBitarray)`: its FIRST bit
  (nothing for an empty one);  `store_bit(plain bitarray | list)`: returns, stores NOTHING (no `isinstance` branch applies);
* `store_bits(text)`: refused when `len(text)` (skipped whitespace / `_` included) does not fit or a character is not `0 1 _`
  or whitespace, else exactly the bits of the text;  `store_bits(list | tuple of ints)`: refused when the number of items does not
  fit or an item is not 0 / 1, else those bits;  `store_bits(plain bitarray)` = `store_bits(TvmBitarray)`;
  `store_bits(iterator)`: always refused (`len`), nothing stored.
A refused call leaves the builder unchanged in every form. -/
theorem c06_src_store_bits_forms (v : Bool) (s : Bytes) (x : Bits) (xs : List Int) (b : Builder R) :
    store_bit_bool v b = ofFlag (BOp.storeBit v b) ∧
    store_bit_str s b = (match Py.intOfStr? s with
      | some i => if i = 0 ∨ i = 1 then ofFlag (BOp.storeBit (decide (i = 1)) b) else (b, none)
      | none => (b, none)) ∧
    store_bit_bits x b = ofFlag (BOp.storeBits (x.take 1) b) ∧
    store_bit_bitarray x b = (b, some ()) ∧ store_bit_ints xs b = (b, some ()) ∧
    store_bits_str s b = (if b.bits.length + Py.strLen s > 1023 then (b, none) else
      match Py.bitsOfStr? s with
      | none => (b, none)
      | some bs => (⟨b.bits ++ bs, b.refs⟩, some ())) ∧
    store_bits_ints xs b = (if b.bits.length + xs.length > 1023 then (b, none) else
      match Py.bitsOfInts? xs with
      | none => (b, none)
      | some bs => (⟨b.bits ++ bs, b.refs⟩, some ())) ∧
    store_bits_bitarray x b = ofFlag (BOp.storeBits x b) ∧
    store_bits_iter () b = (b, none) :=
  ⟨src_store_bit_bool_eq v b, src_store_bit_str_eq s b, src_store_bit_tvm_eq x b, (src_store_bit_other x xs b).1,
   (src_store_bit_other x xs b).2, src_store_bits_str_eq s b, src_store_bits_ints_eq xs b, src_store_bits_bitarray_eq x b,
   src_store_bits_iter_eq b⟩

/-- the argument forms of `store_address`: `None` and an `Address` object are `c06_src_store`'s cases; a TEXT is parsed by
`Address(text)` - the declared interface function `addrOfStr` (`none` = it raised: nothing is stored) - and then stored exactly as
that `Address` object: the regenerated method equals the hand model's `storeAddress` of the parsed address. -/
theorem c06_src_store_address_forms (addrOfStr : Bytes → Option Py.AddrV) (s : Bytes) (a : Py.AddrV) (b : Builder R) :
    Generated.BuilderOps.store_address_none () b = ofFlag (BOp.storeAddress Addr.none b) ∧
    Generated.BuilderOps.store_address_address a b = ofFlag (BOp.storeAddress (addrOf a) b) ∧
    store_address_str addrOfStr s b = (match addrOfStr s with
      | none => (b, none)
      | some a' => ofFlag (BOp.storeAddress (addrOf a') b)) := by
  refine ⟨src_store_address_none_eq () b, src_store_address_std_eq a b, ?_⟩
  rw [src_store_address_str_eq]
  cases addrOfStr s with
  | none => rfl
  | some a' => exact src_store_address_std_eq a' b

/-- the readings on concrete arguments (the cases above all occur): `int(' 1 ') = 1`, `int('1_0') = 10`, `int('x')` raises;
`'0 1_1'` is the bits 011, `'012'` is refused; `[1, 0, 1]` is 101, `[0, 2]` is refused; `store_bits('0 1')` at 1021 bits is refused
although only two bits would be written (the capacity test counts the three characters). -/
example : Py.intOfStr? [32, 49, 32] = some 1 ∧ Py.intOfStr? [49, 95, 48] = some 10 ∧ Py.intOfStr? [120] = none ∧
    Py.bitsOfStr? [48, 32, 49, 95, 49] = some [false, true, true] ∧ Py.bitsOfStr? [48, 49, 50] = none ∧
    Py.bitsOfInts? [1, 0, 1] = some [true, false, true] ∧ Py.bitsOfInts? [0, 2] = none ∧
    (store_bits_str [48, 32, 49] (⟨List.replicate 1021 false, []⟩ : Builder Nat)).2 = none ∧
    (store_bits_str [48, 32, 49] (⟨List.replicate 1020 false, []⟩ : Builder Nat)).2 = some () ∧
    (store_bit_str [50] (Builder.empty : Builder Nat)).2 = none ∧
    (store_bit_str [49] (Builder.empty : Builder Nat)).1.bits = [true] := by
  refine ⟨by decide, by decide, by decide, by decide, by decide, by decide, by decide, ?_, ?_, by decide, by decide⟩
  · rw [src_store_bits_str_eq, if_pos (by rw [List.length_replicate]; decide)]
  · rw [src_store_bits_str_eq, if_neg (by rw [List.length_replicate]; decide),
      show Py.bitsOfStr? [48, 32, 49] = some [false, true] by decide]

end SrcForms

/-- the depth closed form at the boundaries (empty first builder: room for 127 bytes; 1016 bits prefilled: room for
0): the longest storable snake, one byte more (stored, but the root cannot be finished), one chunk more (refused). -/
example : snakeDepth 0 127 = 0 ∧ snakeDepth 0 128 = 1 ∧ snakeDepth 0 (127 * 1024) = 1023 ∧
    snakeDepth 0 (127 * 1024 + 1) = 1024 ∧ snakeDepth 0 (127 * 1025 + 1) = 1025 ∧
    snakeDepth 1016 (127 * 1023) = 1023 ∧ snakeDepth 1016 (127 * 1023 + 1) = 1024 ∧ snakeDepth 3 127 = 0 ∧
    snakeDepth 1023 1 = 1 := by decide

/-- hypotheses of `c06_snake_depth_exact` are met by a builder holding 3 bits and a 300-byte string (depth 2). -/
example : Proofs.Builder.Inv (⟨[true, false, true], []⟩ : Builder Cell) ∧ Bytes.WF (List.replicate 300 65) ∧
    snakeDepth 3 300 = 2 := by
  refine ⟨by simp [Proofs.Builder.Inv], ?_, by decide⟩
  intro x hx
  rw [List.mem_replicate] at hx
  omega

/-- `chunks127` on a concrete string: 300 bytes = 127 + 127 + 46. -/
example : (chunks127 (List.replicate 300 65)).map List.length = [127, 127, 46] := by decide +kernel

end TonVerif.Properties.C06
