/-
C02 — exotic cells: level masks, per-level hashes/depths, constructibility, Merkle pruning invariance.

`Model.Cell.info` is the executable mirror of the Python constructor (resolve_mask + calculate_hashes);
`Spec/Cell.lean` is the TON rule written as recursion on the level.  Helper lemmas: Proofs/CellSpec.lean (model = spec),
Proofs/Prune.lean (pruning on the spec), Proofs/PruneWF.lean (a pruned tree is spec-valid), Proofs/OrdCell.lean.
`H` (SHA-256) is an arbitrary function; only `c02_prunable` assumes that it returns 32 valid bytes.
The `c02_src_*` sections tie `LevelMask`, the slice arithmetic of `get_hash`/`get_depth` and the constructor, as
regenerated from the Python source (Generated/), to the hand model for all inputs.
-/
import TonVerif.Proofs.CellSpec
import TonVerif.Proofs.Prune
import TonVerif.Proofs.OrdCell
import TonVerif.Proofs.PruneWF
import TonVerif.Proofs.SrcArith
import TonVerif.Generated.LevelMask
import TonVerif.Generated.CellArith
import TonVerif.Proofs.SrcCellArith
import TonVerif.Proofs.SrcCellCtor

namespace TonVerif.Properties.C02
open TonVerif TonVerif.Model TonVerif.Proofs.CellSpec

/-- For every spec-valid tree — pruned branches of any mask 1..7, library cells, Merkle proofs and updates,
any nesting — construction succeeds, and the level mask and the hash and depth reported at EVERY level
equal the spec's. -/
theorem c02_model_eq_spec (H : Bytes → Bytes) (c : Cell) (wf : TreeWF H c) :
    ∃ i s, Cell.info H c = some i ∧ specInfo H c = some s ∧
      i.mask = s.mask ∧ ∀ l, i.getHash l = some (s.hashAt l) ∧ i.getDepth l = some (s.depthAt l) := by
  obtain ⟨i, s, hi, hs, hm, hl⟩ := tree_agrees H c wf
  exact ⟨i, s, hi, hs, hm, hl⟩

/-- Every spec-valid cell can be constructed (in particular pruned branches whose mask has gaps). -/
theorem c02_constructible (H : Bytes → Bytes) (c : Cell) (wf : TreeWF H c) : Cell.info H c ≠ none := by
  obtain ⟨i, _, hi, _⟩ := tree_agrees H c wf
  simp [hi]

/-- One node: a well-formed node over children that agree with their specs agrees with its spec. -/
theorem c02_node (H : Bytes → Bytes) (k : Spec.Kind) (bits : Bits) (kis : List CellInfo) (kss : List Spec.SInfo)
    (hk : AllAgree kis kss) (wf : NodeWF H k bits kss) :
    ∃ i, construct H (kindCode k) bits kis = some i ∧ Agrees i (Spec.node H k bits kss) := by
  obtain ⟨i, h1, h2, _⟩ := construct_agrees H k bits kis kss hk wf
  exact ⟨i, h1, h2⟩

/-! Non-vacuity: a pruned branch with the gap mask 0b110 (two stored hashes/depths, 560 data bits)
is spec-valid, hence constructible — the case of defect F2. -/
def prunedMask6 : Cell := .mk 1 (bytesToBits ([1, 6] ++ List.replicate 68 0)) []

theorem prunedMask6_wf (H : Bytes → Bytes) : TreeWF H prunedMask6 := by
  unfold prunedMask6 TreeWF
  refine ⟨by simp [TreesWF], .pruned, [], by decide, by simp [specInfos], ?_⟩
  have hlen : (bytesToBits ([1, 6] ++ List.replicate 68 0)).length = 560 := by
    rw [TonVerif.Proofs.Prune.length_bytesToBits]; rfl
  have hmask : Spec.nodeMask .pruned (bytesToBits ([1, 6] ++ List.replicate 68 0)) [] = 6 :=
    TonVerif.Proofs.Prune.maskByte_bytesToBits 1 6 _ (by omega)
  exact ⟨by omega, by decide, by simp, by simp, fun _ => ⟨rfl, by omega, by omega, by omega⟩, by simp, by simp, by simp⟩

example (H : Bytes → Bytes) : TreeWF H prunedMask6 := prunedMask6_wf H

/-! ## Pruning invariance (second half of C02) -/
open TonVerif.Proofs.Prune

/-- SPEC LEVEL, all Merkle depths. Let `t'` be `t` with ANY set of subtrees replaced by pruned-branch cells
(`PruneRel H d`: a subtree `s` under `d` enclosing Merkle cells becomes the pruned branch with level mask
`(mask s % 2^(d-1)) ||| 2^(d-1)` carrying `hashAt s l`, `depthAt s l` for the significant `l < d`; `d` grows by
one below every Merkle proof/update cell, so all nestings up to level 3 are covered).  Then `t'` has spec
values and, for every level `l < d`, hash, depth and the level-mask bits below `l` are those of `t`.
`H` is arbitrary: no collision-freeness (or any other property of SHA-256) is used. -/
theorem c02_prune_invariant_spec (H : Bytes → Bytes) (d : Nat) (t t' : Cell) (s : Spec.SInfo)
    (hrel : PruneRel H d t t') (hs : specInfo H t = some s) :
    ∃ s', specInfo H t' = some s' ∧
      ∀ l, l < d → s'.hashAt l = s.hashAt l ∧ s'.depthAt l = s.depthAt l ∧ s'.mask % 2 ^ l = s.mask % 2 ^ l :=
  prune_invariant H d t t' s hrel hs

/-- VALIDITY OF THE PRUNED TREE (no assumption on `t'`). Let `t` be spec-valid, living under `d ≥ 1` Merkle cells, with
no level above its Merkle nesting (`level_mask < 2^(d-1)`; for `d = 1`: a level-0 tree, e.g. a block or a shard state).
Then EVERY pruning `t'` of `t` is spec-valid: the pruned-branch cells have `16 + 272·k ≤ 832` bits, level mask
1..7 and no references; kept cells keep data and reference count; and the depth limit 1023 is preserved because at
every level `t'` is at most as deep as `t`.  Hence `t'` can be constructed (`c02_constructible`). -/
theorem c02_prune_valid (H : Bytes → Bytes) (d : Nat) (t t' : Cell) (s : Spec.SInfo) (hd : 1 ≤ d) (wf : TreeWF H t)
    (hs : specInfo H t = some s) (hlev : s.mask < 2 ^ (d - 1)) (hrel : PruneRel H d t t') :
    TreeWF H t' ∧ Cell.info H t' ≠ none ∧ ∀ s', specInfo H t' = some s' → ∀ l, s'.depthAt l ≤ s.depthAt l := by
  obtain ⟨wf', hle⟩ := TonVerif.Proofs.PruneWF.prune_treeWF H d t t' s hd wf hs hlev hrel
  exact ⟨wf', c02_constructible H t' wf', hle⟩

/-- MODEL LEVEL (what the library reports): for a spec-valid `t` (at Merkle depth `d ≥ 1`, `level_mask < 2^(d-1)`) and
ANY pruning `t'` of it, both cells can be constructed and `get_hash(l)`, `get_depth(l)` and
`level_mask & (2^l - 1)` coincide for all `l < d`.  Validity of `t'` is derived (`c02_prune_valid`), not assumed. -/
theorem c02_prune_invariant (H : Bytes → Bytes) (d : Nat) (t t' : Cell) (hd : 1 ≤ d) (wf : TreeWF H t)
    (hlev : ∀ i, Cell.info H t = some i → i.mask < 2 ^ (d - 1)) (hrel : PruneRel H d t t') :
    ∃ i i', Cell.info H t = some i ∧ Cell.info H t' = some i' ∧
      ∀ l, l < d → i'.getHash l = i.getHash l ∧ i'.getDepth l = i.getDepth l ∧ i'.mask % 2 ^ l = i.mask % 2 ^ l := by
  obtain ⟨i, s, hi, hs, hm, hl⟩ := tree_agrees H t wf
  have hlev' : s.mask < 2 ^ (d - 1) := by rw [← hm]; exact hlev i hi
  obtain ⟨wf', _, _⟩ := c02_prune_valid H d t t' s hd wf hs hlev' hrel
  obtain ⟨i', s', hi', hs', hm', hl'⟩ := tree_agrees H t' wf'
  obtain ⟨s'', hs'', hinv⟩ := prune_invariant H d t t' s hrel hs
  rw [hs'] at hs''; cases hs''
  refine ⟨i, i', hi, hi', fun l hlt => ?_⟩
  obtain ⟨h1, h2, h3⟩ := hinv l hlt
  exact ⟨by rw [(hl' l).1, (hl l).1, h1], by rw [(hl' l).2, (hl l).2, h2], by rw [hm', hm, h3]⟩

/-- The headline case `d = 1`: replacing any subtrees of a spec-valid level-0 tree `t` by pruned-branch cells carrying
their hash and depth gives a constructible tree and leaves the level-0 hash and depth of the enclosing cell `t`
unchanged (apply it to every enclosing cell: `PruneRel` descends through kept cells). -/
theorem c02_prune_level0 (H : Bytes → Bytes) (t t' : Cell) (wf : TreeWF H t)
    (hlev : ∀ i, Cell.info H t = some i → i.mask = 0) (hrel : PruneRel H 1 t t') :
    ∃ i i', Cell.info H t = some i ∧ Cell.info H t' = some i' ∧ i'.getHash 0 = i.getHash 0 ∧ i'.getDepth 0 = i.getDepth 0 := by
  obtain ⟨i, i', hi, hi', h⟩ := c02_prune_invariant H 1 t t' (Nat.le_refl _) wf
    (fun i hi => by rw [hlev i hi]; decide) hrel
  exact ⟨i, i', hi, hi', (h 0 (by omega)).1, (h 0 (by omega)).2.1⟩

/-- Every non-pruned spec-valid cell may be pruned at every Merkle depth 1..3 once `H` returns 32 bytes
(so `PruneRel` relates every tree to each of its prunings; SHA-256 has 32-byte output). -/
theorem c02_prunable (H : Bytes → Bytes) (h32 : ∀ x, (H x).length = 32 ∧ Bytes.WF (H x))
    (k : Spec.Kind) (bits : Bits) (kids : List Spec.SInfo) (hk : k ≠ .pruned) (wf : NodeWF H k bits kids)
    (d : Nat) (h1 : 1 ≤ d) (h3 : d ≤ 3) : Prunable d (Spec.node H k bits kids) :=
  prunable_node H h32 k bits kids hk wf d h1 h3

/-! Non-vacuity: a two-cell tree, its child replaced by the pruned branch (toy hash with 32-byte output). -/
def toyH : Bytes → Bytes := fun _ => List.replicate 32 0
def leaf0 : Cell := .mk (-1) [true, false] []
def tree0 : Cell := .mk (-1) [true] [leaf0]
def sLeaf0 : Spec.SInfo := Spec.node toyH .ordinary [true, false] []
def tree0Pruned : Cell := .mk (-1) [true] [prunedCell 1 sLeaf0]

theorem toyH_32 : ∀ x, (toyH x).length = 32 ∧ Bytes.WF (toyH x) := by
  intro x; refine ⟨by simp [toyH], ?_⟩
  intro b hb; simp [toyH] at hb; omega

theorem leaf0_nodeWF : NodeWF toyH .ordinary [true, false] [] := by
  refine ⟨by decide, by decide, by simp, ?_, by simp, by simp, by simp, by simp⟩
  intro _ l
  rw [node_plain toyH .ordinary _ _ (by decide)]
  show Spec.plainDepthAt .ordinary [] (Spec.nodeMask .ordinary [true, false] []) l ≤ 1023
  have : Spec.nodeMask .ordinary [true, false] [] = 0 := rfl
  rw [this, TonVerif.Proofs.OrdCell.plainDepthAt_zero]
  decide

/-- the two-cell example tree is spec-valid (hypothesis of `c02_prune_valid`) -/
theorem tree0_wf : TreeWF toyH tree0 := by
  unfold tree0 leaf0
  rw [TreeWF]
  refine ⟨⟨?_, trivial⟩, .ordinary, [sLeaf0], by decide, by simp [specInfos, specInfo, kindOf, sLeaf0], ?_⟩
  · rw [TreeWF]
    exact ⟨trivial, .ordinary, [], by decide, by simp [specInfos], leaf0_nodeWF⟩
  · have hm : Spec.nodeMask .ordinary [true] [sLeaf0] = 0 := by decide +kernel
    refine ⟨by decide, by simp, ?_, ?_, by simp, by simp, by simp, by simp⟩
    · intro c hc; simp at hc; subst hc; decide +kernel
    · intro _ l
      rw [node_plain toyH .ordinary _ _ (by decide)]
      simp only [hm]
      rw [TonVerif.Proofs.OrdCell.plainDepthAt_zero]
      decide +kernel

/-- all hypotheses of `c02_prune_valid` / `c02_prune_level0` hold for the two-cell tree with its child pruned -/
example : PruneRel toyH 1 tree0 tree0Pruned ∧ TreeWF toyH tree0 ∧
    ∃ s, specInfo toyH tree0 = some s ∧ s.mask < 2 ^ (1 - 1) := by
  refine ⟨?_, tree0_wf, ?_⟩
  · unfold tree0 tree0Pruned
    rw [PruneRel]
    refine Or.inr ⟨.ordinary, _, by decide, rfl, ?_⟩
    rw [PruneRels]
    refine ⟨_, [], rfl, ?_, by rw [PruneRels]⟩
    unfold leaf0
    rw [PruneRel]
    refine Or.inl ⟨sLeaf0, by simp [specInfo, specInfos, kindOf, sLeaf0], ?_, rfl⟩
    exact c02_prunable toyH toyH_32 .ordinary _ [] (by decide) leaf0_nodeWF 1 (by omega) (by omega)
  · refine ⟨Spec.node toyH .ordinary [true] [sLeaf0], by simp [tree0, leaf0, specInfo, specInfos, kindOf, sLeaf0], ?_⟩
    decide +kernel

/-! ## Source-regenerated arithmetic (`Generated/LevelMask.lean`, `Generated/CellArith.lean`: re-translated from
exotic.py / cell.py on every run by harness/translate/pyarith.py)

`Generated.lmLevel / lmHashIndex / lmApply / lmIsSignificant` are the translations of `LevelMask.get_level /
get_hash_index / apply / is_significant`; `Generated.prunedHashLo/Hi`, `prunedDepthOff/Lo/Hi` are the slice bounds that
`Cell.get_hash` / `Cell.get_depth` use on a pruned branch.  Each theorem also proves the translator's side conditions
(`*_sideOk`: the Nat subtractions `(1 << level) - 1` and `level - 1` never underflow where Python evaluates them). -/
section Src
open TonVerif.Proofs.SrcArith
set_option linter.unusedSimpArgs false

/-- `LevelMask.get_level` = the hand model's `bitLength`, for ALL masks. -/
theorem c02_src_level (m : Nat) : Generated.lmLevel_sideOk m ∧ Generated.lmLevel m = bitLength m :=
  ⟨by simp only [Generated.lmLevel_sideOk]; src_arith, Proofs.SrcCellCtor.lm_level m⟩

/-- `LevelMask.get_hash_index` = the number of one bits (`Spec.popcount` = the hand model's `popcount`), for ALL masks. -/
theorem c02_src_hash_index (m : Nat) :
    Generated.lmHashIndex_sideOk m ∧ Generated.lmHashIndex m = popcount m ∧ Generated.lmHashIndex m = Spec.popcount m := by
  refine ⟨by simp only [Generated.lmHashIndex_sideOk]; src_arith, Proofs.SrcCellCtor.lm_hashIndex m, ?_⟩
  rw [Proofs.SrcCellCtor.lm_hashIndex, popcount_eq]

/-- `LevelMask.apply(level).mask` = `mask mod 2^level` (the spec's `mask % 2^l`), for ALL masks and levels. -/
theorem c02_src_apply (m level : Nat) :
    Generated.lmApply_sideOk m level ∧ Generated.lmApply m level = maskApply m level := by
  have hp : 0 < 2 ^ level := Nat.pow_pos (by decide)
  refine ⟨?_, ?_⟩
  · simp only [Generated.lmApply_sideOk, shiftLeft_lit, Nat.one_mul] <;> omega
  · exact Proofs.SrcCellCtor.lm_apply m level

/-- `LevelMask.is_significant(level)` = level 0 or bit `level-1` of the mask (the spec's `mask.testBit (l-1)`). -/
theorem c02_src_is_significant (m level : Nat) :
    Generated.lmIsSignificant_sideOk m level ∧ Generated.lmIsSignificant m level = isSignificant m level ∧
    (Generated.lmIsSignificant m (level + 1) = m.testBit level) := by
  refine ⟨?_, ?_, ?_⟩
  · simp only [Generated.lmIsSignificant_sideOk] <;> omega
  · exact Proofs.SrcCellCtor.lm_isSignificant m level
  · rw [Proofs.SrcCellCtor.lm_isSignificant, isSignificant_succ]

/-- the hash index the code uses at a level (`apply(level).get_hash_index()`) is the hand model's `hashIndexAt`. -/
theorem c02_src_hash_index_at (m level : Nat) :
    Generated.lmHashIndex (Generated.lmApply m level) = hashIndexAt m level := by
  rw [(c02_src_hash_index _).2.1, (c02_src_apply m level).2]; rfl

/-- pruned-branch offsets: `get_hash` reads `data[2 + 32·i : 2 + 32·(i+1)]`, `get_depth` reads the two bytes at
`2 + 32·popcount(mask) + 2·i` — exactly the offsets of `Spec.prunedHashAt` / `Spec.prunedDepthAt`. -/
theorem c02_src_pruned_offsets (pi hi off : Nat) :
    (Generated.prunedHashLo_sideOk hi ∧ Generated.prunedHashHi_sideOk hi ∧ Generated.prunedDepthOff_sideOk pi hi ∧
      Generated.prunedDepthLo_sideOk off ∧ Generated.prunedDepthHi_sideOk off) ∧
    Generated.prunedHashLo hi = 2 + 32 * hi ∧ Generated.prunedHashHi hi = 2 + 32 * (hi + 1) ∧
    Generated.prunedDepthOff pi hi = 2 + 32 * pi + 2 * hi ∧
    Generated.prunedDepthLo off = off ∧ Generated.prunedDepthHi off = off + 2 := by
  refine ⟨⟨?_, ?_, ?_, ?_, ?_⟩, ?_, ?_, ?_, ?_, ?_⟩
  · simp only [Generated.prunedHashLo_sideOk]; src_arith
  · simp only [Generated.prunedHashHi_sideOk]; src_arith
  · simp only [Generated.prunedDepthOff_sideOk]; src_arith
  · simp only [Generated.prunedDepthLo_sideOk]; src_arith
  · simp only [Generated.prunedDepthHi_sideOk]; src_arith
  · simp only [Generated.prunedHashLo]; src_arith
  · simp only [Generated.prunedHashHi]; src_arith
  · simp only [Generated.prunedDepthOff]; src_arith
  · simp only [Generated.prunedDepthLo]; src_arith
  · simp only [Generated.prunedDepthHi]; src_arith

/-- the hand model's `get_hash` / `get_depth` (what `c02_model_eq_spec` is proved about) are the source's index
computations: hash index from `apply`+`get_hash_index`, pruned slices at the generated offsets. -/
theorem c02_src_get_hash_depth (c : CellInfo) (lvl : Nat) :
    c.getHash lvl =
      (let hi := Generated.lmHashIndex (Generated.lmApply c.mask lvl)
       if c.kind == kPruned then
         (if hi != Generated.lmHashIndex c.mask then
            some (pySlice (dataBytes c.bits) (Generated.prunedHashLo hi) (Generated.prunedHashHi hi))
          else c.hashes[0]?)
       else c.hashes[hi]?) ∧
    c.getDepth lvl =
      (let hi := Generated.lmHashIndex (Generated.lmApply c.mask lvl)
       if c.kind == kPruned then
         (if hi != Generated.lmHashIndex c.mask then
            (let off := Generated.prunedDepthOff (Generated.lmHashIndex c.mask) hi
             some (natOfBE (pySlice (dataBytes c.bits) (Generated.prunedDepthLo off) (Generated.prunedDepthHi off))))
          else c.depths[0]?)
       else c.depths[hi]?) := by
  have e1 : ∀ hi, Generated.prunedHashLo hi = 2 + 32 * hi := fun hi => (c02_src_pruned_offsets 0 hi 0).2.1
  have e2 : ∀ hi, Generated.prunedHashHi hi = 2 + 32 * (hi + 1) := fun hi => (c02_src_pruned_offsets 0 hi 0).2.2.1
  have e3 : ∀ pi hi, Generated.prunedDepthOff pi hi = 2 + 32 * pi + 2 * hi := fun pi hi => (c02_src_pruned_offsets pi hi 0).2.2.2.1
  have e4 : ∀ off, Generated.prunedDepthLo off = off := fun off => (c02_src_pruned_offsets 0 0 off).2.2.2.2.1
  have e5 : ∀ off, Generated.prunedDepthHi off = off + 2 := fun off => (c02_src_pruned_offsets 0 0 off).2.2.2.2.2
  have hP : ∀ m, Generated.lmHashIndex m = popcount m := fun m => (c02_src_hash_index m).2.1
  simp only [CellInfo.getHash, CellInfo.getDepth, c02_src_hash_index_at]
  simp only [hP, e1, e2, e3, e4, e5]
  constructor
  · have : ∀ h, 2 + h * 32 = 2 + 32 * h ∧ 2 + (h + 1) * 32 = 2 + 32 * (h + 1) := by intro h; omega
    simp only [this]
  · have : ∀ p h, 2 + 32 * p + h * 2 = 2 + 32 * p + 2 * h := by intro p h; omega
    simp only [this]

/-- descriptors of exotic cells: `get_refs_descriptor` / `get_bits_descriptor` compute the spec's d1 (with the exotic flag
and the level MASK) and d2, for ALL reference counts, flags, masks and bit lengths — the two bytes every per-level hash of
`c02_model_eq_spec` starts with (`Spec.plainHashAt`, `Spec.prunedHashAt`). -/
theorem c02_src_descriptors (r : Nat) (exotic : Bool) (mask b : Nat) :
    (Generated.refsDescriptor_sideOk r exotic mask ∧ Generated.bitsDescriptor_sideOk b) ∧
    Generated.refsDescriptor r exotic mask = Spec.d1 r exotic mask ∧ Generated.bitsDescriptor b = Spec.d2 b ∧
    descriptors r exotic b mask =
      (do let d1 ← toBytesBE? Generated.refsDescriptor_width (Generated.refsDescriptor r exotic mask)
          let d2 ← toBytesBE? Generated.bitsDescriptor_width (Generated.bitsDescriptor b)
          pure (d1 ++ d2)) :=
  have h1 := Proofs.SrcCellArith.refsDescriptor_eq r exotic mask
  have h2 := Proofs.SrcCellArith.bitsDescriptor_eq b
  ⟨⟨h1.1, h2.1⟩, h1.2, h2.2, Proofs.SrcCellArith.descriptors_src r exotic b mask⟩

/-- concrete values of the regenerated definitions on the gap mask 0b101. -/
example : Generated.lmLevel 5 = 3 ∧ Generated.lmHashIndex 5 = 2 ∧ Generated.lmApply 7 2 = 3 ∧
    Generated.lmIsSignificant 5 2 = false ∧ Generated.lmIsSignificant 5 3 = true ∧ Generated.prunedDepthOff 2 1 = 68 := by
  decide +kernel

end Src

/-! ## Source-regenerated constructor (`Generated/CellCtor.lean`: `Cell.__init__`, `resolve_mask`, the `calculate_hashes` loop,
`get_descriptors`, `get_data_bytes` (completion tag), `get_hash` / `get_depth`, `NullCell.__init__` and the `CellTypes` constants
are re-translated from cell.py / deserialize.py / exotic.py on every run by harness/translate/cellctor.py + pyobj.py)

`Generated.CellCtor.init H bits refs cell_type` is the mechanical translation of the constructor: `none` where the Python code
raises (the three `raise` points of `calculate_hashes`, `resolve_mask`'s checks, `to_bytes` overflow, IndexError), otherwise the
level mask, `_hashes` and `_depths` of the new cell; a child is given by its `CellInfo`, `hashlib.sha256` is the parameter `H`.
The hand model `Model.construct` — about which `c02_model_eq_spec`, the pruning theorems, C01 and the C11 binding theorems are
proved — is thereby tied to the source for ALL inputs, not by samples. -/
section SrcCtor
open TonVerif.Generated.CellCtor TonVerif.Proofs.SrcCellCtor

/-- For ALL cell types (also unknown ones), bit strings (any length) and lists of child infos (any number, any contents):
the regenerated constructor and the hand model take the same decision to raise and return the same cell info (level mask,
`_hashes`, `_depths`), and the other attributes the constructor sets are the model's: `_hash` = `CellInfo.hash` (the LAST entry of
`_hashes`), `_descriptors`, `_data_bytes` (`CtorOut.ofModel`, Model/CellCtorView.lean); and the
regenerated `get_hash` / `get_depth` / `get_data_bytes` / `resolve_mask` (what other cells and C11 read from a constructed cell)
are the hand model's. -/
theorem c02_src_constructor (H : Bytes → Bytes) (kind : Int) (bits : Bits) (refs : List CellInfo) :
    init H bits refs kind = (construct H kind bits refs).map CtorOut.ofModel ∧
    (init H bits refs kind).map CtorOut.toInfo = construct H kind bits refs ∧
    resolve_mask (self_type_ := kind) (self_refs := refs) (self_bits := bits) = resolveMask kind bits refs ∧
    get_data_bytes (self_bits := bits) = some (dataBytes bits) ∧
    (∀ (c : CellInfo) (l : Nat),
      get_hash l (self_level_mask := c.mask) (self_type_ := c.kind) (self_bits := c.bits) (self__hashes := c.hashes) = c.getHash l ∧
      get_depth l (self_level_mask := c.mask) (self_type_ := c.kind) (self_bits := c.bits) (self__depths := c.depths) = c.getDepth l) :=
  ⟨src_construct_eq_model H kind bits refs, src_construct_info H kind bits refs, resolve_mask_eq kind bits refs, get_data_bytes_eq bits,
    fun c l => ⟨get_hash_eq l c, get_depth_eq l c⟩⟩

/-- the hashing loop alone: `calculate_hashes` on a fresh cell (empty `_hashes` / `_depths`) is the fold of the hand model's
`hashStep` over the levels `0..level`, with the hash-index offset `total - hash_count` of the source. -/
theorem c02_src_calculate_hashes (H : Bytes → Bytes) (mask : Nat) (kind : Int) (refs : List CellInfo) (bits : Bits) :
    calculate_hashes H (self_level_mask := mask) (self_type_ := kind) (self__depths := []) (self__hashes := []) (self_refs := refs)
        (self_is_exotic := decide (kind ≠ -1)) (self_bits := bits) =
      ((List.range (bitLength mask + 1)).foldlM
          (hashStep H kind bits refs mask (popcount mask + 1 - (if kind == kPruned then 1 else popcount mask + 1))) ⟨0, [], []⟩).map
        (fun st => (st.depths, st.hashes)) :=
  calculate_hashes_eq H mask kind refs bits

/-- `c02_model_eq_spec` for the regenerated code: applying the REGENERATED constructor bottom-up to any spec-valid tree (pruned
branches of any mask, library cells, Merkle proofs / updates in any nesting) succeeds and yields the spec's level mask and the
spec's hash and depth at every level. -/
theorem c02_src_eq_spec (H : Bytes → Bytes) (c : Cell) (wf : TreeWF H c) :
    ∃ i s, srcInfo H c = some i ∧ specInfo H c = some s ∧
      i.mask = s.mask ∧ ∀ l, i.getHash l = some (s.hashAt l) ∧ i.getDepth l = some (s.depthAt l) := by
  rw [srcInfo_eq]; exact c02_model_eq_spec H c wf

/-! Non-vacuity: the regenerated constructor builds the gap-mask pruned branch of `prunedMask6` (spec-valid, see above) and the
two-cell tree; and it refuses a pruned branch that has a reference. -/
example (H : Bytes → Bytes) : (srcInfo H prunedMask6).isSome = true := by
  obtain ⟨i, _, hi, _⟩ := c02_src_eq_spec H prunedMask6 (prunedMask6_wf H)
  simp [hi]

example : (srcInfo toyH tree0).isSome = true := by
  obtain ⟨i, _, hi, _⟩ := c02_src_eq_spec toyH tree0 tree0_wf
  simp [hi]

example (H : Bytes → Bytes) (i : CellInfo) : init H (bytesToBits ([1, 1] ++ List.replicate 34 0)) [i] 1 = none := by
  rw [(c02_src_constructor H _ _ _).1]
  simp [construct, resolveMask, kPruned, kOrdinary]

/-- a cell of level 1 has two hashes and `Cell.hash` is the LAST one (ofModel on a concrete info) -/
example : (CtorOut.ofModel { kind := -1, bits := [], nrefs := 1, mask := 1, hashes := [[1], [2]], depths := [1, 1] }).hash = [2] := by
  decide

end SrcCtor

end TonVerif.Properties.C02
