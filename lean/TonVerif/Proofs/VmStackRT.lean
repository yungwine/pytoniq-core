/-
C17 round trip, part 1: tag dispatch of the model parsers `De.val` / `De.cont` (`Model/VmStack.lean`).  On a slice that starts
with a known tag the parser is the branch of that tag (`val_dispatch`, `cont_dispatch`), so reading a tagged encoding is reading
the tag and then the branch's fields (`reads_val_tag`; for continuations `reads_cont_tag` in `VmStackInv.lean`, where the
recursion over the schema relation of `Spec/Tlb/VmStack.lean` is).
-/
import TonVerif.Proofs.VmStack

namespace TonVerif.Proofs.Vm
open TonVerif TonVerif.Model TonVerif.Model.Vm TonVerif.Spec.Vm

variable {R : Type} {view : R → Bits × List R} {ord : R → Bool}

/-! ### combinators -/

theorem Reads.of_eq {α : Type} {p q : SOp R α} {xs rs a} (hq : Reads q xs rs a)
    (h : ∀ b' r', p ⟨xs ++ b', rs ++ r'⟩ = q ⟨xs ++ b', rs ++ r'⟩) : Reads p xs rs a := by
  intro b' r'; rw [h]; exact hq b' r'

/-! ### tag bytes -/

theorem bitsToBytes_head (xs rest : Bits) (h : xs.length = 8) :
    (bitsToBytes (xs ++ rest)).take 1 = [natOfBits xs] := by
  match xs, h with
  | x :: xs', h =>
    rw [List.cons_append, bitsToBytes]
    have : List.take 8 (x :: (xs' ++ rest)) = x :: xs' := by
      rw [← List.cons_append]; exact List.take_left' h
    simp [this, h]

theorem tagByte_length (k : Nat) : (tagByte k).length = 8 := natToBits_length _ _

theorem tag_take16 (k : Nat) (rest : Bits) (hk : k < 256) :
    (bitsToBytes ((tagByte k ++ rest).take 16)).take 1 = [k] := by
  have : (tagByte k ++ rest).take 16 = tagByte k ++ rest.take 8 := by
    rw [List.take_append, tagByte_length]
    rw [List.take_of_length_le (by rw [tagByte_length]; omega)]
  rw [this, bitsToBytes_head _ _ (tagByte_length k), tagByte, natOfBits_natToBits _ _ (by omega)]

theorem tag_take15 (k : Nat) (rest : Bits) (hk : k < 256) (h2 : k ≠ 2) :
    ((tagByte k ++ rest).take 15 == tagInt257) = false := by
  apply Bool.eq_false_iff.mpr
  intro h
  have h := eq_of_beq h
  have h8 := congrArg (List.take 8) h
  rw [List.take_take, show min 8 15 = 8 by decide, List.take_left' (tagByte_length k)] at h8
  have : natOfBits (tagByte k) = natOfBits (List.take 8 tagInt257) := by rw [h8]
  rw [tagByte, natOfBits_natToBits _ _ (by omega)] at this
  exact h2 (this.trans (by decide))


/-! ### tag dispatch of `VmStackValue.deserialize` -/

open SOp in
/-- the branch `VmStackValue.deserialize` takes on a one-byte tag `k` -/
def valBranch (view : R → Bits × List R) (ord : R → Bool) (fuel : Nat) : Nat → SOp R (Val R)
  | 0 => do let _ ← loadBytes 1; return Val.null
  | 1 => do let _ ← loadBytes 1; let v ← loadInt 64; return Val.int v
  | 3 => do let _ ← loadBytes 1; let c ← loadRef; return Val.cell c
  | 4 => do let _ ← loadBytes 1; let r ← De.cellSlice view; return Val.slice r.1 r.2
  | 5 => do let _ ← loadBytes 1
            let c ← loadRef
            if ord c then return Val.builder (view c).1 (view c).2 else SOp.fail
  | 6 => do let _ ← loadBytes 1
            let known ← (fun s' => (s', some (De.contTagKnown s')))
            if known then do let k ← De.cont view ord fuel; return Val.cont k
            else (if fuel = 0 then SOp.fail else return Val.null)
  | 7 => do let _ ← loadBytes 1
            let len ← loadUint 16
            let vs ← De.tuple view ord fuel len.toNat
            return Val.tuple vs
  | _ => SOp.fail

theorem val_dispatch (fuel k : Nat) (hk : k = 0 ∨ k = 1 ∨ k = 3 ∨ k = 4 ∨ k = 5 ∨ k = 6 ∨ k = 7)
    (rest : Bits) (rs : List R) :
    De.val view ord (fuel + 1) ⟨tagByte k ++ rest, rs⟩ = valBranch view ord fuel k ⟨tagByte k ++ rest, rs⟩ := by
  have h15 := tag_take15 k rest (by omega) (by omega)
  have h16 := tag_take16 k rest (by omega)
  have hne : (bitsToBytes (List.take 16 (tagByte k ++ rest)) == [2, 255]) = false := by
    apply Bool.eq_false_iff.mpr
    intro h; rw [eq_of_beq h] at h16; simp at h16; omega
  rw [De.val]
  simp only [h15, h16, hne]
  -- the remaining tests compare `[k]` with a literal byte
  rcases hk with rfl | rfl | rfl | rfl | rfl | rfl | rfl <;> rfl

theorem val_dispatch257 (fuel : Nat) (rest : Bits) (rs : List R) :
    De.val view ord (fuel + 1) ⟨tag0201 ++ rest, rs⟩ =
      (do let _ ← SOp.loadBits 15; let v ← SOp.loadInt 257; return Val.int v : SOp R (Val R)) ⟨tag0201 ++ rest, rs⟩ := by
  have : List.take 15 (tag0201 ++ rest) = tagInt257 := by
    rw [← tagInt257_eq]; exact List.take_left' (by decide)
  rw [De.val]
  simp only [this]
  simp


/-! ### tag dispatch of `VmCont.deserialize` -/

/-- `cls.deserialize(cell_slice.load_ref().begin_parse())` -/
def contRef (view : R → Bits × List R) (ord : R → Bool) (fuel : Nat) : SOp R (Cont R) := do
  let c ← SOp.loadRef; De.sub view (De.cont view ord fuel) c

open SOp in
/-- the `i`-th branch of `VmCont.deserialize` -/
def contBranch (view : R → Bits × List R) (ord : R → Bool) (fuel : Nat) : Nat → SOp R (Cont R)
  | 0 => do skipBits 2; let cd ← De.ctl view ord fuel; let cs ← De.cellSlice view; return Cont.std cd cs.1 cs.2
  | 1 => do skipBits 2; let cd ← De.ctl view ord fuel; let n ← contRef view ord fuel; return Cont.envelope cd n
  | 2 => do skipBits 4; let c ← loadInt 32; return Cont.quit c
  | 3 => do skipBits 4; return Cont.quitExc
  | 4 => do skipBits 5; let c ← loadUint 63; let b ← contRef view ord fuel; let a ← contRef view ord fuel
            return Cont.repeat_ c b a
  | 5 => do skipBits 6; let b ← contRef view ord fuel; let a ← contRef view ord fuel; return Cont.until_ b a
  | 6 => do skipBits 6; let b ← contRef view ord fuel; return Cont.again b
  | 7 => do skipBits 6; let c ← contRef view ord fuel; let b ← contRef view ord fuel; let a ← contRef view ord fuel
            return Cont.whileCond c b a
  | 8 => do skipBits 6; let c ← contRef view ord fuel; let b ← contRef view ord fuel; let a ← contRef view ord fuel
            return Cont.whileBody c b a
  | 9 => do skipBits 4; let v ← loadInt 32; let n ← contRef view ord fuel; return Cont.pushint v n
  | _ => SOp.fail

theorem cont_dispatch (fuel i : Nat) (hi : i < 10) (rest : Bits) (rs : List R) :
    De.cont view ord (fuel + 1) ⟨De.contTags.getD i [] ++ rest, rs⟩ =
      contBranch view ord fuel i ⟨De.contTags.getD i [] ++ rest, rs⟩ := by
  rw [De.cont]
  have : i = 0 ∨ i = 1 ∨ i = 2 ∨ i = 3 ∨ i = 4 ∨ i = 5 ∨ i = 6 ∨ i = 7 ∨ i = 8 ∨ i = 9 := by omega
  -- with the tag bits concrete, the prefix tests before branch `i` evaluate to `false` and the `i`-th to `true`
  rcases this with rfl | rfl | rfl | rfl | rfl | rfl | rfl | rfl | rfl | rfl <;> rfl

theorem contTagKnown_of (i : Nat) (hi : i < 10) (rest : Bits) (rs : List R) :
    De.contTagKnown (⟨De.contTags.getD i [] ++ rest, rs⟩ : Slice R) = true := by
  have hi' : i < De.contTags.length := hi
  rw [De.contTagKnown, List.any_eq_true]
  refine ⟨De.contTags[i], List.getElem_mem hi', ?_⟩
  rw [List.getD_eq_getElem?_getD, List.getElem?_eq_getElem hi', Option.getD_some, De.isPrefix, List.take_left' rfl]
  exact beq_self_eq_true _


/-! ### fuel -/

theorem From.succ {α : Type} {p : Nat → SOp R α} {xs rs a} (n : Nat)
    (h : ∀ f, n ≤ f → Reads (p (f + 1)) xs rs a) : From p xs rs a :=
  ⟨n + 1, fun fuel hf => by
    obtain ⟨f, rfl⟩ : ∃ f, fuel = f + 1 := ⟨fuel - 1, by omega⟩
    exact h f (by omega)⟩

/-! ### `VmStackValue` -/

/-- every one-byte tag alike: `VmStackValue.deserialize` on tag `k` reads the tag byte and runs the rest `p` of branch `k`
    (`hp` holds by `rfl` for each concrete `k`) -/
theorem reads_val_tag (fuel k : Nat) (hk : k = 0 ∨ k = 1 ∨ k = 3 ∨ k = 4 ∨ k = 5 ∨ k = 6 ∨ k = 7) {p : SOp R (Val R)}
    (hp : valBranch view ord fuel k = (do let _ ← SOp.loadBytes 1; p))
    {body : Bits} {rs : List R} {a : Val R} (h : Reads p body rs a) :
    Reads (De.val view ord (fuel + 1)) (tagByte k ++ body) rs a := by
  have hb : Reads (valBranch view ord fuel k) (tagByte k ++ body) rs a :=
    hp ▸ Reads.cast (Reads.bind (f := fun _ => p) (reads_loadByte k) h) rfl (by simp)
  exact hb.of_eq (fun b' r' => by rw [List.append_assoc]; exact val_dispatch fuel k hk _ _)

theorem reads_val_int257 (fuel : Nat) (v : Int) (hv : IntOk 257 v) :
    Reads (De.val view ord (fuel + 1)) (tag0201 ++ intBits 257 v) [] (Val.int v) := by
  have h1 : Reads (SOp.loadBits 15 : SOp R Bits) tag0201 [] tag0201 := reads_loadBits tag0201 15 (natToBits_length _ _)
  have h2 : Reads (SOp.loadInt 257 : SOp R Int) (intBits 257 v) [] v := reads_loadInt (by omega) hv
  have h3 := Reads.bind h1 (f := fun _ => (SOp.loadInt 257 : SOp R Int) >>= fun v => (pure (Val.int v) : SOp R (Val R)))
    (Reads.bind h2 (reads_pure (Val.int v : Val R)))
  refine Reads.of_eq (Reads.cast h3 (by rw [List.append_nil]) rfl) ?_
  intro b' r'
  rw [List.append_assoc]; exact val_dispatch257 fuel _ _

theorem reads_val_cont (fuel : Nat) {k : Cont R} {b : Bits} {r : List R} (i : Nat) (hi : i < 10) (rest : Bits)
    (hb : b = De.contTags.getD i [] ++ rest) (hk : Reads (De.cont view ord fuel) b r k) :
    Reads (De.val view ord (fuel + 1)) (tagByte 6 ++ b) r (Val.cont k) := by
  refine reads_val_tag fuel 6 (by simp) rfl ?_
  refine Reads.of_eq (q := De.cont view ord fuel >>= fun k => pure (Val.cont k))
    (Reads.cast (Reads.bind hk (reads_pure _)) (by simp) (by simp)) ?_
  intro b' r'
  subst hb
  show SOp.bind _ _ _ = _
  simp only [SOp.bind, List.append_assoc, contTagKnown_of i hi, if_true]

end TonVerif.Proofs.Vm
