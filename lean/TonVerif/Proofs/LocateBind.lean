/-
C11, account part: the lookup-only walk `lookupShardAccount` is the same on two cell structures related by a
simulation (`lookupShardAccount_sim`).  Three instances: (1) a constructed cell object and the tree it was built from
(`PCell.ofCell`); (2) the body of an accepted Merkle proof and ANY tree with the proved hash (`Agree`, Proofs/Binding.lean) —
the walk only ever stands on ordinary cells, so no pruned branch of the proof is looked into, and on the other side pruned
branches are excluded where an ordinary cell leads to them (`OrdUnpruned`); (3) a pruned tree and the tree it was pruned
from (`PruneRel`).  Then the same for the block header (`header_transfer`, `header_complete`: what the block hash binds of
`root[2]`), and constructors of the hypotheses (`Shape`, `OrdUnpruned`, `specInfo`, `PruneRel`) for trees of ordinary cells.
-/
import TonVerif.Proofs.Locate
import TonVerif.Proofs.Merkle
import TonVerif.Proofs.Binding
import TonVerif.Proofs.ProofAccept

namespace TonVerif.Proofs.Locate
open TonVerif TonVerif.Model TonVerif.Model.Hashmap TonVerif.Proofs.CellSpec TonVerif.Proofs.Merkle TonVerif.Proofs.Binding

set_option linter.unusedSimpArgs false
set_option linter.unusedVariables false

/-! ### generic simulation -/

theorem forall₂_get {α β : Type} {R : α → β → Prop} : ∀ {l : List α} {l' : List β}, List.Forall₂ R l l' →
    ∀ (k : Nat) (a : α), l[k]? = some a → ∃ b, l'[k]? = some b ∧ R a b
  | _, _, .nil, k, a, h => by cases h
  | _, _, .cons (b := y) hxy ht, 0, a, h => by cases h; exact ⟨y, rfl, hxy⟩
  | _, _, .cons hxy ht, k + 1, a, h => forall₂_get ht k a h

theorem forall₂_cons_inv {α β : Type} {R : α → β → Prop} {a : α} {l : List α} {l' : List β}
    (h : List.Forall₂ R (a :: l) l') : ∃ b l'', l' = b :: l'' ∧ R a b ∧ List.Forall₂ R l l'' := by
  cases h with
  | cons h1 h2 => exact ⟨_, _, rfl, h1, h2⟩

/-- the walk `lookupAug` commutes with every relation that, from an ORDINARY cell on the left, gives an ordinary cell
with the same bits and pairwise related references on the right -/
theorem lookupAug_sim {C D : Type} (V : CellView C) (W : CellView D) (R : C → D → Prop)
    (hstep : ∀ c d, R c d → V.kind c = -1 → W.kind d = -1 ∧ V.bits c = W.bits d ∧ List.Forall₂ R (V.refs c) (W.refs d)) :
    ∀ (fuel : Nat) (c : C) (d : D) (n : Nat) (key rest : Bits) (rs : List C), R c d →
      lookupAug V fuel c n key = some (rest, rs) →
      ∃ rs', lookupAug W fuel d n key = some (rest, rs') ∧ List.Forall₂ R rs rs'
  | 0, c, d, n, key, rest, rs, hR, h => by simp [lookupAug] at h
  | fuel + 1, c, d, n, key, rest, rs, hR, h => by
    rw [lookupAug] at h ⊢
    by_cases hk : V.kind c = -1
    swap
    · rw [if_pos hk] at h; cases h
    obtain ⟨hk', hb, hrefs⟩ := hstep c d hR hk
    rw [if_neg fun h' => h' hk] at h
    rw [if_neg fun h' => h' hk', ← hb]
    rcases hd : Hashmap.deserializeHml (V.bits c) (n : Int) with _ | ⟨l, s, rest0⟩
    · rw [hd] at h; cases h
    rw [hd] at h
    simp only at h ⊢
    by_cases hc : l > n ∨ key.take l ≠ s
    · rw [if_pos hc] at h; cases h
    rw [if_neg hc] at h ⊢
    by_cases hz : n - l = 0
    · rw [if_pos hz] at h ⊢
      cases h
      exact ⟨W.refs d, rfl, hrefs⟩
    rw [if_neg hz] at h ⊢
    split at h
    · rename_i b key' c0 c1 tl hkd hvr
      rw [hvr] at hrefs
      obtain ⟨d0, tl0, hw0, r0, hrest⟩ := forall₂_cons_inv hrefs
      obtain ⟨d1, tl1, hw1, r1, _⟩ := forall₂_cons_inv hrest
      subst hw1
      rw [hkd, hw0]
      simp only
      exact lookupAug_sim V W R hstep fuel _ _ _ key' rest rs (by cases b <;> simp [r0, r1]) h
    · cases h

theorem accountsRoot_sim {C D : Type} (V : CellView C) (W : CellView D) (R : C → D → Prop)
    (hstep : ∀ c d, R c d → V.kind c = -1 → W.kind d = -1 ∧ V.bits c = W.bits d ∧ List.Forall₂ R (V.refs c) (W.refs d))
    (st : C) (sd : D) (root : C) (hR : R st sd) (h : accountsRoot V st = some root) :
    ∃ root', accountsRoot W sd = some root' ∧ R root root' := by
  unfold accountsRoot at h ⊢
  by_cases hk : V.kind st = -1
  swap
  · rw [if_pos hk] at h; cases h
  obtain ⟨hk', hb, hrefs⟩ := hstep st sd hR hk
  rw [if_neg fun h' => h' hk] at h
  rw [if_neg fun h' => h' hk', ← hb]
  by_cases hlen : (V.bits st).length < 361
  · rw [if_pos hlen] at h; cases h
  rw [if_neg hlen] at h ⊢
  by_cases htag : (V.bits st).take 32 ≠ shardStateTag
  · rw [if_pos htag] at h; cases h
  rw [if_neg htag] at h ⊢
  rcases haccs : (V.refs st)[1]? with _ | accs
  · rw [haccs] at h; cases h
  rw [haccs] at h
  obtain ⟨accs', haccs', hRa⟩ := forall₂_get hrefs 1 accs haccs
  simp only [haccs'] at h ⊢
  by_cases hak : V.kind accs = -1
  swap
  · rw [if_pos hak] at h; cases h
  obtain ⟨hak', hab, harefs⟩ := hstep accs accs' hRa hak
  rw [if_neg fun h' => h' hak] at h
  rw [if_neg fun h' => h' hak', ← hab]
  split at h
  · rename_i bt r0 tl hbits hvr
    cases h
    rw [hvr] at harefs
    obtain ⟨d0, tl0, hw0, r0', _⟩ := forall₂_cons_inv harefs
    exact ⟨d0, by rw [hbits, hw0], r0'⟩
  · cases h

/-- `lookupShardAccount` commutes with such a relation: the account cells found are related -/
theorem lookupShardAccount_sim {C D : Type} (V : CellView C) (W : CellView D) (R : C → D → Prop)
    (hstep : ∀ c d, R c d → V.kind c = -1 → W.kind d = -1 ∧ V.bits c = W.bits d ∧ List.Forall₂ R (V.refs c) (W.refs d))
    (st : C) (sd : D) (key : Bits) (acc : C) (hR : R st sd) (h : lookupShardAccount V st key = some acc) :
    ∃ acc', lookupShardAccount W sd key = some acc' ∧ R acc acc' := by
  unfold lookupShardAccount at h ⊢
  split at h
  · cases h
  · rename_i root hroot
    obtain ⟨root', hroot', hRr⟩ := accountsRoot_sim V W R hstep st sd root hR hroot
    simp only [hroot']
    split at h
    · cases h
    · rename_i rest refs hl
      obtain ⟨refs', hl', hrefs⟩ := lookupAug_sim V W R hstep 257 root root' 256 key rest refs hRr hl
      simp only [hl']
      split at h
      · cases h
      · rename_i r k hs
        split at h
        · cases h
        · rename_i h320
          rw [if_neg h320]
          exact forall₂_get hrefs k acc h

/-! ### instance 1: a constructed object and its tree -/

/-- `c` is the object of the spec-valid tree `d` -/
def ObjOf (H : Bytes → Bytes) (c : PCell) (d : Cell) : Prop := PCell.ofCell H d = some c ∧ TreeWF H d

theorem objOf_refs (H : Bytes → Bytes) : ∀ (ds : List Cell) (cs : List PCell), PCell.ofCells H ds = some cs → TreesWF H ds →
    List.Forall₂ (ObjOf H) cs ds
  | [], cs, h, _ => by simp [PCell.ofCells] at h; subst h; exact .nil
  | d :: ds, cs, h, wf => by
    rw [TreesWF] at wf
    simp only [PCell.ofCells, Option.bind_eq_bind, Option.bind_eq_some_iff, Option.pure_def, Option.some.injEq] at h
    obtain ⟨c, hc, cs', hcs, rfl⟩ := h
    exact .cons ⟨hc, wf.1⟩ (objOf_refs H ds cs' hcs wf.2)

/-- an object shows the type, the bits and (the objects of) the references of its tree, at every cell -/
theorem objOf_view (H : Bytes → Bytes) (c : PCell) (d : Cell) (h : ObjOf H c d) :
    cellView.kind d = pcellView.kind c ∧ pcellView.bits c = cellView.bits d ∧
      List.Forall₂ (ObjOf H) (pcellView.refs c) (cellView.refs d) := by
  cases d with
  | mk kind bits refs =>
    obtain ⟨ho, wf⟩ := h
    rw [TreeWF] at wf
    simp only [PCell.ofCell, Option.bind_eq_bind, Option.bind_eq_some_iff, Option.pure_def, Option.some.injEq] at ho
    obtain ⟨rs, hrs, i, hi, rfl⟩ := ho
    obtain ⟨e1, e2, _⟩ := construct_fields H kind bits _ i hi
    exact ⟨e1.symm, e2, objOf_refs H refs rs hrs wf.1⟩

theorem objOf_step (H : Bytes → Bytes) (c : PCell) (d : Cell) (h : ObjOf H c d) (hk : pcellView.kind c = -1) :
    cellView.kind d = -1 ∧ pcellView.bits c = cellView.bits d ∧ List.Forall₂ (ObjOf H) (pcellView.refs c) (cellView.refs d) :=
  let ⟨ek, eb, hr⟩ := objOf_view H c d h
  ⟨ek.trans hk, eb, hr⟩

/-! ### instance 2: the body of an accepted proof and a tree with the proved hash -/

mutual
  /-- pruned branches occur only below exotic (Merkle proof / update) cells: wherever an ordinary cell leads to, there
  is no pruned branch.  A genuine shard state is such a tree. -/
  def OrdUnpruned : Cell → Prop
    | .mk kind _ refs => kind ≠ 1 ∧ (kind = -1 → OrdUnprunedL refs)
  def OrdUnprunedL : List Cell → Prop
    | [] => True
    | c :: cs => OrdUnpruned c ∧ OrdUnprunedL cs
end

/-- the two trees agree at level 0 and the right one has no pruned branch below ordinary cells -/
def AgreeU (H : Bytes → Bytes) (p t : Cell) : Prop := Agree H 0 p t ∧ OrdUnpruned t

theorem agreeU_refs (H : Bytes → Bytes) : ∀ (ps ts : List Cell), Binding.Agrees H 0 ps ts → OrdUnprunedL ts →
    List.Forall₂ (AgreeU H) ps ts
  | [], ts, h, _ => by rw [Binding.Agrees] at h; subst h; exact .nil
  | p :: ps, ts, h, hu => by
    rw [Binding.Agrees] at h
    obtain ⟨t, ts', rfl, h1, h2⟩ := h
    rw [OrdUnprunedL] at hu
    exact .cons ⟨h1, hu.1⟩ (agreeU_refs H ps ts' h2 hu.2)

/-- at a cell of `p` that is not a pruned branch the two trees show the same type and bits; below an ORDINARY cell
(μ = 0) the references agree at level 0 again -/
theorem agreeU_view (H : Bytes → Bytes) (p t : Cell) (h : AgreeU H p t) (hk : cellView.kind p ≠ 1) :
    cellView.kind t = cellView.kind p ∧ cellView.bits p = cellView.bits t ∧
      (cellView.kind p = -1 → List.Forall₂ (AgreeU H) (cellView.refs p) (cellView.refs t)) := by
  cases p with
  | mk kp bp rp =>
    cases t with
    | mk kt bt rt =>
      obtain ⟨ha, hu⟩ := h
      simp only [cellView] at hk ⊢
      rw [Agree] at ha
      rw [OrdUnpruned] at hu
      obtain ⟨⟨sp, st, hsp, hst, hh⟩, hc⟩ := ha
      rcases hc with h1 | h1 | ⟨ek, eb, en, hkids⟩
      · exact absurd h1.1 hk
      · exact absurd h1.1 hu.1
      · refine ⟨ek.symm, eb, fun hord => ?_⟩
        have hka := hkids sp hsp 0 (Nat.le_refl _) (sigB_zero _)
        have hmu : muOf kp = 0 := by rw [hord]; decide
        rw [Nat.zero_add, hmu] at hka
        exact agreeU_refs H rp rt hka (hu.2 (ek ▸ hord))

theorem agreeU_step (H : Bytes → Bytes) (p t : Cell) (h : AgreeU H p t) (hk : cellView.kind p = -1) :
    cellView.kind t = -1 ∧ cellView.bits p = cellView.bits t ∧ List.Forall₂ (AgreeU H) (cellView.refs p) (cellView.refs t) :=
  let ⟨ek, eb, hr⟩ := agreeU_view H p t h (by rw [hk]; decide)
  ⟨ek.trans hk, eb, hr hk⟩

/-! ### the object of a one-child tree -/

theorem ofCell_single (H : Bytes → Bytes) (kind : Int) (bits : Bits) (p : Cell) (c : PCell)
    (h : PCell.ofCell H (.mk kind bits [p]) = some c) : ∃ r, c.refs = [r] ∧ PCell.ofCell H p = some r := by
  simp only [PCell.ofCell, PCell.ofCells, Option.bind_eq_bind, Option.bind_eq_some_iff, Option.pure_def,
    Option.some.injEq] at h
  obtain ⟨rs, ⟨r, hr, _, hnil, rfl⟩, i, _, rfl⟩ := h
  cases hnil
  exact ⟨r, rfl, hr⟩

theorem objOf_single (H : Bytes → Bytes) (kind : Int) (bits : Bits) (p : Cell) (c r : PCell)
    (h : ObjOf H c (.mk kind bits [p])) (hr : c.refs[0]? = some r) : ObjOf H r p := by
  obtain ⟨_, hp, hrp⟩ := forall₂_get (objOf_view H c _ h).2.2 0 r hr
  cases hp
  exact hrp

/-- the object built from a spec-valid tree reports the tree's spec mask, hashes and depths -/
theorem ofCell_agrees (H : Bytes → Bytes) (c : Cell) (p : PCell) (s : Spec.SInfo) (wf : TreeWF H c)
    (hp : PCell.ofCell H c = some p) (hs : specInfo H c = some s) : Agrees p.info s := by
  obtain ⟨i, s', hi, hs', hag⟩ := tree_agrees H c wf
  rw [hs] at hs'
  cases hs'
  have := ofCell_info H c
  rw [hp, hi] at this
  rw [Option.some.inj this]
  exact hag

/-- the account cell the walk finds in the body `p` of an accepted state proof corresponds, in EVERY tree `T` that
agrees with `p` at level 0 and has no pruned branch below ordinary cells, to the account cell `T`'s own dictionary
holds under the same key — and the two have the same level-0 hash -/
theorem lookup_transfer (H : Bytes → Bytes) (p T : Cell) (st acc : PCell) (key : Bits)
    (hst : PCell.ofCell H p = some st) (wfp : TreeWF H p) (hag : Agree H 0 p T) (hu : OrdUnpruned T)
    (hlk : lookupShardAccount pcellView st key = some acc) :
    ∃ aT sa, lookupShardAccount cellView T key = some aT ∧ specInfo H aT = some sa ∧
      acc.info.getHash 0 = some (sa.hashAt 0) := by
  obtain ⟨a, hla, hoa, wfa⟩ := lookupShardAccount_sim pcellView cellView (ObjOf H) (objOf_step H) st p key acc ⟨hst, wfp⟩ hlk
  obtain ⟨aT, hlT, haa, _⟩ := lookupShardAccount_sim cellView cellView (AgreeU H) (agreeU_step H) p T key a ⟨hag, hu⟩ hla
  cases a with
  | mk ka ba ra =>
    cases aT with
    | mk kt bt rt =>
      rw [Agree] at haa
      obtain ⟨⟨sp', sT', h1, h2, h3⟩, _⟩ := haa
      exact ⟨_, sT', hlT, h2, by rw [((ofCell_agrees H _ acc sp' wfa hoa h1).2 0).1, h3]⟩

/-! ### instance 3: a pruned tree and the tree it was pruned from -/
open TonVerif.Proofs.Prune

/-- `p` is `t` with any set of subtrees replaced by pruned branches (Merkle depth 1) -/
def PrunedOf (H : Bytes → Bytes) (p t : Cell) : Prop := PruneRel H 1 t p

theorem prunedOf_refs (H : Bytes → Bytes) : ∀ (ts ps : List Cell), PruneRels H 1 ts ps → List.Forall₂ (PrunedOf H) ps ts
  | [], ps, h => by rw [PruneRels] at h; subst h; exact .nil
  | t :: ts, ps, h => by
    rw [PruneRels] at h
    obtain ⟨p, ps', rfl, h1, h2⟩ := h
    exact .cons h1 (prunedOf_refs H ts ps' h2)

theorem prunedOf_step (H : Bytes → Bytes) (p t : Cell) (h : PrunedOf H p t) (hk : cellView.kind p = -1) :
    cellView.kind t = -1 ∧ cellView.bits p = cellView.bits t ∧ List.Forall₂ (PrunedOf H) (cellView.refs p) (cellView.refs t) := by
  cases t with
  | mk kind bits refs =>
    unfold PrunedOf at h
    rw [PruneRel] at h
    rcases h with ⟨s, _, _, rfl⟩ | ⟨k, refs', hkind, rfl, hrels⟩
    · simp [cellView, prunedCell] at hk
    · simp only [cellView] at hk ⊢
      subst hk
      have : k = .ordinary := by simpa [kindOf] using hkind.symm
      subst this
      exact ⟨rfl, trivial, prunedOf_refs H refs refs' hrels⟩

/-- the account cell the walk finds in a PRUNED state is the pruning of the account cell of the full state: it has the
same level-0 hash, whether it is there in full or as a pruned branch -/
theorem lookup_pruned (H : Bytes → Bytes) (ts ps : Cell) (st acc : PCell) (key : Bits) (aT : Cell) (sa : Spec.SInfo)
    (hst : PCell.ofCell H ps = some st) (wfp : TreeWF H ps) (hrel : PruneRel H 1 ts ps)
    (hlk : lookupShardAccount pcellView st key = some acc)
    (hfull : lookupShardAccount cellView ts key = some aT) (hsa : specInfo H aT = some sa) :
    acc.info.getHash 0 = some (sa.hashAt 0) := by
  obtain ⟨a, hla, hoa, wfa⟩ := lookupShardAccount_sim pcellView cellView (ObjOf H) (objOf_step H) st ps key acc ⟨hst, wfp⟩ hlk
  obtain ⟨aT', hlT, hpr⟩ := lookupShardAccount_sim cellView cellView (PrunedOf H) (prunedOf_step H) ps ts key a hrel hla
  rw [hfull] at hlT
  cases hlT
  obtain ⟨sa', hsa', hinv⟩ := prune_invariant H 1 aT a sa hpr hsa
  rw [((ofCell_agrees H a acc sa' wfa hoa hsa').2 0).1, (hinv 0 (by omega)).1]

/-! ### the header: what the block hash binds of `root[2]` -/

theorem agrees_length (H : Bytes → Bytes) : ∀ (ps ts : List Cell) (l : Nat), Binding.Agrees H l ps ts → ps.length = ts.length
  | [], ts, l, h => by rw [Binding.Agrees] at h; subst h; rfl
  | p :: ps, ts, l, h => by
    rw [Binding.Agrees] at h
    obtain ⟨t, ts', rfl, _, h2⟩ := h
    simp [agrees_length H ps ts' l h2]

/-- If the body `pb` of an accepted header proof shows a Merkle update cell at `root[2]`, then every tree `TB` that agrees
with `pb` at level 0 and has no pruned branch below ordinary cells has at ITS `root[2]` a Merkle update cell with the same
data bits (so the same stored new-state hash). -/
theorem header_transfer (H : Bytes → Bytes) (pb TB : Cell) (hdr su : PCell) (hobj : PCell.ofCell H pb = some hdr)
    (wfp : TreeWF H pb) (hag : Agree H 0 pb TB) (hu : OrdUnpruned TB) (shp : Shape pb) (h2 : hdr.refs[2]? = some su)
    (hk : su.info.kind = 4) :
    ∃ suT, (cellView.refs TB)[2]? = some suT ∧ cellView.kind suT = 4 ∧ cellView.bits suT = su.info.bits := by
  obtain ⟨_, _, hrefs⟩ := objOf_view H hdr pb ⟨hobj, wfp⟩
  obtain ⟨sup, hsup, hosup⟩ := forall₂_get hrefs 2 su h2
  -- a cell with three references is ordinary
  have hkp : cellView.kind pb = -1 := by
    cases pb with
    | mk kp bp rp =>
      have hlen := (List.getElem?_eq_some_iff.1 hsup).1
      rw [Shape] at shp
      simp only [cellView] at hlen ⊢
      rcases shp.2.1 with h | ⟨_, h, _⟩ | ⟨_, h⟩ | ⟨_, h⟩ | ⟨_, h⟩
      · exact h
      · rw [h] at hlen; cases hlen
      · rw [h] at hlen; cases hlen
      · omega
      · omega
  obtain ⟨suT, hsuT, hRu⟩ := forall₂_get ((agreeU_view H pb TB ⟨hag, hu⟩ (by rw [hkp]; decide)).2.2 hkp) 2 sup hsup
  obtain ⟨eks, ebs, _⟩ := objOf_view H su sup hosup
  have hks : cellView.kind sup = 4 := eks.trans hk
  obtain ⟨ekT, ebT, _⟩ := agreeU_view H sup suT hRu (by rw [hks]; decide)
  exact ⟨suT, hsuT, ekT.trans hks, (ebs.trans ebT).symm⟩

/-- completeness of the state-hash read-out: a spec-valid (possibly pruned) block tree whose third reference is a Merkle
update cell `.mk 4 ub [o, n]` storing in its data bytes 33..64 the level-0 hash of its second child, and whose object
reports `blk` as level-0 hash, passes `check_block_header_proof(·, blk, True)`, which returns that hash -/
theorem header_complete (H : Bytes → Bytes) (k : Int) (b ub : Bits) (x0 x1 o n : Cell) (rest : List Cell) (r0 : PCell)
    (blk : Bytes) (sn : Spec.SInfo)
    (wf : TreeWF H (.mk k b (x0 :: x1 :: .mk 4 ub [o, n] :: rest)))
    (hobj : PCell.ofCell H (.mk k b (x0 :: x1 :: .mk 4 ub [o, n] :: rest)) = some r0)
    (hblk : r0.info.getHash 0 = some blk) (hsn : specInfo H n = some sn)
    (hdata : pySlice (dataBytes ub) 33 65 = sn.hashAt 0) :
    checkBlockHeaderProofState r0 blk = some (sn.hashAt 0) := by
  obtain ⟨_, _, hrefs⟩ := objOf_view H r0 _ ⟨hobj, wf⟩
  generalize e0 : pcellView.refs r0 = rs at hrefs
  rcases hrefs with _ | ⟨_, _ | ⟨_, _ | @⟨psu, _, _, _, hsu, _⟩⟩⟩
  obtain ⟨ek, eb, hr⟩ := objOf_view H psu _ hsu
  generalize e1 : pcellView.refs psu = rsu at hr
  rcases hr with _ | ⟨_, _ | @⟨pn, _, _, _, hn, _⟩⟩
  refine (ProofAccept.checkBlockHeaderProofState_iff r0 blk _).2 ⟨hblk, psu, pn, congrArg (·[2]?) e0, congrArg (·[1]?) e1,
    ek.symm, ((ofCell_agrees H n pn sn hn.2 hn.1 hsn).2 0).1, ?_⟩
  rw [PCell.data]
  exact (congrArg (fun x => pySlice (dataBytes x) 33 65) eb).trans hdata

/-! ### building the hypotheses for trees of ordinary cells -/

theorem shape_ord (bits : Bits) (refs : List Cell) (h : refs.length ≤ 4) (hs : Shapes refs) : Shape (.mk (-1) bits refs) := by
  rw [Shape]; exact ⟨h, Or.inl rfl, hs⟩
theorem shapes_nil : Shapes [] := by rw [Shapes]; trivial
theorem shapes_cons (c : Cell) (cs : List Cell) (h1 : Shape c) (h2 : Shapes cs) : Shapes (c :: cs) := by
  rw [Shapes]; exact ⟨h1, h2⟩

mutual
  /-- `Shape` as a Boolean, so that the shape of a concrete tree with exotic cells is settled by evaluation -/
  def shapeB : Cell → Bool
    | .mk kind bits refs =>
      decide (refs.length ≤ 4) &&
      ((decide (kind = -1) ||
        ((decide (kind = 1) && (refs.isEmpty && (decide (1 ≤ pmaskOf bits) &&
            decide (16 + 256 * Spec.popcount (pmaskOf bits) ≤ bits.length)))) ||
        ((decide (kind = 2) && refs.isEmpty) ||
        ((decide (kind = 3) && decide (refs.length = 1)) || (decide (kind = 4) && decide (refs.length = 2)))))) &&
      shapesB refs)
  def shapesB : List Cell → Bool
    | [] => true
    | c :: cs => shapeB c && shapesB cs
end

mutual
  theorem shape_of_shapeB : ∀ c : Cell, shapeB c = true → Shape c
    | .mk kind bits refs => by
      rw [shapeB, Shape]
      simp only [Bool.and_eq_true, Bool.or_eq_true, decide_eq_true_eq, List.isEmpty_iff]
      exact fun ⟨h1, h2, h3⟩ => ⟨h1, h2, shapes_of_shapesB refs h3⟩
  theorem shapes_of_shapesB : ∀ cs : List Cell, shapesB cs = true → Shapes cs
    | [] => fun _ => shapes_nil
    | c :: cs => by
      rw [shapesB, Bool.and_eq_true]
      exact fun ⟨h1, h2⟩ => shapes_cons c cs (shape_of_shapeB c h1) (shapes_of_shapesB cs h2)
end

theorem ordUnpruned_ord (bits : Bits) (refs : List Cell) (h : OrdUnprunedL refs) : OrdUnpruned (.mk (-1) bits refs) := by
  rw [OrdUnpruned]; exact ⟨by decide, fun _ => h⟩
theorem ordUnprunedL_nil : OrdUnprunedL [] := by rw [OrdUnprunedL]; trivial
theorem ordUnprunedL_cons (c : Cell) (cs : List Cell) (h1 : OrdUnpruned c) (h2 : OrdUnprunedL cs) : OrdUnprunedL (c :: cs) := by
  rw [OrdUnprunedL]; exact ⟨h1, h2⟩

theorem specInfo_ord_some (H : Bytes → Bytes) (bits : Bits) (refs : List Cell) (h : ∃ ss, specInfos H refs = some ss) :
    ∃ s, specInfo H (.mk (-1) bits refs) = some s := by
  obtain ⟨ss, h⟩ := h
  exact ⟨Spec.node H .ordinary bits ss, by simp [specInfo, kindOf, h]⟩
theorem specInfos_nil_some (H : Bytes → Bytes) : ∃ ss, specInfos H [] = some ss := ⟨[], by simp [specInfos]⟩
theorem specInfos_cons_some (H : Bytes → Bytes) (c : Cell) (cs : List Cell) (h1 : ∃ s, specInfo H c = some s)
    (h2 : ∃ ss, specInfos H cs = some ss) : ∃ ss, specInfos H (c :: cs) = some ss := by
  obtain ⟨s, h1⟩ := h1
  obtain ⟨ss, h2⟩ := h2
  exact ⟨s :: ss, by simp [specInfos, h1, h2]⟩

theorem pruneRel_ord_refl (H : Bytes → Bytes) (d : Nat) (bits : Bits) (refs : List Cell) (h : PruneRels H d refs refs) :
    PruneRel H d (.mk (-1) bits refs) (.mk (-1) bits refs) := by
  rw [PruneRel]; exact Or.inr ⟨.ordinary, refs, by decide, rfl, by simpa [Spec.Kind.mu] using h⟩
theorem pruneRels_nil (H : Bytes → Bytes) (d : Nat) : PruneRels H d [] [] := by rw [PruneRels]
theorem pruneRels_cons (H : Bytes → Bytes) (d : Nat) (c : Cell) (cs : List Cell) (h1 : PruneRel H d c c) (h2 : PruneRels H d cs cs) :
    PruneRels H d (c :: cs) (c :: cs) := by
  rw [PruneRels]; exact ⟨c, cs, rfl, h1, h2⟩

end TonVerif.Proofs.Locate
