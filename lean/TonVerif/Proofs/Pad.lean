/-
Invertibility of the completion-tag padding (tvm.pdf 3.1.4): the data bytes of a cell together with its
bit-length descriptor `d2` determine the bit string, for every length.

  dataBytes bits = bitsToBytes (bits ++ 1 0…0)   (nothing appended when byte aligned)
  d2 (len)       = ⌊len/8⌋ + ⌈len/8⌉             (odd exactly when a completion tag was added)

Used by C11 (binding gives equal BIT STRINGS, not only equal padded bytes) and exported for C01
(`repr_injective`: the standard representation determines descriptors, bits, child depths and child hashes).
-/
import TonVerif.Proofs.Prune

namespace TonVerif.Proofs.Pad
open TonVerif TonVerif.Model TonVerif.Proofs.CellSpec TonVerif.Proofs.Prune

set_option linter.unusedSimpArgs false
set_option linter.unusedVariables false

/-! ### bytes -> bits -> bytes and back -/

/-- a whole number of bytes of bits survives the round trip through `tobytes()` -/
theorem bytesToBits_bitsToBytes : ∀ (n : Nat) (xs : Bits), xs.length = 8 * n → bytesToBits (bitsToBytes xs) = xs :=
  fun _ xs h => Bits.bytesToBits_bitsToBytes xs (by omega)

/-! ### removing the completion tag -/

theorem tag_tail_inj_rev : ∀ (k k' : Nat) (xs ys : Bits),
    List.replicate k false ++ true :: xs = List.replicate k' false ++ true :: ys → xs = ys := by
  intro k
  induction k with
  | zero =>
    intro k' xs ys h
    cases k' with
    | zero => simpa using h
    | succ k' => simp [List.replicate_succ] at h
  | succ k ih =>
    intro k' xs ys h
    cases k' with
    | zero => simp [List.replicate_succ] at h
    | succ k' =>
      simp only [List.replicate_succ, List.cons_append, List.cons.injEq, true_and] at h
      exact ih k' xs ys h

theorem tag_tail_inj (k k' : Nat) (xs ys : Bits)
    (h : xs ++ [true] ++ List.replicate k false = ys ++ [true] ++ List.replicate k' false) : xs = ys := by
  have := congrArg List.reverse h
  simp only [List.reverse_append, List.reverse_replicate, List.reverse_cons, List.reverse_nil, List.nil_append,
    List.singleton_append, List.append_assoc] at this
  have := tag_tail_inj_rev k k' _ _ this
  simpa using congrArg List.reverse this

/-- PADDING IS INVERTIBLE: two bit strings that are both byte aligned or both not, with the same padded form, are equal -/
theorem padBits_inj (a b : Bits) (hal : a.length % 8 = 0 ↔ b.length % 8 = 0)
    (h : Spec.padBits a = Spec.padBits b) : a = b := by
  unfold Spec.padBits at h
  by_cases ha : a.length % 8 = 0
  · have hb := hal.mp ha
    simpa [ha, hb] using h
  · have hb : ¬ b.length % 8 = 0 := fun hb => ha (hal.mpr hb)
    rw [if_neg ha, if_neg hb] at h
    exact tag_tail_inj _ _ a b h

theorem d2_aligned_iff (m n : Nat) (h : Spec.d2 m = Spec.d2 n) : (m % 8 = 0 ↔ n % 8 = 0) ∧ m / 8 = n / 8 := by
  unfold Spec.d2 at h
  omega

/-- DATA BYTES + BIT DESCRIPTOR DETERMINE THE BITS (every length; in particular 0..1023):
`get_data_bytes()` is injective among cells with the same `d2`. -/
theorem dataBytes_inj (a b : Bits) (hd2 : Spec.d2 a.length = Spec.d2 b.length)
    (h : Spec.dataBytes a = Spec.dataBytes b) : a = b := by
  apply padBits_inj a b (d2_aligned_iff _ _ hd2).1
  rw [padBits_eq, padBits_eq, h]

/-- the same about the model's `get_data_bytes` -/
theorem model_dataBytes_inj (a b : Bits) (hd2 : Spec.d2 a.length = Spec.d2 b.length)
    (h : Model.dataBytes a = Model.dataBytes b) : a = b := by
  rw [dataBytes_eq, dataBytes_eq] at h
  exact dataBytes_inj a b hd2 h

end TonVerif.Proofs.Pad
