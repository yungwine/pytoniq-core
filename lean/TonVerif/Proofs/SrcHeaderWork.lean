/-
WORK OF THE HEADER PARSER on the regenerated `Boc.deserialize_boc_header` (Generated/BocHeader.lean), for runs that RETURN: the comprehension
iterations (3 size fields + root list + index) and the bytes run through the Python-level CRC loop, read off the returned header through
`src_header_eq_model` and what the hand model accepts (`header_iff`).
-/
import TonVerif.Proofs.SrcBocHeader
import TonVerif.Proofs.BocHeaderPath
import TonVerif.Proofs.SrcLoops

namespace TonVerif.Proofs.SrcHeaderWork
open TonVerif TonVerif.Model TonVerif.Model.BocParse TonVerif.Generated.BocHeader TonVerif.Proofs.SrcBocHeader TonVerif.Proofs.BocHeaderPath

theorem header_work (data : Bytes) (h : HeaderOut) (hh : header data = some h) :
    1 ≤ h.size_bytes ∧
    3 + h.root_list.length + (match h.index with | some ix => ix.length | none => 0) + 3 ≤ data.length ∧
    (h.root_list.length = h.roots_num) ∧
    (∀ ix, h.index = some ix → ix.length = h.cells_num ∧ 1 ≤ h.offset_bytes ∧ h.cells_num * h.offset_bytes ≤ data.length) ∧
    (h.hash_crc32 = true → 4 ≤ data.length ∧ ∃ c, Model.crc32c (data.take (data.length - 4)) = some c ∧ c = data.drop (data.length - 4)) := by
  rw [src_header_eq_model] at hh
  obtain ⟨m, hd, rfl⟩ := Option.map_eq_some_iff.1 hh
  obtain ⟨hF, hlen, hleg, hrl, ho0, hix, -, hcrc⟩ := (header_iff data m).1 hd
  obtain ⟨fl, off, cells, roots, absent, tot, rl, ix, cd⟩ := m
  dsimp only [Header.fields, Fields.expectedLen, Fields.cellsStart, Fields.hdrEnd, Fields.rootsLen, Fields.indexLen, Fields.crcLen,
    HeaderOut.ofModel] at *
  have hs : 1 ≤ fl.sizeBytes := Nat.pos_of_ne_zero ((readFields_eq_some ..).1 hF).hs
  clear hd hh
  rw [hrl, hix]; clear hrl hix
  have hR : (if fl.generic = true then uintsAt data (6 + 3 * fl.sizeBytes + off) fl.sizeBytes roots else [0]).length = roots ∧
      roots ≤ (if fl.generic = true then roots * fl.sizeBytes else 0) + 1 := by
    by_cases hg : fl.generic = true
    · rw [if_pos hg, if_pos hg, SrcLoops.uintsAt_length]; exact ⟨rfl, by have := Nat.le_mul_of_pos_right roots hs; omega⟩
    · rw [if_neg hg, if_neg hg, hleg (by simpa using hg)]; exact ⟨rfl, by omega⟩
  refine ⟨hs, ?_, hR.1, ?_, fun hc => ?_⟩
  · rw [hR.1]
    by_cases hi : fl.hasIdx = true
    · have := Nat.le_mul_of_pos_right cells (Nat.pos_of_ne_zero (ho0 hi))
      rw [if_pos hi] at hlen; rw [if_pos hi, if_pos hi]; dsimp only; rw [SrcLoops.uintsAt_length]; omega
    · rw [if_neg hi] at hlen; rw [if_neg hi]; dsimp only; omega
  · intro ix' hix'
    by_cases hi : fl.hasIdx = true
    · rw [if_pos hi] at hlen; rw [if_pos hi, if_pos hi] at hix'; cases hix'
      exact ⟨SrcLoops.uintsAt_length .., Nat.pos_of_ne_zero (ho0 hi), by omega⟩
    · rw [if_neg hi] at hix'; cases hix'
  · rw [if_pos hc] at hlen
    exact ⟨by omega, _, hcrc hc, rfl⟩

end TonVerif.Proofs.SrcHeaderWork
