/-
General binding (soundness core of C11): equal level-`l` hashes pin down every unpruned cell, for trees WITH inner
Merkle proof/update cells and for every level `l`.

The level-`l` hash of a non-pruned cell is `H` of its representation at the highest significant level `L ≤ l`
(`plainHashAt_top`); that representation holds the descriptor bytes (reference count, exotic flag, `mask % 2^L`,
bit-length descriptor), then the data bytes (L = 0) or the hash at level `L-1` (L > 0: hash chaining), then depths and
hashes of the children at level `L + μ`.  Under a LOCAL no-collision hypothesis on the representations occurring in the
two trees, equal hashes give equal representations, which give: same `L`, same kind, same bit string
(`Pad.dataBytes_inj`), same number of children, equal child hashes at level `L + μ` — and, through the chained hash,
the same again for every significant level below (`plain_binding`, induction on the level).  `binding_aux` is the
induction over the tree.
-/
import TonVerif.Proofs.Merkle
import TonVerif.Proofs.Pad

namespace TonVerif.Proofs.Binding
open TonVerif TonVerif.Model TonVerif.Proofs.CellSpec TonVerif.Proofs.Prune TonVerif.Proofs.Merkle TonVerif.Proofs.Pad

set_option linter.unusedSimpArgs false
set_option linter.unusedVariables false

/-! ### significant levels and the representation at a level -/

/-- level `L` is significant for the level mask `m`: level 0 always, level `j+1` iff bit `j` is set -/
def sigB (m L : Nat) : Bool := L == 0 || m.testBit (L - 1)

/-- what is hashed in place of the data at level `L`: the data bytes at level 0, the level-`(L-1)` hash above -/
def payload (H : Bytes → Bytes) (k : Spec.Kind) (bits : Bits) (ss : List Spec.SInfo) (m : Nat) : Nat → Bytes
  | 0 => Spec.dataBytes bits
  | j+1 => Spec.plainHashAt H k bits ss m j

/-- the representation of a non-pruned cell at level `L` -/
def reprAt (H : Bytes → Bytes) (k : Spec.Kind) (bits : Bits) (ss : List Spec.SInfo) (m L : Nat) : Bytes :=
  [Spec.d1 ss.length k.isExotic (m % 2 ^ L), Spec.d2 bits.length] ++ payload H k bits ss m L ++ Spec.childPart ss (L + k.mu)

/-- the representation of a pruned-branch cell (all levels at which it does not answer with a stored hash) -/
def prunedRepr (bits : Bits) (m : Nat) : Bytes := [Spec.d1 0 true m, Spec.d2 bits.length] ++ Spec.dataBytes bits

theorem sigB_zero (m : Nat) : sigB m 0 = true := by simp [sigB]

theorem sigB_succ (m j : Nat) : sigB m (j+1) = m.testBit j := by simp [sigB]

theorem plainHashAt_sig (H : Bytes → Bytes) (k : Spec.Kind) (bits : Bits) (ss : List Spec.SInfo) (m L : Nat)
    (hs : sigB m L = true) : Spec.plainHashAt H k bits ss m L = H (reprAt H k bits ss m L) := by
  cases L with
  | zero => simp only [Spec.plainHashAt, reprAt, payload, Nat.pow_zero, Nat.mod_one]
  | succ j =>
    rw [sigB_succ] at hs
    simp only [Spec.plainHashAt, reprAt, payload, hs, if_true]

/-- a stepwise quantity has at level `l` its value at the highest significant level `L ≤ l` -/
theorem top_sig {α : Type} (m : Nat) (f : Nat → α) (hf : Stepwise m f) :
    ∀ l, ∃ L, L ≤ l ∧ sigB m L = true ∧ (∀ j, L ≤ j → j < l → m.testBit j = false) ∧ f l = f L := by
  intro l
  induction l with
  | zero => exact ⟨0, Nat.le_refl _, sigB_zero m, fun j h1 h2 => by omega, rfl⟩
  | succ l ih =>
    by_cases htb : m.testBit l = true
    · exact ⟨l+1, Nat.le_refl _, by rw [sigB_succ]; exact htb, fun j h1 h2 => by omega, rfl⟩
    · have htb' : m.testBit l = false := by simpa using htb
      obtain ⟨L, h1, h2, h3, h4⟩ := ih
      refine ⟨L, by omega, h2, ?_, by rw [hf l htb', h4]⟩
      intro j hj1 hj2
      by_cases hjl : j = l
      · subst hjl; exact htb'
      · exact h3 j hj1 (by omega)

/-- the level-`l` hash is `H` of the representation at the highest significant level `L ≤ l` -/
theorem plainHashAt_top (H : Bytes → Bytes) (k : Spec.Kind) (bits : Bits) (ss : List Spec.SInfo) (m : Nat) :
    ∀ l, ∃ L, L ≤ l ∧ sigB m L = true ∧ (∀ j, L ≤ j → j < l → m.testBit j = false) ∧
      Spec.plainHashAt H k bits ss m l = H (reprAt H k bits ss m L) := by
  intro l
  obtain ⟨L, h1, h2, h3, h4⟩ := top_sig m _ (plainHashAt_skip H k bits ss m) l
  exact ⟨L, h1, h2, h3, h4.trans (plainHashAt_sig H k bits ss m L h2)⟩

theorem plainHashAt_len (H : Bytes → Bytes) (h32 : ∀ x, (H x).length = 32) (k : Spec.Kind) (bits : Bits)
    (ss : List Spec.SInfo) (m : Nat) : ∀ l, (Spec.plainHashAt H k bits ss m l).length = 32 := by
  intro l
  obtain ⟨L, _, _, _, e⟩ := plainHashAt_top H k bits ss m l
  rw [e]; exact h32 _

/-! ### level arithmetic -/

theorem sig_mod_top (m L : Nat) (hs : sigB m L = true) (hL : 0 < L) : (m % 2 ^ L).testBit (L - 1) = true := by
  obtain ⟨j, rfl⟩ : ∃ j, L = j + 1 := ⟨L - 1, by omega⟩
  rw [sigB_succ] at hs
  rw [Nat.testBit_mod_two_pow]
  simp [hs]

theorem sig_level_le (a b La Lb : Nat) (ha : sigB a La = true) (hb : sigB b Lb = true)
    (he : a % 2 ^ La = b % 2 ^ Lb) : Lb ≤ La := by
  by_cases h : Lb ≤ La
  · exact h
  · exfalso
    have h1 := sig_mod_top b Lb hb (by omega)
    rw [← he] at h1
    have h2 : a % 2 ^ La < 2 ^ (Lb - 1) :=
      Nat.lt_of_lt_of_le (Nat.mod_lt _ (Nat.two_pow_pos _)) (Nat.pow_le_pow_right (by decide) (by omega))
    rw [Nat.testBit_lt_two_pow h2] at h1
    cases h1

/-- two significant levels with the same applied mask are the same level -/
theorem sig_level_eq (a b La Lb : Nat) (ha : sigB a La = true) (hb : sigB b Lb = true)
    (he : a % 2 ^ La = b % 2 ^ Lb) : La = Lb :=
  Nat.le_antisymm (sig_level_le b a Lb La hb ha he.symm) (sig_level_le a b La Lb ha hb he)

theorem mod_of_clear (m L l : Nat) (hLl : L ≤ l) (h : ∀ j, L ≤ j → j < l → m.testBit j = false) :
    m % 2 ^ l = m % 2 ^ L := by
  apply Nat.eq_of_testBit_eq
  intro i
  rw [Nat.testBit_mod_two_pow, Nat.testBit_mod_two_pow]
  by_cases hi : i < L
  · have : i < l := by omega
    simp [hi, this]
  · by_cases hil : i < l
    · simp [hi, hil, h i (by omega) hil]
    · simp [hi, hil]

/-! ### splitting a representation -/

theorem d1_inj (nP nT : Nat) (eP eT : Bool) (mP mT : Nat) (hP : nP ≤ 4) (hT : nT ≤ 4)
    (h : Spec.d1 nP eP mP = Spec.d1 nT eT mT) : nP = nT ∧ eP = eT ∧ mP = mT := by
  unfold Spec.d1 at h
  cases eP <;> cases eT <;> simp at h ⊢ <;> omega

/-- bit-length descriptor and data bytes, whatever follows them, determine the bit string and what follows -/
theorem data_append_inj (a b : Bits) (x y : Bytes) (hd2 : Spec.d2 a.length = Spec.d2 b.length)
    (h : Spec.dataBytes a ++ x = Spec.dataBytes b ++ y) : a = b ∧ x = y := by
  have hl : (Spec.dataBytes a).length = (Spec.dataBytes b).length := by
    rw [length_dataBytes, length_dataBytes]
    have := d2_aligned_iff _ _ hd2
    omega
  obtain ⟨e1, e2⟩ := List.append_inj h hl
  exact ⟨dataBytes_inj a b hd2 e1, e2⟩

/-- two runs of fixed-width fields (`v` bytes each, then `w` bytes each), with known field counts, split uniquely -/
theorem fields_inj (v w : Nat) (ds1 ds2 hs1 hs2 : List Bytes) (hd : ds1.length = ds2.length) (hh : hs1.length = hs2.length)
    (hdl1 : ∀ x ∈ ds1, x.length = v) (hdl2 : ∀ x ∈ ds2, x.length = v)
    (hhl1 : ∀ x ∈ hs1, x.length = w) (hhl2 : ∀ x ∈ hs2, x.length = w)
    (h : ds1.flatten ++ hs1.flatten = ds2.flatten ++ hs2.flatten) : ds1 = ds2 ∧ hs1 = hs2 := by
  have hfl : ds1.flatten.length = ds2.flatten.length := by
    rw [length_flatten_const v _ hdl1, length_flatten_const v _ hdl2, hd]
  obtain ⟨e1, e2⟩ := List.append_inj h hfl
  exact ⟨flatten_inj v _ _ hd hdl1 hdl2 e1, flatten_inj w _ _ hh hhl1 hhl2 e2⟩

theorem childPart_inj (ssP ssT : List Spec.SInfo) (cl cl' : Nat) (hn : ssP.length = ssT.length)
    (hP : ∀ c ∈ ssP, (c.hashAt cl).length = 32) (hT : ∀ c ∈ ssT, (c.hashAt cl').length = 32)
    (h : Spec.childPart ssP cl = Spec.childPart ssT cl') :
    ssP.map (fun c => c.hashAt cl) = ssT.map (fun c => c.hashAt cl') ∧
    ssP.map (fun c => Spec.be2 (c.depthAt cl)) = ssT.map (fun c => Spec.be2 (c.depthAt cl')) :=
  And.symm <| fields_inj 2 32 _ _ _ _ (by simp [hn]) (by simp [hn])
    (List.forall_mem_map.mpr fun c _ => by simp [Spec.be2]) (List.forall_mem_map.mpr fun c _ => by simp [Spec.be2])
    (List.forall_mem_map.mpr hP) (List.forall_mem_map.mpr hT) h

/-- THE STANDARD REPRESENTATION IS INJECTIVE: `d1 d2 ++ data ++ depths ++ hashes` (≤ 4 references, 2-byte depths,
32-byte hashes) determines the reference count, the exotic flag, the level mask, the BIT STRING, every child depth
field and every child hash. -/
theorem repr_injective (n1 n2 : Nat) (e1 e2 : Bool) (m1 m2 : Nat) (b1 b2 : Bits) (ds1 ds2 hs1 hs2 : List Bytes)
    (hn1 : n1 ≤ 4) (hn2 : n2 ≤ 4) (hd1 : ds1.length = n1) (hd2 : ds2.length = n2) (hh1 : hs1.length = n1) (hh2 : hs2.length = n2)
    (hdl1 : ∀ x ∈ ds1, x.length = 2) (hdl2 : ∀ x ∈ ds2, x.length = 2)
    (hhl1 : ∀ x ∈ hs1, x.length = 32) (hhl2 : ∀ x ∈ hs2, x.length = 32)
    (h : [Spec.d1 n1 e1 m1, Spec.d2 b1.length] ++ Spec.dataBytes b1 ++ ds1.flatten ++ hs1.flatten
       = [Spec.d1 n2 e2 m2, Spec.d2 b2.length] ++ Spec.dataBytes b2 ++ ds2.flatten ++ hs2.flatten) :
    n1 = n2 ∧ e1 = e2 ∧ m1 = m2 ∧ b1 = b2 ∧ ds1 = ds2 ∧ hs1 = hs2 := by
  simp only [List.cons_append, List.nil_append, List.cons.injEq, List.append_assoc] at h
  obtain ⟨h1, h2, h3⟩ := h
  obtain ⟨en, ee, em⟩ := d1_inj _ _ _ _ _ _ hn1 hn2 h1
  obtain ⟨eb, h4⟩ := data_append_inj b1 b2 _ _ h2 h3
  exact ⟨en, ee, em, eb, fields_inj 2 32 _ _ _ _ (by rw [hd1, hd2, en]) (by rw [hh1, hh2, en]) hdl1 hdl2 hhl1 hhl2 h4⟩

/-- which numbers of references the exotic kinds have -/
def KindShape (k : Spec.Kind) (n : Nat) : Prop :=
  n ≤ 4 ∧ (k = .pruned → n = 0) ∧ (k = .library → n = 0) ∧ (k = .merkleProof → n = 1) ∧ (k = .merkleUpdate → n = 2)

/-- a non-pruned kind is determined by its exotic flag and its number of references -/
theorem kind_of_shape (kP kT : Spec.Kind) (n : Nat) (npP : kP ≠ .pruned) (npT : kT ≠ .pruned)
    (shP : KindShape kP n) (shT : KindShape kT n) (hex : kP.isExotic = kT.isExotic) : kP = kT := by
  have key : ∀ k : Spec.Kind, k ≠ .pruned → KindShape k n →
      k = if k.isExotic then (if n = 0 then .library else if n = 1 then .merkleProof else .merkleUpdate) else .ordinary := by
    intro k np sh
    cases k with
    | ordinary => rfl
    | pruned => exact absurd rfl np
    | library => rw [sh.2.2.1 rfl]; rfl
    | merkleProof => rw [sh.2.2.2.1 rfl]; rfl
    | merkleUpdate => rw [sh.2.2.2.2 rfl]; rfl
  rw [key kP npP shP, key kT npT shT, hex]

/-! ### one pair of non-pruned cells, all levels -/

/-- NODE BINDING. Two non-pruned cells (kinds with their proper reference counts, children with 32-byte hashes) whose
level-`l` hashes coincide, when `H` does not collide between their representations at significant levels: same kind,
same BIT STRING, same number of references, level masks equal below `l`, and at every significant level `L ≤ l` the
children have pairwise equal hashes (and stored depths) at level `L + μ`. -/
theorem plain_binding (H : Bytes → Bytes) (h32 : ∀ x, (H x).length = 32)
    (kP kT : Spec.Kind) (bP bT : Bits) (ssP ssT : List Spec.SInfo) (mP mT : Nat)
    (npP : kP ≠ .pruned) (npT : kT ≠ .pruned) (shP : KindShape kP ssP.length) (shT : KindShape kT ssT.length)
    (hlP : ∀ c ∈ ssP, ∀ l, (c.hashAt l).length = 32) (hlT : ∀ c ∈ ssT, ∀ l, (c.hashAt l).length = 32)
    (nocoll : ∀ Lp Lt, sigB mP Lp = true → sigB mT Lt = true →
      H (reprAt H kP bP ssP mP Lp) = H (reprAt H kT bT ssT mT Lt) → reprAt H kP bP ssP mP Lp = reprAt H kT bT ssT mT Lt) :
    ∀ l, Spec.plainHashAt H kP bP ssP mP l = Spec.plainHashAt H kT bT ssT mT l →
      kP = kT ∧ bP = bT ∧ ssP.length = ssT.length ∧ mP % 2 ^ l = mT % 2 ^ l ∧
      ∀ L, L ≤ l → sigB mP L = true →
        ssP.map (fun c => c.hashAt (L + kP.mu)) = ssT.map (fun c => c.hashAt (L + kT.mu)) ∧
        ssP.map (fun c => Spec.be2 (c.depthAt (L + kP.mu))) = ssT.map (fun c => Spec.be2 (c.depthAt (L + kT.mu))) := by
  intro l
  induction l using Nat.strongRecOn with
  | _ l ih =>
    intro hh
    obtain ⟨Lp, hLp, sP, cP, eP⟩ := plainHashAt_top H kP bP ssP mP l
    obtain ⟨Lt, hLt, sT, cT, eT⟩ := plainHashAt_top H kT bT ssT mT l
    rw [eP, eT] at hh
    have hr := nocoll Lp Lt sP sT hh
    simp only [reprAt, List.cons_append, List.nil_append, List.cons.injEq, List.append_assoc] at hr
    obtain ⟨hd1, hd2, hrest⟩ := hr
    obtain ⟨hn, hex, hmm⟩ := d1_inj _ _ _ _ _ _ shP.1 shT.1 hd1
    have hk : kP = kT := kind_of_shape kP kT ssP.length npP npT shP (hn ▸ shT) hex
    have hL : Lp = Lt := sig_level_eq mP mT Lp Lt sP sT hmm
    subst hL
    subst hk
    have hmask : mP % 2 ^ l = mT % 2 ^ l := by
      rw [mod_of_clear mP Lp l hLp cP, mod_of_clear mT Lp l hLt cT, hmm]
    -- no significant level strictly between Lp and l
    have hnosig : ∀ L, Lp < L → L ≤ l → sigB mP L = true → False := by
      intro L h1 h2 h3
      obtain ⟨j, rfl⟩ : ∃ j, L = j + 1 := ⟨L - 1, by omega⟩
      rw [sigB_succ] at h3
      have := cP j (by omega) (by omega)
      rw [this] at h3; cases h3
    cases Lp with
    | zero =>
      simp only [payload] at hrest
      obtain ⟨hbits, e2⟩ := data_append_inj bP bT _ _ hd2 hrest
      obtain ⟨c1, c2⟩ := childPart_inj ssP ssT _ _ hn (fun c hc => hlP c hc _) (fun c hc => hlT c hc _) e2
      refine ⟨rfl, hbits, hn, hmask, ?_⟩
      intro L hL1 hL2
      by_cases hL0 : L = 0
      · subst hL0; exact ⟨c1, c2⟩
      · exact (hnosig L (by omega) hL1 hL2).elim
    | succ j =>
      simp only [payload] at hrest
      have hpl : (Spec.plainHashAt H kP bP ssP mP j).length = (Spec.plainHashAt H kP bT ssT mT j).length := by
        rw [plainHashAt_len H h32, plainHashAt_len H h32]
      obtain ⟨e1, e2⟩ := List.append_inj hrest hpl
      obtain ⟨c1, c2⟩ := childPart_inj ssP ssT _ _ hn (fun c hc => hlP c hc _) (fun c hc => hlT c hc _) e2
      obtain ⟨_, hbits, _, _, hlow⟩ := ih j (by omega) e1
      refine ⟨rfl, hbits, hn, hmask, ?_⟩
      intro L hL1 hL2
      by_cases hLj : L ≤ j
      · exact hlow L hLj hL2
      · by_cases hLe : L = j + 1
        · subst hLe; exact ⟨c1, c2⟩
        · exact (hnosig L (by omega) hL1 hL2).elim

/-! ### pruned branches -/

/-- the level mask a pruned-branch cell declares in its second data byte -/
def pmaskOf (bits : Bits) : Nat := natOfBits ((bits.drop 8).take 8)

/-- a pruned branch answers level `l` with a STORED hash (that of the subtree it stands for), not with its own -/
def StoredAt (kind : Int) (bits : Bits) (l : Nat) : Prop :=
  kind = 1 ∧ Spec.popcount (pmaskOf bits % 2 ^ l) ≠ Spec.popcount (pmaskOf bits)

theorem nodeMask_nil (k : Spec.Kind) (bits : Bits) (np : k ≠ .pruned) : Spec.nodeMask k bits [] = 0 := by
  cases k <;> first | exact absurd rfl np | simp [Spec.nodeMask]

/-- the representation of a pruned branch (mask ≥ 1) is never a representation of a non-pruned cell -/
theorem pruned_vs_plain (H : Bytes → Bytes) (bits : Bits) (m : Nat) (hm : 1 ≤ m) (k : Spec.Kind) (b : Bits)
    (ss : List Spec.SInfo) (L : Nat) (np : k ≠ .pruned) (sh : KindShape k ss.length)
    (h : prunedRepr bits m = reprAt H k b ss (Spec.nodeMask k b ss) L) : False := by
  simp only [prunedRepr, reprAt, List.cons_append, List.nil_append, List.cons.injEq] at h
  obtain ⟨hn, _, hmm⟩ := d1_inj _ _ _ _ _ _ (by omega) sh.1 h.1
  have : ss = [] := List.eq_nil_of_length_eq_zero hn.symm
  subst this
  rw [nodeMask_nil k b np, Nat.zero_mod] at hmm
  omega

/-- two pruned branches with the same representation are the same cell -/
theorem pruned_vs_pruned (bP bT : Bits) (mP mT : Nat) (h : prunedRepr bP mP = prunedRepr bT mT) : bP = bT := by
  simp only [prunedRepr, List.cons_append, List.nil_append, List.cons.injEq] at h
  exact dataBytes_inj bP bT h.2.1 h.2.2

/-! ### trees -/

mutual
  /-- the shape every cell of a valid bag has: at most four references; a pruned branch has none, a non-zero level
  mask and all the hashes it declares (`16 + 256·popcount(mask)` bits at least); a library cell has no reference, a
  Merkle proof one, a Merkle update two. -/
  def Shape : Cell → Prop
    | .mk kind bits refs =>
      refs.length ≤ 4 ∧
      (kind = -1 ∨
        (kind = 1 ∧ refs = [] ∧ 1 ≤ pmaskOf bits ∧ 16 + 256 * Spec.popcount (pmaskOf bits) ≤ bits.length) ∨
        (kind = 2 ∧ refs = []) ∨ (kind = 3 ∧ refs.length = 1) ∨ (kind = 4 ∧ refs.length = 2)) ∧
      Shapes refs
  def Shapes : List Cell → Prop
    | [] => True
    | c :: cs => Shape c ∧ Shapes cs
end

mutual
  /-- ALL representations occurring in a tree: of every non-pruned cell the representation at each of its
  significant levels, of every pruned branch its own representation.  A finite list; the binding theorem assumes that
  `H` does not collide between `reprs p` and `reprs t`. -/
  def reprs (H : Bytes → Bytes) : Cell → List Bytes
    | .mk kind bits refs =>
      (match kindOf kind, specInfos H refs with
        | some k, some ss =>
          if k = .pruned then [prunedRepr bits (Spec.nodeMask k bits ss)]
          else ((List.range (bitLength (Spec.nodeMask k bits ss) + 1)).filter (sigB (Spec.nodeMask k bits ss))).map
                  (reprAt H k bits ss (Spec.nodeMask k bits ss))
        | _, _ => []) ++ reprss H refs
  def reprss (H : Bytes → Bytes) : List Cell → List Bytes
    | [] => []
    | c :: cs => reprs H c ++ reprss H cs
end

/-- μ of a cell type code -/
def muOf (kind : Int) : Nat := if kind = 3 ∨ kind = 4 then 1 else 0

mutual
  /-- `Agree H l p t`: `p` and `t` have the same level-`l` hash, and
  * `p` is a pruned branch that stores that hash (it stands for `t` at this level), or `t` is one, or
  * `p` and `t` are the same cell: same type, same BIT STRING, same number of references, and for every level
    `L ≤ l` at which the cell's hash is (re)computed, the children pairwise `Agree` at level `L + μ`. -/
  def Agree (H : Bytes → Bytes) : Nat → Cell → Cell → Prop
    | l, .mk kp bp rp, .mk kt bt rt =>
      (∃ sp st, specInfo H (.mk kp bp rp) = some sp ∧ specInfo H (.mk kt bt rt) = some st ∧ sp.hashAt l = st.hashAt l) ∧
      (StoredAt kp bp l ∨ StoredAt kt bt l ∨
        (kp = kt ∧ bp = bt ∧ rp.length = rt.length ∧
          ∀ sp, specInfo H (.mk kp bp rp) = some sp → ∀ L, L ≤ l → sigB sp.mask L = true →
            Agrees H (L + muOf kp) rp rt))
  def Agrees (H : Bytes → Bytes) : Nat → List Cell → List Cell → Prop
    | _, [], ts => ts = []
    | l, p :: ps, ts => ∃ t ts', ts = t :: ts' ∧ Agree H l p t ∧ Agrees H l ps ts'
end

theorem muOf_eq {kind : Int} {k : Spec.Kind} (h : kindOf kind = some k) : muOf kind = k.mu := by
  have := kindCode_of_kindOf h
  subst this
  cases k <;> simp [muOf, kindCode, Spec.Kind.mu]

theorem shape_kind (H : Bytes → Bytes) (kind : Int) (bits : Bits) (refs : List Cell) (k : Spec.Kind) (ss : List Spec.SInfo)
    (sh : Shape (.mk kind bits refs)) (hk : kindOf kind = some k) (hss : specInfos H refs = some ss) :
    KindShape k ss.length := by
  rw [Shape] at sh
  obtain ⟨h4, hc, _⟩ := sh
  rw [specInfos_length H refs ss hss]
  have := kindCode_of_kindOf hk
  subst this
  cases k <;> simp_all [KindShape, kindCode]

theorem shape_pruned (kind : Int) (bits : Bits) (refs : List Cell) (sh : Shape (.mk kind bits refs)) (hk : kind = 1) :
    refs = [] ∧ 1 ≤ pmaskOf bits ∧ 16 + 256 * Spec.popcount (pmaskOf bits) ≤ bits.length := by
  rw [Shape] at sh
  obtain ⟨_, hc, _⟩ := sh
  subst hk
  simpa using hc

theorem node_pruned_hashAt (H : Bytes → Bytes) (bits : Bits) (ss : List Spec.SInfo) (l : Nat) :
    (Spec.node H .pruned bits ss).hashAt l =
      if Spec.popcount (pmaskOf bits % 2 ^ l) = Spec.popcount (pmaskOf bits) then H (prunedRepr bits (pmaskOf bits))
      else ((Spec.dataBytes bits).take (2 + 32 * (Spec.popcount (pmaskOf bits % 2 ^ l) + 1))).drop
              (2 + 32 * Spec.popcount (pmaskOf bits % 2 ^ l)) := rfl

protected theorem specInfo_mk (H : Bytes → Bytes) (kind : Int) (bits : Bits) (refs : List Cell) (s : Spec.SInfo)
    (h : specInfo H (.mk kind bits refs) = some s) :
    ∃ k ss, kindOf kind = some k ∧ specInfos H refs = some ss ∧ s = Spec.node H k bits ss :=
  CellSpec.specInfo_mk H kind bits refs s h

protected theorem specInfos_cons (H : Bytes → Bytes) (c : Cell) (cs : List Cell) (ss : List Spec.SInfo)
    (h : specInfos H (c :: cs) = some ss) :
    ∃ s ss0, specInfo H c = some s ∧ specInfos H cs = some ss0 ∧ ss = s :: ss0 :=
  CellSpec.specInfos_cons H c cs ss h

/-- every hash a shaped cell reports has 32 bytes -/
theorem hashAt_len(H : Bytes → Bytes) (h32 : ∀ x, (H x).length = 32) (kind : Int) (bits : Bits) (refs : List Cell)
    (s : Spec.SInfo) (sh : Shape (.mk kind bits refs)) (hs : specInfo H (.mk kind bits refs) = some s) :
    ∀ l, (s.hashAt l).length = 32 := by
  obtain ⟨k, ss, hk, hss, rfl⟩ := specInfo_mk H kind bits refs s hs
  intro l
  by_cases hp : k = .pruned
  · subst hp
    have hk1 : kind = 1 := (kindCode_of_kindOf hk).symm
    obtain ⟨_, _, hlen⟩ := shape_pruned kind bits refs sh hk1
    rw [node_pruned_hashAt]
    split
    · exact h32 _
    · rename_i hne
      have hle := spopcount_mod_le (pmaskOf bits) l
      have hdl := length_dataBytes bits
      simp only [List.length_drop, List.length_take]
      omega
  · rw [node_plain H k bits ss hp]
    exact plainHashAt_len H h32 k bits ss _ l

theorem hashes_len (H : Bytes → Bytes) (h32 : ∀ x, (H x).length = 32) : ∀ (cs : List Cell) (ss : List Spec.SInfo),
    Shapes cs → specInfos H cs = some ss → ∀ c ∈ ss, ∀ l, (c.hashAt l).length = 32 :=
  specInfos_forall H (fun c cs h => by rwa [Shapes] at h)
    fun | .mk kind bits refs, s, sh, hs => hashAt_len H h32 kind bits refs s sh hs

theorem reprs_root_plain (H : Bytes → Bytes) (kind : Int) (bits : Bits) (refs : List Cell) (k : Spec.Kind)
    (ss : List Spec.SInfo) (hk : kindOf kind = some k) (hss : specInfos H refs = some ss) (hp : k ≠ .pruned)
    (L : Nat) (hs : sigB (Spec.nodeMask k bits ss) L = true) :
    reprAt H k bits ss (Spec.nodeMask k bits ss) L ∈ reprs H (.mk kind bits refs) := by
  rw [reprs]
  apply List.mem_append_left
  simp only [hk, hss, hp, if_false]
  apply List.mem_map_of_mem
  rw [List.mem_filter]
  refine ⟨?_, hs⟩
  rw [List.mem_range]
  cases L with
  | zero => omega
  | succ j =>
    rw [sigB_succ] at hs
    apply Classical.byContradiction
    intro hc
    have := testBit_ge_bitLength (Spec.nodeMask k bits ss) (l := j) (by omega)
    rw [this] at hs; cases hs

theorem reprs_root_pruned (H : Bytes → Bytes) (kind : Int) (bits : Bits) (refs : List Cell)
    (ss : List Spec.SInfo) (hk : kindOf kind = some .pruned) (hss : specInfos H refs = some ss) :
    prunedRepr bits (pmaskOf bits) ∈ reprs H (.mk kind bits refs) := by
  rw [reprs]
  apply List.mem_append_left
  simp only [hk, hss, if_true]
  exact List.mem_singleton.mpr rfl

theorem reprs_kids (H : Bytes → Bytes) (kind : Int) (bits : Bits) (refs : List Cell) (x : Bytes)
    (hx : x ∈ reprss H refs) : x ∈ reprs H (.mk kind bits refs) := by
  rw [reprs]; exact List.mem_append_right _ hx

mutual
  /-- GENERAL BINDING, induction over the proof tree `p` (all levels, all cell types) -/
  theorem binding_aux (H : Bytes → Bytes) (h32 : ∀ x, (H x).length = 32) :
      ∀ (p t : Cell) (l : Nat) (sp st : Spec.SInfo), Shape p → Shape t → specInfo H p = some sp → specInfo H t = some st →
        (∀ x y, x ∈ reprs H p → y ∈ reprs H t → H x = H y → x = y) → sp.hashAt l = st.hashAt l → Agree H l p t
    | .mk kp bp rp, .mk kt bt rt, l, sp, st, shp, sht, hsp, hst, inj, hh => by
      rw [Agree]
      refine ⟨⟨sp, st, hsp, hst, hh⟩, ?_⟩
      obtain ⟨kP, ssP, hkp, hssp, rfl⟩ := specInfo_mk H kp bp rp sp hsp
      obtain ⟨kT, ssT, hkt, hsst, rfl⟩ := specInfo_mk H kt bt rt st hst
      have kshP := shape_kind H kp bp rp kP ssP shp hkp hssp
      have kshT := shape_kind H kt bt rt kT ssT sht hkt hsst
      by_cases pP : kP = .pruned
      · subst pP
        have hkp1 : kp = 1 := (kindCode_of_kindOf hkp).symm
        by_cases stP : Spec.popcount (pmaskOf bp % 2 ^ l) = Spec.popcount (pmaskOf bp)
        · rw [node_pruned_hashAt, if_pos stP] at hh
          by_cases pT : kT = .pruned
          · subst pT
            have hkt1 : kt = 1 := (kindCode_of_kindOf hkt).symm
            by_cases stT : Spec.popcount (pmaskOf bt % 2 ^ l) = Spec.popcount (pmaskOf bt)
            · rw [node_pruned_hashAt, if_pos stT] at hh
              have hr := inj _ _ (reprs_root_pruned H kp bp rp ssP hkp hssp) (reprs_root_pruned H kt bt rt ssT hkt hsst) hh
              have hb := pruned_vs_pruned bp bt _ _ hr
              have hrp := (shape_pruned kp bp rp shp hkp1).1
              have hrt := (shape_pruned kt bt rt sht hkt1).1
              subst hrp; subst hrt
              refine Or.inr (Or.inr ⟨by rw [hkp1, hkt1], hb, rfl, ?_⟩)
              intro _ _ L _ _
              rw [Agrees]
            · exact Or.inr (Or.inl ⟨hkt1, stT⟩)
          · exfalso
            rw [node_plain H kT bt ssT pT] at hh
            obtain ⟨L, _, sL, _, eL⟩ := plainHashAt_top H kT bt ssT (Spec.nodeMask kT bt ssT) l
            simp only at hh
            rw [eL] at hh
            have hr := inj _ _ (reprs_root_pruned H kp bp rp ssP hkp hssp) (reprs_root_plain H kt bt rt kT ssT hkt hsst pT L sL) hh
            exact pruned_vs_plain H bp _ (shape_pruned kp bp rp shp hkp1).2.1 kT bt ssT L pT kshT hr
        · exact Or.inl ⟨hkp1, stP⟩
      · by_cases pT : kT = .pruned
        · subst pT
          have hkt1 : kt = 1 := (kindCode_of_kindOf hkt).symm
          by_cases stT : Spec.popcount (pmaskOf bt % 2 ^ l) = Spec.popcount (pmaskOf bt)
          · exfalso
            rw [node_pruned_hashAt, if_pos stT, node_plain H kP bp ssP pP] at hh
            obtain ⟨L, _, sL, _, eL⟩ := plainHashAt_top H kP bp ssP (Spec.nodeMask kP bp ssP) l
            simp only at hh
            rw [eL] at hh
            have hr := inj _ _ (reprs_root_plain H kp bp rp kP ssP hkp hssp pP L sL) (reprs_root_pruned H kt bt rt ssT hkt hsst) hh
            exact pruned_vs_plain H bt _ (shape_pruned kt bt rt sht hkt1).2.1 kP bp ssP L pP kshP hr.symm
          · exact Or.inr (Or.inl ⟨hkt1, stT⟩)
        · refine Or.inr (Or.inr ?_)
          have shp' := shp; have sht' := sht
          rw [Shape] at shp' sht'
          rw [node_plain H kP bp ssP pP, node_plain H kT bt ssT pT] at hh
          simp only at hh
          obtain ⟨ek, eb, en, _, hkids⟩ := plain_binding H h32 kP kT bp bt ssP ssT _ _ pP pT kshP kshT
            (hashes_len H h32 rp ssP shp'.2.2 hssp) (hashes_len H h32 rt ssT sht'.2.2 hsst)
            (fun Lp Lt s1 s2 he => inj _ _ (reprs_root_plain H kp bp rp kP ssP hkp hssp pP Lp s1)
              (reprs_root_plain H kt bt rt kT ssT hkt hsst pT Lt s2) he) l hh
          subst ek
          refine ⟨?_, eb, ?_, ?_⟩
          · rw [← kindCode_of_kindOf hkp, ← kindCode_of_kindOf hkt]
          · rw [← specInfos_length H rp ssP hssp, ← specInfos_length H rt ssT hsst]; exact en
          · intro sp' hsp' L hL hsig
            rw [hsp] at hsp'
            cases hsp'
            rw [node_plain H kP bp ssP pP] at hsig
            simp only at hsig
            rw [muOf_eq hkp]
            exact bindings_aux H h32 rp rt (L + kP.mu) ssP ssT shp'.2.2 sht'.2.2 hssp hsst
              (fun x y hx hy => inj x y (reprs_kids H kp bp rp x hx) (reprs_kids H kt bt rt y hy)) (hkids L hL hsig).1
  theorem bindings_aux (H : Bytes → Bytes) (h32 : ∀ x, (H x).length = 32) :
      ∀ (ps ts : List Cell) (l : Nat) (sps sts : List Spec.SInfo), Shapes ps → Shapes ts →
        specInfos H ps = some sps → specInfos H ts = some sts →
        (∀ x y, x ∈ reprss H ps → y ∈ reprss H ts → H x = H y → x = y) →
        sps.map (fun c => c.hashAt l) = sts.map (fun c => c.hashAt l) → Agrees H l ps ts
    | [], ts, l, sps, sts, _, _, hsp, hst, _, hh => by
      rw [Agrees]
      simp only [specInfos, Option.some.injEq] at hsp
      subst hsp
      cases ts with
      | nil => rfl
      | cons t ts =>
        obtain ⟨s, ss0, _, _, rfl⟩ := specInfos_cons H t ts sts hst
        simp at hh
    | p :: ps, ts, l, sps, sts, mp, mt, hsp, hst, inj, hh => by
      rw [Agrees]
      obtain ⟨sp, sps0, hp1, hp2, rfl⟩ := specInfos_cons H p ps sps hsp
      cases ts with
      | nil =>
        simp only [specInfos, Option.some.injEq] at hst
        subst hst
        simp at hh
      | cons t ts =>
        obtain ⟨st, sts0, ht1, ht2, rfl⟩ := specInfos_cons H t ts sts hst
        rw [Shapes] at mp mt
        simp only [List.map_cons, List.cons.injEq] at hh
        exact ⟨t, ts, rfl,
          binding_aux H h32 p t l sp st mp.1 mt.1 hp1 ht1
            (fun x y hx hy => inj x y (by rw [reprss]; exact List.mem_append_left _ hx)
              (by rw [reprss]; exact List.mem_append_left _ hy)) hh.1,
          bindings_aux H h32 ps ts l sps0 sts0 mp.2 mt.2 hp2 ht2
            (fun x y hx hy => inj x y (by rw [reprss]; exact List.mem_append_right _ hx)
              (by rw [reprss]; exact List.mem_append_right _ hy)) hh.2⟩
end

/-! ### reading `Agree` along a path -/

/-- `AgreeAlong H π l p t`: follow the reference indices `π` simultaneously in `p` and `t`, starting at level `l` (a child
is looked at on level `μ(parent)`, the level of the parent's level-0 representation).  Until a pruned branch
answering with a stored hash is met on either side, both trees have the same number of references at every step, the
path exists in both or in neither, and the two cells reached `Agree`. -/
def AgreeAlong (H : Bytes → Bytes) : List Nat → Nat → Cell → Cell → Prop
  | [], l, p, t => Agree H l p t
  | i :: π, l, .mk kp bp rp, .mk kt bt rt =>
    StoredAt kp bp l ∨ StoredAt kt bt l ∨
      (rp.length = rt.length ∧ ∀ p' t', rp[i]? = some p' → rt[i]? = some t' → AgreeAlong H π (muOf kp) p' t')

theorem Agrees_get (H : Bytes → Bytes) : ∀ (ps ts : List Cell) (l : Nat), Agrees H l ps ts →
    ∀ (i : Nat) (p t : Cell), ps[i]? = some p → ts[i]? = some t → Agree H l p t
  | [], ts, l, h, i, p, t, hp, ht => by simp at hp
  | q :: ps, ts, l, h, i, p, t, hp, ht => by
    rw [Agrees] at h
    obtain ⟨u, ts', rfl, h1, h2⟩ := h
    cases i with
    | zero =>
      simp only [List.getElem?_cons_zero, Option.some.injEq] at hp ht
      subst hp; subst ht; exact h1
    | succ i =>
      simp only [List.getElem?_cons_succ] at hp ht
      exact Agrees_get H ps ts' l h2 i p t hp ht

/-- `Agree` at the roots gives agreement along EVERY path (every unpruned cell is reached by one) -/
theorem agree_along (H : Bytes → Bytes) : ∀ (π : List Nat) (l : Nat) (p t : Cell), Agree H l p t → AgreeAlong H π l p t
  | [], l, p, t, h => by rw [AgreeAlong]; exact h
  | i :: π, l, .mk kp bp rp, .mk kt bt rt, h => by
    rw [AgreeAlong]
    have h' := h
    rw [Agree] at h'
    obtain ⟨⟨sp, st, hsp, hst, hh⟩, hc⟩ := h'
    rcases hc with h1 | h1 | ⟨ek, eb, en, hk⟩
    · exact Or.inl h1
    · exact Or.inr (Or.inl h1)
    · refine Or.inr (Or.inr ⟨en, ?_⟩)
      intro p' t' hp' ht'
      have hkids := hk sp hsp 0 (Nat.zero_le _) (sigB_zero _)
      rw [Nat.zero_add] at hkids
      exact agree_along H π (muOf kp) p' t' (Agrees_get H rp rt _ hkids i p' t' hp' ht')

end TonVerif.Proofs.Binding
