/- C15: from a builder program and a spec round trip to the cell and its decoding (for any encoder); then the stand-alone
wrappers (wallet data, wallet message, hash update, NFT data); at the end the header sizes of `Message X`. -/
import TonVerif.Proofs.MessageRef
import TonVerif.Model.Wrappers

namespace TonVerif.Proofs.Message
open TonVerif TonVerif.Model TonVerif.Model.BOp TonVerif.Model.SOp TonVerif.Model.Message TonVerif.Spec.Tlb
open TonVerif.Proofs.MsgBits

variable {R : Type} {α β : Type}

/-! ### from builder programs and spec round trips to cells -/

/-- a builder program that appends the encoding `e`, run on an empty builder and closed with `end_cell`, gives the
    cell of `e` whenever `e` fits a cell -/
theorem cellOf_of_appends (ops : CellOps R) {op : BOp R} {e : Enc R} (h : Appends op e) {ch : Chunk R}
    (he : e = some ch) (hfit : ch.1.length ≤ 1023 ∧ ch.2.length ≤ 4) :
    cellOf ops op = ops.make ch.1 ch.2 := by
  have hrun := (h.run he).1 hfit
  simp [cellOf, runB, hrun]

/-- ... and raises when it does not -/
theorem cellOf_of_appends_none (ops : CellOps R) {op : BOp R} {e : Enc R} (h : Appends op e) {ch : Chunk R}
    (he : e = some ch) (hfit : ¬ (ch.1.length ≤ 1023 ∧ ch.2.length ≤ 4)) :
    cellOf ops op = none := by
  have hrun := (h.run he).2 hfit
  simp [cellOf, runB, hrun]

/-- ... and when every cell of legal size exists, so does this one -/
theorem cellOf_of_appends_some (ops : CellOps R) (ht : ops.Total) {op : BOp R} {e : Enc R} (h : Appends op e) {ch : Chunk R}
    (he : e = some ch) (hb : ch.1.length ≤ 1023) (hr : ch.2.length ≤ 4) :
    cellOf ops op = ops.make ch.1 ch.2 ∧ (cellOf ops op).isSome := by
  have hser := cellOf_of_appends ops h he ⟨hb, hr⟩
  exact ⟨hser, hser ▸ ht _ _ hb hr⟩

theorem encCell_eq (ops : CellOps R) {e : Enc R} {ch : Chunk R} (he : e = some ch)
    (hfit : ch.1.length ≤ 1023 ∧ ch.2.length ≤ 4) : encCell ops e = ops.make ch.1 ch.2 := by
  simp [encCell, he, mkChunk, hfit]

/-- the spec decoder inverts an encoding that was made into a cell -/
theorem decode_of_rtEnd (ops : CellOps R) (hl : ops.Lawful) {e : Enc R} {p : Dec R α} {a : α} (h : RTend e p a)
    {ch : Chunk R} {c : R} (he : e = some ch) (hc : ops.make ch.1 ch.2 = some c) :
    decodeWhole p (ops.view c) = some a := by
  have hv := hl _ _ _ hc
  have := h ch he
  simp [decodeWhole, hv, this]

theorem decode_of_rt (ops : CellOps R) (hl : ops.Lawful) {e : Enc R} {p : Dec R α} {a : α} (h : RT e p a)
    {ch : Chunk R} {c : R} (he : e = some ch) (hc : ops.make ch.1 ch.2 = some c) :
    decodeWhole p (ops.view c) = some a := decode_of_rtEnd ops hl h.toEnd he hc

/-- the slice program returns what the spec decoder returns, on every cell the decoder accepts -/
theorem parse_of_ref (ops : CellOps R) {s : SOp R α} {p : Dec R α} (h : Ref s p) {c : R} {a : α}
    (hd : decodeWhole p (ops.view c) = some a) : parseCell ops s c = some a := h.toV.whole hd

/-! ### byte strings -/

theorem appends_storeBytesN (n : Nat) (h : Bytes) : Appends (storeBytes h : BOp R) (eBytes n h) := by
  unfold eBytes
  split
  · exact appends_storeBytes h
  · exact appends_none _

theorem rt_bytes (n : Nat) (h : Bytes) : RT (eBytes n h : Enc R) (dBytes n) h := rt_bytesBits n h id

theorem ref_loadBytes (n : Nat) : Ref (loadBytes n : SOp R Bytes) (dBytes n) := by
  intro b r a c' h
  obtain ⟨hl, h⟩ := dBits_bind_some h
  cases h
  simp [loadBytes, preloadBytes, peekBits, sop_bind_eq, SOp.bind, sop_pure_eq, SOp.pure, delBits_of_le r hl]

theorem ref_loadDict : Ref (loadDict : SOp R (Option R)) (dMaybe dRef) := ref_loadMaybeRef

/-! ### sizes -/

theorem nbits_eBits (x : Bits) : Enc.nbits (eBits x : Enc R) ≤ x.length := by simp [eBits, Enc.nbits]
theorem nbits_eRef (r : R) : Enc.nbits (eRef r) ≤ 0 := by simp [eRef, Enc.nbits]
theorem nrefs_eRef (r : R) : Enc.nrefs (eRef r) ≤ 1 := by simp [eRef, Enc.nrefs]
theorem nbits_none : Enc.nbits (none : Enc R) ≤ 0 := by simp [Enc.nbits]
theorem nrefs_none : Enc.nrefs (none : Enc R) ≤ 0 := by simp [Enc.nrefs]

theorem nbits_eBytes (n : Nat) (h : Bytes) : Enc.nbits (eBytes n h : Enc R) ≤ 8 * n := by
  unfold eBytes; split
  · rename_i hh; simp [eBits, Enc.nbits, bytesToBits_length, hh.1]
  · simp [Enc.nbits]

theorem nrefs_eBytes (n : Nat) (h : Bytes) : Enc.nrefs (eBytes n h : Enc R) ≤ 0 := by
  unfold eBytes; split
  · exact nrefs_eBits _
  · simp [Enc.nrefs]

theorem nbits_eInt (n : Nat) (v : Int) : Enc.nbits (eInt n v : Enc R) ≤ n :=
  Enc.nbits_le_of fun _ h => by rw [(eInt_some h).2]; exact Nat.le_of_eq (Bits.uintBits_length _ _)

/-- a `Grams` value has at most 4 + 15·8 bits -/
theorem nbits_eGrams (v : Int) : Enc.nbits (eGrams v : Enc R) ≤ 124 :=
  Enc.nbits_le_of fun _ h => by
    obtain ⟨⟨_, hl⟩, rfl⟩ := eVarUint_some h
    simp [varUIntBits]; omega

/-- an address other than `addr_extern` has at most 2 + 1 + 5 + 30 + 8 + 256 bits -/
theorem nbits_eAddr_nonext (a : Addr) (h : ∀ l v, a ≠ Addr.ext l v) : Enc.nbits (eAddr a : Enc R) ≤ 302 :=
  Enc.nbits_le_of fun _ hc => by
    obtain ⟨_, hv, rfl⟩ := eAddr_some hc
    have := addrBits_length hv
    rcases a with _ | ⟨l, v⟩ | ⟨_ | ⟨d, p⟩, wc, hh⟩
    · simp_all [addrOf]
    · exact absurd rfl (h l v)
    · simp_all [addrOf]
    · have hd : d ≤ 30 := hv.1.2.1
      simp only [addrOf, Option.map_some] at this ⊢; omega

/-! ### wallets, hash update -/

theorem appends_walletV3B (w : WalletV3) : Appends (walletV3B w : BOp R) (encWalletV3 w) := by
  unfold walletV3B encWalletV3
  rw [← Enc.cat_assoc]
  exact ((appends_storeUint _ 32 (by omega)).andThen (appends_storeUint _ 32 (by omega))).andThen (appends_storeBytesN 32 _)

theorem rt_walletV3 (w : WalletV3) : RT (encWalletV3 w : Enc R) dWalletV3 w := by
  unfold encWalletV3 dWalletV3
  refine RT.bind (rt_uint 32 _) (RT.bind (rt_uint 32 _) ?_)
  exact RT.map (fun pk => (⟨w.seqno, w.walletId, pk⟩ : WalletV3)) (rt_bytes 32 w.publicKey)

theorem ref_loadWalletV3 : Ref (loadWalletV3 : SOp R WalletV3) dWalletV3 := by
  unfold loadWalletV3 dWalletV3
  exact Ref.bind (ref_loadUint 32 (by omega)) fun _ => Ref.bind (ref_loadUint 32 (by omega)) fun _ =>
    Ref.bind (ref_loadBytes 32) fun _ => Ref.ret _

theorem appends_walletV4B (w : WalletV4 R) : Appends (walletV4B w) (encWalletV4 w) := by
  unfold walletV4B encWalletV4 storeDict
  rw [← Enc.cat_assoc, ← Enc.cat_assoc]
  exact (((appends_storeUint _ 32 (by omega)).andThen (appends_storeUint _ 32 (by omega))).andThen
    (appends_storeBytesN 32 _)).andThen (appends_storeMaybeRef _)

theorem rt_walletV4 (w : WalletV4 R) : RT (encWalletV4 w) dWalletV4 w := by
  unfold encWalletV4 dWalletV4
  refine RT.bind (rt_uint 32 _) (RT.bind (rt_uint 32 _) (RT.bind (rt_bytes 32 _) ?_))
  exact RT.map (fun p => (⟨w.seqno, w.walletId, w.publicKey, p⟩ : WalletV4 R)) (rt_maybeRef w.plugins)

theorem ref_loadWalletV4 : Ref (loadWalletV4 : SOp R (WalletV4 R)) dWalletV4 := by
  unfold loadWalletV4 dWalletV4
  exact Ref.bind (ref_loadUint 32 (by omega)) fun _ => Ref.bind (ref_loadUint 32 (by omega)) fun _ =>
    Ref.bind (ref_loadBytes 32) fun _ => Ref.bind ref_loadMaybeRef fun _ => Ref.ret _

theorem appends_highloadB (w : Highload R) : Appends (highloadB w) (encHighload w) := by
  unfold highloadB encHighload storeDict
  rw [← Enc.cat_assoc, ← Enc.cat_assoc]
  exact (((appends_storeUint _ 32 (by omega)).andThen (appends_storeUint _ 64 (by omega))).andThen
    (appends_storeBytesN 32 _)).andThen (appends_storeMaybeRef _)

theorem rt_highload (w : Highload R) : RT (encHighload w) dHighload w := by
  unfold encHighload dHighload
  refine RT.bind (rt_uint 32 _) (RT.bind (rt_uint 64 _) (RT.bind (rt_bytes 32 _) ?_))
  exact RT.map (fun q => (⟨w.walletId, w.lastCleaned, w.publicKey, q⟩ : Highload R)) (rt_maybeRef w.oldQueries)

theorem ref_loadHighload : Ref (loadHighload : SOp R (Highload R)) dHighload := by
  unfold loadHighload dHighload
  exact Ref.bind (ref_loadUint 32 (by omega)) fun _ => Ref.bind (ref_loadUint 64 (by omega)) fun _ =>
    Ref.bind (ref_loadBytes 32) fun _ => Ref.bind ref_loadDict fun _ => Ref.ret _

theorem appends_hashUpdateB (h : HashUpd) : Appends (hashUpdateB h : BOp R) (encHashUpd h) := by
  unfold hashUpdateB encHashUpd
  rw [← Enc.cat_assoc]
  exact ((appends_storeBytesN 1 _).andThen (appends_storeBytesN 32 _)).andThen (appends_storeBytesN 32 _)

theorem rt_hashUpd (h : HashUpd) : RT (encHashUpd h : Enc R) dHashUpd h := by
  unfold encHashUpd dHashUpd
  refine RT.bind (rt_bytes 1 [0x72]) ?_
  simp only [if_true]
  refine RT.bind (rt_bytes 32 _) ?_
  exact RT.map (fun n => (⟨h.oldHash, n⟩ : HashUpd)) (rt_bytes 32 h.newHash)

theorem ref_loadHashUpdate : Ref (loadHashUpdate : SOp R HashUpd) dHashUpd := by
  unfold loadHashUpdate dHashUpd
  refine Ref.bind (ref_loadBytes 1) fun tag => ?_
  by_cases ht : tag = [0x72]
  · subst ht
    simp only [List.take_succ_cons, List.take_zero, bne_self_eq_false, Bool.false_eq_true, if_false, if_true]
    exact Ref.bind (ref_loadBytes 32) fun _ => Ref.bind (ref_loadBytes 32) fun _ => Ref.ret _
  · simp only [ht, if_false]
    exact Ref.fail _

/-! ### NFT -/

theorem appends_nftItemB (n : NftItem R) : Appends (nftItemB n) (encNftItem n) := by
  unfold nftItemB encNftItem
  rw [← Enc.cat_assoc, ← Enc.cat_assoc]
  exact (((appends_storeUint _ 64 (by omega)).andThen (appends_storeAddress _)).andThen (appends_storeAddress _)).andThen
    (appends_storeRef _)

theorem rt_nftItem (n : NftItem R) (hc : AddrWF n.collection) (ho : AddrWF n.owner) : RT (encNftItem n) dNftItem n := by
  unfold encNftItem dNftItem
  refine RT.bind (rt_uint 64 _) (RT.bind (rt_addr _ hc) (RT.bind (rt_addr _ ho) ?_))
  exact RT.map (fun r => (⟨n.index, n.collection, n.owner, r⟩ : NftItem R)) (rt_ref n.content)

theorem ref_loadNftItem : Ref (loadNftItem : SOp R (NftItem R)) dNftItem := by
  unfold loadNftItem dNftItem
  exact Ref.bind (ref_loadUint 64 (by omega)) fun _ => Ref.bind ref_loadAddress fun _ =>
    Ref.bind ref_loadAddress fun _ => Ref.bind ref_loadRef fun _ => Ref.ret _

theorem appends_saleFeesB (f : SaleFees) : Appends (saleFeesB f : BOp R) (encSaleFees f) := by
  unfold saleFeesB encSaleFees
  rw [← Enc.cat_assoc, ← Enc.cat_assoc]
  exact (((appends_storeAddress _).andThen (appends_storeCoins _)).andThen (appends_storeAddress _)).andThen
    (appends_storeCoins _)

theorem rt_saleFees (f : SaleFees) (hwf : f.WF) : RT (encSaleFees f : Enc R) dSaleFees f := by
  unfold encSaleFees dSaleFees
  refine RT.bind (rt_addr _ hwf.1) (RT.bind (rt_grams _) (RT.bind (rt_addr _ hwf.2) ?_))
  exact RT.map (fun r => (⟨f.marketplaceFeeAddress, f.marketplaceFee, f.royaltyAddress, r⟩ : SaleFees)) (rt_grams f.royaltyAmount)

theorem ref_loadSaleFees : Ref (loadSaleFees : SOp R SaleFees) dSaleFees := by
  unfold loadSaleFees dSaleFees
  exact Ref.bind ref_loadAddress fun _ => Ref.bind ref_loadCoins fun _ => Ref.bind ref_loadAddress fun _ =>
    Ref.bind ref_loadCoins fun _ => Ref.ret _

/-! ### pieces held in a referenced cell -/

theorem Enc.eNil_cat (a : Enc R) : eNil +++ a = a := by
  rcases a with _ | ⟨a1, a2⟩ <;> simp [Enc.cat, eNil]

/-- a reader that consumes nothing and returns `a` -/
theorem RT.const {p : Dec R α} {a : α} (h : ∀ ch, p ch = some (a, ch)) : RT (eNil : Enc R) p a := by
  intro c hc tb tr; cases hc; simp [h]

/-- `X.deserialize(ref.begin_parse())` against "the referenced cell is exactly an X" -/
theorem ref_subcell (ops : CellOps R) {s : SOp R α} {p : Dec R α} (h : Ref s p) (r : R) :
    Ref (ofOption ((s ⟨(ops.view r).1, (ops.view r).2⟩).2) : SOp R α)
      (fun ch => (decodeWhole p (ops.view r)).map (fun a => (a, ch)) : Dec R α) := by
  intro b rr a c' hh
  rcases hd : decodeWhole p (ops.view r) with _ | x
  · simp [hd] at hh
  · simp only [hd, Option.map_some, Option.some.injEq, Prod.mk.injEq] at hh
    obtain ⟨rfl, rfl⟩ := hh
    have h1 := decodeWhole_some hd
    have h2 := h (ops.view r).1 (ops.view r).2 x ([], []) (by simpa using h1)
    simp [ofOption, h2]

/-! ### NFT sale data -/

def encSaleHead (s : SaleData) : Enc R :=
  eBool s.isComplete +++ eUint 32 s.createdAt +++ eAddr s.marketplace +++ eAddr s.nft +++ eAddr s.nftOwner +++
  eGrams s.fullPrice

def encFeesRef (ops : CellOps R) (f : SaleFees) : Enc R := eRefTo ops (encSaleFees f)

theorem encSaleData_split (ops : CellOps R) (s : SaleData) :
    encSaleData ops s = encSaleHead s +++ (encFeesRef ops s.fees +++ eBool s.canDeployByExternal) := by
  simp only [encSaleData, encSaleHead, encFeesRef, Enc.cat_assoc]

theorem appends_saleHeadB (s : SaleData) : Appends (saleHeadB s : BOp R) (encSaleHead s) := by
  unfold saleHeadB encSaleHead
  simp only [← Enc.cat_assoc]
  exact (((((appends_storeBit _).andThen (appends_storeUint _ 32 (by omega))).andThen (appends_storeAddress _)).andThen
    (appends_storeAddress _)).andThen (appends_storeAddress _)).andThen (appends_storeCoins _)

theorem encFeesRef_some (ops : CellOps R) {f : SaleFees} {y : Chunk R} (h : encFeesRef ops f = some y) :
    ∃ fch fc, encSaleFees f = some fch ∧ (fch.1.length ≤ 1023 ∧ fch.2.length ≤ 4) ∧ ops.make fch.1 fch.2 = some fc ∧
      y = ([], [fc]) := by
  unfold encFeesRef eRefTo at h
  rcases hb : (encSaleFees f : Enc R).bind (mkChunk ops) with _ | fc
  · simp [hb] at h
  · simp only [hb, eRef, Option.some.injEq] at h
    obtain ⟨fch, h1, h2⟩ := Option.bind_eq_some_iff.mp hb
    unfold mkChunk at h2
    split at h2
    · rename_i hf; exact ⟨fch, fc, h1, hf, h2, h.symm⟩
    · simp at h2

/-- `NftItemSaleData.serialize` is the spec encoding whenever that exists and fits a cell -/
theorem serializeSaleData_eq (ops : CellOps R) (s : SaleData) {ch : Chunk R} (he : encSaleData ops s = some ch)
    (hfit : ch.1.length ≤ 1023 ∧ ch.2.length ≤ 4) : serializeSaleData ops s = ops.make ch.1 ch.2 := by
  rw [encSaleData_split] at he
  obtain ⟨x, y, hx, hy, rfl⟩ := Enc.cat_some he
  obtain ⟨y1, y2, hy1, hy2, rfl⟩ := Enc.cat_some hy
  obtain ⟨fch, fc, hf1, hffit, hfmk, rfl⟩ := encFeesRef_some ops hy1
  simp only [eBool, Option.some.injEq] at hy2
  subst hy2
  simp only [List.nil_append, List.length_append, List.length_cons, List.length_nil] at hfit
  have hxfit : x.1.length ≤ 1023 ∧ x.2.length ≤ 4 := by omega
  have hhead := ((appends_saleHeadB (R := R) s).run hx).1 hxfit
  have hfees : serializeSaleFees ops s.fees = some fc := by
    rw [serializeSaleFees, cellOf_of_appends ops (appends_saleFeesB s.fees) hf1 hffit, hfmk]
  have htail := ((appends_storeRef fc).andThen (appends_storeBit s.canDeployByExternal)) ⟨x.1, x.2⟩ ⟨hxfit.1, hxfit.2⟩
    ([s.canDeployByExternal], [fc]) (by simp [eRef, eBool, Enc.cat])
  have hft : Fits (⟨x.1, x.2⟩ : Builder R) ([s.canDeployByExternal], [fc]) := by
    simp only [Fits, List.length_cons, List.length_nil]; omega
  have ht := htail.1 hft
  simp only [serializeSaleData, hhead, hfees, ht]
  simp [app]

theorem rt_saleData (ops : CellOps R) (hl : ops.Lawful) (s : SaleData) (hwf : s.WF) :
    RT (encSaleData ops s) (dSaleData ops) s := by
  unfold encSaleData dSaleData eRefTo
  refine RT.bind (rt_bool _) (RT.bind (rt_uint 32 _) (RT.bind (rt_addr _ hwf.1) (RT.bind (rt_addr _ hwf.2.1)
    (RT.bind (rt_addr _ hwf.2.2.1) (RT.bind (rt_grams _) ?_)))))
  rcases hb : (encSaleFees s.fees : Enc R).bind (mkChunk ops) with _ | fc
  · intro c hc; simp [Enc.cat] at hc
  · simp only
    obtain ⟨fch, h1, h2⟩ := Option.bind_eq_some_iff.mp hb
    have hv := mkChunk_some hl h2
    have hdec : decodeWhole dSaleFees (ops.view fc) = some s.fees := by
      have := (rt_saleFees (R := R) s.fees hwf.2.2.2).toEnd fch h1
      simp [decodeWhole, hv, this]
    refine RT.bind (rt_ref fc) ?_
    have hc : RT (eNil : Enc R) (fun ch => (decodeWhole dSaleFees (ops.view fc)).map (fun f => (f, ch))) s.fees :=
      RT.const (by intro ch; simp [hdec])
    have := RT.bind hc (f := fun fees => (do
        let e ← dBool
        pure (⟨s.isComplete, s.createdAt, s.marketplace, s.nft, s.nftOwner, s.fullPrice, fees, e⟩ : SaleData) : Dec R SaleData))
      (RT.map (fun e => (⟨s.isComplete, s.createdAt, s.marketplace, s.nft, s.nftOwner, s.fullPrice, s.fees, e⟩ : SaleData))
        (rt_bool s.canDeployByExternal))
    rwa [Enc.eNil_cat] at this

theorem ref_loadSaleData (ops : CellOps R) : Ref (loadSaleData ops) (dSaleData ops) := by
  unfold loadSaleData dSaleData
  exact Ref.bind ref_loadBit fun _ => Ref.bind (ref_loadUint 32 (by omega)) fun _ => Ref.bind ref_loadAddress fun _ =>
    Ref.bind ref_loadAddress fun _ => Ref.bind ref_loadAddress fun _ => Ref.bind ref_loadCoins fun _ =>
    Ref.bind ref_loadRef fun r => Ref.bind (ref_subcell ops ref_loadSaleFees r) fun _ => Ref.bind ref_loadBit fun _ => Ref.ret _

/-! ### wallet message -/

/-- `WalletMessage.serialize`: whenever the message serialises to `c`, the result is the cell `send_mode ‖ ^c` -/
theorem serializeWalletMsg_eq (ops : CellOps R) (w : WalletMsg R) (hmode : 0 ≤ w.sendMode ∧ w.sendMode < 256) {c : R}
    (hs : Message.serialize ops w.message = some c) :
    serializeWalletMsg ops w = ops.make (natToBits 8 w.sendMode.toNat) [c] := by
  have he := eUint_of_range (R := R) 8 w.sendMode hmode.1 (by omega)
  have hrun := ((appends_storeUint (R := R) w.sendMode 8 (by omega)).run he).1 (by simp [natToBits_length])
  have hwf : WFB (⟨natToBits 8 w.sendMode.toNat, []⟩ : Builder R) := by simp [WFB, natToBits_length]
  have href := (appends_storeRef c) ⟨natToBits 8 w.sendMode.toNat, []⟩ hwf ([], [c]) (by simp [eRef])
  have hft : Fits (⟨natToBits 8 w.sendMode.toNat, []⟩ : Builder R) ([], [c]) := by simp [Fits, natToBits_length]
  simp only [serializeWalletMsg, hrun, hs, href.1 hft]
  simp [app]

theorem encWalletMsg_eq (ops : CellOps R) (w : WalletMsg R) (hmode : 0 ≤ w.sendMode ∧ w.sendMode < 256) (i b : Bool) {c : R}
    (he : encMessage ops w.message i b = some c) :
    encWalletMsg ops w i b = some (natToBits 8 w.sendMode.toNat, [c]) := by
  have h8 := eUint_of_range (R := R) 8 w.sendMode hmode.1 (by omega)
  simp [encWalletMsg, he, h8, eRef, Enc.cat]

theorem rt_walletMsg (ops : CellOps R) (hl : ops.Lawful) (w : WalletMsg R) (hwf : w.message.info.WF) (i b : Bool) :
    RT (encWalletMsg ops w i b) (dWalletMsg ops) w := by
  unfold encWalletMsg dWalletMsg
  rcases he : encMessage ops w.message i b with _ | c
  · intro ch hch; simp [Enc.cat] at hch
  · simp only
    have hdec := spec_roundtrip ops hl w.message hwf i b he
    refine RT.bind (rt_uint 8 _) ?_
    have hc : RT (eNil : Enc R) (fun ch => (decodeMessage ops c).map (fun m => ((⟨w.sendMode, m⟩ : WalletMsg R), ch))) w :=
      RT.const (by intro ch; simp [hdec])
    have := RT.bind (rt_ref c) (f := fun r => (fun ch => (decodeMessage ops r).map (fun m => ((⟨w.sendMode, m⟩ : WalletMsg R), ch)) : Dec R (WalletMsg R))) hc
    rwa [Enc.cat_eNil] at this

theorem ref_loadWalletMsg (ops : CellOps R) : Ref (loadWalletMsg ops) (dWalletMsg ops) := by
  unfold loadWalletMsg dWalletMsg
  refine Ref.bind (ref_loadUint 8 (by omega)) fun mode => Ref.bind ref_loadRef fun r => ?_
  intro b rr a c' hh
  rcases hd : decodeMessage ops r with _ | m
  · simp [hd] at hh
  · simp only [hd, Option.map_some, Option.some.injEq, Prod.mk.injEq] at hh
    obtain ⟨rfl, rfl⟩ := hh
    have := own_parser ops r m hd
    simp [sop_bind_eq, SOp.bind, ofOption, this, sop_pure_eq, SOp.pure]

/-! ### values in range have an encoding -/

theorem eBytes_of (n : Nat) (h : Bytes) (hl : h.length = n) (hw : Bytes.WF h) :
    (eBytes n h : Enc R) = some (bytesToBits h, []) := by
  unfold eBytes; simp only [hl, hw, and_self, if_true, eBits]

theorem eMaybeRef_some (o : Option R) : ∃ ch : Chunk R, eMaybeRef o = some ch ∧ ch.1.length = 1 ∧ ch.2.length ≤ 1 := by
  cases o with
  | none => exact ⟨([false], []), rfl, rfl, by simp⟩
  | some r => exact ⟨([true], [r]), by simp [eMaybeRef, eBool, eRef, Enc.cat], rfl, by simp⟩

/-! ### header sizes of `Message X` proper -/

/-- any address has at most 2 + 9 + 511 bits -/
theorem nbits_eAddr_le (a : Addr) : Enc.nbits (eAddr a : Enc R) ≤ 522 :=
  Enc.nbits_le_of fun _ hc => by
    obtain ⟨_, hv, rfl⟩ := eAddr_some hc
    have := addrBits_length hv
    rcases a with _ | ⟨l, v⟩ | ⟨_ | ⟨d, p⟩, wc, hh⟩
    · simp_all [addrOf]
    · have hl : l < 512 := hv.1
      simp only [addrOf] at this ⊢; omega
    · simp_all [addrOf]
    · have hd : d ≤ 30 := hv.1.2.1
      simp only [addrOf, Option.map_some] at this ⊢; omega

/-- `addr_std` without anycast: 2 + 1 + 8 + 256 bits -/
theorem nbits_eAddr_std_none (wc : Int) (hash : Bytes) : Enc.nbits (eAddr (Addr.std none wc hash) : Enc R) ≤ 267 :=
  Enc.nbits_le_of fun _ hc => by
    obtain ⟨_, hv, rfl⟩ := eAddr_some hc
    exact Nat.le_of_eq (addrBits_length hv)

theorem isInt_nonext {a : Addr} (h : Addr.isInt a = true) : ∀ l v, a ≠ Addr.ext l v := by
  intro l v he; subst he; simp [Addr.isInt] at h

theorem nbits_encCurrency (c : Currency R) : Enc.nbits (encCurrency c) ≤ 125 :=
  nbits_cat_le (nbits_eGrams _) (nbits_eMaybeRef _)

/-- a header of `Message X` proper (address classes as block.tlb names them; no anycast in an internal header) has at
    most 1007 bits -/
theorem nbits_encInfo_conforms (i : Info R) (hc : i.Conforms) (hna : Info.IntNoAnycast i) : Enc.nbits (encInfo i) ≤ 1007 := by
  cases i with
  | int a b c src dest value ihr fwd lt at_ =>
    obtain ⟨⟨w1, h1, rfl⟩, ⟨w2, h2, rfl⟩⟩ := hna
    exact Nat.le_trans (nbits_cat_le (x := 1) (y := 1006) (nbits_eBool _) <| nbits_cat_le (x := 1) (y := 1005) (nbits_eBool _) <|
      nbits_cat_le (x := 1) (y := 1004) (nbits_eBool _) <| nbits_cat_le (x := 1) (y := 1003) (nbits_eBool _) <|
      nbits_cat_le (x := 267) (y := 736) (nbits_eAddr_std_none _ _) <| nbits_cat_le (x := 267) (y := 469) (nbits_eAddr_std_none _ _) <|
      nbits_cat_le (x := 125) (y := 344) (nbits_encCurrency _) <| nbits_cat_le (x := 124) (y := 220) (nbits_eGrams _) <|
      nbits_cat_le (x := 124) (y := 96) (nbits_eGrams _) <| nbits_cat_le (x := 64) (y := 32) (nbits_eUint _ _) (nbits_eUint _ _)) (by omega)
  | extIn src dest fee =>
    exact Nat.le_trans (nbits_cat_le (x := 2) (y := 948) (nbits_eBits _) <| nbits_cat_le (x := 522) (y := 426) (nbits_eAddr_le _) <|
      nbits_cat_le (x := 302) (y := 124) (nbits_eAddr_nonext _ (isInt_nonext hc.2)) (nbits_eGrams _)) (by omega)
  | extOut src dest lt at_ =>
    exact Nat.le_trans (nbits_cat_le (x := 2) (y := 920) (nbits_eBits _) <| nbits_cat_le (x := 302) (y := 618) (nbits_eAddr_nonext _ (isInt_nonext hc.1)) <|
      nbits_cat_le (x := 522) (y := 96) (nbits_eAddr_le _) <| nbits_cat_le (x := 64) (y := 32) (nbits_eUint _ _) (nbits_eUint _ _)) (by omega)

theorem nbits_eRefTo (ops : CellOps R) (e : Enc R) : Enc.nbits (eRefTo ops e) ≤ 0 := by
  unfold eRefTo; split
  · exact nbits_eRef _
  · exact nbits_none

theorem nrefs_eRefTo (ops : CellOps R) (e : Enc R) : Enc.nrefs (eRefTo ops e) ≤ 1 := by
  unfold eRefTo; split
  · exact nrefs_eRef _
  · simp [Enc.nrefs]

/-- `addr_none` or `addr_std` without anycast -/
def PlainAddr (a : Addr) : Prop := a = Addr.none ∨ ∃ w h, a = Addr.std none w h

theorem nbits_eAddr_plain {a : Addr} (h : PlainAddr a) : Enc.nbits (eAddr a : Enc R) ≤ 267 := by
  rcases h with rfl | ⟨w, hh, rfl⟩
  · exact Nat.le_trans (nbits_eBits _) (by simp)
  · exact nbits_eAddr_std_none _ _

theorem size_encSaleData (ops : CellOps R) (s : SaleData) (hm : PlainAddr s.marketplace) (hn : PlainAddr s.nft)
    (ho : PlainAddr s.nftOwner) : Enc.nbits (encSaleData ops s) ≤ 959 ∧ Enc.nrefs (encSaleData ops s) ≤ 1 := by
  unfold encSaleData
  constructor
  · exact Nat.le_trans (nbits_cat_le (nbits_eBool _) <| nbits_cat_le (nbits_eUint _ _) <|
      nbits_cat_le (nbits_eAddr_plain hm) <| nbits_cat_le (nbits_eAddr_plain hn) <|
      nbits_cat_le (nbits_eAddr_plain ho) <| nbits_cat_le (nbits_eGrams _) <|
      nbits_cat_le (nbits_eRefTo ops _) (nbits_eBool _)) (by omega)
  · exact Nat.le_trans (nrefs_cat_le (nrefs_eBool _) <| nrefs_cat_le (nrefs_eUint _ _) <|
      nrefs_cat_le (nrefs_eAddr _) <| nrefs_cat_le (nrefs_eAddr _) <|
      nrefs_cat_le (nrefs_eAddr _) <| nrefs_cat_le (nrefs_eGrams _) <|
      nrefs_cat_le (nrefs_eRefTo ops _) (nrefs_eBool _)) (by omega)

end TonVerif.Proofs.Message
