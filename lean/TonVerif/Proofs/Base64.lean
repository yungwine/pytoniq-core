/-
Lemmas about the base64 model (Model/Base64.lean), used by C13 and Proofs/Address.lean:

* `decode_encode` / `decodeUrlsafe_encode`: decode (encode bs) = bs for EVERY well-formed byte list
  (all lengths, padding included), both alphabets;
* the sextet view (`sextets`/`unsextets`) of unpadded texts (`encode_eq_map_sextets`), and what replacing one sextet
  does to the bytes (`unsextets_set`, used by the C13 substitution theorem);
* the two alphabets as lists.
-/
import TonVerif.Model.Base64

namespace TonVerif.Proofs.Base64
open TonVerif TonVerif.Model.Base64

/-! ### the alphabets (complete 64-entry tables, by kernel evaluation) -/

/-- standard alphabet: `decVal?` inverts `encChar false`, and no alphabet character is `=`. -/
theorem decVal_encChar_std : ∀ n, n < 64 →
    decVal? (encChar false n) = some n ∧ encChar false n ≠ '=' := by decide +kernel

/-- both alphabets after the url-safe translation. -/
theorem decVal_translate_encChar : ∀ url : Bool, ∀ n, n < 64 →
    decVal? (urlTranslate (encChar url n)) = some n ∧ urlTranslate (encChar url n) ≠ '=' := by
  decide +kernel

/-- `encChar url` has a left inverse on 0..63. -/
theorem encChar_inj : ∀ url : Bool, ∀ n, n < 64 → ∀ m, m < 64 → encChar url n = encChar url m → n = m := by
  intro url n hn m hm h
  have hd := (decVal_translate_encChar url n hn).1
  rw [h, (decVal_translate_encChar url m hm).1] at hd
  exact (Option.some.inj hd).symm

theorem encChar_ascii : ∀ url : Bool, ∀ n, n < 64 → (encChar url n).toNat < 128 := by decide +kernel

theorem encChar_ne_colon : ∀ url : Bool, ∀ n, n < 64 → encChar url n ≠ ':' := by decide +kernel


theorem urlTranslate_pad : urlTranslate '=' = '=' := by decide +kernel

/-- A character map under which the alphabet `url` decodes correctly (`id` for the standard alphabet,
`urlTranslate` for both). -/
structure Decodes (f : Char → Char) (url : Bool) : Prop where
  val : ∀ n, n < 64 → decVal? (f (encChar url n)) = some n
  ne_pad : ∀ n, n < 64 → f (encChar url n) ≠ '='
  pad : f '=' = '='

theorem decodes_id_std : Decodes id false :=
  ⟨fun n h => (decVal_encChar_std n h).1, fun n h => (decVal_encChar_std n h).2, rfl⟩

theorem decodes_translate (url : Bool) : Decodes urlTranslate url :=
  ⟨fun n h => (decVal_translate_encChar url n h).1, fun n h => (decVal_translate_encChar url n h).2,
   urlTranslate_pad⟩

/-! ### the decoder on one character of the alphabet -/

theorem decGo_char {f : Char → Char} {url : Bool} (hf : Decodes f url) (n : Nat) (hn : n < 64)
    (rest : List Char) (quad left pads : Nat) (acc : Bytes) :
    decGo (f (encChar url n) :: rest) quad left pads acc =
      if quad = 0 then decGo rest 1 n 0 acc
      else if quad = 1 then decGo rest 2 (n % 16) 0 ((left * 4 + n / 16) :: acc)
      else if quad = 2 then decGo rest 3 (n % 4) 0 ((left * 16 + n / 4) :: acc)
      else decGo rest 0 0 0 ((left * 64 + n) :: acc) := by
  rw [decGo]
  simp only [hf.ne_pad n hn, if_false, hf.val n hn]

/-- four alphabet characters from the start of a quad yield three bytes. -/
theorem decGo_quad {f : Char → Char} {url : Bool} (hf : Decodes f url) (s0 s1 s2 s3 : Nat)
    (h0 : s0 < 64) (h1 : s1 < 64) (h2 : s2 < 64) (h3 : s3 < 64)
    (rest : List Char) (left pads : Nat) (acc : Bytes) :
    decGo (f (encChar url s0) :: f (encChar url s1) :: f (encChar url s2) :: f (encChar url s3) :: rest)
        0 left pads acc
      = decGo rest 0 0 0 ((s2 % 4 * 64 + s3) :: (s1 % 16 * 16 + s2 / 4) :: (s0 * 4 + s1 / 16) :: acc) := by
  rw [decGo_char hf s0 h0, if_pos rfl, decGo_char hf s1 h1, if_neg (by decide), if_pos rfl,
    decGo_char hf s2 h2, if_neg (by decide), if_neg (by decide), if_pos rfl,
    decGo_char hf s3 h3, if_neg (by decide), if_neg (by decide), if_neg (by decide)]

/-! ### decode ∘ encode = id, all lengths -/

theorem wf_cons3 {a b c : Nat} {rest : Bytes} (hw : Bytes.WF (a :: b :: c :: rest)) :
    a < 256 ∧ b < 256 ∧ c < 256 ∧ Bytes.WF rest := by
  simpa only [Bytes.WF, List.forall_mem_cons] using hw

/-- three bytes cut into four sextets and joined again. -/
theorem join_split (a b c : Nat) (ha : a < 256) (hb : b < 256) (hc : c < 256) :
    a / 4 * 4 + (a % 4 * 16 + b / 16) / 16 = a ∧
    (a % 4 * 16 + b / 16) % 16 * 16 + (b % 16 * 4 + c / 64) / 4 = b ∧
    (b % 16 * 4 + c / 64) % 4 * 64 + c % 64 = c := by
  omega

theorem decGo_encode {f : Char → Char} {url : Bool} (hf : Decodes f url) :
    ∀ (bs : Bytes), Bytes.WF bs → ∀ (left pads : Nat) (acc : Bytes),
      decGo ((encode url bs).map f) 0 left pads acc = some (acc.reverse ++ bs) := by
  intro bs
  induction bs using encode.induct with
  | case1 a b c rest ih =>
    intro hw left pads acc
    obtain ⟨ha, hb, hc, hr⟩ := wf_cons3 hw
    simp only [encode, List.map_cons]
    obtain ⟨e1, e2, e3⟩ := join_split a b c ha hb hc
    rw [decGo_quad hf _ _ _ _ (by omega) (by omega) (by omega) (by omega), ih hr, e1, e2, e3]
    simp
  | case2 a b =>
    intro hw left pads acc
    have ha : a < 256 := hw a (by simp)
    have hb : b < 256 := hw b (by simp)
    simp only [encode, List.map_cons, List.map_nil, hf.pad]
    rw [decGo_char hf _ (by omega), if_pos rfl, decGo_char hf _ (by omega), if_neg (by decide), if_pos rfl,
      decGo_char hf _ (by omega), if_neg (by decide), if_neg (by decide), if_pos rfl]
    rw [decGo]
    have e1 : a / 4 * 4 + (a % 4 * 16 + b / 16) / 16 = a := by omega
    have e2 : (a % 4 * 16 + b / 16) % 16 * 16 + (b % 16 * 4) / 4 = b := by omega
    rw [e1, e2]; simp
  | case3 a =>
    intro hw left pads acc
    have ha : a < 256 := hw a (by simp)
    simp only [encode, List.map_cons, List.map_nil, hf.pad]
    rw [decGo_char hf _ (by omega), if_pos rfl, decGo_char hf _ (by omega), if_neg (by decide), if_pos rfl]
    rw [decGo]
    simp only [if_true]
    rw [decGo]
    have e1 : a / 4 * 4 + (a % 4 * 16) / 16 = a := by omega
    rw [e1]; simp
  | case4 =>
    intro _ left pads acc
    simp [encode, decGo]

theorem encode_ascii (url : Bool) : ∀ (bs : Bytes), Bytes.WF bs → ∀ c ∈ encode url bs, c.toNat < 128 := by
  intro bs
  induction bs using encode.induct with
  | case1 a b c rest ih =>
    intro hw
    obtain ⟨ha, hb, hc, hr⟩ := wf_cons3 hw
    simp only [encode, List.forall_mem_cons]
    exact ⟨encChar_ascii url _ (by omega), encChar_ascii url _ (by omega), encChar_ascii url _ (by omega),
      encChar_ascii url _ (by omega), ih hr⟩
  | case2 a b =>
    intro hw
    have ha : a < 256 := hw a (by simp)
    have hb : b < 256 := hw b (by simp)
    simp only [encode, List.forall_mem_cons]
    exact ⟨encChar_ascii url _ (by omega), encChar_ascii url _ (by omega), encChar_ascii url _ (by omega),
      by decide, nofun⟩
  | case3 a =>
    intro hw
    have ha : a < 256 := hw a (by simp)
    simp only [encode, List.forall_mem_cons]
    exact ⟨encChar_ascii url _ (by omega), encChar_ascii url _ (by omega), by decide, by decide, nofun⟩
  | case4 => exact fun _ => nofun

theorem any_nonascii_false {s : List Char} (h : ∀ c ∈ s, c.toNat < 128) :
    s.any (fun c => decide (128 ≤ c.toNat)) = false := by
  rw [List.any_eq_false]
  intro c hc
  have := h c hc
  simp; omega

/-- `base64.b64decode(base64.b64encode(bs)) == bs` for every byte string. -/
theorem decode_encode (bs : Bytes) (hw : Bytes.WF bs) : decode (encode false bs) = some bs := by
  unfold decode
  rw [any_nonascii_false (encode_ascii false bs hw)]
  have := decGo_encode decodes_id_std bs hw 0 0 []
  simpa using this

/-- `base64.urlsafe_b64decode` inverts BOTH `urlsafe_b64encode` (`url = true`) and `b64encode` (`url = false`). -/
theorem decodeUrlsafe_encode (url : Bool) (bs : Bytes) (hw : Bytes.WF bs) :
    decodeUrlsafe (encode url bs) = some bs := by
  unfold decodeUrlsafe
  rw [any_nonascii_false (encode_ascii url bs hw)]
  have := decGo_encode (decodes_translate url) bs hw 0 0 []
  simpa using this

/-! ### the sextet view of unpadded texts -/

/-- the 6-bit groups of a byte list whose length is a multiple of 3 (a shorter tail is ignored). -/
def sextets : Bytes → List Nat
  | a :: b :: c :: rest => a / 4 :: (a % 4 * 16 + b / 16) :: (b % 16 * 4 + c / 64) :: c % 64 :: sextets rest
  | _ => []

/-- bytes from 6-bit groups, four at a time (a shorter tail is ignored). -/
def unsextets : List Nat → Bytes
  | s0 :: s1 :: s2 :: s3 :: rest =>
      (s0 * 4 + s1 / 16) :: (s1 % 16 * 16 + s2 / 4) :: (s2 % 4 * 64 + s3) :: unsextets rest
  | _ => []

theorem encode_eq_map_sextets (url : Bool) : ∀ (bs : Bytes), bs.length % 3 = 0 →
    encode url bs = (sextets bs).map (encChar url) := by
  intro bs
  induction bs using encode.induct with
  | case1 a b c rest ih =>
    intro h
    simp only [List.length_cons] at h
    simp only [encode, sextets, List.map_cons]
    rw [ih (by omega)]
  | case2 a b => intro h; simp at h
  | case3 a => intro h; simp at h
  | case4 => intro _; simp [encode, sextets]

theorem sextets_lt : ∀ (bs : Bytes), Bytes.WF bs → ∀ s ∈ sextets bs, s < 64 := by
  intro bs
  induction bs using encode.induct with
  | case1 a b c rest ih =>
    intro hw
    obtain ⟨ha, hb, hc, hr⟩ := wf_cons3 hw
    simp only [sextets, List.forall_mem_cons]
    exact ⟨by omega, by omega, by omega, by omega, ih hr⟩
  | case2 a b => intro _ s hs; simp [sextets] at hs
  | case3 a => intro _ s hs; simp [sextets] at hs
  | case4 => intro _ s hs; simp [sextets] at hs

theorem sextets_length : ∀ (bs : Bytes), bs.length % 3 = 0 → (sextets bs).length * 3 = bs.length * 4 := by
  intro bs
  induction bs using encode.induct with
  | case1 a b c rest ih =>
    intro h
    simp only [List.length_cons] at h
    have := ih (by omega)
    simp only [sextets, List.length_cons]; omega
  | case2 a b => intro h; simp at h
  | case3 a => intro h; simp at h
  | case4 => intro _; simp [sextets]

theorem unsextets_sextets : ∀ (bs : Bytes), Bytes.WF bs → bs.length % 3 = 0 → unsextets (sextets bs) = bs := by
  intro bs
  induction bs using encode.induct with
  | case1 a b c rest ih =>
    intro hw h
    obtain ⟨ha, hb, hc, hr⟩ := wf_cons3 hw
    simp only [List.length_cons] at h
    simp only [sextets, unsextets]
    obtain ⟨e1, e2, e3⟩ := join_split a b c ha hb hc
    rw [ih hr (by omega), e1, e2, e3]
  | case2 a b => intro _ h; simp at h
  | case3 a => intro _ h; simp at h
  | case4 => intro _ _; simp [sextets, unsextets]

/-- the decoder on a text made of whole quads of alphabet characters. -/
theorem decGo_map_sextets {f : Char → Char} {url : Bool} (hf : Decodes f url) :
    ∀ (S : List Nat), (∀ s ∈ S, s < 64) → S.length % 4 = 0 → ∀ (left pads : Nat) (acc : Bytes),
      decGo ((S.map (encChar url)).map f) 0 left pads acc = some (acc.reverse ++ unsextets S)
  | [], _, _, _, _, _ => by simp [decGo, unsextets]
  | [_], _, h, _, _, _ | [_, _], _, h, _, _, _ | [_, _, _], _, h, _, _, _ => by simp at h
  | s0 :: s1 :: s2 :: s3 :: rest, hlt, hlen, left, pads, acc => by
    simp only [List.length_cons] at hlen
    simp only [List.map_cons, unsextets]
    rw [decGo_quad hf s0 s1 s2 s3 (hlt _ (by simp)) (hlt _ (by simp)) (hlt _ (by simp)) (hlt _ (by simp)),
      decGo_map_sextets hf rest (fun s hs => hlt s (by simp [hs])) (by omega)]
    simp

/-- `urlsafe_b64decode` of an unpadded text given by its sextets. -/
theorem decodeUrlsafe_map_sextets (url : Bool) (S : List Nat) (hlt : ∀ s ∈ S, s < 64) (hlen : S.length % 4 = 0) :
    decodeUrlsafe (S.map (encChar url)) = some (unsextets S) := by
  unfold decodeUrlsafe
  rw [any_nonascii_false]
  · have := decGo_map_sextets (decodes_translate url) S hlt hlen 0 0 []
    simpa using this
  · intro c hc
    rw [List.mem_map] at hc
    obtain ⟨s, hs, rfl⟩ := hc
    exact encChar_ascii url s (hlt s hs)

/-- a sextet lies within two adjacent bytes of its group of three: replacing it by a different one changes such a pair
and nothing else. -/
theorem unsextets_set (j : Nat) (hj : j < 64) : ∀ (S : List Nat), (∀ s ∈ S, s < 64) → S.length % 4 = 0 →
    ∀ (i : Nat) (hi : i < S.length), S[i] ≠ j →
    ∃ P a b a' b' T, unsextets S = P ++ a :: b :: T ∧ unsextets (S.set i j) = P ++ a' :: b' :: T ∧ (a ≠ a' ∨ b ≠ b')
  | [], _, _, _, hi, _ => by simp at hi
  | [_], _, h, _, _, _ | [_, _], _, h, _, _, _ | [_, _, _], _, h, _, _, _ => by simp at h
  | s0 :: s1 :: s2 :: s3 :: rest, hS, hlen, i, hi, hne => by
    simp only [List.forall_mem_cons] at hS
    obtain ⟨h0, h1, h2, h3, hr⟩ := hS
    -- sextets 0 and 1 of the first group lie within its bytes 0, 1; sextets 2 and 3 within its bytes 1, 2
    match i, hi, hne with
    | 0, _, hne => exact ⟨[], _, _, _, _, _, rfl, rfl, by simp only [List.getElem_cons_zero] at hne; omega⟩
    | 1, _, hne =>
      exact ⟨[], _, _, _, _, _, rfl, rfl, by simp only [List.getElem_cons_succ, List.getElem_cons_zero] at hne; omega⟩
    | 2, _, hne =>
      exact ⟨[_], _, _, _, _, _, rfl, rfl, by simp only [List.getElem_cons_succ, List.getElem_cons_zero] at hne; omega⟩
    | 3, _, hne =>
      exact ⟨[_], _, _, _, _, _, rfl, rfl, by simp only [List.getElem_cons_succ, List.getElem_cons_zero] at hne; omega⟩
    | i + 4, hi, hne =>
      simp only [List.length_cons] at hlen hi
      obtain ⟨P, a, b, a', b', T, e1, e2, hd⟩ := unsextets_set j hj rest hr (by omega) i (by omega) hne
      exact ⟨_ :: _ :: _ :: P, a, b, a', b', T, by rw [unsextets, e1]; rfl,
        by rw [List.set_cons_succ, List.set_cons_succ, List.set_cons_succ, List.set_cons_succ, unsextets, e2]; rfl, hd⟩

/-! ### the alphabets as lists -/

/-- the 64 characters of the standard (`url = false`) / url-safe (`url = true`) alphabet. -/
def alphabet (url : Bool) : List Char := (List.range 64).map (encChar url)

theorem alphabet_std :
    alphabet false = "ABCDEFGHIJKLMNOPQRSTUVWXYZabcdefghijklmnopqrstuvwxyz0123456789+/".toList := by
  decide +kernel

theorem alphabet_url :
    alphabet true = "ABCDEFGHIJKLMNOPQRSTUVWXYZabcdefghijklmnopqrstuvwxyz0123456789-_".toList := by
  decide +kernel

theorem mem_alphabet {url : Bool} {c : Char} (h : c ∈ alphabet url) : ∃ j, j < 64 ∧ c = encChar url j := by
  unfold alphabet at h
  rw [List.mem_map] at h
  obtain ⟨j, hj, rfl⟩ := h
  exact ⟨j, List.mem_range.mp hj, rfl⟩

end TonVerif.Proofs.Base64
