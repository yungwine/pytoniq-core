/-
Helper lemmas for C11 (Merkle proof checks): the object view `PCell` of a tree versus `Cell.info`,
the Merkle-proof cell built over a pruned tree, completeness of `check_proof` / `check_block_header_proof`,
and list/byte helpers of the binding (soundness) argument (Proofs/Binding.lean).
-/
import TonVerif.Model.Proof
import TonVerif.Proofs.CellSpec
import TonVerif.Proofs.Prune
import TonVerif.Proofs.ProofAccept

namespace TonVerif.Proofs.Merkle
open TonVerif TonVerif.Model TonVerif.Proofs.CellSpec TonVerif.Proofs.Prune

set_option linter.unusedSimpArgs false
set_option linter.unusedVariables false

/-! ### objects vs. infos -/

theorem construct_fields (H : Bytes → Bytes) (kind : Int) (bits : Bits) (rs : List CellInfo) (i : CellInfo)
    (h : construct H kind bits rs = some i) : i.kind = kind ∧ i.bits = bits ∧ i.nrefs = rs.length := by
  unfold construct at h
  simp only [Option.bind_eq_bind, Option.bind_eq_some_iff, Option.pure_def, Option.some.injEq] at h
  obtain ⟨_, _, _, _, _, _, _, _, rfl⟩ := h
  exact ⟨rfl, rfl, rfl⟩

mutual
  theorem ofCell_info (H : Bytes → Bytes) : ∀ (c : Cell), (PCell.ofCell H c).map PCell.info = Cell.info H c
    | .mk kind bits refs => by
      have ih := ofCells_infos H refs
      simp only [PCell.ofCell, Cell.info, Option.bind_eq_bind, ← ih]
      cases PCell.ofCells H refs with
      | none => rfl
      | some rs =>
        simp only [Option.bind_some, Option.map_some]
        cases construct H kind bits (rs.map PCell.info) <;> rfl
  theorem ofCells_infos (H : Bytes → Bytes) : ∀ (cs : List Cell),
      (PCell.ofCells H cs).map (List.map PCell.info) = Cell.infos H cs
    | [] => rfl
    | c :: cs => by
      have h1 := ofCell_info H c
      have h2 := ofCells_infos H cs
      simp only [PCell.ofCells, Cell.infos, Option.bind_eq_bind, ← h1, ← h2]
      cases PCell.ofCell H c with
      | none => rfl
      | some p =>
        cases PCell.ofCells H cs <;> rfl
end

/-- a tree whose root can be constructed gives an object whose children are the objects of the subtrees -/
theorem ofCell_of_info (H : Bytes → Bytes) (kind : Int) (bits : Bits) (refs : List Cell) (i : CellInfo)
    (h : Cell.info H (.mk kind bits refs) = some i) :
    ∃ rs, PCell.ofCells H refs = some rs ∧ PCell.ofCell H (.mk kind bits refs) = some (.mk i rs) ∧
      Cell.infos H refs = some (rs.map PCell.info) := by
  have h1 := ofCell_info H (.mk kind bits refs)
  rw [h] at h1
  simp only [PCell.ofCell, Option.bind_eq_bind] at h1 ⊢
  cases hrs : PCell.ofCells H refs with
  | none => rw [hrs] at h1; simp at h1
  | some rs =>
    rw [hrs] at h1
    simp only [Option.bind_some] at h1 ⊢
    have h2 := ofCells_infos H refs
    rw [hrs] at h2
    cases hc : construct H kind bits (rs.map PCell.info) with
    | none => rw [hc] at h1; simp at h1
    | some j =>
      rw [hc] at h1
      simp only [Option.bind_some, Option.pure_def, Option.map_some, PCell.info, Option.some.injEq] at h1
      subst h1
      exact ⟨rs, rfl, rfl, h2.symm⟩

theorem ofCells_singleton (H : Bytes → Bytes) (c : Cell) (rs : List PCell) (h : PCell.ofCells H [c] = some rs) :
    ∃ r, rs = [r] ∧ PCell.ofCell H c = some r := by
  simp only [PCell.ofCells, Option.bind_eq_bind] at h
  cases hc : PCell.ofCell H c with
  | none => rw [hc] at h; simp at h
  | some r => rw [hc] at h; simp at h; exact ⟨r, h.symm, rfl⟩

/-! ### the Merkle proof cell -/

/-- data of a Merkle proof cell: tag 3, level-0 hash and depth of the proved tree -/
def mproofData (h : Bytes) (d : Nat) : Bytes := [3] ++ h ++ Spec.be2 d

/-- the Merkle proof cell over `p` that names hash `h` and depth `d` -/
def merkleProofCell (h : Bytes) (d : Nat) (p : Cell) : Cell := .mk 3 (bytesToBits (mproofData h d)) [p]

theorem mproofData_wf (h : Bytes) (d : Nat) (hw : Bytes.WF h) : Bytes.WF (mproofData h d) := by
  intro b hb
  simp only [mproofData, List.mem_append, List.mem_cons, List.mem_nil_iff, or_false] at hb
  rcases hb with (rfl | hb) | hb
  · omega
  · exact hw b hb
  · exact be2_wf d b hb

theorem mproofData_slice (h : Bytes) (d : Nat) (hl : h.length = 32) : pySlice (mproofData h d) 1 33 = h := by
  simp only [pySlice, mproofData, List.singleton_append, List.cons_append, List.take_succ_cons, List.drop_succ_cons, List.drop_zero]
  rw [List.nil_append, List.take_left' hl]

theorem mproofData_length (h : Bytes) (d : Nat) (hl : h.length = 32) : (mproofData h d).length = 35 := by
  simp [mproofData, hl, Spec.be2]

/-- ACCEPTANCE LEMMA: an object `c` of type Merkle proof with data `03 ++ h ++ be2 d` and the single child `r`
whose level-0 hash/depth are `h`/`d` passes `check_proof(c, h)`; and `r` passes the header check. -/
theorem checkProof_accepts (c r : PCell) (h : Bytes) (d : Nat)
    (hk : c.info.kind = kMerkleProof) (hb : c.info.bits = bytesToBits (mproofData h d)) (hr : c.refs = [r])
    (hl : h.length = 32) (hw : Bytes.WF h) (hd : d < 65536)
    (hh : r.info.getHash 0 = some h) (hdp : r.info.getDepth 0 = some d) :
    checkProof c h = true ∧ checkBlockHeaderProof r h = true := by
  have hdata : c.data = mproofData h d := by
    rw [PCell.data, hb, dataBytes_eq, dataBytes_bytesToBits _ (mproofData_wf h d hw)]
  refine ⟨(ProofAccept.checkProof_iff c h).2 ⟨hk, ?_, ?_, r, d, hr, hh, hdp, hd, hdata⟩,
    by simp [checkBlockHeaderProof, hh]⟩
  · rw [hdata, mproofData_slice h d hl]
  · rw [hb, length_bytesToBits, mproofData_length h d hl]

/-! ### the representation hash of a pruned-branch object -/

/-- `Cell.hash` of a constructed spec-valid pruned branch is `H` of its own representation (NOT a hash it carries) -/
theorem construct_pruned_hash (H : Bytes → Bytes) (bits : Bits) (wf : NodeWF H .pruned bits []) (i : CellInfo)
    (hc : construct H 1 bits [] = some i) :
    i.hash = H ([Spec.d1 0 true (Spec.nodeMask .pruned bits []), Spec.d2 bits.length] ++ Spec.dataBytes bits) := by
  rw [show (1 : Int) = kPruned from rfl, construct_pruned_eq H bits wf] at hc
  cases hc
  simp [CellInfo.hash, dataBytes_eq]

/-! ### helpers of the binding argument (Proofs/Binding.lean) -/

theorem length_dataBytes (bits : Bits) : (Spec.dataBytes bits).length = (bits.length + 7) / 8 := dataBytes_length bits

theorem flatten_inj (w : Nat) : ∀ (xs ys : List Bytes), xs.length = ys.length →
    (∀ x ∈ xs, x.length = w) → (∀ y ∈ ys, y.length = w) → xs.flatten = ys.flatten → xs = ys := by
  intro xs
  induction xs with
  | nil => intro ys hl _ _ _; cases ys with
    | nil => rfl
    | cons _ _ => simp at hl
  | cons x xs ih =>
    intro ys hl hx hy he
    cases ys with
    | nil => simp at hl
    | cons y ys =>
      simp only [List.flatten_cons] at he
      have h1 : x.length = y.length := by rw [hx x (by simp), hy y (by simp)]
      obtain ⟨e1, e2⟩ := List.append_inj he h1
      rw [e1, ih ys (by simpa using hl) (fun a ha => hx a (by simp [ha])) (fun a ha => hy a (by simp [ha])) e2]

theorem specInfos_length (H : Bytes → Bytes) : ∀ (cs : List Cell) (ss : List Spec.SInfo), specInfos H cs = some ss → ss.length = cs.length := by
  intro cs
  induction cs with
  | nil => intro ss h; simp only [specInfos, Option.some.injEq] at h; subst h; rfl
  | cons c cs ih =>
    intro ss h
    obtain ⟨s, ss0, _, h2, rfl⟩ := specInfos_cons H c cs ss h
    simp [ih ss0 h2]

end TonVerif.Proofs.Merkle
