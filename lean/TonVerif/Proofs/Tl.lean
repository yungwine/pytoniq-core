/-
C14 (TL), for an arbitrary table: the serialiser emits the encoding `Enc` (`wire`, `wire_top`) and the parser inverts it
(`roundtrip`, `roundtrip_top`), over lemmas on little-endian numbers, framing of byte strings and table lookups.
At the end: the `BlockIdExt`/`BlockId` conversions of block.py.
-/
import TonVerif.Model.Tl

namespace TonVerif.Proofs.Tl
open TonVerif TonVerif.Spec.Tl TonVerif.Model.Tl

/-! ### little-endian numbers -/

@[simp] theorem natToLE_length (w v : Nat) : (natToLE w v).length = w := by
  induction w generalizing v with
  | zero => rfl
  | succ w ih => simp [natToLE, ih]

theorem natOfLE_natToLE (w v : Nat) : natOfLE (natToLE w v) = v % 256 ^ w := by
  induction w generalizing v with
  | zero => simp [natToLE, natOfLE, Nat.mod_one]
  | succ w ih =>
    simp only [natToLE, natOfLE, ih]
    rw [Nat.pow_succ, Nat.mul_comm (256 ^ w) 256, Nat.mod_mul]

theorem natOfLE_natToLE_lt (w v : Nat) (h : v < 256 ^ w) : natOfLE (natToLE w v) = v := by
  rw [natOfLE_natToLE, Nat.mod_eq_of_lt h]

theorem natToLE_wf (w v : Nat) : Bytes.WF (natToLE w v) := by
  induction w generalizing v with
  | zero => intro b hb; simp [natToLE] at hb
  | succ w ih =>
    intro b hb
    simp only [natToLE, List.mem_cons] at hb
    rcases hb with rfl | hb
    · omega
    · exact ih _ b hb

/-! ### framing -/

theorem padLen_eq (n : Nat) : padLen n = if n % 4 ≠ 0 then 4 - n % 4 else 0 := by
  unfold padLen; split <;> omega

/-- the code's framing (`<= 253`, pad by `len % 4`) is the TL framing. -/
theorem frame_eq_encodeBytes (b : Bytes) : frame b = encodeBytes b := by
  unfold frame encodeBytes
  by_cases h : b.length < 254
  · have h' : b.length ≤ 253 := by omega
    simp only [h, h', if_true, natToLE, List.length_append, List.length_cons, List.length_nil, padLen_eq]
    have : b.length % 256 = b.length := by omega
    rw [this]
    split <;> simp_all
  · have h' : ¬ b.length ≤ 253 := by omega
    simp only [h, h', if_false, List.length_append, List.length_cons, natToLE_length, padLen_eq]
    split <;> simp_all

theorem encodeBytes_length_mod4 (b : Bytes) : (encodeBytes b).length % 4 = 0 := by
  unfold encodeBytes
  simp only [List.length_append, List.length_replicate]
  unfold padLen
  omega

theorem natToLE3 (v : Nat) : natToLE 3 v = [v % 256, v / 256 % 256, v / 256 / 256 % 256] := by
  simp [natToLE]

/-- the framing reader inverts the framing for every length below 2^24, whatever follows. -/
theorem readFrame_encodeBytes (b rest : Bytes) (hl : b.length < 2 ^ 24) :
    readFrame (encodeBytes b ++ rest) = (b, b.length, (encodeBytes b).length) := by
  unfold readFrame encodeBytes
  by_cases h : b.length < 254
  · have hne : b.length ≠ 254 := by omega
    simp only [h, if_true, List.cons_append, List.nil_append, List.append_assoc, List.take_succ_cons, List.take_zero,
      List.cons.injEq, hne, and_true, if_false, natOfLE, Nat.mul_zero, Nat.add_zero, List.drop_succ_cons, List.drop_zero,
      List.length_cons, List.length_nil, List.length_append, List.length_replicate, padLen_eq]
    rw [List.take_left' rfl]
    have e : (0 + 1 + b.length) = b.length + 1 := by omega
    rw [e]
    split <;> simp <;> omega
  · simp only [h, if_false, List.cons_append, List.append_assoc, List.take_succ_cons, List.take_zero, if_true,
      List.drop_succ_cons, List.drop_zero]
    rw [List.take_left' (natToLE_length 3 _), natOfLE_natToLE_lt 3 _ (by simpa using hl), List.drop_left' (natToLE_length 3 _),
      List.take_left' rfl]
    simp only [List.length_cons, natToLE_length, List.length_append, List.length_replicate, padLen_eq]
    have e : (3 + 1 + b.length) = b.length + 4 := by omega
    rw [e]
    split <;> simp <;> omega

/-! ### Python int <-> bytes -/

theorem intLE_length (w : Nat) (i : Int) : (intLE w i).length = w := by simp [intLE]

theorem intOfLE_intLE4 (i : Int) (h1 : -2^31 ≤ i) (h2 : i < 2^31) : intOfLE (intLE 4 i) = i := by
  unfold intOfLE
  simp only [intLE_length]
  unfold intLE
  rw [natOfLE_natToLE]
  simp only [Nat.reducePow, Nat.reduceMul, Nat.reduceSub]
  split <;> omega

theorem intOfLE_intLE8 (i : Int) (h1 : -2^63 ≤ i) (h2 : i < 2^63) : intOfLE (intLE 8 i) = i := by
  unfold intOfLE
  simp only [intLE_length]
  unfold intLE
  rw [natOfLE_natToLE]
  simp only [Nat.reducePow, Nat.reduceMul, Nat.reduceSub]
  split <;> omega

theorem natOfLE_intLE4 (i : Int) (h1 : 0 ≤ i) (h2 : i < 2^32) : (natOfLE (intLE 4 i) : Int) = i := by
  unfold intLE
  rw [natOfLE_natToLE]
  simp only [Nat.reducePow]
  omega

theorem intToLE?_range (w : Nat) (i : Int) (h1 : -(2 ^ (8 * w - 1) : Int) ≤ i) (h2 : i < (2 ^ (8 * w - 1) : Int)) :
    intToLE? w i = some (intLE w i) := if_pos ⟨h1, h2⟩

theorem natToLE?_range (w : Nat) (i : Int) (h1 : 0 ≤ i) (h2 : i < (2 ^ (8 * w) : Int)) :
    natToLE? w i = some (intLE w i) := if_pos ⟨h1, h2⟩

theorem intLE_ofNat (n : Nat) (h : n < 2^32) : intLE 4 (n : Int) = natToLE 4 n := by
  unfold intLE
  congr 1
  simp only [Nat.reducePow]
  omega

/-! ### the serialiser emits the TL encoding -/

/-- with this fuel, the serialiser for the kind of `item` returns exactly `bs`. -/
def SerOK (T : Table) (fuel : Nat) : Item → Bytes → Prop
  | .one e _ v, bs => serOne T (serObj T fuel) e v = some bs
  | .many e vs, bs => serMany (serOne T (serObj T fuel) e) vs = some bs
  | .field a v, bs => serArg T (serObj T fuel) a v = some bs
  | .body args whole, bs => serBody T (serObj T fuel) args whole = some bs

theorem succ_of_le {N fuel : Nat} (h : N + 1 ≤ fuel) : ∃ k, fuel = k + 1 ∧ N ≤ k := ⟨fuel - 1, by omega, by omega⟩

/-- `X` holds for every sufficiently large depth budget. The statements about `serObj`/`deserObj` below have this form
written out; `Ev` is reducible so that the lemmas apply to them as they stand. -/
abbrev Ev (X : Nat → Prop) : Prop := ∃ N, ∀ fuel, N ≤ fuel → X fuel

theorem Ev.all {X : Nat → Prop} (h : ∀ fuel, X fuel) : Ev X := ⟨0, fun fuel _ => h fuel⟩

theorem Ev.mp {X Y : Nat → Prop} (hx : Ev X) (h : ∀ fuel, X fuel → Y fuel) : Ev Y :=
  hx.elim fun N hN => ⟨N, fun fuel hf => h fuel (hN fuel hf)⟩

theorem Ev.mp2 {X Y Z : Nat → Prop} (hx : Ev X) (hy : Ev Y) (h : ∀ fuel, X fuel → Y fuel → Z fuel) : Ev Z :=
  hx.elim fun N hN => hy.elim fun M hM => ⟨max N M, fun fuel hf => h fuel (hN fuel (by omega)) (hM fuel (by omega))⟩

/-- one more level of nesting: what holds of the callee's budget `k` gives the caller's statement at `k + 1`. -/
theorem Ev.succ {X Y : Nat → Prop} (hx : Ev X) (h : ∀ k, X k → Y (k + 1)) : Ev Y :=
  hx.elim fun N hN => ⟨N + 1, fun fuel hf => by obtain ⟨k, rfl, hk⟩ := succ_of_le hf; exact h k (hN k hk)⟩

theorem wire (T : Table) (P : Bytes → Prop) {item : Item} {bs : Bytes} (h : Enc T P item bs) :
    ∃ N, ∀ fuel, N ≤ fuel → SerOK T fuel item bs := by
  induction h with
  | int h1 h2 => exact Ev.all fun fuel => by simp [SerOK, serOne, serFixed, fixedLen, intToLE?_range 4 _ h1 h2]
  | long h1 h2 => exact Ev.all fun fuel => by simp [SerOK, serOne, serFixed, fixedLen, intToLE?_range 8 _ h1 h2]
  | nat h1 h2 => exact Ev.all fun fuel => by simp [SerOK, serOne, serFixed, fixedLen, natToLE?_range 4 _ h1 h2]
  | int128 h1 h2 => exact Ev.all fun fuel => by simp [SerOK, serOne, serFixed]
  | int256 h1 h2 => exact Ev.all fun fuel => by simp [SerOK, serOne, serFixed]
  | boolT => exact Ev.all fun fuel => by simp [SerOK, serOne, serFixed, boolTrueId, natToLE]
  | boolF => exact Ev.all fun fuel => by simp [SerOK, serOne, serFixed, boolFalseId, natToLE]
  | bytes h1 h2 h3 => exact Ev.all fun fuel => by simp [SerOK, serOne, frame?, h2, frame_eq_encodeBytes]
  | string h1 h2 h3 h4 => exact Ev.all fun fuel => by simp [SerOK, serOne, frame?, h3, frame_eq_encodeBytes]
  | bare hn hc hb ih =>
    exact Ev.succ ih fun k this => by
      simp only [SerOK] at this
      simp [SerOK, serOne, hn, objFields?, serObj, this]
  | boxed hm hn hc hb ih =>
    rename_i iv cl c fs bs
    refine Ev.succ ih fun k this => ?_
    simp only [SerOK] at this
    simp only [SerOK, serOne]
    cases hcl : T.byClass cl with
    | nil => rw [hcl] at hm; cases hm
    | cons c0 rest =>
      cases rest with
      | nil =>
        rw [hcl] at hm
        simp only [List.mem_singleton] at hm
        subst hm
        simp [objFields?, serObj, this]
      | cons c1 rest => simp [hn, serObj, this]
  | manyNil => exact Ev.all fun fuel => by simp [SerOK, serMany]
  | manyCons h1 h2 ih1 ih2 =>
    exact Ev.mp2 ih1 ih2 fun fuel a b => by
      simp only [SerOK] at a b
      simp [SerOK, serMany, a, b]
  | scalar hv h1 ih =>
    exact Ev.mp ih fun fuel a => by
      simp only [SerOK] at a
      simp [SerOK, serArg, hv, a]
  | vector hv hl hb h1 ih =>
    rename_i a0 vs bs
    refine Ev.mp ih fun fuel a => ?_
    simp only [SerOK] at a
    have e : natToLE? 4 (vs.length : Int) = some (natToLE 4 vs.length) := by
      rw [natToLE?_range 4 _ (by omega) (by omega), intLE_ofNat _ hl]
    simp [SerOK, serArg, hv, a, e]
  | bodyNil => exact Ev.all fun fuel => by simp [SerOK, serBody]
  | bodyReq hc hl h1 h2 ih1 ih2 =>
    exact Ev.mp2 ih1 ih2 fun fuel a b => by
      simp only [SerOK] at a b
      simp [SerOK, serBody, hl, a, b]
  | bodyOn hc hf h0 hb hl h1 h2 ih1 ih2 =>
    exact Ev.mp2 ih1 ih2 fun fuel a b => by
      simp only [SerOK] at a b
      simp [SerOK, serBody, hl, a, b]
  | bodyOff hc hf h0 hb hl h1 ih =>
    exact Ev.mp ih fun fuel a => by
      simp only [SerOK] at a
      simp [SerOK, serBody, hl, hc, a]

/-! ### table conditions, flag lookup -/

/-- the flags variable of every conditional field precedes it and is what `result.get('mode', result.get('flags'))` finds. -/
def condOK (T : Table) : List Arg → List Arg → Bool
  | _, [] => true
  | pre, a :: as =>
    (match a.cond with
      | none => true
      | some (fl, _) =>
        pre.any (fun f => f.name == fl) &&
          (fl == T.modeKey || (fl == T.flagsKey && pre.all (fun f => f.name != T.modeKey)))) &&
    condOK T (pre ++ [a]) as

def ctorOK (T : Table) (c : Ctor) : Bool :=
  decide (c.id < 2 ^ 32) && condOK T [] c.args &&
    (match T.byId c.id with
      | some c' => c'.name == c.name && c'.args == c.args
      | none => false)

def TableOK (T : Table) : Prop := ∀ c ∈ T.ctors, ctorOK T c = true

theorem ctorOK_cond {T : Table} {c : Ctor} (hok : ctorOK T c = true) : condOK T [] c.args = true := by
  simp only [ctorOK, Bool.and_eq_true] at hok
  exact hok.1.2

/-- a parser that meets the id of `c` at the head of its input looks up a constructor with the name and the arguments of `c`. -/
theorem ctorOK_head {T : Table} {c : Ctor} (hok : ctorOK T c = true) (bs : Bytes) :
    ∃ c', byIdLE T (natToLE 4 c.id ++ bs) = some c' ∧ c'.name = c.name ∧ c'.args = c.args := by
  simp only [ctorOK, Bool.and_eq_true, decide_eq_true_eq] at hok
  obtain ⟨⟨hid, _⟩, hby⟩ := hok
  cases hb' : T.byId c.id with
  | none => simp [hb'] at hby
  | some c' =>
    simp only [hb', Bool.and_eq_true, beq_iff_eq] at hby
    refine ⟨c', ?_, hby⟩
    unfold byIdLE
    rw [List.take_left' (natToLE_length 4 _)]
    simp [natOfLE_natToLE_lt 4 c.id (by simpa using hid), hb']

theorem lookup_canonFields (pre : List Arg) (whole : Fields) (k : Nat) :
    (canonFields pre whole).lookup k = if pre.any (fun f => f.name == k) then whole.lookup k else none := by
  induction pre with
  | nil => simp [canonFields]
  | cons a pre ih =>
    unfold canonFields at ih ⊢
    simp only [List.filterMap_cons, List.any_cons]
    cases hl : whole.lookup a.name with
    | none =>
      simp only [Option.map_none, ih]
      by_cases hk : a.name = k
      · subst hk; simp [hl]
      · have : (a.name == k) = false := by simpa using hk
        simp [this]
    | some v =>
      simp only [Option.map_some, List.lookup_cons, ih]
      by_cases hk : a.name = k
      · subst hk; simp [hl]
      · have h1 : (a.name == k) = false := by simpa using hk
        have h2 : (k == a.name) = false := by simpa using (fun h => hk h.symm)
        simp [h1, h2]

theorem canonFields_append (p q : List Arg) (whole : Fields) :
    canonFields (p ++ q) whole = canonFields p whole ++ canonFields q whole := by
  simp [canonFields, List.filterMap_append]

theorem flagVal_canon (T : Table) (pre : List Arg) (whole : Fields) (fl : Nat) (x : Val)
    (h1 : pre.any (fun f => f.name == fl) = true)
    (h2 : (fl == T.modeKey || (fl == T.flagsKey && pre.all (fun f => f.name != T.modeKey))) = true)
    (hl : whole.lookup fl = some x) : flagVal T (canonFields pre whole) = some x := by
  unfold flagVal
  rw [lookup_canonFields, lookup_canonFields]
  simp only [Bool.or_eq_true, Bool.and_eq_true, beq_iff_eq] at h2
  rcases h2 with h2 | ⟨h2, h3⟩
  · subst h2; simp [h1, hl]
  · subst h2
    have : pre.any (fun f => f.name == T.modeKey) = false := by
      simp only [List.all_eq_true, bne_iff_ne, ne_eq] at h3
      simp only [List.any_eq_false, beq_iff_eq]
      exact fun f hf => h3 f hf
    simp [this, h1, hl]

/-! ### the parser inverts the TL encoding -/

/-- with this fuel, the parser for the kind of `item` reads it back from `bs ++ rest` and consumes `bs.length` bytes;
for a body, the fields parsed so far (`canonFields pre whole`) are extended by those of `args`. -/
def DeOK (T : Table) (auto : Bool) (fuel : Nat) : Item → Bytes → Prop
  | .one e iv v, bs => ∀ rest ut,
      deserOne T auto (deserObj T auto fuel) ut e iv (bs ++ rest) = some (some v, bs.length)
  | .many e vs, bs => ∀ rest,
      deserMany (deserElem T auto (deserObj T auto fuel) e) vs.length (bs ++ rest) = some (vs, bs.length)
  | .field a v, bs => ∀ rest ut,
      deserArg T auto (deserObj T auto fuel) ut a (bs ++ rest) = some (some v, bs.length)
  | .body args whole, bs => ∀ rest pre schema, condOK T pre args = true →
      deserBody T auto (deserObj T auto fuel) schema args (canonFields pre whole) (bs ++ rest) =
        some (canonFields pre whole ++ canonFields args whole, bs.length)

theorem mem_of_byName {T : Table} {n : Nat} {c : Ctor} (h : T.byName n = some c) : c ∈ T.ctors :=
  List.mem_reverse.1 (List.mem_of_find?_eq_some h)

theorem mem_of_byId {T : Table} {n : Nat} {c : Ctor} (h : T.byId n = some c) : c ∈ T.ctors :=
  List.mem_reverse.1 (List.mem_of_find?_eq_some h)

theorem mem_of_byIdLE {T : Table} {d : Bytes} {c : Ctor} (h : byIdLE T d = some c) : c ∈ T.ctors ∧ 4 ≤ d.length := by
  unfold byIdLE at h
  split at h
  · rename_i hl
    exact ⟨mem_of_byId h, by simp only [List.length_take] at hl; omega⟩
  · cases h

theorem mem_of_byClass {T : Table} {cl : Nat} {c : Ctor} (h : c ∈ T.byClass cl) : c ∈ T.ctors := by
  unfold Table.byClass at h
  exact (List.mem_filter.mp h).1

theorem auto_unregistered (T : Table) (auto : Bool) (k : Nat) (b : Bytes) (h : byIdLE T b = none) :
    autoParse (fun x => deserObj T auto (k + 1) x none) b b.length = some (.bytes b) := by
  simp [autoParse, deserObj, h]

/-! ### what each level of the parser does on an encoded input, whatever the next level `rec` is -/

/-- a boxed call that meets the id of `c` runs the field loop of `c` four bytes on. -/
theorem deserObj_head {T : Table} {c : Ctor} (hok : ctorOK T c = true) (auto : Bool) (k : Nat) (bs : Bytes) :
    deserObj T auto (k + 1) (natToLE 4 c.id ++ bs) none =
      (deserBody T auto (deserObj T auto k) (some c.name) c.args [] bs).map (fun (fs, j) => (.obj (some c.name) fs, 4 + j)) := by
  obtain ⟨c', hid, hname, hargs⟩ := ctorOK_head hok bs
  simp only [deserObj, hid, List.drop_left' (natToLE_length 4 _), hargs, hname]

theorem deserObj_bare_succ (T : Table) (auto : Bool) (k : Nat) (d : Bytes) (args : List Arg) :
    deserObj T auto (k + 1) d (some args) =
      (deserBody T auto (deserObj T auto k) none args [] d).map (fun (fs, j) => (.obj none fs, j)) := rfl

/-- a vector field whose count fits the remaining input runs the element loop four bytes on. -/
theorem deserArg_vector (T : Table) (auto : Bool) (rec : Bytes → Option (List Arg) → Option (Val × Nat)) (ut : Bool) {a : Arg}
    (hv : a.vec = true) {n : Nat} (hn : n < 2 ^ 32) {bs : Bytes} (hb : n ≤ bs.length) (rest : Bytes) :
    deserArg T auto rec ut a (natToLE 4 n ++ bs ++ rest) =
      (deserMany (deserElem T auto rec a.ty) n (bs ++ rest)).map (fun (vs, j) => (some (.list vs), 4 + j)) := by
  have hlen : ¬ (natToLE 4 n ++ (bs ++ rest)).length < 4 + n := by
    simp only [List.length_append, natToLE_length]; omega
  simp only [deserArg, hv, if_true, List.append_assoc, List.take_left' (natToLE_length 4 _),
    List.drop_left' (natToLE_length 4 _), natOfLE_natToLE_lt 4 n (by simpa using hn), hlen, if_false]

/-- the flags test of one field of the field loop. -/
def present (T : Table) (acc : Fields) (a : Arg) : Option Bool :=
  match a.cond with
  | none => some true
  | some (_, bit) =>
    match flagVal T acc with
    | some (.int m) => some (maskBit m bit)
    | some (.bool b) => some (maskBit (if b then 1 else 0) bit)
    | _ => none

/-- the untouchables test of the field loop. -/
def utM (T : Table) (sch : Option Nat) (k : Nat) : Bool :=
  match sch with
  | some s => T.untouch.contains (s, k)
  | none => false

/-- one turn of the field loop: skip an absent field; parse a present one, append it, go on behind it. -/
theorem deserBody_cons (T : Table) (auto : Bool) (rm : Bytes → Option (List Arg) → Option (Val × Nat)) (sch : Option Nat) (a : Arg)
    (as : List Arg) (acc : Fields) (d : Bytes) :
    deserBody T auto rm sch (a :: as) acc d =
      (match present T acc a with
       | none => none
       | some false => deserBody T auto rm sch as acc d
       | some true =>
         match deserArg T auto rm (utM T sch a.name) a d with
         | none => none
         | some (ov, j) =>
           match deserBody T auto rm sch as (match ov with | some v => acc ++ [(a.name, v)] | none => acc) (d.drop j) with
           | none => none
           | some (fs, j2) => some (fs, j + j2)) := by
  conv => lhs; unfold deserBody
  cases hc : a.cond with
  | none => simp only [present, hc, utM]; cases sch <;> rfl
  | some p =>
    obtain ⟨fl, bit⟩ := p
    simp only [present, hc, utM]
    cases flagVal T acc with
    | none => rfl
    | some v => cases v <;> first | rfl | (cases sch <;> rfl)

theorem present_req {T : Table} {acc : Fields} {a : Arg} (hc : a.cond = none) : present T acc a = some true := by
  simp only [present, hc]

/-- a conditional field whose flags variable was read as the non-negative `m`. -/
theorem present_flag {T : Table} {acc : Fields} {a : Arg} {fl bit : Nat} {m : Int} (hc : a.cond = some (fl, bit))
    (hf : flagVal T acc = some (.int m)) (h0 : 0 ≤ m) : present T acc a = some (m.toNat.testBit bit) := by
  simp [present, hc, hf, maskBit, h0]

theorem canon_snoc {a : Arg} {whole : Fields} (pre : List Arg) (ov : Option Val) (hl : whole.lookup a.name = ov) :
    canonFields (pre ++ [a]) whole = canonFields pre whole ++ (ov.map fun v => (a.name, v)).toList := by
  subst hl
  rw [canonFields_append]
  cases h : whole.lookup a.name <;> simp [canonFields, h]

theorem canon_cons {a : Arg} {whole : Fields} (as : List Arg) (ov : Option Val) (hl : whole.lookup a.name = ov) :
    canonFields (a :: as) whole = (ov.map fun v => (a.name, v)).toList ++ canonFields as whole := by
  subst hl
  cases h : whole.lookup a.name <;> simp [canonFields, h]

/-- `DeOK` of a whole field list, started on the empty prefix. -/
theorem DeOK.whole {T : Table} {auto : Bool} {fuel : Nat} {args : List Arg} {fs : Fields} {bs : Bytes}
    (h : DeOK T auto fuel (.body args fs) bs) (hco : condOK T [] args = true) (hc : fs = canonFields args fs) (rest : Bytes)
    (schema : Option Nat) : deserBody T auto (deserObj T auto fuel) schema args [] (bs ++ rest) = some (fs, bs.length) := by
  have := h rest [] schema hco
  rwa [show canonFields [] fs = [] from rfl, List.nil_append, ← hc] at this

/-- the parser reads every `Enc`-encoding back, from some fuel on; in `auto` mode the raw byte strings (`P`) must not begin
with a registered id, since the parser would take them for objects. -/
theorem roundtrip (T : Table) (P : Bytes → Prop) (auto : Bool) (hT : TableOK T)
    (hP : auto = true → ∀ b, P b → byIdLE T b = none)
    {item : Item} {bs : Bytes} (h : Enc T P item bs) :
    ∃ N, ∀ fuel, N ≤ fuel → DeOK T auto fuel item bs := by
  induction h with
  | int h1 h2 =>
    exact Ev.all fun fuel rest ut => by
      simp [deserOne, readFixed, List.take_left' (intLE_length 4 _), intOfLE_intLE4 _ h1 h2, intLE_length]
  | long h1 h2 =>
    exact Ev.all fun fuel rest ut => by
      simp [deserOne, readFixed, List.take_left' (intLE_length 8 _), intOfLE_intLE8 _ h1 h2, intLE_length]
  | nat h1 h2 =>
    exact Ev.all fun fuel rest ut => by
      simp [deserOne, readFixed, List.take_left' (intLE_length 4 _), natOfLE_intLE4 _ h1 h2, intLE_length]
  | int128 h1 h2 => exact Ev.all fun fuel rest ut => by simp [deserOne, readFixed, List.take_left' h1, h1]
  | int256 h1 h2 => exact Ev.all fun fuel rest ut => by simp [deserOne, readFixed, List.take_left' h1, h1]
  | boolT => exact Ev.all fun fuel rest ut => by simp [deserOne, readFixed, boolTrueId, natToLE]
  | boolF => exact Ev.all fun fuel rest ut => by simp [deserOne, readFixed, boolFalseId, natToLE]
  | bytes h1 h2 h3 =>
    refine ⟨1, fun fuel hf rest ut => ?_⟩
    obtain ⟨k, rfl⟩ := Nat.exists_eq_add_of_le' hf
    simp only [deserOne, readFrame_encodeBytes _ rest h2]
    cases auto with
    | false => simp
    | true =>
      cases ut with
      | true => simp
      | false => simp [auto_unregistered T true k _ (hP rfl _ h3)]
  | string h1 h2 h3 h4 =>
    refine ⟨1, fun fuel hf rest ut => ?_⟩
    obtain ⟨k, rfl⟩ := Nat.exists_eq_add_of_le' hf
    simp only [deserOne, readFrame_encodeBytes _ rest h3]
    cases auto with
    | false => simp [h2]
    | true =>
      cases ut with
      | true => simp [h2]
      | false => simp [auto_unregistered T true k _ (hP rfl _ h4), h2]
  | bare hn hc hb ih =>
    rename_i iv n c fs bs
    exact Ev.succ ih fun k ih rest ut => by
      simp only [deserOne, hn, deserObj_bare_succ, ih.whole (ctorOK_cond (hT c (mem_of_byName hn))) hc, Option.map_some]
  | boxed hm hn hc hb ih =>
    rename_i iv cl c fs bs
    have hok := hT c (mem_of_byClass hm)
    refine Ev.succ ih fun k ih rest ut => ?_
    simp [deserOne, deserObj_head hok, ih.whole (ctorOK_cond hok) hc]
  | manyNil => exact Ev.all fun fuel rest => by simp [deserMany]
  | manyCons h1 h2 ih1 ih2 =>
    rename_i e v vs b1 b2
    refine Ev.mp2 ih1 ih2 fun fuel a b rest => ?_
    simp only [List.length_cons, deserMany, deserElem, List.append_assoc, a (b2 ++ rest) false]
    simp [b rest]
  | scalar hv h1 ih => exact Ev.mp ih fun fuel a rest ut => by simp [deserArg, hv, a rest ut]
  | vector hv hl hb h1 ih =>
    exact Ev.mp ih fun fuel a rest ut => by rw [deserArg_vector T auto _ ut hv hl hb rest, a rest]; simp
  | bodyNil => exact Ev.all fun fuel rest pre schema _ => by simp [deserBody, canonFields]
  | bodyReq hc hl h1 h2 ih1 ih2 =>
    rename_i a as whole v b1 b2
    refine Ev.mp2 ih1 ih2 fun fuel i1 i2 rest pre schema hco => ?_
    simp only [condOK, Bool.and_eq_true] at hco
    have hx := i2 rest (pre ++ [a]) schema hco.2
    simp only [canon_snoc pre _ hl, Option.map_some, Option.toList_some] at hx
    rw [List.append_assoc, deserBody_cons, present_req hc, i1 (b2 ++ rest) _]
    simp [List.drop_left' rfl, hx, canon_cons as _ hl]
  | bodyOn hc hf h0 hb hl h1 h2 ih1 ih2 =>
    rename_i a as whole fl bit m v b1 b2
    refine Ev.mp2 ih1 ih2 fun fuel i1 i2 rest pre schema hco => ?_
    simp only [condOK, hc, Bool.and_eq_true] at hco
    have hx := i2 rest (pre ++ [a]) schema hco.2
    simp only [canon_snoc pre _ hl, Option.map_some, Option.toList_some] at hx
    rw [List.append_assoc, deserBody_cons, present_flag hc (flagVal_canon T pre whole fl _ hco.1.1 hco.1.2 hf) h0, hb,
      i1 (b2 ++ rest) _]
    simp [List.drop_left' rfl, hx, canon_cons as _ hl]
  | bodyOff hc hf h0 hb hl h1 ih =>
    rename_i a as whole fl bit m bs
    refine Ev.mp ih fun fuel ih rest pre schema hco => ?_
    simp only [condOK, hc, Bool.and_eq_true] at hco
    have hx := ih rest (pre ++ [a]) schema hco.2
    simp only [canon_snoc pre _ hl, Option.map_none, Option.toList_none, List.append_nil] at hx
    rw [deserBody_cons, present_flag hc (flagVal_canon T pre whole fl _ hco.1.1 hco.1.2 hf) h0, hb]
    simpa [canon_cons as _ hl] using hx

/-! ### top level -/

theorem wire_top (T : Table) (P : Bytes → Prop) (c : Ctor) (fs : Fields) (body : Bytes)
    (hb : Enc T P (.body c.args fs) body) :
    ∃ N, ∀ fuel, N ≤ fuel → serialize T fuel c (.obj (some c.name) fs) = some (natToLE 4 c.id ++ body) :=
  Ev.succ (wire T P hb) fun k this => by
    simp only [SerOK] at this
    simp [serialize, serObj, this]

theorem roundtrip_top (T : Table) (P : Bytes → Prop) (auto : Bool) (hT : TableOK T)
    (hP : auto = true → ∀ b, P b → byIdLE T b = none) (c : Ctor) (hc : c ∈ T.ctors) (fs : Fields) (body : Bytes)
    (hcan : fs = canonFields c.args fs) (hb : Enc T P (.body c.args fs) body) :
    ∃ N, ∀ fuel, N ≤ fuel → ∀ rest, deserialize T auto fuel (natToLE 4 c.id ++ body ++ rest) =
      some (.obj (some c.name) fs, (natToLE 4 c.id ++ body).length) :=
  Ev.succ (roundtrip T P auto hT hP hb) fun k ih rest => by
    simp [deserialize, deserObj_head (hT c hc), ih.whole (ctorOK_cond (hT c hc)) hcan]

/-! ### block.py -/

theorem intOfBE_intToBE4 (i : Int) (h1 : -2^31 ≤ i) (h2 : i < 2^31) :
    ∃ b, intToBE? 4 i = some b ∧ b.length = 4 ∧ intOfBE b = i := by
  refine ⟨(intLE 4 i).reverse, by simp [intToBE?, intToLE?_range 4 i h1 h2], by simp [intLE_length], ?_⟩
  simp [intOfBE, intOfLE_intLE4 i h1 h2]

theorem intOfBE_intToBE8 (i : Int) (h1 : -2^63 ≤ i) (h2 : i < 2^63) :
    ∃ b, intToBE? 8 i = some b ∧ b.length = 8 ∧ intOfBE b = i := by
  refine ⟨(intLE 8 i).reverse, by simp [intToBE?, intToLE?_range 8 i h1 h2], by simp [intLE_length], ?_⟩
  simp [intOfBE, intOfLE_intLE8 i h1 h2]

theorem blockIdExt_bytes (b : BlockIdExt) (hw : -2^31 ≤ b.workchain ∧ b.workchain < 2^31)
    (hs : -2^63 ≤ b.shard ∧ b.shard < 2^63) (hq : -2^31 ≤ b.seqno ∧ b.seqno < 2^31)
    (hr : b.rootHash.length = 32) (hf : b.fileHash.length = 32) :
    ∃ d, b.toBytes = some d ∧ d.length = 80 ∧ BlockIdExt.fromBytes d = b := by
  obtain ⟨w, hw1, hw2, hw3⟩ := intOfBE_intToBE4 _ hw.1 hw.2
  obtain ⟨s, hs1, hs2, hs3⟩ := intOfBE_intToBE8 _ hs.1 hs.2
  obtain ⟨q, hq1, hq2, hq3⟩ := intOfBE_intToBE4 _ hq.1 hq.2
  refine ⟨w ++ s ++ q ++ b.rootHash ++ b.fileHash, by simp [BlockIdExt.toBytes, hw1, hs1, hq1], by simp [hw2, hs2, hq2, hr, hf], ?_⟩
  have e1 : (w ++ s ++ q ++ b.rootHash ++ b.fileHash).take 4 = w := by
    simp only [List.append_assoc]; exact List.take_left' hw2
  have e2 : (w ++ s ++ q ++ b.rootHash ++ b.fileHash).drop 4 = s ++ (q ++ (b.rootHash ++ b.fileHash)) := by
    simp only [List.append_assoc]; exact List.drop_left' hw2
  have e3 : (w ++ s ++ q ++ b.rootHash ++ b.fileHash).drop 12 = q ++ (b.rootHash ++ b.fileHash) := by
    have : (w ++ s ++ q ++ b.rootHash ++ b.fileHash) = (w ++ s) ++ (q ++ (b.rootHash ++ b.fileHash)) := by simp
    rw [this]; exact List.drop_left' (by simp [hw2, hs2])
  have e4 : (w ++ s ++ q ++ b.rootHash ++ b.fileHash).drop 16 = b.rootHash ++ b.fileHash := by
    have : (w ++ s ++ q ++ b.rootHash ++ b.fileHash) = (w ++ s ++ q) ++ (b.rootHash ++ b.fileHash) := by simp
    rw [this]; exact List.drop_left' (by simp [hw2, hs2, hq2])
  have e5 : (w ++ s ++ q ++ b.rootHash ++ b.fileHash).drop 48 = b.fileHash := by
    have : (w ++ s ++ q ++ b.rootHash ++ b.fileHash) = (w ++ s ++ q ++ b.rootHash) ++ b.fileHash := by simp
    rw [this]; exact List.drop_left' (by simp [hw2, hs2, hq2, hr])
  unfold BlockIdExt.fromBytes
  rw [e1, e2, e3, e4, e5, List.take_left' hs2, List.take_left' hq2, List.take_left' hr, hw3, hs3, hq3]
  have : b.fileHash.take 32 = b.fileHash := by rw [← hf]; exact List.take_length
  rw [this]

theorem blockIdExt_dict (b : BlockIdExt) : BlockIdExt.fromDict b.toDict = some b := by
  simp [BlockIdExt.fromDict, BlockIdExt.toDict]

theorem blockId_dict (b : BlockId) : BlockId.fromDict b.toDict = b := by
  simp [BlockId.fromDict, BlockId.toDict]

theorem blockIdExt_eq_hash (H : Int × Int × Int × Bytes × Bytes → Int) (a b : BlockIdExt) (h : a.pyEq b = true) :
    a = b ∧ a.pyHash H = b.pyHash H := by
  have : a = b := by
    cases a; cases b
    simp only [BlockIdExt.pyEq, Bool.not_eq_true', Bool.or_eq_false_iff, bne_eq_false_iff_eq] at h
    simp_all
  exact ⟨this, by rw [this]⟩

end TonVerif.Proofs.Tl
