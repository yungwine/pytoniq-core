/-
C03's composition for ANY valid order of the cells (the implementation's freedom), not only the one the hand model of
`Cell.order` computes: the index lookups + byte layout of `Cell.to_boc` along any `ValidOrder` give bytes that `Cell.from_boc`
(the parser model) maps back to exactly `[(t, p.info)]`.  The parser half is `fromBoc_order` (Proofs/BocRoundTrip.lean), which
`fromBoc_toBoc` instantiates with `order_valid`.  Used for the round trip of the emitter REGENERATED from the source, whose
traversal is judged by its own invariant (Proofs/SrcOrderAny.lean).
-/
import TonVerif.Proofs.BocRoundTrip

namespace TonVerif.Proofs.BocRoundTrip
open TonVerif TonVerif.Model TonVerif.Proofs.BocOrder TonVerif.Proofs.BocEmit TonVerif.Proofs.BocSem
open TonVerif.Spec.BocEncode (SCell Freedoms Magic encodeCell records endOffsets indexEntries encodeBody encodeWith crcBytes
  Valid CellsOK denote denoteFrom)

/-- **THE ROUND TRIP on bytes for any valid order** -/
theorem fromBoc_anyOrder (H : Bytes → Bytes) (t : Cell) (wf : CellSpec.TreeWF H t) (ty : Typed t) (p : PCell)
    (hb : Cell.build H t = some p) (nc : NoCollision p) (ord : List PCell) (vo : ValidOrder p ord)
    (o : Opts) (hv : o.valid = true) (hn : ord.length < 2 ^ 32)
    (hP : (payloadOf (sizeW (orderRecs ord)) (orderRecs ord)).length * 2 < 2 ^ 64) :
    (flattenCells (indexMap ord) ord).bind (emit · o) = some (bodyOf o (orderRecs ord) ++ tailOf o (orderRecs ord)) ∧
    BocParse.fromBoc H (bodyOf o (orderRecs ord) ++ tailOf o (orderRecs ord)) = some [(t, p.info)] :=
  ⟨(anyOrder_emits p ord o hv (build_ok H t p (shape_of H t wf ty) hb) vo hn hP).1,
    fromBoc_order H t wf ty p hb nc ord vo o hv hn hP⟩

end TonVerif.Proofs.BocRoundTrip
