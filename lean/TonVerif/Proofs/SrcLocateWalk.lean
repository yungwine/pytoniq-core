/-
C11 / locsrc (b): the augmented-dictionary walk of the parser files (`Rd.augWalk`, fuel recursion over `Tlb.Cell`, labels by the spec
codec) IS the walk of the hand model (`parseAugP`, structural over constructed cells, labels by the C10 reader) on every constructed
cell, for every pair of leaf / extra readers that agree (`ReadersAgree`); then `Rd.loadHashmapAugE 256` + `[0][key].cell[0]` against
`loadShardAccounts` + `dictGet`.
-/
import Std.Data.String.ToNat
import TonVerif.Proofs.SrcLocateLabel
import TonVerif.Proofs.SrcLocate
import TonVerif.Proofs.Locate
namespace TonVerif.Proofs.SrcLocate
open TonVerif TonVerif.Model TonVerif.Tlb TonVerif.Model.Hashmap TonVerif.Proofs.Hashmap TonVerif.Proofs.Locate

/-- `.cell[0]` of a parsed `ShardAccount` -/
def cell0 (v : Val) : Option Tlb.Cell := (pyAttr v "cell").bind pyCellItem0

/-- a pair of readers of the parser files and a pair of readers of the hand model succeed on the same slices; the extra readers
leave the same rest, the value readers return the same `.cell[0]` -/
structure ReadersAgree (x y : Frag → Rd.R) (decX : PSlice → Option PCell) (decY : PSlice → Option PSlice) : Prop where
  y_rest : ∀ s : PSlice, (y (psliceFrag s)).map (·.2) = (decY s).map psliceFrag
  x_cell : ∀ s : PSlice, (x (psliceFrag s)).map (fun p => cell0 p.1) = (decX s).map (fun a => some (tcell a))

theorem tcells_cons (c : PCell) (cs : List PCell) : tcells (c :: cs) = tcell c :: tcells cs := by rw [tcells]
theorem tcells_nil : tcells [] = [] := by rw [tcells]

theorem ReadersAgree.y_cases {x y : Frag → Rd.R} {decX : PSlice → Option PCell} {decY : PSlice → Option PSlice}
    (h : ReadersAgree x y decX decY) (bits : Bits) (refs : List PCell) :
    (y ⟨bits, tcells refs⟩ = none ∧ decY (bits, refs) = none) ∨
    ∃ e sl, y ⟨bits, tcells refs⟩ = some (e, psliceFrag sl) ∧ decY (bits, refs) = some sl := by
  rcases map_eq_map_cases (h.y_rest (bits, refs)) with hn | ⟨⟨e, s2⟩, sl, hy, hd, rfl⟩
  · exact Or.inl hn
  · exact Or.inr ⟨e, sl, hy, hd⟩

theorem ReadersAgree.x_cases {x y : Frag → Rd.R} {decX : PSlice → Option PCell} {decY : PSlice → Option PSlice}
    (h : ReadersAgree x y decX decY) (s : PSlice) :
    (x (psliceFrag s) = none ∧ decX s = none) ∨
    ∃ v s' a, x (psliceFrag s) = some (v, s') ∧ decX s = some a ∧ cell0 v = some (tcell a) := by
  rcases map_eq_map_cases (h.x_cell s) with hn | ⟨⟨v, s'⟩, a, hx, hd, e⟩
  · exact Or.inl hn
  · exact Or.inr ⟨v, s', a, hx, hd, e⟩

/-- the view of what the walk of the parser files returns: keys and `.cell[0]` of the values -/
def srcEntries (r : List (Bits × Val) × List Val) : List (Bits × Option Tlb.Cell) := r.1.map fun p => (p.1, cell0 p.2)
def mdlEntries (kv : List (Bits × PCell)) : List (Bits × Option Tlb.Cell) := kv.map fun p => (p.1, some (tcell p.2))

theorem label_cases (n : Nat) (bits : Bits) (refs : List PCell) :
    ((hmLabel n).dec ⟨bits, tcells refs⟩ = none ∧ deserializeHml bits (n : Int) = none) ∨
    ∃ lv l s rest, (hmLabel n).dec ⟨bits, tcells refs⟩ = some (lv, ⟨rest, tcells refs⟩) ∧
      deserializeHml bits (n : Int) = some (l, s, rest) ∧ labelLen lv = l ∧ Rd.labelBitsOf lv = s ∧ l ≤ n := by
  have h := hmLabel_dec_eq n bits (tcells refs)
  rcases map_eq_map_cases h with hnone | ⟨⟨lv, ⟨b1, r1⟩⟩, ⟨l, s, rest⟩, hd, hm, e⟩
  · exact Or.inl hnone
  · simp only [labelView, Prod.mk.injEq] at e
    obtain ⟨h1, h2, rfl, rfl⟩ := e
    have hle := deserializeHml_le hm
    exact Or.inr ⟨lv, l, s, _, hd, hm, h1, h2, by omega⟩

/-- (b) `Rd.augWalk` = `parseAugP` on every constructed cell, any prefix, any remaining key length below the fuel -/
theorem augWalk_eq {x y : Frag → Rd.R} {decX : PSlice → Option PCell} {decY : PSlice → Option PSlice}
    (h : ReadersAgree x y decX decY) :
    ∀ (fuel n : Nat) (pfx : Bits) (c : PCell), n < fuel →
      (Rd.augWalk x y fuel n pfx (tcell c)).map srcEntries = (parseAugP decY decX c (n : Int) pfx).map mdlEntries := by
  intro fuel
  induction fuel with
  | zero => intro n pfx c hn; omega
  | succ fuel ih =>
    intro n pfx c hn
    obtain ⟨info, refs⟩ := c
    rw [tcell_mk, Rd.augWalk, parseAugP]
    by_cases hk : info.kind = -1
    · simp only [Tlb.Cell.exotic, Tlb.Cell.bits, Tlb.Cell.refs, hk, bne_self_eq_false, Bool.false_eq_true, if_false, ne_eq,
        not_true_eq_false]
      rcases label_cases n info.bits refs with ⟨h1, h2⟩ | ⟨lv, l, s, rest, h1, h2, rfl, rfl, hle⟩
      · simp [h1, h2]
      · simp only [h1, h2]
        by_cases hz : n - labelLen lv = 0
        · have hzi : (n : Int) - (labelLen lv : Int) = 0 := by omega
          simp only [hz, hzi, if_true]
          rcases h.y_cases rest refs with ⟨hy, hdy⟩ | ⟨e, sl, hy, hdy⟩
          · simp [hy, hdy]
          · rcases h.x_cases sl with ⟨hx, hdx⟩ | ⟨v, s3, a, hx, hdx, hc⟩
            · simp [hy, hdy, hx, hdx]
            · simp [hy, hdy, hx, hdx, srcEntries, mdlEntries, hc]
        · have hzi : ¬ ((n : Int) - (labelLen lv : Int) = 0) := by omega
          simp only [hz, hzi, if_false]
          match refs with
          | [] => simp [tcells_nil, parseAugForkP]
          | [a] => simp [tcells_cons, tcells_nil, parseAugForkP]
          | a :: b :: more =>
            simp only [tcells_cons, parseAugForkP]
            have hci : (n : Int) - (labelLen lv : Int) - 1 = ((n - labelLen lv - 1 : Nat) : Int) := by omega
            rw [hci]
            rcases map_eq_map_cases (ih (n - labelLen lv - 1) (pfx ++ Rd.labelBitsOf lv ++ [false]) a (by omega)) with
              ⟨hav, hap⟩ | ⟨ra, pa, hav, hap, ea⟩
            · rw [hav, hap]; rfl
            rw [hav, hap]
            rcases map_eq_map_cases (ih (n - labelLen lv - 1) (pfx ++ Rd.labelBitsOf lv ++ [true]) b (by omega)) with
              ⟨hbv, hbp⟩ | ⟨rb, pb, hbv, hbp, eb⟩
            · rw [hbv, hbp]; rfl
            rw [hbv, hbp]
            rcases h.y_cases rest more with ⟨hy, hdy⟩ | ⟨e, sl, hy, hdy⟩
            · simp [hy, hdy]
            · simp only [srcEntries, mdlEntries] at ea eb
              simp [hy, hdy, srcEntries, mdlEntries, ea, eb]
    · have hb : (info.kind != -1) = true := by simpa using hk
      simp [Tlb.Cell.exotic, hb, hk, srcEntries, mdlEntries]

theorem account_nil (sp : Bool) (r : List Tlb.Cell) : SrcBlk.Account sp ⟨[], r⟩ = none := by
  simp [SrcBlk.Account, Rd.loadBit]

theorem account_false (sp : Bool) (bs : Bits) (r : List Tlb.Cell) : (SrcBlk.Account sp ⟨false :: bs, r⟩).isSome = true := by
  simp [SrcBlk.Account, Rd.loadBit, Rd.truthy]

/-- what the walk keeps of `ShardAccount.deserialize`: it returns iff `Account.deserialize` returns on the first reference and the
256 + 64 bits of hash and lt are there; `.cell[0]` is then that first reference -/
theorem shardAccount_cell0 (sp : Bool) (bits : Bits) (c : Tlb.Cell) (more : List Tlb.Cell) :
    (SrcLoc.ShardAccount sp ⟨bits, c :: more⟩).map (fun p => cell0 p.1) =
      if (SrcBlk.Account (Rd.special c) (Rd.beginParse c)).isSome then (if bits.length < 320 then none else some (some c))
      else none := by
  simp only [SrcLoc.ShardAccount, Rd.viaRef, Rd.loadRef]
  rcases SrcBlk.Account (Rd.special c) (Rd.beginParse c) with _ | ⟨av, as⟩
  · rfl
  · simp only [Rd.loadBytes, Rd.loadBits, Rd.loadUint, Rd.takeBits, Option.isSome_some, if_true]
    by_cases hl : bits.length < 320
    · rw [if_pos hl]
      by_cases h256 : bits.length < 8 * 32
      · simp only [Option.bind_eq_bind, Option.bind_some, if_pos h256, Option.map_none, Option.bind_none]
      · have h64 : (bits.drop (8 * 32)).length < 64 := by rw [List.length_drop]; omega
        simp only [Option.bind_eq_bind, Option.bind_some, if_neg h256, Option.map_some, if_pos h64, Option.map_none, Option.bind_none,
          ite_self]
    · have h256 : ¬ bits.length < 8 * 32 := by omega
      have h64 : ¬ (bits.drop (8 * 32)).length < 64 := by rw [List.length_drop]; omega
      simp only [Option.bind_eq_bind, Option.bind_some, if_neg h256, Option.map_some, if_neg h64, if_neg hl]
      rfl

/-- the model's guard `b && !O.account acc` on the first bit is the success of the regenerated `Account` parser, which reads that bit
itself: no bit raises, a 0 bit returns -/
theorem readShardAccount_src (bits : Bits) (acc : PCell) (more : List PCell) :
    readShardAccount srcOpaque (bits, acc :: more) =
      if srcOpaque.account acc then (if bits.length < 320 then none else some acc) else none := by
  obtain ⟨info, ar⟩ := acc
  have hacc : srcOpaque.account (.mk info ar) = (SrcBlk.Account (info.kind != -1) ⟨info.bits, tcells ar⟩).isSome := by
    simp only [srcOpaque, tcell_mk]; rfl
  simp only [readShardAccount, hacc, PCell.info]
  generalize info.bits = ab
  match ab with
  | [] => simp [account_nil]
  | false :: bs => simp [account_false]
  | true :: bs => cases SrcBlk.Account (info.kind != -1) ⟨true :: bs, tcells ar⟩ <;> rfl

/-- the value reader of the accounts dictionary: regenerated `ShardAccount.deserialize` (with `cell=` kept) against `readShardAccount`
at the regenerated `Account` parser -/
theorem shardAccount_agree (s : PSlice) :
    (SrcLoc.ShardAccount false (psliceFrag s)).map (fun p => cell0 p.1) =
      (readShardAccount srcOpaque s).map (fun a => some (tcell a)) := by
  obtain ⟨bits, refs⟩ := s
  match refs with
  | [] => simp [SrcLoc.ShardAccount, Rd.viaRef, Rd.loadRef, psliceFrag, tcells_nil, readShardAccount]
  | acc :: more =>
    have hp : Rd.beginParse (tcell acc) = pfrag acc := by
      obtain ⟨info, ar⟩ := acc
      rw [tcell_mk]; rfl
    show (SrcLoc.ShardAccount false ⟨bits, tcells (acc :: more)⟩).map _ = _
    rw [tcells_cons, shardAccount_cell0, readShardAccount_src, hp]
    show _ = Option.map _ (if (SrcBlk.Account (Rd.special (tcell acc)) (pfrag acc)).isSome then _ else none)
    split
    · split <;> rfl
    · rfl

end TonVerif.Proofs.SrcLocate
