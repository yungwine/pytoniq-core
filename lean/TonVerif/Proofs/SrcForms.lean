/-
The ARGUMENT FORMS of `Builder.store_bit / store_bits` (bool, str, TvmBitarray, a plain bitarray, a list / tuple of ints, an iterator)
and `store_address(str)`, regenerated from the source (Generated/ArgForms.lean): what each form accepts, refuses and stores, for ALL
arguments and builder states.  The int / `Address` / `ExternalAddress` / `None` forms are in Proofs/SrcBuilder.lean.
-/
import TonVerif.Generated.ArgForms
import TonVerif.Proofs.SrcBuilder

namespace TonVerif.Proofs.SrcForms
open TonVerif TonVerif.Model TonVerif.Generated.ArgForms TonVerif.Proofs.SrcBuilder
variable {R : Type}
set_option linter.unusedSimpArgs false
set_option linter.unusedVariables false

/-- `store_bit(True / False)` -/
theorem src_store_bit_bool_eq (v : Bool) (b : Builder R) : store_bit_bool v b = ofFlag (BOp.storeBit v b) := by
  unfold store_bit_bool
  have : decide (v = true) = v := by cases v <;> rfl
  simp only [this, src_append_bool_eq, bindS_retU]

theorem src_append_int_eq (v : Int) (b : Builder R) :
    Py.zoom (TvmBitarray_append_int v b.bits) (fun w => { b with bits := w }) =
      if v = 0 ∨ v = 1 then ofFlag (BOp.storeBit (decide (v = 1)) b) else (b, none) := by
  unfold TvmBitarray_append_int BOp.storeBit BOp.extend ofFlag Py.zoom Py.bindS Py.bindO Py.bitOfInt?
  rw [src_check_overflow]
  by_cases h : b.bits.length + 1 > 1023 <;> by_cases h0 : v = 0 <;> by_cases h1 : v = 1 <;> simp [h, h0, h1] <;> omega

/-- `store_bit('<text>')` = `append(int(text))`: the text must be a decimal literal (Python's `int`) of value 0 or 1 -/
theorem src_store_bit_str_eq (s : Bytes) (b : Builder R) :
    store_bit_str s b = match Py.intOfStr? s with
      | some v => if v = 0 ∨ v = 1 then ofFlag (BOp.storeBit (decide (v = 1)) b) else (b, none)
      | none => (b, none) := by
  unfold store_bit_str
  cases Py.intOfStr? s with
  | none => rfl
  | some v => simp only [Py.bindO, src_append_int_eq, bindS_retU]

/-- `store_bit(<TvmBitarray>)` stores its FIRST bit (nothing for an empty one) -/
theorem src_store_bit_tvm_eq (x : Bits) (b : Builder R) : store_bit_bits x b = ofFlag (BOp.storeBits (x.take 1) b) := by
  unfold store_bit_bits BOp.storeBits
  simp only [src_extend_eq, bindS_retU, Py.slice, List.drop_zero]

/-- `store_bit` of anything else (a plain `bitarray`, a list): no branch of the `isinstance` chain applies - the call returns and
stores NOTHING -/
theorem src_store_bit_other (x : Bits) (xs : List Int) (b : Builder R) :
    store_bit_bitarray x b = (b, some ()) ∧ store_bit_ints xs b = (b, some ()) := ⟨rfl, rfl⟩

theorem bitsOfStr_len : ∀ (s : Bytes) (bs : Bits), Py.bitsOfStr? s = some bs → bs.length ≤ Py.strLen s := by
  intro s
  induction s with
  | nil => intro bs h; simp [Py.bitsOfStr?] at h; subst h; simp
  | cons c cs ih =>
    intro bs h
    have hstep : Py.strLen cs ≤ Py.strLen (c :: cs) := by
      unfold Py.strLen; simp only [List.filter_cons]; split <;> simp
    unfold Py.bitsOfStr? at h
    by_cases h0 : c = 48
    · subst h0
      have hl : Py.strLen (48 :: cs) = Py.strLen cs + 1 := by simp [Py.strLen, List.filter_cons]
      simp only [if_true] at h
      cases hr : Py.bitsOfStr? cs with
      | none => rw [hr] at h; simp at h
      | some r => rw [hr] at h; simp at h; subst h; have := ih r hr; simp; omega
    · by_cases h1 : c = 49
      · subst h1
        have hl : Py.strLen (49 :: cs) = Py.strLen cs + 1 := by simp [Py.strLen, List.filter_cons]
        simp only [show (49 : Nat) ≠ 48 by omega, if_false, if_true] at h
        cases hr : Py.bitsOfStr? cs with
        | none => rw [hr] at h; simp at h
        | some r => rw [hr] at h; simp at h; subst h; have := ih r hr; simp; omega
      · simp only [h0, h1, if_false] at h
        split at h
        · have := ih bs h; omega
        · cases h

theorem bitsOfInts_len : ∀ (xs : List Int) (bs : Bits), Py.bitsOfInts? xs = some bs → bs.length = xs.length := by
  intro xs
  induction xs with
  | nil => intro bs h; simp [Py.bitsOfInts?] at h; subst h; rfl
  | cons x xs ih =>
    intro bs h
    simp only [Py.bitsOfInts?, List.mapM_cons] at h
    cases hx : Py.bitOfInt? x with
    | none => rw [hx] at h; simp at h
    | some v =>
      rw [hx] at h
      cases hr : List.mapM Py.bitOfInt? xs with
      | none => rw [hr] at h; simp at h
      | some r => rw [hr] at h; simp at h; subst h; simp [ih r hr]

/-- `store_bits('<text>')`: the capacity test counts EVERY character of the text (also the skipped whitespace / underscores), then the
text must consist of `0`, `1`, whitespace, `_`; the bits are appended; a refused call leaves the builder as it was -/
theorem src_store_bits_str_eq (s : Bytes) (b : Builder R) :
    store_bits_str s b = if b.bits.length + Py.strLen s > 1023 then (b, none) else
      match Py.bitsOfStr? s with
      | none => (b, none)
      | some bs => (⟨b.bits ++ bs, b.refs⟩, some ()) := by
  unfold store_bits_str TvmBitarray_extend_str Py.zoom Py.bindS Py.bindO
  rw [src_check_overflow]
  by_cases h : b.bits.length + Py.strLen s > 1023
  · simp [h]
  · cases Py.bitsOfStr? s <;> simp [h]

/-- `store_bits([..])` / `store_bits((..))`: the capacity test on the number of items, then every item must be 0 / 1 (or a bool) -/
theorem src_store_bits_ints_eq (xs : List Int) (b : Builder R) :
    store_bits_ints xs b = if b.bits.length + xs.length > 1023 then (b, none) else
      match Py.bitsOfInts? xs with
      | none => (b, none)
      | some bs => (⟨b.bits ++ bs, b.refs⟩, some ()) := by
  unfold store_bits_ints TvmBitarray_extend_ints Py.zoom Py.bindS Py.bindO
  rw [src_check_overflow]
  by_cases h : b.bits.length + xs.length > 1023
  · simp [h]
  · cases Py.bitsOfInts? xs <;> simp [h]

/-- `store_bits(<plain bitarray>)` is `store_bits(<TvmBitarray>)` -/
theorem src_store_bits_bitarray_eq (bs : Bits) (b : Builder R) : store_bits_bitarray bs b = ofFlag (BOp.storeBits bs b) :=
  (bindS_retU _).trans (src_checked_append _ bs rfl b)

/-- `store_bits(<iterator / generator>)`: `len(x)` raises (TypeError) before anything is stored -/
theorem src_store_bits_iter_eq (b : Builder R) : store_bits_iter () b = (b, none) := rfl

/-- `store_address('<text>')`: `Address(text)` (the declared interface function `addrOfStr`; `none` = it raised), then exactly the
`Address` form -/
theorem src_store_address_str_eq (addrOfStr : Bytes → Option Py.AddrV) (s : Bytes) (b : Builder R) :
    store_address_str addrOfStr s b = match addrOfStr s with
      | none => (b, none)
      | some a => TonVerif.Generated.BuilderOps.store_address_address a b := by
  unfold store_address_str
  cases addrOfStr s with
  | none => rfl
  | some a => rfl

end TonVerif.Proofs.SrcForms
