/-
`Builder.store_snake_bytes / store_snake_string` and `Slice.load_snake_bytes / load_snake_string`, regenerated from the source
(Generated/SnakeOps.lean, translator harness/translate/pymeth.py: a `for` loop with a loop-carried cell built from the TAIL of the
chain, a `while True:` over a cursor that starts as an alias of `self`), equal the hand model `BOp.storeSnake` / `SOp.loadSnakeFuel`
(RECURSIVE from the head of the chain) for ALL byte strings and ALL builder / slice states.
-/
import TonVerif.Generated.SnakeOps
import TonVerif.Proofs.SrcBuilder
import TonVerif.Proofs.SrcSlice
import TonVerif.Proofs.SnakeDepth

namespace TonVerif.Proofs.SrcSnake
open TonVerif TonVerif.Model TonVerif.Generated.SnakeOps TonVerif.Proofs.SrcBuilder TonVerif.Proofs.Snake
  TonVerif.Proofs.SnakeDepth
variable {R : Type}
set_option linter.unusedSimpArgs false
set_option linter.unusedVariables false

/-! ### generation independent: a loop whose body does not touch `self` is a fold over the loop-carried local -/

/-- the loop-carried local after the loop (`none` = an iteration raised) -/
def foldO {ι τ : Type} (g : ι → τ → Option τ) : List ι → τ → Option τ
  | [], acc => some acc
  | x :: xs, acc => match g x acc with
    | none => none
    | some a => foldO g xs a

theorem forL_pure {σ ι τ : Type} (g : ι → τ → Option τ) (f : ι → σ → τ → σ × Option τ)
    (h : ∀ j s t, f j s t = (s, g j t)) : ∀ (L : List ι) (s : σ) (acc : τ), Py.forL L s acc f = (s, foldO g L acc) := by
  intro L
  induction L with
  | nil => intro s acc; rfl
  | cons x xs ih =>
    intro s acc
    simp only [Py.forL, foldO, h]
    cases hg : g x acc with
    | none => rfl
    | some a => simp only [Py.bindS]; exact ih s a

theorem foldO_append {ι τ : Type} (g : ι → τ → Option τ) (L1 L2 : List ι) (acc : τ) :
    foldO g (L1 ++ L2) acc = (foldO g L1 acc).bind (foldO g L2) := by
  induction L1 generalizing acc with
  | nil => rfl
  | cons x xs ih =>
    simp only [List.cons_append, foldO]
    cases g x acc with
    | none => rfl
    | some a => exact ih a

/-! ### `range(0, n, 127)` -/

theorem rangeStep_small (n : Nat) (h0 : 0 < n) (h : n ≤ 127) : Py.rangeStep 0 n 127 = [0] := by
  unfold Py.rangeStep
  have : (n - 0 + 127 - 1) / 127 = 1 := by omega
  rw [this]; rfl

theorem rangeStep_big (n : Nat) (h : 127 < n) :
    Py.rangeStep 0 n 127 = 0 :: (Py.rangeStep 0 (n - 127) 127).map (· + 127) := by
  unfold Py.rangeStep
  have : (n - 0 + 127 - 1) / 127 = (n - 127 - 0 + 127 - 1) / 127 + 1 := by omega
  rw [this, List.range_succ_eq_map]
  simp only [List.map_cons, List.map_map, Nat.zero_mul, Nat.add_zero, List.cons.injEq, true_and]
  apply List.map_congr_left
  intro k _
  simp only [Function.comp]
  rw [Nat.succ_mul]; omega

/-! ### the tail cells: the loop builds them from the END of the chain, the model recursively from its head -/

/-- one iteration of the regenerated loop, as a function of the loop-carried `tail` -/
def step (mk : Bits → List R → Option R) (rest : Bytes) (j : Nat) (tail : Option R) : Option (Option R) :=
  (mk (bytesToBits (Py.slice rest j (j + 127))) tail.toList).map some

theorem slice_shift (rest : Bytes) (j : Nat) :
    Py.slice rest (j + 127) (j + 127 + 127) = Py.slice (rest.drop 127) j (j + 127) := by
  simp only [Py.slice, List.take_drop, List.drop_drop]
  rw [show 127 + j = j + 127 by omega, show 127 + (j + 127) = j + 127 + 127 by omega]

/-- a loop over the REVERSED list that hangs each new cell over the loop-carried one builds `chainOf` -/
theorem foldO_chain {ι : Type} (mk : Bits → List R → Option R) (f : ι → Bytes) (L : List ι) :
    foldO (fun j t => (mk (bytesToBits (f j)) t.toList).map some) L.reverse none = chainOf mk (L.map f) := by
  induction L with
  | nil => rfl
  | cons x xs ih =>
    rw [List.reverse_cons, foldO_append, ih, List.map_cons, chainOf]
    congr 1; funext t
    simp only [foldO]; cases mk (bytesToBits (f x)) t.toList <;> rfl

/-- `[rest[j:j+127] for j in range(0, len(rest), 127)]` are the 127-byte chunks -/
theorem chunks_range (rest : Bytes) :
    (Py.rangeStep 0 rest.length 127).map (fun j => Py.slice rest j (j + 127)) = chunks127 rest :=
  chunks127_ind (P := fun rest cs => (Py.rangeStep 0 rest.length 127).map (fun j => Py.slice rest j (j + 127)) = cs) rfl
    (fun rest he ih => by
      have hp := List.length_pos_iff.mpr he
      by_cases hfit : rest.length ≤ 127
      · rw [rangeStep_small _ hp hfit, List.drop_eq_nil_of_le hfit]
        simp [Py.slice, chunks127_nil]
      · rw [rangeStep_big _ (by omega), List.map_cons, List.map_map, ← ih, List.length_drop]
        congr 1
        exact List.map_congr_left fun j _ => slice_shift rest j) rest

/-- the loop, which builds the cells from the END of the chain, arrives at the chain of the chunks -/
theorem loop_chain (mk : Bits → List R → Option R) (rest : Bytes) :
    foldO (step mk rest) (Py.rangeStep 0 rest.length 127).reverse none = chainOf mk (chunks127 rest) := by
  rw [← chunks_range]; exact foldO_chain mk _ _

/-! ### `store_snake_bytes` -/

theorem bindS_some {σ α β : Type} (s : σ) (a : α) (k : σ → α → σ × Option β) : Py.bindS (s, some a) k = k s a := rfl
theorem bindS_none {σ α β : Type} (s : σ) (k : σ → α → σ × Option β) : Py.bindS (s, (none : Option α)) k = (s, none) := rfl
theorem ofFlag_self {σ : Type} (r : σ × Bool) : (r.1, if r.2 = true then some () else none) = ofFlag r := rfl

theorem sliceI_to (bs : Bytes) (i : Nat) : Py.sliceI bs none (some ((i : Nat) : Int)) = bs.take i := by
  simp only [Py.sliceI, Py.bound, List.drop_zero]
  rw [if_pos (by omega)]
  simp [List.take_eq_take_iff]

theorem sliceI_from (bs : Bytes) (i : Nat) : Py.sliceI bs (some ((i : Nat) : Int)) none = bs.drop i := by
  simp only [Py.sliceI, Py.bound]
  rw [if_pos (by omega), List.take_length]
  by_cases h : i ≤ bs.length
  · simp [Nat.min_eq_left h]
  · have : min i bs.length = bs.length := by omega
    simp [this, List.drop_of_length_le (by omega : bs.length ≤ i)]

/-- one iteration of the regenerated loop leaves `self` alone and computes `step` -/
theorem end_cell_eq (mk : Bits → List R → Option R) (b : Builder R) : end_cell mk b = (b, mk b.bits b.refs) := by
  unfold end_cell Py.bindO; cases mk b.bits b.refs <;> rfl

theorem chunk_store (chunk : Bytes) (h : chunk.length ≤ 127) :
    TonVerif.Generated.BuilderOps.store_bytes chunk ({ bits := [], refs := [] } : Builder R) =
      (⟨bytesToBits chunk, []⟩, some ()) := by
  rw [src_store_bytes_eq, storeBytes_fits chunk _ (by simp; omega)]; rfl

theorem slice_len (rest : Bytes) (j : Nat) : (Py.slice rest j (j + 127)).length ≤ 127 := by
  simp only [Py.slice, List.length_drop, List.length_take]; omega

/-- other spellings of the chunk `rest[j:j + 127]`: `rest[j:][:127]` -/
theorem chunk_respell (rest : Bytes) (j : Nat) : Py.slice (rest.drop j) 0 127 = Py.slice rest j (j + 127) := by
  simp only [Py.slice, List.drop_zero, List.take_drop, Nat.add_comm]

/-- THE TIE, snake store: for EVERY byte string and EVERY builder state the regenerated `store_snake_bytes` (iterative: the head
bytes, then the tail cells built from the end of the chain in a loop-carried local) equals the hand model `BOp.storeSnake`
(recursive from the head): same decision to raise (`end_cell` of any tail cell, capacity of the first builder), same builder
afterwards (the head bytes stay written when a tail cell cannot be built). -/
theorem src_store_snake_bytes_eq (mk : Bits → List R → Option R) (value : Bytes) (b : Builder R) :
    store_snake_bytes mk value b = ofFlag (BOp.storeSnake mk value b) := by
  unfold store_snake_bytes
  by_cases he : value = []
  · subst he; simp [ofFlag, BOp.storeSnake, storeSnakeFuel_succ]
  have hlen : 0 < value.length := List.length_pos_iff.mpr he
  -- the emptiness test, however it is spelled (`len(value) == 0`, `not value`)
  first
    | rw [if_neg (by omega)]
    | rw [if_neg (by simp [he])]
  by_cases hcap : b.bits.length ≤ 1023
  · -- the invariant case: `available_bytes` is the model's `(1023 - used) / 8`
    have hi : (((1023 : Int) - ((b.bits.length : Nat) : Int)) / (8 : Int)) = (((1023 - b.bits.length) / 8 : Nat) : Int) := by omega
    simp only [hi]
    have hroom : b.bits.length + 8 * ((1023 - b.bits.length) / 8) ≤ 1023 := by omega
    rw [storeSnake_eq mk value b hcap]
    by_cases hfit : value.length ≤ (1023 - b.bits.length) / 8
    · rw [if_pos (by omega), src_store_bytes_eq, bindS_retU, List.drop_eq_nil_of_le hfit, List.take_of_length_le hfit,
        storeBytes_fits value b (by omega)]
      rfl
    · generalize (1023 - b.bits.length) / 8 = i at hroom hfit ⊢
      rw [if_neg (by omega), sliceI_to, sliceI_from, src_store_bytes_eq,
        storeBytes_fits (value.take i) b (by rw [List.length_take]; omega)]
      simp only [ofFlag, if_true, bindS_some]
      rw [forL_pure (step mk (value.drop i)) _ (fun j s t => by
        try simp only [chunk_respell]
        simp only [chunk_store _ (slice_len _ j), Py.bindL, end_cell_eq, step]
        cases t with
        | none => simp only [Option.toList]; cases mk _ [] <;> rfl
        | some c =>
          simp only [src_store_ref_eq, BOp.storeRef, ofFlag, List.length_nil, Option.toList, List.nil_append]
          have hn4 : ¬ (0 ≥ 4) := by omega
          simp only [hn4, if_false, if_true]
          cases mk _ [c] <;> rfl)]
      have hne : value.drop i ≠ [] := fun e => hfit (List.drop_eq_nil_iff.mp e)
      rw [loop_chain, chunks127_cons _ hne, chainOf]
      cases chainOf mk (chunks127 ((value.drop i).drop 127)) with
      | none => rfl
      | some t =>
        rw [Option.bind_some]
        cases mk (bytesToBits ((value.drop i).take 127)) t.toList with
        | none => rfl
        | some c => simp only [Option.map_some, bindS_some, Py.bindO, src_store_ref_eq, bindS_retU, hang]; rfl
  · -- outside the builder invariant (more than 1023 bits): both refuse at once, nothing is written
    have hi : (((1023 : Int) - ((b.bits.length : Nat) : Int)) / (8 : Int)) < 0 := by omega
    rw [storeSnake_over mk value b (by omega), if_neg (by omega), src_store_bytes_eq, BOp.storeBytes, BOp.extend, if_pos (by omega)]
    simp [ofFlag, Py.bindS, he]

/-- `store_snake_string(value, need_prefix)`: `value.encode()` (a str travels as its UTF-8 bytes), the optional zero byte, then
`store_snake_bytes` -/
theorem src_store_snake_string_eq (mk : Bits → List R → Option R) (bs : Bytes) (p : Bool) (b : Builder R) :
    store_snake_string mk bs p b = ofFlag (BOp.storeSnakeString mk bs p b) := by
  unfold store_snake_string BOp.storeSnakeString
  cases p <;> simp [src_store_snake_bytes_eq, bindS_retU]

/-! ### `load_snake_bytes`: a `while True:` over a cursor that starts as an alias of `self` -/

open TonVerif.Generated.SliceOps TonVerif.Proofs.SrcSlice TonVerif.Proofs.Slice in
theorem load_bytes_untouched (n : Nat) (st : Py.SliceSt R) :
    (load_bytes n st).1.refs = st.refs ∧ (load_bytes n st).1.ref_offset = st.ref_offset :=
  thenDel_keeps _ st rfl _

open TonVerif.Generated.SliceOps TonVerif.Proofs.SrcSlice TonVerif.Proofs.Slice in
/-- reading all whole bytes of a byte-aligned slice never raises, empties the bits and leaves the references alone -/
theorem load_all_bytes (st : Py.SliceSt R) (h8 : st.bits.length % 8 = 0) :
    load_bytes (st.bits.length / 8) st = ({ st with bits := [] }, some (bitsToBytes st.bits)) := by
  have h := src_load_bytes_eq (st.bits.length / 8) st
  have hu := load_bytes_untouched (st.bits.length / 8) st
  have hn : st.bits.length / 8 * 8 = st.bits.length := by omega
  rw [show view st = ⟨st.bits, st.refs.drop st.ref_offset⟩ from rfl, loadBytes_eq, if_neg (by omega), hn] at h
  simp only [List.drop_length, List.take_length, viewR, view, Option.map_id, id, Prod.mk.injEq, Slice.mk.injEq] at h
  obtain ⟨⟨hb, _⟩, hv⟩ := h
  refine Prod.ext ?_ hv
  cases hs : (load_bytes (st.bits.length / 8) st).1 with
  | mk b r o =>
    rw [hs] at hb hu
    simp only at hb hu
    obtain ⟨h1, h2⟩ := hu
    subst hb h1 h2
    rfl

/-- one iteration on the slice the cursor stands for: `none` = an assert failed (nothing was consumed); otherwise the slice
afterwards, the bytes read and the next cell of the chain -/
def iterOn (X : Py.SliceSt R) : Option (Py.SliceSt R × Bytes × Option R) :=
  if X.bits.length % 8 = 0 ∧ (X.ref_offset = X.refs.length ∨ X.ref_offset + 1 = X.refs.length) then
    match X.refs[X.ref_offset]? with
    | none => some ({ X with bits := [] }, bitsToBytes X.bits, none)
    | some c => some ({ X with bits := [], ref_offset := X.ref_offset + 1 }, bitsToBytes X.bits, some c)
  else none

/-- the loop body in closed form (`cur = none`: the cursor is `self`) -/
def iter (view : R → Py.CellV R) (self : Py.SliceSt R) (acc : Bytes × Option (Py.SliceSt R)) :
    Py.SliceSt R × Option ((Bytes × Option (Py.SliceSt R)) ⊕ Bytes) :=
  match iterOn (Py.curOf acc.2 self) with
  | none => (self, none)
  | some (X', hd, nxt) =>
    ((match acc.2 with | none => X' | some _ => self),
      some (match nxt with
        | none => Sum.inr (acc.1 ++ hd)
        | some c => Sum.inl (acc.1 ++ hd, some ⟨(view c).bits, (view c).refs, 0⟩)))

/-- a mutating call on the cursor, said through the slice `Py.curOf cur self` it stands for -/
theorem bindA_eq {σ α β : Type} (f : σ → σ × Option α) (cur : Option σ) (self : σ) (k : Option σ → σ → α → σ × Option β) :
    Py.bindA f cur self k = match f (Py.curOf cur self) with
      | (X', some a) => k (cur.map fun _ => X') (match cur with | none => X' | some _ => self) a
      | (X', none) => ((match cur with | none => X' | some _ => self), none) := by
  cases cur <;> rfl

theorem curOf_after {σ : Type} (cur : Option σ) (self X' : σ) :
    Py.curOf (cur.map fun _ => X') (match cur with | none => X' | some _ => self) = X' := by
  cases cur <;> rfl

open TonVerif.Generated.SliceOps in
theorem load_snake_loop (view : R → Py.CellV R) (fuel : Nat) (s : Py.SliceSt R) :
    Slice_load_snake_bytes view fuel s = Py.whileS fuel s (([] : Bytes), (none : Option (Py.SliceSt R))) (iter view) := by
  unfold Slice_load_snake_bytes
  show Py.whileS fuel s (([] : Bytes), (none : Option (Py.SliceSt R))) _ = _
  congr 1
  funext self acc
  obtain ⟨result, cur⟩ := acc
  simp only [bindA_eq]
  unfold iter iterOn
  generalize Py.curOf cur self = X
  by_cases h8 : X.bits.length % 8 = 0
  · by_cases hr : X.ref_offset = X.refs.length ∨ X.ref_offset + 1 = X.refs.length
    · rw [if_pos (by omega), if_pos (by omega), if_pos ⟨h8, hr⟩]
      simp only [load_all_bytes X h8, curOf_after, load_ref, Py.bindO]
      rcases hr with hr | hr
      · have hg : X.refs[X.ref_offset]? = none := by rw [List.getElem?_eq_none]; omega
        rw [if_pos (by omega), hg]
        cases cur <;> rfl
      · have hg : X.refs[X.ref_offset]? = some X.refs[X.ref_offset] := List.getElem?_eq_getElem (by omega)
        rw [if_neg (by omega), hg]
        cases cur <;> rfl
    · rw [if_pos (by omega), if_neg (by omega), if_neg (fun h => hr h.2)]
  · rw [if_neg (by omega), if_neg (fun h => h8 h.1)]

/-- the model's `view` argument (`c.begin_parse()` as a pair) from the regenerated code's `view` (as a record) -/
def viewP (view : R → Py.CellV R) (c : R) : Bits × List R := ((view c).bits, (view c).refs)

theorem drop_last (refs : List R) (off : Nat) (h : off + 1 = refs.length) :
    refs.drop off = [refs[off]'(by omega)] := by
  rw [List.drop_eq_getElem_cons (by omega), List.drop_of_length_le (by omega)]

open TonVerif.Proofs.Slice in
/-- the model on the slice the cursor stands for, in the four cases of one iteration -/
theorem model_iter (view : R → Py.CellV R) (fuel : Nat) (X : Py.SliceSt R) (hX : X.ref_offset ≤ X.refs.length) :
    SOp.loadSnakeFuel (viewP view) (fuel + 1) (SrcSlice.view X) =
      match iterOn X with
      | none => (SrcSlice.view X, none)
      | some (X', hd, none) => (SrcSlice.view X', some hd)
      | some (X', hd, some c) =>
        (SrcSlice.view X',
          (SOp.loadSnakeFuel (viewP view) fuel (SrcSlice.view ⟨(view c).bits, (view c).refs, 0⟩)).2.map (hd ++ ·)) := by
  obtain ⟨bits, refs, off⟩ := X
  simp only at hX
  simp only [iterOn, SrcSlice.view, SOp.loadSnakeFuel]
  by_cases h8 : bits.length % 8 = 0
  · have hn : bits.length / 8 * 8 = bits.length := by omega
    by_cases h0 : off = refs.length
    · have hg : refs[off]? = none := by rw [List.getElem?_eq_none]; omega
      have hd : refs.drop off = [] := List.drop_of_length_le (by omega)
      simp [h8, h0, hg, hd, loadBytes_eq, hn]
    · by_cases h1 : off + 1 = refs.length
      · have hg : refs[off]? = some (refs[off]'(by omega)) := List.getElem?_eq_getElem (by omega)
        have hd : refs.drop off = [refs[off]'(by omega)] := drop_last refs off h1
        have hd1 : refs.drop (off + 1) = [] := List.drop_of_length_le (by omega)
        simp only [h8, h1, hg, hd, hd1, loadBytes_eq, hn, bne_self_eq_false, Bool.false_eq_true, if_false, List.length_cons,
          List.length_nil, Nat.lt_irrefl, List.isEmpty_cons, or_true, and_self, if_true, SOp.loadRef, List.drop_zero,
          List.drop_length, List.take_length, viewP, gt_iff_lt, Nat.zero_add]
        cases SOp.loadSnakeFuel (viewP view) fuel ⟨(view (refs[off]'(by omega))).bits, (view (refs[off]'(by omega))).refs⟩ with
        | mk s2 r => cases r <;> rfl
      · have hl : (refs.drop off).length > 1 := by rw [List.length_drop]; omega
        have hl' : ¬ (refs.length ≤ 1 + off) := by omega
        simp [h8, h0, h1, hl, hl']
  · simp [h8]

/-- the loop once the cursor is an object of its own: `self` stays as it is -/
theorem loop_own (view : R → Py.CellV R) : ∀ (fuel : Nat) (self : Py.SliceSt R) (result : Bytes) (st : Py.SliceSt R),
    st.ref_offset ≤ st.refs.length →
    Py.whileS fuel self (result, some st) (iter view) =
      (self, (SOp.loadSnakeFuel (viewP view) fuel (SrcSlice.view st)).2.map (result ++ ·)) := by
  intro fuel
  induction fuel with
  | zero => intro self result st _; rfl
  | succ fuel ih =>
    intro self result st hst
    rw [model_iter view fuel st hst]
    simp only [Py.whileS, iter, Py.curOf, Option.getD_some]
    cases hi : iterOn st with
    | none => rfl
    | some t =>
      obtain ⟨X', hd, nxt⟩ := t
      cases nxt with
      | none => rfl
      | some c =>
        simp only [ih self (result ++ hd) ⟨(view c).bits, (view c).refs, 0⟩ (Nat.zero_le _), Option.map_map]
        congr 2
        funext tl
        simp [List.append_assoc]

/-- THE TIE, snake load: for EVERY slice state within `ref_offset ≤ len(refs)` and EVERY iteration bound the regenerated
`load_snake_bytes` (iterative, cursor aliasing `self` in the first round) seen through `view` equals the hand model
`SOp.loadSnakeFuel` (recursive): same asserts, same bytes, and `self` is left after its own bytes and reference. -/
theorem src_load_snake_bytes_eq (view : R → Py.CellV R) (fuel : Nat) (s : Py.SliceSt R) (hs : s.ref_offset ≤ s.refs.length) :
    SrcSlice.viewR id (Slice_load_snake_bytes view fuel s) = SOp.loadSnakeFuel (viewP view) fuel (SrcSlice.view s) := by
  rw [load_snake_loop]
  cases fuel with
  | zero => rfl
  | succ fuel =>
    rw [model_iter view fuel s hs]
    simp only [Py.whileS, iter, Py.curOf, Option.getD_none]
    cases hi : iterOn s with
    | none => rfl
    | some t =>
      obtain ⟨X', hd, nxt⟩ := t
      cases nxt with
      | none => simp [SrcSlice.viewR]
      | some c =>
        simp only [SrcSlice.viewR, List.nil_append, Option.map_id, id,
          loop_own view fuel X' hd ⟨(view c).bits, (view c).refs, 0⟩ (Nat.zero_le _)]

/-- `load_snake_string` = `load_snake_bytes().decode()` (a str travels as its UTF-8 bytes) -/
theorem src_load_snake_string_eq (view : R → Py.CellV R) (fuel : Nat) (s : Py.SliceSt R) (hs : s.ref_offset ≤ s.refs.length) :
    SrcSlice.viewR id (Slice_load_snake_string view fuel s) = SOp.loadSnakeStringFuel (viewP view) fuel (SrcSlice.view s) := by
  unfold Slice_load_snake_string SOp.loadSnakeStringFuel
  rw [SrcSlice.bindS_ret]
  exact src_load_snake_bytes_eq view fuel s hs

/-! ### every cell the snake store asks for is within capacity -/

/-- a cell constructor that additionally REFUSES more than 1023 bits / 4 references -/
def guardCap (mk : Bits → List R → Option R) (bits : Bits) (refs : List R) : Option R :=
  if bits.length ≤ 1023 ∧ refs.length ≤ 4 then mk bits refs else none

theorem chainOf_guard (mk : Bits → List R → Option R) : ∀ cs : List Bytes, (∀ c ∈ cs, c.length ≤ 127) →
    chainOf (guardCap mk) cs = chainOf mk cs := by
  intro cs
  induction cs with
  | nil => intro _; rfl
  | cons c cs ih =>
    intro h
    rw [chainOf, chainOf, ih fun d hd => h d (by simp [hd])]
    congr 1; funext t
    rw [guardCap, if_pos ⟨by rw [TonVerif.Proofs.Bits.bytesToBits_length]; have := h c (by simp); omega, by cases t <;> simp⟩]

/-- guarding the cell constructor by the capacity test changes nothing: the regenerated `store_snake_bytes` never asks for a cell
with more than 1023 bits or more than 4 references -/
theorem src_snake_guard (mk : Bits → List R → Option R) (value : Bytes) (b : Builder R) :
    store_snake_bytes (guardCap mk) value b = store_snake_bytes mk value b := by
  rw [src_store_snake_bytes_eq, src_store_snake_bytes_eq]
  by_cases hcap : b.bits.length ≤ 1023
  · rw [storeSnake_eq _ value b hcap, storeSnake_eq _ value b hcap, chainOf_guard mk _ (chunks127_le _)]
  · rw [storeSnake_over _ value b (by omega), storeSnake_over _ value b (by omega)]

end TonVerif.Proofs.SrcSnake
