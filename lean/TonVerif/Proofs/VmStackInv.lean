/-
C17 round trip, part 2: the recursion.  The parsers `De.*` recurse on their budget, and so does the proof: `Inverts f` says
that all six at budget `f` read back every object that `f` suffices for; one step lemma per parser takes `Inverts f` to
budget `f + 1` by cases on the schema derivation (one lemma for all continuation tags, `reads_cont_tag`).
`de_*`: `IsX view ord x b r → ∀ fuel ≥ fuelX x, Reads (De.x view ord fuel) b r x`.
-/
import TonVerif.Proofs.VmStackRT

namespace TonVerif.Proofs.Vm
open TonVerif TonVerif.Model TonVerif.Model.Vm TonVerif.Spec.Vm

variable {R : Type} {view : R → Bits × List R} {ord : R → Bool}

/-- a length read by `load_uint` comes back as `Int`; the parsers take its `toNat` -/
theorem Reads.natCast {α : Type} {p : Nat → SOp R α} {n : Nat} {xs : Bits} {rs : List R} {a : α}
    (h : Reads (p n) xs rs a) : Reads (p (Int.toNat (n : Int))) xs rs a := by rwa [Int.toNat_natCast]

/-! ### `VmCont` -/

theorem reads_contRef (fuel : Nat) (c : R) {k : Cont R}
    (h : Reads (De.cont view ord fuel) (view c).1 (view c).2 k) : Reads (contRef view ord fuel) [] [c] k :=
  Reads.cast (Reads.bind (reads_loadRef c) (reads_sub h)) (by simp) (by simp)

/-- every continuation kind alike: `VmCont.deserialize` on the `i`-th tag skips the tag and runs the rest `p` of the `i`-th branch
    (`hp` holds by `rfl` for each concrete `i`) -/
theorem reads_cont_tag (fuel i : Nat) (hi : i < 10) {p : SOp R (Cont R)}
    (hp : contBranch view ord fuel i = (do SOp.skipBits (De.contTags.getD i []).length; p))
    {body : Bits} {rs : List R} {a : Cont R} (h : Reads p body rs a) :
    Reads (De.cont view ord (fuel + 1)) (De.contTags.getD i [] ++ body) rs a := by
  have hb : Reads (contBranch view ord fuel i) (De.contTags.getD i [] ++ body) rs a :=
    hp ▸ Reads.cast (Reads.bind (reads_skipBits _ _ rfl) h) rfl (by simp)
  exact hb.of_eq (fun b' r' => by rw [List.append_assoc]; exact cont_dispatch fuel i hi _ _)

/-- every schema encoding of a continuation starts with one of the ten constructor tags -/
theorem isCont_tag {k : Cont R} {b : Bits} {r : List R} (h : IsCont view ord k b r) :
    ∃ i, i < 10 ∧ ∃ rest, b = De.contTags.getD i [] ++ rest := by
  cases h with
  | std _ _ => exact ⟨0, by omega, _, by simp [De.contTags]; rfl⟩
  | envelope _ _ _ => exact ⟨1, by omega, _, rfl⟩
  | quit _ _ => exact ⟨2, by omega, _, rfl⟩
  | quitExc => exact ⟨3, by omega, [], rfl⟩
  | repeat_ _ _ _ _ _ _ => exact ⟨4, by omega, _, rfl⟩
  | until_ _ _ _ _ => exact ⟨5, by omega, [], rfl⟩
  | again _ _ => exact ⟨6, by omega, [], rfl⟩
  | whileCond _ _ _ _ _ _ => exact ⟨7, by omega, [], rfl⟩
  | whileBody _ _ _ _ _ _ => exact ⟨8, by omega, [], rfl⟩
  | pushint _ _ _ _ => exact ⟨9, by omega, _, rfl⟩


/-! ### `VmControlData`, `VmStack` -/

/-- `Maybe X` for a scalar: `load_bit`, then the field when the bit is set; `g` = the rest of the parser -/
theorem reads_maybe {β : Type} {load : SOp R Int} {enc : Int → Bits} {ok : Int → Prop}
    (hload : ∀ v, ok v → Reads load (enc v) [] v) (o : Option Int) (ho : MaybeOk ok o)
    {g : Option Int → SOp R β} {x2 : Bits} {r2 : List R} {c : β} (hg : Reads (g o) x2 r2 c) :
    Reads (do let b ← SOp.loadBit
              let x ← (if b then do let n ← load; return some n else return none)
              g x) (maybeBits enc o ++ x2) r2 c := by
  cases o with
  | none =>
    exact Reads.cast (Reads.bind (reads_loadBit false) (Reads.bind (Reads.ite_neg (by simp) (reads_pure none)) hg))
      (by simp [maybeBits]) (by simp)
  | some v =>
    exact Reads.cast (Reads.bind (reads_loadBit true)
      (Reads.bind (Reads.ite_pos rfl (Reads.bind (hload v ho) (reads_pure (some v)))) hg))
      (by simp [maybeBits]) (by simp)

/-- `VmStack.deserialize` -/
theorem reads_stack (fuel : Nat) {vs : List (Val R)} {b : Bits} {r : List R} (hl : vs.length < 2 ^ 24)
    (h : Reads (De.stackList view ord fuel vs.length) b r vs) :
    Reads (De.stack view ord fuel) (uintBits 24 vs.length ++ b) r vs := by
  exact Reads.cast (Reads.bind (reads_loadUint (by decide) (uintOk_nat hl)) (Reads.natCast (p := De.stackList view ord fuel) h)) rfl (by simp)


/-! ### the parser inverts the schema relation

The model parser spends one unit of `fuel` per nested call (Python has no such budget).  `fuelV` … `fuelC` give a
budget that suffices for a value / tuple / stack list / continuation / control data: one unit for the call itself
plus the budgets of the parts (for a tuple entry two more: `VmTuple` and `VmTupleRef` alternate).  `de_*`: for every
budget from that bound on the parser consumes exactly the encoding from the front of any slice and returns the
encoded object. -/

mutual
/-- recursion budget that suffices for `VmStackValue.deserialize` to return `v` -/
def fuelV : Val R → Nat
  | .cont k => fuelK k + 1
  | .tuple vs => fuelT vs + 1
  | _ => 1
/-- … for `VmTuple.deserialize` (`VmTupleRef.deserialize` needs one more) -/
def fuelT : List (Val R) → Nat
  | [] => 1
  | v :: rest => fuelV v + fuelT rest + 2
/-- … for `VmStackList.deserialize` / `VmStack.deserialize` -/
def fuelL : List (Val R) → Nat
  | [] => 1
  | v :: rest => fuelV v + fuelL rest + 1
/-- … for `VmCont.deserialize` -/
def fuelK : Cont R → Nat
  | .std cd _ _ => fuelC cd + 1
  | .envelope cd next => fuelC cd + fuelK next + 1
  | .quit _ => 1
  | .quitExc => 1
  | .repeat_ _ b a => fuelK b + fuelK a + 1
  | .until_ b a => fuelK b + fuelK a + 1
  | .again b => fuelK b + 1
  | .whileCond c b a => fuelK c + fuelK b + fuelK a + 1
  | .whileBody c b a => fuelK c + fuelK b + fuelK a + 1
  | .pushint _ n => fuelK n + 1
/-- … for `VmControlData.deserialize` -/
def fuelC : Ctl R → Nat
  | .mk _ none _ _ => 1
  | .mk _ (some st) _ _ => fuelL st + 1
end

/-- the six parsers at budget `f` return every object that `f` suffices for from each of its schema encodings -/
structure Inverts (view : R → Bits × List R) (ord : R → Bool) (f : Nat) : Prop where
  val : ∀ {v b r}, IsValue view ord v b r → fuelV v ≤ f → Reads (De.val view ord f) b r v
  tuple : ∀ {n vs b r}, IsTuple view ord n vs b r → fuelT vs ≤ f → Reads (De.tuple view ord f n) b r vs
  tupleRef : ∀ {n vs b r}, IsTupleRef view ord n vs b r → fuelT vs + 1 ≤ f → Reads (De.tupleRef view ord f n) b r vs
  stackList : ∀ {n vs b r}, IsStackList view ord n vs b r → fuelL vs ≤ f → Reads (De.stackList view ord f n) b r vs
  cont : ∀ {k b r}, IsCont view ord k b r → fuelK k ≤ f → Reads (De.cont view ord f) b r k
  ctl : ∀ {cd b r}, IsCtl view ord cd b r → fuelC cd ≤ f → Reads (De.ctl view ord f) b r cd

/-! ### one level of the recursion: each parser at budget `f + 1`, given all parsers at budget `f` -/

section Step
variable {f : Nat} (I : Inverts view ord f)
include I

theorem val_step {v : Val R} {b : Bits} {r : List R} (h : IsValue view ord v b r) (hf : fuelV v ≤ f + 1) :
    Reads (De.val view ord (f + 1)) b r v := by
  cases h with
  | null => exact reads_val_tag f 0 (by decide) rfl (reads_pure _)
  | tinyint v hv =>
    exact reads_val_tag f 1 (by decide) rfl (Reads.cast (Reads.bind (reads_loadInt (by decide) hv) (reads_pure _)) (by simp) (by simp))
  | int257 v _ hv => exact reads_val_int257 f v hv
  | cell c =>
    exact reads_val_tag f 3 (by decide) rfl (Reads.cast (Reads.bind (reads_loadRef c) (reads_pure _)) (by simp) (by simp))
  | slice hs =>
    exact reads_val_tag f 4 (by decide) rfl (Reads.cast (Reads.bind (reads_cellSlice hs) (reads_pure _)) (by simp) (by simp))
  | builder c hc hv =>
    have := reads_val_tag (view := view) f 5 (by decide) rfl
      (Reads.cast (Reads.bind (reads_loadRef c) (Reads.ite_pos hc (reads_pure _))) (by simp) (by simp) : Reads _ [] [c] _)
    rw [hv] at this; exact this
  | cont hk =>
    obtain ⟨i, hi, rest, hb⟩ := isCont_tag hk
    exact reads_val_cont f i hi rest hb (I.cont hk (Nat.le_of_succ_le_succ hf))
  | tuple hl ht =>
    exact Reads.cast (reads_val_tag f 7 (by decide) rfl (Reads.bind (reads_loadUint (by decide) (uintOk_nat hl))
      (Reads.bind (Reads.natCast (p := De.tuple view ord f) (I.tuple ht (Nat.le_of_succ_le_succ hf))) (reads_pure _)))) (by simp) (by simp)

theorem tuple_step {n : Nat} {vs : List (Val R)} {b : Bits} {r : List R} (h : IsTuple view ord n vs b r)
    (hf : fuelT vs ≤ f + 1) : Reads (De.tuple view ord (f + 1) n) b r vs := by
  cases h with
  | nil => rw [De.tuple, if_pos rfl]; exact reads_pure _
  | tcons c hhd hv =>
    simp only [fuelT] at hf
    rw [De.tuple, if_neg (by omega)]
    simp only [Nat.add_sub_cancel]
    exact Reads.cast (Reads.bind (I.tupleRef hhd (by omega)) (Reads.bind (reads_loadRef c)
      (Reads.bind (reads_sub (I.val hv (by omega))) (reads_pure _)))) (by simp) (by simp)

theorem tupleRef_step {n : Nat} {vs : List (Val R)} {b : Bits} {r : List R} (h : IsTupleRef view ord n vs b r)
    (hf : fuelT vs + 1 ≤ f + 1) : Reads (De.tupleRef view ord (f + 1) n) b r vs := by
  cases h with
  | nil => rw [De.tupleRef, if_pos rfl]; exact reads_pure _
  | single c hv =>
    simp only [fuelT] at hf
    rw [De.tupleRef, if_neg (by omega), if_pos rfl]
    exact Reads.cast (Reads.bind (reads_loadRef c) (Reads.bind (reads_sub (I.val hv (by omega))) (reads_pure _))) (by simp) (by simp)
  | any c ht =>
    rw [De.tupleRef, if_neg (by omega), if_neg (by omega)]
    exact Reads.cast (Reads.bind (reads_loadRef c) (reads_sub (I.tuple ht (Nat.le_of_succ_le_succ hf)))) (by simp) (by simp)

theorem stackList_step {n : Nat} {vs : List (Val R)} {b : Bits} {r : List R} (h : IsStackList view ord n vs b r)
    (hf : fuelL vs ≤ f + 1) : Reads (De.stackList view ord (f + 1) n) b r vs := by
  cases h with
  | nil => rw [De.stackList, if_pos rfl]; exact reads_pure _
  | cons c hrest hv =>
    simp only [fuelL] at hf
    rw [De.stackList, if_neg (by omega)]
    simp only [Nat.add_sub_cancel]
    exact Reads.cast (Reads.bind (reads_loadRef c) (Reads.bind (reads_sub (I.stackList hrest (by omega)))
      (Reads.bind (I.val hv (by omega)) (reads_pure _)))) (by simp) (by simp)

theorem cont_step {k : Cont R} {b : Bits} {r : List R} (h : IsCont view ord k b r) (hf : fuelK k ≤ f + 1) :
    Reads (De.cont view ord (f + 1)) b r k := by
  have sub {c : R} {k' : Cont R} (h' : IsCont view ord k' (view c).1 (view c).2) (hk : fuelK k' ≤ f) :=
    reads_contRef f c (I.cont h' hk)
  cases h <;> simp only [fuelK] at hf
  case std hcd hcs =>
    exact reads_cont_tag f 0 (by omega) rfl (Reads.cast
      (Reads.bind (I.ctl hcd (by omega)) (Reads.bind (reads_cellSlice hcs) (reads_pure _))) (by simp) (by simp))
  case envelope c hcd hn =>
    exact reads_cont_tag f 1 (by omega) rfl (Reads.cast
      (Reads.bind (I.ctl hcd (by omega)) (Reads.bind (sub hn (by omega)) (reads_pure _))) (by simp) (by simp))
  case quit code h =>
    exact reads_cont_tag f 2 (by omega) rfl (Reads.cast (Reads.bind (reads_loadInt (by decide) h) (reads_pure _)) (by simp) (by simp))
  case quitExc => exact reads_cont_tag f 3 (by omega) rfl (reads_pure _)
  case repeat_ count cb ca hc hb ha =>
    exact reads_cont_tag f 4 (by omega) rfl (Reads.cast (Reads.bind (reads_loadUint (by decide) hc)
      (Reads.bind (sub hb (by omega)) (Reads.bind (sub ha (by omega)) (reads_pure _)))) (by simp) (by simp))
  case until_ cb ca hb ha =>
    exact reads_cont_tag f 5 (by omega) rfl (Reads.cast
      (Reads.bind (sub hb (by omega)) (Reads.bind (sub ha (by omega)) (reads_pure _))) rfl rfl)
  case again cb hb =>
    exact reads_cont_tag f 6 (by omega) rfl (Reads.cast (Reads.bind (sub hb (by omega)) (reads_pure _)) rfl rfl)
  case whileCond cc cb ca hc hb ha =>
    exact reads_cont_tag f 7 (by omega) rfl (Reads.cast (Reads.bind (sub hc (by omega))
      (Reads.bind (sub hb (by omega)) (Reads.bind (sub ha (by omega)) (reads_pure _)))) rfl rfl)
  case whileBody cc cb ca hc hb ha =>
    exact reads_cont_tag f 8 (by omega) rfl (Reads.cast (Reads.bind (sub hc (by omega))
      (Reads.bind (sub hb (by omega)) (Reads.bind (sub ha (by omega)) (reads_pure _)))) rfl rfl)
  case pushint value c hv hn =>
    exact reads_cont_tag f 9 (by omega) rfl (Reads.cast (Reads.bind (reads_loadInt (by decide) hv)
      (Reads.bind (sub hn (by omega)) (reads_pure _))) (by simp) (by simp))

theorem ctl_step {cd : Ctl R} {b : Bits} {r : List R} (h : IsCtl view ord cd b r) (hf : fuelC cd ≤ f + 1) :
    Reads (De.ctl view ord (f + 1)) b r cd := by
  rw [De.ctl]
  cases h with
  | noStack hn hc =>
    exact Reads.cast (reads_maybe (fun v hv => reads_loadUint (by decide) hv) _ hn
      (Reads.bind (reads_loadBit false) (Reads.bind (Reads.ite_neg (by simp) (reads_pure none))
        (Reads.bind (reads_loadMaybeRef _)
          (reads_maybe (fun v hv => reads_loadInt (by decide) hv) _ hc (reads_pure _))))))
      (by simp) (by simp)
  | withStack hn hc hl hst =>
    exact Reads.cast (reads_maybe (fun v hv => reads_loadUint (by decide) hv) _ hn
      (Reads.bind (reads_loadBit true)
        (Reads.bind (Reads.ite_pos rfl (Reads.bind (reads_loadUint (by decide) (uintOk_nat hl))
            (Reads.bind (Reads.natCast (p := De.stackList view ord f) (I.stackList hst (Nat.le_of_succ_le_succ hf)))
              (reads_pure (some _)))))
        (Reads.bind (reads_loadMaybeRef _)
          (reads_maybe (fun v hv => reads_loadInt (by decide) hv) _ hc (reads_pure _))))))
      (by simp) (by simp)

end Step

/-- by recursion on the budget, as the parsers are defined; no object is within budget 0 -/
theorem inverts : ∀ f, Inverts view ord f
  | 0 => ⟨fun h hf => by cases h <;> exact absurd hf (Nat.not_succ_le_zero _),
          fun h hf => by cases h <;> exact absurd hf (Nat.not_succ_le_zero _),
          fun _ hf => absurd hf (Nat.not_succ_le_zero _),
          fun h hf => by cases h <;> exact absurd hf (Nat.not_succ_le_zero _),
          fun h hf => by cases h <;> exact absurd hf (Nat.not_succ_le_zero _),
          fun h hf => by cases h <;> exact absurd hf (Nat.not_succ_le_zero _)⟩
  | f + 1 => ⟨val_step (inverts f), tuple_step (inverts f), tupleRef_step (inverts f), stackList_step (inverts f),
              cont_step (inverts f), ctl_step (inverts f)⟩

theorem de_val : ∀ {v : Val R} {b : Bits} {r : List R}, IsValue view ord v b r →
    ∀ fuel, fuelV v ≤ fuel → Reads (De.val view ord fuel) b r v := fun h fuel hf => (inverts fuel).val h hf
theorem de_tuple : ∀ {n : Nat} {vs : List (Val R)} {b : Bits} {r : List R}, IsTuple view ord n vs b r →
    ∀ fuel, fuelT vs ≤ fuel → Reads (De.tuple view ord fuel n) b r vs := fun h fuel hf => (inverts fuel).tuple h hf
theorem de_tupleRef : ∀ {n : Nat} {vs : List (Val R)} {b : Bits} {r : List R}, IsTupleRef view ord n vs b r →
    ∀ fuel, fuelT vs + 1 ≤ fuel → Reads (De.tupleRef view ord fuel n) b r vs := fun h fuel hf => (inverts fuel).tupleRef h hf
theorem de_stackList : ∀ {n : Nat} {vs : List (Val R)} {b : Bits} {r : List R}, IsStackList view ord n vs b r →
    ∀ fuel, fuelL vs ≤ fuel → Reads (De.stackList view ord fuel n) b r vs := fun h fuel hf => (inverts fuel).stackList h hf
theorem de_cont : ∀ {k : Cont R} {b : Bits} {r : List R}, IsCont view ord k b r →
    ∀ fuel, fuelK k ≤ fuel → Reads (De.cont view ord fuel) b r k := fun h fuel hf => (inverts fuel).cont h hf
theorem de_ctl : ∀ {cd : Ctl R} {b : Bits} {r : List R}, IsCtl view ord cd b r →
    ∀ fuel, fuelC cd ≤ fuel → Reads (De.ctl view ord fuel) b r cd := fun h fuel hf => (inverts fuel).ctl h hf

theorem de_stack {vs : List (Val R)} {b : Bits} {r : List R} (h : IsStack view ord vs b r) (fuel : Nat)
    (hf : fuelL vs ≤ fuel) : Reads (De.stack view ord fuel) b r vs := by
  obtain ⟨hl, hs⟩ := h
  exact reads_stack fuel hl (de_stackList hs fuel hf)

/-- whole-cell form: a cell whose content is a schema encoding of `vs` is parsed to `vs` with nothing left over -/
theorem de_stack_cell {vs : List (Val R)} {c : R} (h : IsStack view ord vs (view c).1 (view c).2) (fuel : Nat)
    (hf : fuelL vs ≤ fuel) : De.stack view ord fuel ⟨(view c).1, (view c).2⟩ = (⟨[], []⟩, some vs) := by
  have := de_stack h fuel hf [] []
  simpa using this

end TonVerif.Proofs.Vm
