/-
The serialize / deserialize methods of the message classes (tlb/transaction.py, account.py, block.py) as regenerated from the
source (Generated/MsgSrc.lean, translator harness/translate/pytlb.py) equal the hand model `Model/Message.lean`, for ALL inputs.
Generation dependent.
-/
import TonVerif.Generated.MsgSrc
import TonVerif.Model.Message
import TonVerif.Proofs.SrcSOp
import TonVerif.Proofs.SrcVmStack
set_option linter.unusedSimpArgs false
namespace TonVerif.Proofs.SrcMsg
open TonVerif TonVerif.Model TonVerif.Model.Vm TonVerif.Spec.Tlb TonVerif.Generated.MsgSrc TonVerif.Proofs.SrcSOp TonVerif.Proofs.SrcVm
open TonVerif.Model.Message

variable {R : Type} {mk : Bits → List R → Option R} {view : R → Bits × List R}

/-- a builder program run from the empty builder and finished: what `<piece>.serialize()` returns -/
def built (mk : Bits → List R → Option R) (op : BOp R) : Option (Built R) := build mk op

theorem run_sub (op : BOp R) (b : Builder R) :
    run (Message.sub op) b = (run op Builder.empty).bind fun p => run (BOp.storeCell p.bits p.refs) b := by
  unfold Message.sub run
  cases h : (op Builder.empty).2 <;> simp [h]

/-! ### deserialisers -/

theorem extra_de_eq : ExtraCurrencyCollection_deserialize view = (SOp.loadMaybeRef : SOp R (Option R)) := by
  unfold ExtraCurrencyCollection_deserialize
  sop_norm []

theorem currency_de_eq : CurrencyCollection_deserialize view = (loadCurrency : SOp R (Currency R)) := by
  unfold CurrencyCollection_deserialize loadCurrency
  sop_norm [extra_de_eq]

theorem tickTock_de_eq : TickTock_deserialize view = (loadTickTock : SOp R TickTock) := by
  unfold TickTock_deserialize loadTickTock
  sop_norm []

theorem stateInit_de_eq : StateInit_deserialize view = (loadStateInit : SOp R (StateInit R)) := by
  unfold StateInit_deserialize loadStateInit loadIf
  sop_norm [tickTock_de_eq]

theorem infoInt_de_eq : InternalMsgInfo_deserialize view = (loadInfoInt : SOp R (Info R)) := by
  unfold InternalMsgInfo_deserialize loadInfoInt
  sop_norm [currency_de_eq]

theorem infoExtIn_de_eq : ExternalMsgInfo_deserialize view = (loadInfoExtIn : SOp R (Info R)) := by
  unfold ExternalMsgInfo_deserialize loadInfoExtIn
  sop_norm [bne_iff_ne, ne_eq]

theorem infoExtOut_de_eq : ExternalOutMsgInfo_deserialize view = (loadInfoExtOut : SOp R (Info R)) := by
  unfold ExternalOutMsgInfo_deserialize loadInfoExtOut
  sop_norm [bne_iff_ne, ne_eq]

theorem info_de_eq : CommonMsgInfo_deserialize view = (loadInfo : SOp R (Info R)) := by
  unfold CommonMsgInfo_deserialize loadInfo
  sop_norm [infoInt_de_eq, infoExtIn_de_eq, infoExtOut_de_eq, beq_iff_eq, Bool.not_eq_true']
  refine sop_bind_congr (fun tag => ?_)
  cases tag <;> simp

theorem message_de_eq (ops : CellOps R) : MessageAny_deserialize ops.view = loadMessage ops := by
  unfold MessageAny_deserialize loadMessage
  sop_norm [info_de_eq, stateInit_de_eq]
  rfl

/-! ### serialisers without an intermediate cell object -/

theorem extra_ser_eq (o : Option R) : ExtraCurrencyCollection_serialize mk o = build mk (BOp.storeMaybeRef o) := by
  simp [ExtraCurrencyCollection_serialize, build, BOp.storeDict]

theorem tickTock_ser_eq (t : TickTock) : TickTock_serialize mk t = build mk (tickTockB t) := by
  cases t
  simp [TickTock_serialize, build, tickTockB, run_andThen, Option.bind_assoc]

end TonVerif.Proofs.SrcMsg
