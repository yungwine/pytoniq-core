/-
Helper lemmas for C04/C03: byte-level facts about the emitter model (Model/BocEmit.lean) and the
strict reader (Spec/Boc.lean).
-/
import TonVerif.Model.BocEmit
import TonVerif.Spec.Boc
import TonVerif.Proofs.CellSpec
import TonVerif.Properties.C18
import TonVerif.Proofs.BocParse

namespace TonVerif.Proofs.BocEmit
open TonVerif TonVerif.Model TonVerif.Spec.Boc
open TonVerif.Proofs.BocParse (natToBE_length natToBE_wf natOfBE_append natOfBE_natToBE_mod wf_append wf_flatten)

/-! ### widths -/

theorem pow256 (w : Nat) : 256 ^ w = 2 ^ (8 * w) := by
  rw [show (256 : Nat) = 2 ^ 8 from rfl, ← Nat.pow_mul]

/-- the byte width `(n.bit_length() + 7) // 8` holds `n` -/
theorem lt_pow_byteWidth (n : Nat) : n < 256 ^ byteWidth n := by
  have h := CellSpec.lt_two_pow_bitLength n
  rw [pow256]
  refine Nat.lt_of_lt_of_le h (Nat.pow_le_pow_right (by decide) ?_)
  unfold byteWidth; omega

theorem byteWidth_le (n k : Nat) (h : n < 256 ^ k) : byteWidth n ≤ k := by
  rw [pow256] at h
  have := (CellSpec.bitLength_le_iff n _).2 h
  unfold byteWidth; omega

theorem byteWidth_pos (n : Nat) (h : 1 ≤ n) : 1 ≤ byteWidth n := by
  unfold byteWidth
  match n, h with
  | n + 1, _ => rw [bitLength]; omega

/-! ### big-endian numbers -/

theorem natOfBE_foldl (bs : Bytes) : ∀ acc, bs.foldl (fun acc b => acc * 256 + b) acc = acc * 256 ^ bs.length + natOfBE bs :=
  BocParse.foldl_be_acc bs

theorem natToBE_zero : ∀ (w : Nat), natToBE w 0 = List.replicate w 0
  | 0 => rfl
  | w + 1 => by
    rw [natToBE, Nat.zero_div, natToBE_zero w]
    simp [List.replicate_succ']

/-! ### reader primitives on emitted pieces -/

theorem takeN_append (a r : Bytes) (n : Nat) (h : a.length = n) : takeN n (a ++ r) = some (a, r) := by
  subst h
  simp [takeN]

theorem uintBE_one (x : Nat) (r : Bytes) : uintBE 1 (x :: r) = some (x, r) := by
  simp [uintBE, takeN, natOfBE]

theorem uintBE_natToBE (w v : Nat) (r : Bytes) (h : v < 256 ^ w) :
    uintBE w (natToBE w v ++ r) = some (v, r) := by
  simp [uintBE, takeN_append _ _ _ (natToBE_length w v), natOfBE_natToBE_mod, Nat.mod_eq_of_lt h]

theorem uintsBE_flatten (w : Nat) : ∀ (vs : List Nat) (r : Bytes), (∀ v ∈ vs, v < 256 ^ w) →
    uintsBE vs.length w ((vs.map (natToBE w)).flatten ++ r) = some (vs, r)
  | [], r, _ => by simp [uintsBE]
  | v :: vs, r, h => by
    have hv := h v (by simp)
    have ih := uintsBE_flatten w vs r (fun x hx => h x (by simp [hx]))
    simp [uintsBE, List.append_assoc, uintBE_natToBE _ _ _ hv, ih]

theorem toBytesBE_of_lt (w v : Nat) (h : v < 256 ^ w) : toBytesBE? w v = some (natToBE w v) := by
  simp [toBytesBE?, h]

theorem mapM_toBytesBE_comp (w : Nat) (g : Nat → Nat) (vs : List Nat) (h : ∀ v ∈ vs, g v < 256 ^ w) :
    vs.mapM (fun e => toBytesBE? w (g e)) = some (vs.map (fun e => natToBE w (g e))) :=
  BocParse.mapM_eq_map _ _ vs (fun v hv => toBytesBE_of_lt _ _ (h v hv))

theorem mapM_toBytesBE (w : Nat) (vs : List Nat) (h : ∀ v ∈ vs, v < 256 ^ w) :
    vs.mapM (toBytesBE? w) = some (vs.map (natToBE w)) :=
  mapM_toBytesBE_comp w id vs h

/-! ### abstract records: what a well-formed cell hands to `Cell.serialize` -/

/-- one cell as the emitter sees it: descriptor bytes d1 d2, data bytes, reference indices -/
structure ARec where
  d1 : Nat
  d2 : Nat
  data : Bytes
  refs : List Nat
  deriving Repr, DecidableEq

def ARec.toRec (a : ARec) : Rec := ⟨[a.d1, a.d2], a.data, a.refs⟩

/-- data bits denoted by the data bytes (completion tag removed when d2 is odd) -/
def decodeBits (d2 : Nat) (data : Bytes) : Bits :=
  if d2 % 2 == 1 then stripTag (bytesToBits data) else bytesToBits data

/-- the record the strict reader must recover -/
def ARec.toSRec (a : ARec) : SRec := ⟨a.d1, decodeBits a.d2 a.data, a.refs⟩

/-- well-formedness of one record in a bag of `n` cells -/
structure ARec.OK (n : Nat) (a : ARec) : Prop where
  d1_lt : a.d1 < 256
  d2_lt : a.d2 < 256
  nrefs : a.d1 % 8 = a.refs.length
  refs_le : a.refs.length ≤ 4
  noHashes : a.d1 / 16 % 2 = 0
  dataLen : a.data.length = a.d2 / 2 + a.d2 % 2
  dataWF : Bytes.WF a.data
  tag : a.d2 % 2 = 1 → ∃ last, a.data.getLast? = some last ∧ last % 128 ≠ 0
  exotic : a.d1 / 8 % 2 = 1 → 8 ≤ (decodeBits a.d2 a.data).length
  refs_lt : ∀ j ∈ a.refs, j < n

/-- serialised form of one record with `size`-byte reference indices -/
def ARec.bytes (size : Nat) (a : ARec) : Bytes :=
  a.d1 :: a.d2 :: (a.data ++ (a.refs.map (natToBE size)).flatten)

theorem ser_eq (size n : Nat) (a : ARec) (ok : a.OK n) (hn : n ≤ 256 ^ size) :
    Rec.ser size a.toRec = some (a.bytes size) := by
  have : ∀ v ∈ a.refs, v < 256 ^ size := fun v hv => Nat.lt_of_lt_of_le (ok.refs_lt v hv) hn
  simp [Rec.ser, ARec.toRec, mapM_toBytesBE size a.refs this, ARec.bytes]

theorem flatten_natToBE_length (size : Nat) (vs : List Nat) : ((vs.map (natToBE size)).flatten).length = vs.length * size := by
  rw [Bits.flatten_length_uniform size _ (by simp [natToBE_length]), List.length_map]

theorem bytes_length (size n : Nat) (a : ARec) (ok : a.OK n) :
    (a.bytes size).length = 2 + (a.d2 / 2 + a.d2 % 2) + (a.d1 % 8) * size := by
  simp only [ARec.bytes, List.length_cons, List.length_append, flatten_natToBE_length, ok.dataLen, ok.nrefs]
  omega

theorem readCell_bytes (size n : Nat) (a : ARec) (ok : a.OK n) (hn : n ≤ 256 ^ size) (rest : Bytes) :
    readCell size (a.bytes size ++ rest) = some (a.toSRec, (a.bytes size).length, rest) := by
  have hrefs : ∀ v ∈ a.refs, v < 256 ^ size := fun v hv => Nat.lt_of_lt_of_le (ok.refs_lt v hv) hn
  have h1 : ¬ (a.d1 % 8 > 4) := by have := ok.nrefs; have := ok.refs_le; omega
  have hu := uintsBE_flatten size a.refs rest hrefs
  rw [← ok.nrefs] at hu
  rw [bytes_length size n a ok]
  unfold readCell ARec.bytes
  simp only [List.cons_append, uintBE_one, Option.bind_eq_bind, Option.bind_some, h1, if_false,
    ok.noHashes, List.append_assoc, takeN_append _ _ _ ok.dataLen]
  by_cases hodd : a.d2 % 2 = 1
  · obtain ⟨last, hl, hne⟩ := ok.tag hodd
    have hex : ¬ (a.d1 / 8 % 2 = 1 ∧ (stripTag (bytesToBits a.data)).length < 8) := by
      intro ⟨h, h'⟩
      have := ok.exotic h
      simp [decodeBits, hodd] at this
      omega
    simp [hodd, hl, hne, hu, ARec.toSRec, decodeBits, hex]
  · have hex : ¬ (a.d1 / 8 % 2 = 1 ∧ (bytesToBits a.data).length < 8) := by
      intro ⟨h, h'⟩
      have := ok.exotic h
      simp [decodeBits, hodd] at this h'
      omega
    simp [hodd, hu, ARec.toSRec, decodeBits]
    intro h
    have := ok.exotic h
    simpa [decodeBits, hodd] using this

/-! ### `emit` in closed form -/

theorem readCells_payload (size n : Nat) (hn : n ≤ 256 ^ size) : ∀ (as : List ARec), (∀ a ∈ as, a.OK n) →
    readCells as.length size ((as.map (ARec.bytes size)).flatten) =
      some (as.map (fun a => (a.toSRec, (a.bytes size).length)))
  | [], _ => by simp [readCells]
  | a :: as, h => by
    have ih := readCells_payload size n hn as (fun x hx => h x (by simp [hx]))
    have hc := readCell_bytes size n a (h a (by simp)) hn ((as.map (ARec.bytes size)).flatten)
    simp [readCells, hc, ih]

theorem mapM_ser (size n : Nat) (hn : n ≤ 256 ^ size) (as : List ARec) (h : ∀ a ∈ as, a.OK n) :
    (as.map ARec.toRec).mapM (Rec.ser size) = some (as.map (ARec.bytes size)) :=
  BocParse.mapM_map_eq ARec.toRec (Rec.ser size) (ARec.bytes size) as (fun a ha => ser_eq size n a (h a ha) hn)

theorem cumulativeFrom_le : ∀ (lens : List Nat) (acc : Nat), ∀ e ∈ cumulativeFrom acc lens, e ≤ acc + lens.sum
  | [], _, e, h => by simp [cumulativeFrom] at h
  | l :: ls, acc, e, h => by
    simp only [cumulativeFrom, List.mem_cons] at h
    rcases h with h | h
    · subst h; simp
    · have := cumulativeFrom_le ls (acc + l) e h
      simp; omega

theorem endOffsetsFrom_eq : ∀ (lens : List Nat) (acc : Nat), endOffsetsFrom acc lens = cumulativeFrom acc lens
  | [], _ => rfl
  | l :: ls, acc => by simp [endOffsetsFrom, cumulativeFrom, endOffsetsFrom_eq ls]

theorem length_flatten_sum (xs : List Bytes) : xs.flatten.length = (xs.map List.length).sum := by
  simp [List.length_flatten]

def flagByte (o : Opts) (size : Nat) : Nat := b2n o.hasIdx * 128 + b2n o.hasCrc * 64 + b2n o.hasCache * 32 + size

theorem flagByte_eq (o : Opts) (size : Nat) : flagByte o size =
    128 * (if o.hasIdx then 1 else 0) + 64 * (if o.hasCrc then 1 else 0) + 32 * (if o.hasCache then 1 else 0) + size := by
  simp only [flagByte, b2n]; omega

/-- `to_boc` ORs the size into a byte whose low three bits already are the size. -/
theorem flags_or (o : Opts) (size : Nat) (h1 : 1 ≤ size) (h4 : size ≤ 4) (hf : o.flags = 0) :
    (b2n o.hasIdx * 128 + b2n o.hasCrc * 64 + b2n o.hasCache * 32 + o.flags * 8 + size) ||| size = flagByte o size := by
  have e : b2n o.hasIdx * 128 + b2n o.hasCrc * 64 + b2n o.hasCache * 32 + o.flags * 8 + size =
      2 ^ 3 * (b2n o.hasIdx * 16 + b2n o.hasCrc * 8 + b2n o.hasCache * 4) + size := by rw [hf]; omega
  have hs : size < 2 ^ 3 := by omega
  rw [flagByte, e, Nat.two_pow_add_eq_or_of_lt hs, Nat.or_assoc, Nat.or_self, ← Nat.two_pow_add_eq_or_of_lt hs]
  omega

def payloadOf (size : Nat) (as : List ARec) : Bytes := (as.map (ARec.bytes size)).flatten

def lensOf (size : Nat) (as : List ARec) : List Nat := as.map (fun a => (a.bytes size).length)

def indexOf (o : Opts) (off size : Nat) (as : List ARec) : Bytes :=
  if o.hasIdx then ((cumulative (lensOf size as)).map (fun e => natToBE off (if o.hasCache then e * 2 else e))).flatten else []

def sizeW (as : List ARec) : Nat := byteWidth as.length
def offOf (o : Opts) (as : List ARec) : Nat :=
  byteWidth (if o.hasCache then (payloadOf (sizeW as) as).length * 2 else (payloadOf (sizeW as) as).length)

/-- everything before the CRC -/
def bodyOf (o : Opts) (as : List ARec) : Bytes :=
  bocMagic ++ (flagByte o (sizeW as) :: offOf o as :: (natToBE (sizeW as) as.length ++ (natToBE (sizeW as) 1 ++
    (natToBE (sizeW as) 0 ++ (natToBE (offOf o as) (payloadOf (sizeW as) as).length ++ (natToBE (sizeW as) 0 ++
      (indexOf o (offOf o as) (sizeW as) as ++ payloadOf (sizeW as) as)))))))

theorem wf_cons {x : Nat} {b : Bytes} (hx : x < 256) (hb : Bytes.WF b) : Bytes.WF (x :: b) := by
  intro y hy
  rcases List.mem_cons.1 hy with h | h
  · subst h; exact hx
  · exact hb y h

theorem bytes_wf (size n : Nat) (a : ARec) (ok : a.OK n) : Bytes.WF (a.bytes size) := by
  unfold ARec.bytes
  refine wf_cons ok.d1_lt (wf_cons ok.d2_lt (wf_append ok.dataWF (wf_flatten _ ?_)))
  intro x hx
  obtain ⟨v, _, rfl⟩ := List.mem_map.1 hx
  exact natToBE_wf _ _

theorem payload_wf (size n : Nat) (as : List ARec) (ok : ∀ a ∈ as, a.OK n) : Bytes.WF (payloadOf size as) := by
  unfold payloadOf
  refine wf_flatten _ ?_
  intro x hx
  obtain ⟨a, ha, rfl⟩ := List.mem_map.1 hx
  exact bytes_wf size n a (ok a ha)

theorem index_wf (o : Opts) (off size : Nat) (as : List ARec) : Bytes.WF (indexOf o off size as) := by
  unfold indexOf
  split
  · refine wf_flatten _ ?_
    intro x hx
    obtain ⟨v, _, rfl⟩ := List.mem_map.1 hx
    exact natToBE_wf _ _
  · intro x hx; simp at hx

theorem flagByte_lt (o : Opts) (size : Nat) (h : size ≤ 4) : flagByte o size < 256 := by
  have := BocParse.bit_lt o.hasIdx
  have := BocParse.bit_lt o.hasCrc
  have := BocParse.bit_lt o.hasCache
  rw [flagByte_eq]
  omega

theorem body_wf (o : Opts) (as : List ARec) (hsz : sizeW as ≤ 4) (hoff : offOf o as ≤ 8) (ok : ∀ a ∈ as, a.OK as.length) :
    Bytes.WF (bodyOf o as) := by
  unfold bodyOf
  refine wf_append (by decide) (wf_cons (flagByte_lt o _ hsz) (wf_cons (by omega) ?_))
  refine wf_append (natToBE_wf _ _) (wf_append (natToBE_wf _ _) (wf_append (natToBE_wf _ _)
    (wf_append (natToBE_wf _ _) (wf_append (natToBE_wf _ _) (wf_append (index_wf _ _ _ _) (payload_wf _ _ _ ok))))))

theorem index_entry_lt (o : Opts) (as : List ARec) :
    ∀ v ∈ cumulative (lensOf (sizeW as) as), (if o.hasCache = true then v * 2 else v) < 256 ^ offOf o as := by
  intro v hv
  have hle := cumulativeFrom_le _ 0 v hv
  have hsum : (lensOf (sizeW as) as).sum = (payloadOf (sizeW as) as).length := by
    unfold payloadOf lensOf; simp [List.length_flatten, List.map_map, Function.comp_def]
  rw [hsum] at hle
  unfold offOf
  split <;> exact Nat.lt_of_le_of_lt (by omega) (lt_pow_byteWidth _)

theorem payload_ge (size : Nat) (as : List ARec) (h1 : 1 ≤ as.length) : 2 ≤ (payloadOf size as).length := by
  match as, h1 with
  | a :: rest, _ => simp [payloadOf, ARec.bytes]

/-- the two widths `to_boc` picks stay within the format's limits (size ≤ 4, off_bytes ≤ 8) and hold the cell count and the
payload length -/
theorem widths_ok (o : Opts) (as : List ARec) (h1 : 1 ≤ as.length) (hn : as.length < 2 ^ 32)
    (hP : (payloadOf (sizeW as) as).length * 2 < 2 ^ 64) :
    1 ≤ sizeW as ∧ sizeW as ≤ 4 ∧ as.length < 256 ^ sizeW as ∧ 1 ≤ offOf o as ∧ offOf o as ≤ 8 ∧
      (payloadOf (sizeW as) as).length < 256 ^ offOf o as := by
  have h2 := payload_ge (sizeW as) as h1
  refine ⟨byteWidth_pos _ h1, byteWidth_le _ 4 (by simpa using hn), lt_pow_byteWidth _, ?_, ?_, ?_⟩
  · unfold offOf
    apply byteWidth_pos
    split <;> omega
  · unfold offOf
    apply byteWidth_le
    split <;> omega
  · unfold offOf
    split
    · exact Nat.lt_of_le_of_lt (by omega) (lt_pow_byteWidth _)
    · exact lt_pow_byteWidth _

theorem emit_eq (o : Opts) (as : List ARec) (hv : o.valid = true) (h1 : 1 ≤ as.length) (hn : as.length < 2 ^ 32)
    (hP : (payloadOf (sizeW as) as).length * 2 < 2 ^ 64) (ok : ∀ a ∈ as, a.OK as.length) :
    emit (as.map ARec.toRec) o = some (bodyOf o as ++ (if o.hasCrc then crc32cLE (bodyOf o as) else [])) := by
  obtain ⟨hsz1, hsz4, hnlt, -, hoff8, hPlt⟩ := widths_ok o as h1 hn hP
  have hf : o.flags = 0 := by
    simp [Opts.valid] at hv; exact hv.2
  have hsers := mapM_ser (sizeW as) as.length (Nat.le_of_lt hnlt) as ok
  have hflag : toBytesBE? 1 ((b2n o.hasIdx * 128 + b2n o.hasCrc * 64 + b2n o.hasCache * 32 + o.flags * 8 + sizeW as) ||| sizeW as)
      = some [flagByte o (sizeW as)] := by
    rw [flags_or o _ hsz1 hsz4 hf]
    have : flagByte o (sizeW as) < 256 := flagByte_lt o _ hsz4
    simp [toBytesBE?, this, natToBE]
  have hPlen : (List.map (ARec.bytes (sizeW as)) as).flatten.length = (payloadOf (sizeW as) as).length := rfl
  have hoffB : toBytesBE? 1 (offOf o as) = some [offOf o as] := by
    simp [toBytesBE?, natToBE]; omega
  have hidx : (if o.hasIdx = true then
      Option.map List.flatten (List.mapM (fun e => toBytesBE? (offOf o as) (if o.hasCache = true then e * 2 else e))
        (cumulative (List.map List.length (List.map (ARec.bytes (sizeW as)) as))))
      else some []) = some (indexOf o (offOf o as) (sizeW as) as) := by
    unfold indexOf lensOf
    by_cases hi : o.hasIdx = true
    · simp only [hi, if_true]
      rw [mapM_toBytesBE_comp]
      · simp [List.map_map, Function.comp_def]
      · rw [List.map_map]
        exact index_entry_lt o as
    · simp [hi]
  have hone : (1 : Nat) < 256 ^ sizeW as := Nat.one_lt_pow (by omega) (by decide)
  unfold emit
  simp only [List.length_map]
  rw [show byteWidth as.length = sizeW as from rfl]
  simp only [hflag, hsers, Option.bind_eq_bind, Option.bind_some, hPlen]
  rw [show byteWidth (if o.hasCache = true then (payloadOf (sizeW as) as).length * 2 else (payloadOf (sizeW as) as).length) = offOf o as from rfl]
  simp only [hoffB, Option.bind_some, toBytesBE_of_lt _ _ hnlt, toBytesBE_of_lt _ _ hone, toBytesBE_of_lt _ _ hPlt, hidx]
  have hbody : bocMagic ++ [flagByte o (sizeW as)] ++ [offOf o as] ++ natToBE (sizeW as) as.length ++ natToBE (sizeW as) 1 ++
      List.replicate (sizeW as) 0 ++ natToBE (offOf o as) (List.length (payloadOf (sizeW as) as)) ++
      List.replicate (sizeW as) 0 ++ indexOf o (offOf o as) (sizeW as) as ++ (List.map (ARec.bytes (sizeW as)) as).flatten
      = bodyOf o as := by
    unfold bodyOf
    rw [natToBE_zero]
    simp [payloadOf, List.append_assoc]
  rw [hbody]
  by_cases hc : o.hasCrc = true
  · have := Properties.C18.c18_crc32c (bodyOf o as) (body_wf o as hsz4 hoff8 ok) false
    simp only [hc, if_true, this]
    simp [crc32cLE]
  · simp [hc]

/-! ### the strict reader on the emitted bytes -/

theorem flag_decode (o : Opts) (size : Nat) (h4 : size ≤ 4) :
    (flagByte o size / 128 % 2 == 1) = o.hasIdx ∧ (flagByte o size / 64 % 2 == 1) = o.hasCrc ∧
    (flagByte o size / 32 % 2 == 1) = o.hasCache ∧ flagByte o size % 8 = size ∧ flagByte o size / 8 % 4 = 0 := by
  rw [flagByte_eq]
  obtain ⟨e7, e6, e5, e4, e3, e8⟩ := BocParse.flagByte_digits _ _ _ size (BocParse.bit_lt o.hasIdx) (BocParse.bit_lt o.hasCrc)
    (BocParse.bit_lt o.hasCache) (by omega)
  rw [e7, e6, e5]
  exact ⟨BocParse.bit_beq _, BocParse.bit_beq _, BocParse.bit_beq _, e8, by omega⟩

/-- the header the strict reader must see -/
def headerOf (o : Opts) (as : List ARec) : Header :=
  ⟨o.hasIdx, o.hasCrc, o.hasCache, sizeW as, offOf o as, as.length, (payloadOf (sizeW as) as).length, [0]⟩

theorem readHeader_body (o : Opts) (as : List ARec) (hv : o.valid = true) (h1 : 1 ≤ as.length) (hn : as.length < 2 ^ 32)
    (hP : (payloadOf (sizeW as) as).length * 2 < 2 ^ 64) (tail : Bytes) :
    readHeader (bodyOf o as ++ tail) =
      some (headerOf o as, indexOf o (offOf o as) (sizeW as) as ++ (payloadOf (sizeW as) as ++ tail)) := by
  obtain ⟨hsz1, hsz4, hnlt, hoff1, hoff8, hPlt⟩ := widths_ok o as h1 hn hP
  have hone : (1 : Nat) < 256 ^ sizeW as := Nat.one_lt_pow (by omega) (by decide)
  have hzero : (0 : Nat) < 256 ^ sizeW as := by omega
  obtain ⟨f1, f2, f3, f4, f5⟩ := flag_decode o (sizeW as) hsz4
  have hci : (o.hasCache && !o.hasIdx) = false := by
    simp [Opts.valid] at hv
    cases hc : o.hasCache <;> cases hi : o.hasIdx <;> simp_all
  unfold readHeader bodyOf
  simp only [List.append_assoc, takeN_append bocMagic _ 4 rfl, Option.bind_eq_bind, Option.bind_some, List.cons_append,
    uintBE_one, f1, f2, f3, f4, f5, uintBE_natToBE _ _ _ hnlt, uintBE_natToBE _ _ _ hone, uintBE_natToBE _ _ _ hzero,
    uintBE_natToBE _ _ _ hPlt, hci]
  have hroots : uintsBE 1 (sizeW as) (natToBE (sizeW as) 0 ++
      (indexOf o (offOf o as) (sizeW as) as ++ (payloadOf (sizeW as) as ++ tail))) =
      some ([0], indexOf o (offOf o as) (sizeW as) as ++ (payloadOf (sizeW as) as ++ tail)) := by
    simp [uintsBE, uintBE_natToBE _ _ _ hzero]
  have hm : (bocMagic != [181, 238, 156, 114]) = false := by decide
  have hs : (decide (sizeW as < 1) || decide (sizeW as > 4)) = false := by simp; omega
  have ho : (decide (offOf o as < 1) || decide (offOf o as > 8)) = false := by simp; omega
  have hr : (decide (1 < 1) || (0 != 0) || decide (1 > as.length)) = false := by
    have : ¬ (1 > as.length) := by omega
    simp [this]
  simp only [hroots, hm, hs, ho, hr, Option.bind_some]
  have hpos : 0 < as.length := by omega
  simp [headerOf, hpos]


theorem cumulativeFrom_length : ∀ (lens : List Nat) (acc : Nat), (cumulativeFrom acc lens).length = lens.length
  | [], _ => rfl
  | l :: ls, acc => by simp [cumulativeFrom, cumulativeFrom_length ls]

/-- references strictly forward (the `ValidOrder` clause on flat records) -/
def Forward (as : List ARec) : Prop := ∀ (i : Nat) (a : ARec), as[i]? = some a → ∀ j ∈ a.refs, i < j

theorem refsForward_of (as : List ARec) (ok : ∀ a ∈ as, a.OK as.length) (fw : Forward as) :
    refsForward (as.map ARec.toSRec) = true := by
  unfold refsForward refsForwardN
  rw [List.all_eq_true]
  intro ⟨r, i⟩ hri
  rw [List.mem_zipIdx_iff_getElem?] at hri
  simp only [List.getElem?_map, Option.map_eq_some_iff] at hri
  obtain ⟨a, ha, rfl⟩ := hri
  rw [List.all_eq_true]
  intro j hj
  have hmem : a ∈ as := List.mem_of_getElem? ha
  have h1 := fw i a ha j hj
  have h2 := (ok a hmem).refs_lt j hj
  simp [h1, h2]

theorem crc32cLE_length (b : Bytes) : (crc32cLE b).length = 4 := by
  simp [crc32cLE, Spec.le32]

def tailOf (o : Opts) (as : List ARec) : Bytes := if o.hasCrc then crc32cLE (bodyOf o as) else []

theorem tail_ok (o : Opts) (as : List ARec) :
    (if o.hasCrc = true then (tailOf o as).length == 4 &&
        tailOf o as == crc32cLE ((bodyOf o as ++ tailOf o as).take ((bodyOf o as ++ tailOf o as).length - 4))
      else (tailOf o as).isEmpty) = true := by
  unfold tailOf
  by_cases hc : o.hasCrc = true
  · simp only [hc, if_true, List.length_append, crc32cLE_length, Nat.add_sub_cancel, List.take_left']
    simp
  · simp [hc]

theorem unscale (c : Bool) (xs : List Nat) :
    List.map ((fun e => if c = true then e / 2 else e) ∘ fun e => if c = true then e * 2 else e) xs = xs := by
  cases c <;> simp [Function.comp_def]

/-- the strict reader reads the index back as the (scaled) cumulative record lengths -/
theorem uintsBE_index (o : Opts) (as : List ARec) (rest : Bytes) :
    uintsBE as.length (offOf o as)
      (((cumulative (lensOf (sizeW as) as)).map (fun e => natToBE (offOf o as) (if o.hasCache = true then e * 2 else e))).flatten
        ++ rest) =
      some ((cumulative (lensOf (sizeW as) as)).map (fun e => if o.hasCache = true then e * 2 else e), rest) := by
  have := uintsBE_flatten (offOf o as) ((cumulative (lensOf (sizeW as) as)).map (fun e => if o.hasCache = true then e * 2 else e))
    rest (by
      intro v hv
      obtain ⟨e, he, rfl⟩ := List.mem_map.1 hv
      exact index_entry_lt o as e he)
  simp only [List.length_map, cumulative, cumulativeFrom_length, lensOf, List.map_map] at this
  simpa [cumulative, lensOf, Function.comp_def] using this

theorem readBody_emit (o : Opts) (as : List ARec) (ok : ∀ a ∈ as, a.OK as.length) (fw : Forward as) :
    readBody (headerOf o as) (bodyOf o as ++ tailOf o as)
      (indexOf o (offOf o as) (sizeW as) as ++ (payloadOf (sizeW as) as ++ tailOf o as)) =
      some ⟨as.map ARec.toSRec, [0]⟩ := by
  have hnlt : as.length ≤ 256 ^ sizeW as := Nat.le_of_lt (lt_pow_byteWidth _)
  have hcells := readCells_payload (sizeW as) as.length hnlt as ok
  have hidx := uintsBE_index o as (payloadOf (sizeW as) as ++ tailOf o as)
  have hfst : List.map ((fun x => x.fst) ∘ fun a => (ARec.toSRec a, List.length (ARec.bytes (sizeW as) a))) as = as.map ARec.toSRec := by
    simp [Function.comp_def]
  have hsnd : List.map ((fun x => x.snd) ∘ fun a => (ARec.toSRec a, List.length (ARec.bytes (sizeW as) a))) as = lensOf (sizeW as) as := by
    simp [Function.comp_def, lensOf]
  have hend : endOffsets (lensOf (sizeW as) as) = cumulative (lensOf (sizeW as) as) := endOffsetsFrom_eq _ 0
  have hfw := refsForward_of as ok fw
  unfold readBody indexOf
  by_cases hi : o.hasIdx = true
  · simp only [headerOf, hi, if_true, Option.bind_eq_bind, hidx, Option.bind_some, takeN_append _ _ _ rfl]
    rw [show readCells as.length (sizeW as) (payloadOf (sizeW as) as) = _ from hcells]
    simp only [Option.bind_some, List.map_map, unscale, tail_ok, hfst, hsnd, hend, hfw]
    simp
  · simp only [headerOf, hi, Option.bind_eq_bind, Option.bind_some, takeN_append _ _ _ rfl, List.nil_append, Bool.false_eq_true, ↓reduceIte]
    rw [show readCells as.length (sizeW as) (payloadOf (sizeW as) as) = _ from hcells]
    simp only [Option.bind_some, List.map_map, tail_ok, hfst, hfw]
    simp


/-- MAIN BYTE-LEVEL THEOREM: for every list of well-formed records with strictly forward references and every valid
option set, `emit` succeeds and the byte-level strict reader recovers exactly the records and the root list `[0]`. -/
theorem strictFlat_emit (o : Opts) (as : List ARec) (hv : o.valid = true) (h1 : 1 ≤ as.length) (hn : as.length < 2 ^ 32)
    (hP : (payloadOf (sizeW as) as).length * 2 < 2 ^ 64) (ok : ∀ a ∈ as, a.OK as.length) (fw : Forward as) :
    ∃ bs, emit (as.map ARec.toRec) o = some bs ∧ bs = bodyOf o as ++ tailOf o as ∧
      strictFlat bs = some ⟨as.map ARec.toSRec, [0]⟩ := by
  refine ⟨_, emit_eq o as hv h1 hn hP ok, rfl, ?_⟩
  unfold strictFlat
  rw [show (if o.hasCrc = true then crc32cLE (bodyOf o as) else []) = tailOf o as from rfl]
  simp only [readHeader_body o as hv h1 hn hP, Option.bind_eq_bind, Option.bind_some]
  exact readBody_emit o as ok fw

theorem cumulativeFrom_last : ∀ (lens : List Nat) (acc : Nat), lens ≠ [] →
    (cumulativeFrom acc lens).getLast? = some (acc + lens.sum)
  | [], _, h => absurd rfl h
  | [l], acc, _ => by simp [cumulativeFrom]
  | l :: l' :: ls, acc, _ => by
    have := cumulativeFrom_last (l' :: ls) (acc + l) (by simp)
    rw [cumulativeFrom]
    rw [show cumulativeFrom (acc + l) (l' :: ls) = (acc + l + l') :: cumulativeFrom (acc + l + l') ls from rfl] at this ⊢
    rw [List.getLast?_cons_cons, this]
    simp [Nat.add_assoc]

theorem crc32cLE_wf (b : Bytes) : Bytes.WF (crc32cLE b) := by
  intro x hx
  simp only [crc32cLE, List.mem_map] at hx
  obtain ⟨v, _, rfl⟩ := hx
  exact v.isLt

/-- everything after the 4 magic bytes of an emitted serialisation is a well-formed byte string -/
theorem emitted_wf (o : Opts) (as : List ARec) (_h1 : 1 ≤ as.length) (hn : as.length < 2 ^ 32)
    (hP : (payloadOf (sizeW as) as).length * 2 < 2 ^ 64) (ok : ∀ a ∈ as, a.OK as.length) :
    Bytes.WF ((flagByte o (sizeW as) :: offOf o as :: (natToBE (sizeW as) as.length ++ (natToBE (sizeW as) 1 ++
      (natToBE (sizeW as) 0 ++ (natToBE (offOf o as) (payloadOf (sizeW as) as).length ++ (natToBE (sizeW as) 0 ++
        (indexOf o (offOf o as) (sizeW as) as ++ payloadOf (sizeW as) as))))))) ++
      (if o.hasCrc then crc32cLE (bodyOf o as) else [])) := by
  obtain ⟨-, hsz4, -, -, hoff8, -⟩ := widths_ok o as _h1 hn hP
  have hb := body_wf o as hsz4 hoff8 ok
  refine wf_append ?_ ?_
  · intro x hx
    exact hb x (by unfold bodyOf; exact List.mem_append_right _ hx)
  · split
    · exact crc32cLE_wf _
    · intro x hx; simp at hx

/-- the last index entry is the total cell-data size -/
theorem cumulative_last (size : Nat) (as : List ARec) (h1 : 1 ≤ as.length) :
    (cumulative (lensOf size as)).getLast? = some (payloadOf size as).length := by
  have hne : lensOf size as ≠ [] := by
    match as, h1 with
    | a :: rest, _ => simp [lensOf]
  rw [cumulative, cumulativeFrom_last _ 0 hne]
  simp [payloadOf, lensOf, List.length_flatten, List.map_map, Function.comp_def]

/-! ### data bytes of a cell: completion tag round trip -/

theorem stripTag_pad (bits : Bits) (k : Nat) : stripTag (bits ++ [true] ++ List.replicate k false) = bits := by
  unfold stripTag
  simp only [List.reverse_append, List.reverse_replicate, List.reverse_cons, List.append_assoc, List.singleton_append]
  have : ∀ k (l : Bits), List.dropWhile (fun b => !b) (List.replicate k false ++ l) = List.dropWhile (fun b => !b) l := by
    intro k l
    induction k with
    | zero => simp
    | succ k ih => simp [List.replicate_succ, ih]
  rw [this]
  simp


theorem low7_zero : ∀ last, last < 256 → last % 128 = 0 → (natToBits 8 last).reverse.take 7 = List.replicate 7 false := by
  decide +kernel

def cellD2 (len : Nat) : Nat := (len / 8) * 2 + (if len % 8 != 0 then 1 else 0)

/-- the data bytes of a cell, as the strict reader needs them: right length, byte-valued, completion tag present and
not overlong, and decoding them gives back the data bits -/
theorem data_ok (bits : Bits) :
    (dataBytes bits).length = cellD2 bits.length / 2 + cellD2 bits.length % 2 ∧ Bytes.WF (dataBytes bits) ∧
    (cellD2 bits.length % 2 = 1 → ∃ last, (dataBytes bits).getLast? = some last ∧ last % 128 ≠ 0) ∧
    decodeBits (cellD2 bits.length) (dataBytes bits) = bits := by
  rw [CellSpec.dataBytes_eq]
  unfold Spec.dataBytes
  have hb : bytesToBits (bitsToBytes (Spec.padBits bits)) = Spec.padBits bits := (CellSpec.padBits_eq bits).symm
  have hl : (bitsToBytes (Spec.padBits bits)).length = (bits.length + 7) / 8 := CellSpec.dataBytes_length bits
  have hw := Bits.bitsToBytes_wf (Spec.padBits bits)
  by_cases h8 : bits.length % 8 = 0
  · have hd2 : cellD2 bits.length = bits.length / 8 * 2 := by simp [cellD2, h8]
    have hpad : Spec.padBits bits = bits := by simp [Spec.padBits, h8]
    refine ⟨by rw [hl, hd2]; omega, hw, by rw [hd2]; omega, ?_⟩
    simp only [decodeBits, hd2, Nat.mul_mod_left]
    rw [hb, hpad]
    rfl
  · have hd2 : cellD2 bits.length = bits.length / 8 * 2 + 1 := by simp [cellD2, h8]
    have hpad : Spec.padBits bits = bits ++ [true] ++ List.replicate (7 - bits.length % 8) false := by simp [Spec.padBits, h8]
    refine ⟨by rw [hl, hd2]; omega, hw, ?_, ?_⟩
    · intro _
      rcases List.eq_nil_or_concat (bitsToBytes (Spec.padBits bits)) with h | ⟨init, last, hinit⟩
      · rw [h] at hl; simp at hl; omega
      rw [List.concat_eq_append] at hinit
      refine ⟨last, by rw [hinit]; simp, fun hz => ?_⟩
      have hlt : last < 256 := hw last (by rw [hinit]; simp)
      have h7 := low7_zero last hlt hz
      have hb' := hb
      rw [hinit] at hb'
      simp only [bytesToBits, List.flatMap_append, List.flatMap_cons, List.flatMap_nil, List.append_nil, byteToBits] at hb'
      have hrev : (Spec.padBits bits).reverse.take 7 = List.replicate 7 false := by
        rw [← hb', List.reverse_append, List.take_append_of_le_length (by simp [Bits.natToBits_length]), h7]
      rw [hpad] at hrev
      have hk : 7 - bits.length % 8 < 7 := by omega
      generalize 7 - bits.length % 8 = K at hrev hk
      have h1 : (List.replicate 7 false)[K]? = some false := by rw [List.getElem?_replicate]; simp [hk]
      have h2 : (List.take 7 (List.reverse (bits ++ [true] ++ List.replicate K false)))[K]? = some true := by
        simp [hk]
      rw [hrev, h1] at h2
      cases h2
    · simp only [decodeBits, hd2]
      rw [show (bits.length / 8 * 2 + 1) % 2 = 1 by omega]
      simp only [beq_self_eq_true, if_true]
      rw [hb, hpad, stripTag_pad]

/-! ### semantic layer: the duplicate check -/

theorem noDup_fold (keys : List Nat) : ∀ (s : Std.HashSet Nat) (seen : List Nat) (ok : Bool),
    (∀ k, s.contains k = true ↔ k ∈ seen) →
    ((keys.foldl (fun (st : Std.HashSet Nat × Bool) k => (st.1.insert k, st.2 && !st.1.contains k)) (s, ok)).2 = true ↔
      (ok = true ∧ keys.Nodup ∧ ∀ k ∈ keys, k ∉ seen)) := by
  induction keys with
  | nil => intro s seen ok _; simp
  | cons k ks ih =>
    intro s seen ok hs
    have hs' : ∀ x, (s.insert k).contains x = true ↔ x ∈ k :: seen := by
      intro x
      rw [Std.HashSet.contains_insert, Bool.or_eq_true, hs x, List.mem_cons, beq_iff_eq, eq_comm]
    have hk : s.contains k = false ↔ k ∉ seen := by rw [← hs k, Bool.not_eq_true]
    rw [List.foldl_cons, ih _ _ _ hs', List.nodup_cons, Bool.and_eq_true, Bool.not_eq_true', hk]
    simp only [List.mem_cons, not_or, forall_eq_or_imp]
    constructor
    · rintro ⟨⟨a, b⟩, c, d⟩
      exact ⟨a, ⟨fun h => (d k h).1 rfl, c⟩, b, fun x hx => (d x hx).2⟩
    · rintro ⟨a, ⟨b, c⟩, d, e⟩
      exact ⟨⟨a, d⟩, c, fun x hx => ⟨fun hxk => b (hxk ▸ hx), e x hx⟩⟩

/-- the strict reader's duplicate check is exactly `List.Nodup` on the keys -/
theorem noDup_iff (keys : List Nat) : noDup keys = true ↔ keys.Nodup := by
  unfold noDup
  rw [noDup_fold keys ∅ [] true (by intro k; simp)]
  simp

end TonVerif.Proofs.BocEmit
