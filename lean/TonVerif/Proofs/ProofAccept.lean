/-
What acceptance by `check_proof`, `check_block_header_proof(.., True)` and `check_account_proof` (Model/Proof.lean) means: each check
returns exactly when every one of its tests passes.  The soundness, completeness and rejection statements of C11 are read off these.
-/
import TonVerif.Model.Proof
import TonVerif.Proofs.CellSpec

namespace TonVerif.Proofs.ProofAccept
open TonVerif TonVerif.Model TonVerif.Proofs.CellSpec

theorem checkProof_iff (c : PCell) (h : Bytes) : checkProof c h = true ↔
    c.info.kind = kMerkleProof ∧ pySlice c.data 1 33 = h ∧ c.info.bits.length = 280 ∧
    ∃ r d, c.refs = [r] ∧ r.info.getHash 0 = some h ∧ r.info.getDepth 0 = some d ∧ d < 65536 ∧
      c.data = [3] ++ h ++ Spec.be2 d := by
  unfold checkProof
  by_cases hk : c.info.kind = kMerkleProof
  case neg => simp [hk]
  by_cases hs : pySlice c.data 1 33 = h
  case neg => simp [hk, hs]
  simp only [hk, hs, bne_self_eq_false, Bool.false_eq_true, if_false, true_and]
  rcases c.refs with _ | ⟨r, rs⟩
  · simp
  by_cases hh : r.info.getHash 0 = some h
  case neg => simp [hh]
  rcases hd : r.info.getDepth 0 with _ | d
  · simp [hd]
  by_cases hlt : d < 65536
  · simp [hh, hd, toBytesBE_two d hlt]
    constructor
    · rintro ⟨⟨rfl, hb⟩, hdata⟩
      exact ⟨hb, r, ⟨rfl, rfl⟩, hh, d, hd, hlt, hdata⟩
    · rintro ⟨hb, _, ⟨rfl, rfl⟩, _, x, hx, _, hdata⟩
      rw [hd] at hx
      cases hx
      exact ⟨⟨rfl, hb⟩, hdata⟩
  · have : toBytesBE? 2 d = none := by simp [toBytesBE?, hlt]
    simp [hh, hd, this, hlt]

theorem checkBlockHeaderProofState_iff (root : PCell) (h sh : Bytes) : checkBlockHeaderProofState root h = some sh ↔
    root.info.getHash 0 = some h ∧
    ∃ su c, root.refs[2]? = some su ∧ su.refs[1]? = some c ∧ su.info.kind = kMerkleUpdate ∧
      c.info.getHash 0 = some sh ∧ pySlice su.data 33 65 = sh := by
  unfold checkBlockHeaderProofState checkBlockHeaderProof
  by_cases hb : root.info.getHash 0 = some h
  case neg => simp [hb]
  simp only [hb, beq_self_eq_true, if_true, true_and, Option.bind_eq_bind, Option.bind_eq_some_iff]
  constructor
  · rintro ⟨su, h2, c, h21, x, hh, hx⟩
    split at hx
    · cases hx
    · rename_i hc
      cases hx
      simp only [Bool.or_eq_true, bne_iff_ne, ne_eq, not_or, Decidable.not_not] at hc
      exact ⟨su, c, h2, h21, hc.1, hh, hc.2⟩
  · rintro ⟨su, c, h2, h21, hk, hh, hd⟩
    exact ⟨su, h2, c, h21, sh, hh, by simp [hk, hd]⟩

theorem checkAccountProof_iff (O : Opaque) (roots : List PCell) (blk addr : Bytes) (state : PCell) :
    checkAccountProof O roots blk addr state = true ↔
    ∃ p0 p1 hdr st acc sh, roots = [p0, p1] ∧ checkProof p0 blk = true ∧ p0.refs[0]? = some hdr ∧
      checkBlockHeaderProofState hdr blk = some sh ∧ p1.refs[0]? = some st ∧ st.info.getHash 0 = some sh ∧
      checkProof p1 sh = true ∧ locateAccount O st addr = some acc ∧ acc.info.getHash 0 = some state.info.hash := by
  constructor
  · intro hacc
    rcases roots with _ | ⟨p0, _ | ⟨p1, _ | ⟨p2, rest⟩⟩⟩
    · simp [checkAccountProof] at hacc
    · simp [checkAccountProof] at hacc
    case cons.cons.cons => simp [checkAccountProof] at hacc
    unfold checkAccountProof at hacc
    simp only at hacc
    rcases h0 : checkProof p0 blk
    · simp [h0] at hacc
    simp only [h0, Bool.not_true, Bool.false_eq_true, if_false] at hacc
    rcases hhdr : p0.refs[0]? with _ | hdr
    · simp [hhdr] at hacc
    simp only [hhdr] at hacc
    rcases hsh : checkBlockHeaderProofState hdr blk with _ | sh
    · simp [hsh] at hacc
    simp only [hsh] at hacc
    rcases hst : p1.refs[0]? with _ | st
    · simp [hst] at hacc
    simp only [hst] at hacc
    by_cases hs : st.info.getHash 0 = some sh
    case neg => simp [hs] at hacc
    simp only [hs, bne_self_eq_false, Bool.false_eq_true, if_false] at hacc
    rcases h1 : checkProof p1 sh
    · simp [h1] at hacc
    simp only [h1, Bool.not_true, Bool.false_eq_true, if_false] at hacc
    rcases hl : locateAccount O st addr with _ | acc
    · simp [hl] at hacc
    simp only [hl, beq_iff_eq] at hacc
    exact ⟨p0, p1, hdr, st, acc, sh, rfl, h0, hhdr, hsh, hst, hs, h1, hl, hacc⟩
  · rintro ⟨p0, p1, hdr, st, acc, sh, rfl, h0, hhdr, hsh, hst, hs, h1, hl, hh⟩
    simp [checkAccountProof, h0, hhdr, hsh, hst, hs, h1, hl, hh]

/-! The model compares an `Option` hash with `some h` in one test; the source reads the hash first (it may raise) and compares then. -/

theorem ne_some_ite (o : Option Bytes) (h : Bytes) (k : Bool) :
    (if (o != some h) = true then false else k) = match o with
      | none => false
      | some h0 => if (h0 != h) = true then false else k := by
  cases o with
  | none => rfl
  | some h0 => by_cases e : h0 = h <;> simp [e]

theorem beq_some_match (o : Option Bytes) (h : Bytes) :
    (o == some h) = match o with
      | none => false
      | some h0 => !(h0 != h) := by
  cases o with
  | none => rfl
  | some h0 => simp [bne]

/-- `d.to_bytes(2, 'big')` raises from 65536 on -/
theorem toBytesBE?_two (d : Nat) : toBytesBE? 2 d = if 65536 ≤ d then none else some (natToBE 2 d) := by
  unfold toBytesBE?
  by_cases h : d < 65536
  · rw [if_pos (by omega), if_neg (by omega)]
  · rw [if_neg (by omega), if_pos (by omega)]

end TonVerif.Proofs.ProofAccept
