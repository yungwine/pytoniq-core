/-
The value-level observers of a constructed `Cell`, regenerated from cell.py on every run (`Generated/CellEntry.lean`,
harness/translate/cellentry.py + pyobj.py): `get_representation`, `calculate_representation_hash`, the property `hash`, `__eq__`,
`__hash__` equal the hand model (`Model.representation`, `CellInfo.pyEq`, `CellInfo.pyHash`) for ALL inputs.
Generation dependent (unfolds the regenerated definitions); the loop lemma `reprLoop` is generation independent.
-/
import TonVerif.Generated.CellEntry
import TonVerif.Proofs.SrcCellCtor

namespace TonVerif.Proofs.SrcCellEntry
open TonVerif TonVerif.Model TonVerif.Generated TonVerif.Generated.CellCtor TonVerif.Generated.CellEntry
open TonVerif.Proofs.SrcObj TonVerif.Proofs.SrcCellCtor

set_option linter.unusedSimpArgs false

/-- ONE loop over the references that appends a depth field to one accumulator and a hash to another = the model's two `mapM`
passes, flattened (`none` exactly when one of the reads raises, whichever comes first). -/
theorem reprLoop {α : Type} (f g : α → Option Bytes) : ∀ (refs : List α) (d0 h0 : Bytes),
    List.foldlM (m := Option) (fun ((d, h) : Bytes × Bytes) (r : α) =>
        (f r).bind fun x => (g r).bind fun y => some (d ++ x, h ++ y)) (d0, h0) refs =
      (refs.mapM f).bind fun ds => (refs.mapM g).bind fun hs => some (d0 ++ ds.flatten, h0 ++ hs.flatten)
  | [], d0, h0 => by simp
  | r :: rs, d0, h0 => by
    rw [List.foldlM_cons]
    simp only [List.mapM_cons, Option.pure_def, Option.bind_eq_bind]
    cases hf : f r with
    | none => simp
    | some x =>
      cases hg : g r with
      | none =>
        simp only [Option.bind_some, Option.bind_none]
        cases rs.mapM f <;> simp
      | some y =>
        simp only [Option.bind_some]
        rw [reprLoop f g rs (d0 ++ x) (h0 ++ y)]
        cases rs.mapM f <;> cases rs.mapM g <;> simp [List.append_assoc]

/-- `xs[-2]` when there are at least two elements -/
theorem getI_neg_two {α : Type} (xs : List α) (h : xs.length > 1) : Py.getI? xs (-2) = xs[xs.length - 2]? := by
  unfold Py.getI?
  have e : (-(-2 : Int)).toNat = 2 := by decide
  simp only [e]
  rw [if_neg (by decide), if_pos (by omega)]

/-- the canonical iteration of the loop over the references of `get_representation` at child level `lvl` -/
def reprStep (lvl : Nat) (s : Bytes × Bytes) (r : CellInfo) : Option (Bytes × Bytes) :=
  ((r.getDepth lvl).bind (toBytesBE? 2)).bind fun x => (r.getHash lvl).bind fun y => some (s.1 ++ x, s.2 ++ y)

theorem reprStepLoop (lvl : Nat) (refs : List CellInfo) (d0 h0 : Bytes) :
    List.foldlM (m := Option) (reprStep lvl) (d0, h0) refs =
      (refs.mapM fun r : CellInfo => (r.getDepth lvl).bind (toBytesBE? 2)).bind fun ds => (refs.mapM fun r : CellInfo => r.getHash lvl).bind fun hs =>
        some (d0 ++ ds.flatten, h0 ++ hs.flatten) := by
  rw [← reprLoop]
  exact foldlM_congr _ _ (by rintro ⟨d, h⟩ r; rfl) refs (d0, h0)

/-- `Cell.get_representation()` of a cell whose attributes are those of the info `i` (`_descriptors = d`) over the child infos
`refs` = the model's `representation`, whenever `d` is what the constructor stored (`get_descriptors(level_mask)`). -/
theorem get_representation_eq (i : CellInfo) (refs : List CellInfo) (d : Bytes)
    (hd : descriptors i.nrefs (i.kind != kOrdinary) i.bits.length i.mask = some d) :
    get_representation (self__descriptors := d) (self_bits := i.bits) (self__hashes := i.hashes) (self_level_mask := i.mask)
      (self_type_ := i.kind) (self_refs := refs) = representation i refs := by
  unfold get_representation representation
  simp only [hd, get_data_bytes_eq, lm_level, get_depth_eq, get_hash_eq, Option.bind_some, Option.bind_eq_bind, Option.pure_def]
  have hdata : (if i.hashes.length > 1 then (Py.getI? i.hashes (-2)).bind fun data => some data else some (dataBytes i.bits)) =
      if i.hashes.length > 1 then i.hashes[i.hashes.length - 2]? else some (dataBytes i.bits) := by
    split
    · rename_i hl
      rw [getI_neg_two _ hl]
      cases i.hashes[i.hashes.length - 2]? <;> rfl
    · rfl
  -- Merkle cells read their children one level up
  have hlvl : (if i.kind = 3 ∨ i.kind = 4 then some (bitLength i.mask + 1) else some (bitLength i.mask)) =
      some (if isMerkle i.kind = true then bitLength i.mask + 1 else bitLength i.mask) := by
    have hm : (i.kind = 3 ∨ i.kind = 4) = (isMerkle i.kind = true) := by simp [isMerkle, kMerkleProof, kMerkleUpdate]
    by_cases hk : isMerkle i.kind = true <;> simp only [hm, hk, if_true, if_false, Bool.false_eq_true]
  simp only [hdata, hlvl, Option.bind_some]
  generalize (if isMerkle i.kind = true then bitLength i.mask + 1 else bitLength i.mask) = lvl
  refine Option.bind_congr fun data _ => ?_
  -- the loop body is `reprStep`, whatever the order of its three reads
  rw [foldlM_congr _ (reprStep lvl) (by
        rintro ⟨d, h⟩ r
        simp only [reprStep]
        cases hgd : CellInfo.getDepth r lvl <;> cases hgh : CellInfo.getHash r lvl <;>
          simp only [Option.bind_some, Option.bind_none] <;> (try rfl)
        all_goals (generalize toBytesBE? 2 _ = tb; cases tb <;> simp)), reprStepLoop]
  cases List.mapM (fun r : CellInfo => (r.getDepth lvl).bind (toBytesBE? 2)) refs <;>
    cases List.mapM (fun r : CellInfo => r.getHash lvl) refs <;> simp [List.append_assoc]

/-- `Cell.calculate_representation_hash()` = `H` of the model's representation -/
theorem calculate_representation_hash_eq (H : Bytes → Bytes) (i : CellInfo) (refs : List CellInfo) (d : Bytes)
    (hd : descriptors i.nrefs (i.kind != kOrdinary) i.bits.length i.mask = some d) :
    calculate_representation_hash H (self__descriptors := d) (self_bits := i.bits) (self__hashes := i.hashes)
      (self_level_mask := i.mask) (self_type_ := i.kind) (self_refs := refs) = (representation i refs).map H := by
  unfold calculate_representation_hash
  rw [get_representation_eq i refs d hd]
  cases representation i refs <;> rfl

/-- the property `Cell.hash` returns the stored `_hash` -/
theorem hash_prop_eq (h : Bytes) : hash_prop (self__hash := h) = some h := rfl

/-- `Cell.__eq__(self, other)` with `self._hash = a.hash` = the model's `pyEq` -/
theorem pyeq_eq (a b : CellInfo) : pyeq (other := b) (self__hash := a.hash) = some (a.pyEq b) := by
  unfold pyeq CellInfo.pyEq
  simp only [hash_prop_eq, Option.bind_some]
  by_cases h : a.hash = b.hash
  · simp [h]
  · have h' : ¬ b.hash = a.hash := fun e => h e.symm
    simp [h, h']

/-- `Cell.__hash__()` = the model's `pyHash` -/
theorem pyhash_eq (a : CellInfo) : pyhash (self__hash := a.hash) = some a.pyHash := rfl

end TonVerif.Proofs.SrcCellEntry
