/-
The INSTRUMENTED copy of the dictionary parse recursion regenerated from parse.py (Generated/HashmapCnt.lean: `parse_cnt`,
`deserialize_hashmap_node_cnt` in the counting monad `Py.Cnt`, translator harness/translate/hashmapcnt.py):

  * `cnt_erase`   : it computes exactly the value of the regenerated function (so the textual transformation is not trusted for values);
  * `cnt_no_oof`  : for every slice and key length, with fuel ≥ 2·key_length + 2 no fuel-exhaustion line is reached
                    (the Python recursion is at most key_length + 1 levels of `parse` → `deserialize_hashmap_node` deep);
  * `cnt_bridge`  : on the tree unfolded from a cost-model graph it makes exactly the calls `Cost.dictCalls` counts and returns / raises
                    exactly when the cost model says — the C19 theorems about `dictCalls` are theorems about the code as written.
                    Its proof only does the bookkeeping: what one level of `parse` / `deserialize_hashmap_node` calls, for ANY slice, is
                    `parse_raise`, `parse_node`, `node_stop`, `fork_*` (rules for `Calls x c ok`: `x` makes `c` calls and returns iff `ok`).
-/
import TonVerif.Generated.HashmapCnt
import TonVerif.Proofs.SrcHashmap
import TonVerif.Proofs.Cost

set_option linter.unusedSimpArgs false
namespace TonVerif.Proofs.SrcHashmapCnt
open TonVerif TonVerif.Model TonVerif.Model.Hashmap TonVerif.Proofs.Hashmap
open TonVerif.Generated.HashmapSrc TonVerif.Generated.HashmapCnt TonVerif.Proofs.SrcHashmap
open TonVerif.Py (Cnt CntState)
open TonVerif.Model (Cost.unary Cost.readLabelRaw Cost.readLabel)

def Erases {α : Type} (x : Cnt α) (o : Option α) : Prop := ∀ s, (x s).1 = o

section
variable {α β : Type} {x y : Cnt α} {o p : Option α} {f : α → Cnt β} {g : α → Option β}

theorem Erases.pure (a : α) : Erases (pure a : Cnt α) (pure a) := fun _ => rfl
theorem Erases.lift (o : Option α) : Erases (liftM o : Cnt α) o := fun _ => rfl
theorem Erases.bind (hx : Erases x o) (hf : ∀ a, Erases (f a) (g a)) : Erases (x >>= f) (o >>= g) := by
  intro s
  rw [Cnt.bind_run, ← hx s]
  rcases x s with ⟨_ | a, s'⟩
  · rfl
  · exact hf a s'
theorem Erases.tick (hx : Erases x o) : Erases (Cnt.tick >>= fun _ => x) o :=
  fun _ => hx _
theorem Erases.ite {c : Prop} [Decidable c] (hx : Erases x o) (hy : Erases y p) : Erases (if c then x else y) (if c then o else p) := by
  split <;> assumption

end

/-- ERASURE: the instrumented copy computes exactly the value of the regenerated function (for every fuel, input and counter state) -/
theorem cnt_erase (fuel : Nat) :
    (∀ sl k d pfx, Erases (parse_cnt fuel sl k d pfx) (parse fuel sl k d pfx)) ∧
    (∀ cs m d pfx, Erases (deserialize_hashmap_node_cnt fuel cs m d pfx) (deserialize_hashmap_node fuel cs m d pfx)) := by
  induction fuel with
  | zero => exact ⟨fun _ _ _ _ _ => rfl, fun _ _ _ _ _ => rfl⟩
  | succ fuel ih =>
    obtain ⟨ihA, ihB⟩ := ih
    constructor
    · intro sl k d pfx
      rw [parse_cnt, parse]
      exact Erases.tick (Erases.bind (Erases.lift _) fun ⟨⟨l, sfx⟩, sl'⟩ => Erases.bind (ihB _ _ _ _) fun ⟨_, _⟩ => Erases.pure _)
    · intro cs m d pfx
      rw [deserialize_hashmap_node_cnt, deserialize_hashmap_node]
      refine Erases.tick (Erases.ite (Erases.pure _) (Erases.bind (Erases.ite ?_ ?_) fun ⟨_, _⟩ => Erases.pure _))
      · exact Erases.bind (Erases.ite (Erases.pure _) (Erases.pure _)) fun _ => Erases.pure _
      · exact Erases.bind (Erases.lift _) fun ⟨_, _⟩ => Erases.bind (ihA _ _ _ _) fun ⟨_, _, _⟩ =>
          Erases.bind (Erases.lift _) fun ⟨_, _⟩ => Erases.bind (ihA _ _ _ _) fun ⟨_, _, _⟩ => Erases.pure _

/-- what `deserialize_hml` returns in terms of the model reader: the label length is at most the key length -/
theorem hml_le {sl : Py.Slice} {k : Int} {l : Nat} {sfx : Bits} {sl' : Py.Slice}
    (h : deserialize_hml sl k = some ((l, sfx), sl')) : (l : Int) ≤ k := by
  rw [deserialize_hml_eq] at h
  rcases hh : deserializeHml sl.bits k with _ | ⟨n, s, rest⟩
  · simp [hh] at h
  · simp only [hh, Option.map_some, Option.some.injEq, Prod.mk.injEq] at h
    obtain ⟨⟨rfl, _⟩, _⟩ := h
    exact deserializeHml_le hh

def NoOof {α : Type} (x : Cnt α) : Prop := ∀ s, (x s).2.oof = s.oof

section
variable {α β : Type} {x y : Cnt α} {f : α → Cnt β}

theorem NoOof.pure (a : α) : NoOof (pure a : Cnt α) := fun _ => rfl
theorem NoOof.bind (hx : NoOof x) (hf : ∀ a, NoOof (f a)) : NoOof (x >>= f) := by
  intro s
  rw [Cnt.bind_run, ← hx s]
  rcases x s with ⟨_ | a, s'⟩
  · rfl
  · exact hf a s'
theorem NoOof.lift (o : Option α) (hf : ∀ a, o = some a → NoOof (f a)) : NoOof ((liftM o : Cnt α) >>= f) := by
  intro s
  cases o with
  | none => rfl
  | some a => exact hf a rfl s
theorem NoOof.tick (hx : NoOof x) : NoOof (Cnt.tick >>= fun _ => x) :=
  fun _ => hx _
theorem NoOof.ite {c : Prop} [Decidable c] (hx : c → NoOof x) (hy : ¬c → NoOof y) : NoOof (if c then x else y) := by
  split
  · exact hx ‹_›
  · exact hy ‹_›

end

/-- DEPTH: with fuel ≥ 2·key_length + 2 the instrumented recursion never reaches a fuel-exhaustion line -/
theorem cnt_no_oof (fuel : Nat) :
    (∀ sl k d pfx, 2 * k.toNat + 2 ≤ fuel → NoOof (parse_cnt fuel sl k d pfx)) ∧
    (∀ cs m d pfx, 0 ≤ m → 2 * m.toNat + 1 ≤ fuel → NoOof (deserialize_hashmap_node_cnt fuel cs m d pfx)) := by
  induction fuel with
  | zero => exact ⟨fun _ _ _ _ h => by omega, fun _ _ _ _ _ h => by omega⟩
  | succ fuel ih =>
    obtain ⟨ihA, ihB⟩ := ih
    constructor
    · intro sl k d pfx hf
      rw [parse_cnt]
      refine NoOof.tick (NoOof.lift _ fun ⟨⟨l, sfx⟩, sl'⟩ hh => ?_)
      have hle := hml_le hh
      exact NoOof.bind (ihB _ _ _ _ (by omega) (by omega)) fun ⟨_, _⟩ => NoOof.pure _
    · intro cs m d pfx hm hf
      rw [deserialize_hashmap_node_cnt]
      refine NoOof.tick (NoOof.ite (fun _ => NoOof.pure _) fun _ => NoOof.bind (NoOof.ite (fun _ => ?_) fun h2 => ?_) fun ⟨_, _⟩ => NoOof.pure _)
      · exact NoOof.bind (NoOof.ite (fun _ => NoOof.pure _) fun _ => NoOof.pure _) fun _ => NoOof.pure _
      · have h : 2 * (m - 1).toNat + 2 ≤ fuel := by omega
        exact NoOof.lift _ fun ⟨_, _⟩ _ => NoOof.bind (ihA _ _ _ _ h) fun ⟨_, _, _⟩ =>
          NoOof.lift _ fun ⟨_, _⟩ _ => NoOof.bind (ihA _ _ _ _ h) fun ⟨_, _, _⟩ => NoOof.pure _

/-! ### the cost model's label reader is the hand model's (hence the regenerated) reader -/
open TonVerif.Model.Cost in
theorem unary_eq : ∀ bits : Bits, Cost.unary bits = readUnary bits := by
  intro bits
  induction bits with
  | nil => rfl
  | cons b t ih => cases b <;> simp [Cost.unary, readUnary, ih]

theorem readLabelRaw_fst (bits : Bits) (m : Int) : (Cost.readLabelRaw bits m).1 = (readHml bits m).map (·.1) := by
  unfold Cost.readLabelRaw readHml
  rcases bits with _ | ⟨b0, r0⟩
  · rfl
  rcases b0 with _ | _
  · simp only [unary_eq, Option.bind_eq_bind]
    rcases readUnary r0 with _ | ⟨n, r1⟩
    · rfl
    · simp only [Option.bind_some, loadBits]
      by_cases h : r1.length < n <;> simp [h]
  rcases r0 with _ | ⟨b1, r1⟩
  · rfl
  rcases b1 with _ | _
  · simp only [loadLen, loadUint, loadBits, Option.bind_eq_bind]
    by_cases h0 : bitLength m.natAbs = 0
    · simp [h0]
    · simp only [h0, beq_iff_eq, if_false, false_or]
      by_cases h1 : r1.length < bitLength m.natAbs
      · simp [h1]
      · simp only [h1, if_false, Option.bind_some]
        by_cases h2 : r1.length - bitLength m.natAbs < natOfBits (r1.take (bitLength m.natAbs)) <;> simp [h2]
  rcases r1 with _ | ⟨v, r2⟩
  · rfl
  · simp only [loadLen, loadUint, Option.bind_eq_bind]
    by_cases h0 : bitLength m.natAbs = 0
    · simp [h0]
    · simp only [h0, beq_iff_eq, if_false, false_or]
      by_cases h1 : r2.length < bitLength m.natAbs <;> simp [h1]

theorem readLabel_fst (bits : Bits) (m : Int) : (Cost.readLabel bits m).1 = (deserializeHml bits m).map (·.1) := by
  have h := readLabelRaw_fst bits m
  unfold Cost.readLabel deserializeHml
  rcases hr : Cost.readLabelRaw bits m with ⟨lo, it⟩
  rw [hr] at h
  simp only at h
  rcases hq : readHml bits m with _ | ⟨n, s, rest⟩
  · rw [hq] at h; simp only [Option.map_none] at h; subst h; rfl
  · rw [hq] at h; simp only [Option.map_some] at h; subst h
    by_cases hgt : (n : Int) > m <;> simp [hgt]


/-! ### the calls of the regenerated recursion are the calls the cost model counts -/

/-- the tree cell of node `v` of a cost-model graph, unfolded to depth `F` (a non-ordinary node becomes a cell of type 1) -/
def unfoldD (g : Cost.DDag) : Nat → Nat → Cell
  | 0, v => match g[v]? with
    | none => .mk (-1) [] []
    | some nd => .mk (if nd.ordinary then -1 else 1) nd.bits []
  | F+1, v => match g[v]? with
    | none => .mk (-1) [] []
    | some nd => .mk (if nd.ordinary then -1 else 1) nd.bits (nd.kids.map (unfoldD g F))

theorem unfold_kids (g : Cost.DDag) (F v : Nat) (nd : Cost.DNode) (h : g[v]? = some nd) :
    unfoldD g (F + 1) v = .mk (if nd.ordinary then -1 else 1) nd.bits (nd.kids.map (unfoldD g F)) := by
  simp [unfoldD, h]

theorem unfold_bits (g : Cost.DDag) (F v : Nat) (nd : Cost.DNode) (h : g[v]? = some nd) :
    ∃ kids, unfoldD g F v = .mk (if nd.ordinary then -1 else 1) nd.bits kids ∧ (0 < F → kids = nd.kids.map (unfoldD g (F - 1))) := by
  cases F with
  | zero => exact ⟨[], by simp [unfoldD, h], fun h0 => absurd h0 (by omega)⟩
  | succ F => exact ⟨_, unfold_kids g F v nd h, fun _ => rfl⟩

/-- from any state `x` reaches no fuel-exhaustion line, makes exactly `c` calls, and returns (`ok`) or raises -/
def Calls {α : Type} (x : Cnt α) (c : Nat) (ok : Bool) : Prop :=
  ∀ s, (x s).2 = ⟨s.calls + c, s.oof⟩ ∧ (x s).1.isSome = ok

section
variable {α β : Type} {x : Cnt α} {f : α → Cnt β} {a : α} {c c' : Nat} {ok : Bool}

theorem Calls.pure : Calls (pure a : Cnt α) 0 true := fun _ => ⟨rfl, rfl⟩
theorem Calls.raise : Calls ((liftM none : Cnt α) >>= f) 0 false := fun _ => ⟨rfl, rfl⟩
theorem Calls.lift (h : Calls (f a) c ok) : Calls ((liftM (some a) : Cnt α) >>= f) c ok := h
theorem Calls.cast (hx : Calls x c ok) (h : c = c') : Calls x c' ok := h ▸ hx
theorem Calls.tick (hx : Calls x c ok) : Calls (Cnt.tick >>= fun _ => x) (c + 1) ok := by
  intro s
  obtain ⟨h1, h2⟩ := hx ⟨s.calls + 1, s.oof⟩
  exact ⟨h1.trans (by rw [Nat.add_assoc, Nat.add_comm 1]), h2⟩
theorem Calls.bind (hx : Calls x c true) (hf : ∀ a, Calls (f a) c' ok) : Calls (x >>= f) (c + c') ok := by
  intro s
  have h := hx s
  rw [Cnt.bind_run]
  generalize x s = r at h ⊢
  obtain ⟨_ | a, s'⟩ := r
  · cases h.2
  · obtain rfl : s' = _ := h.1
    obtain ⟨g1, g2⟩ := hf a ⟨s.calls + c, s.oof⟩
    exact ⟨g1.trans (by rw [Nat.add_assoc]), g2⟩
theorem Calls.bind_raised (hx : Calls x c false) : Calls (x >>= f) c false := by
  intro s
  have h := hx s
  rw [Cnt.bind_run]
  generalize x s = r at h ⊢
  obtain ⟨_ | a, s'⟩ := r
  · exact h
  · cases h.2

theorem Calls.bind_total (hx : Calls x c ok) (hf : ∀ a, Calls (f a) 0 true) : Calls (x >>= f) c ok := by
  cases ok
  · exact hx.bind_raised
  · exact hx.bind hf

end

/-- outcome and calls of an instrumented computation against the cost model's result -/
def Agrees {α : Type} (r : Cost.DRes) (x : Cnt α) : Prop :=
  match r with
  | .done c => Calls x c true
  | .raised c => Calls x c false
  | .oof => False

section
variable {fu : Nat} {sl cs : Py.Slice} {k m : Int} {d : List (Bits × Py.Slice)} {pfx : Bits}

theorem parse_raise (h : deserialize_hml sl k = none) : Calls (parse_cnt (fu + 1) sl k d pfx) 1 false := by
  rw [parse_cnt, h]
  exact Calls.tick Calls.raise

theorem parse_node {l : Nat} {sfx : Bits} {sl' : Py.Slice} (h : deserialize_hml sl k = some ((l, sfx), sl')) {c : Nat} {ok : Bool}
    (hn : Calls (deserialize_hashmap_node_cnt fu sl' (k - l) d (pfx ++ sfx)) c ok) : Calls (parse_cnt (fu + 1) sl k d pfx) (c + 1) ok := by
  rw [parse_cnt, h]
  exact Calls.tick (Calls.lift (hn.bind_total fun ⟨_, _⟩ => Calls.pure))

/-- an exotic cell, or an exhausted key: `deserialize_hashmap_node` returns without a further call -/
theorem node_stop (h : cs.kind ≠ -1 ∨ m = 0) : Calls (deserialize_hashmap_node_cnt (fu + 1) cs m d pfx) 1 true := by
  rw [deserialize_hashmap_node_cnt]
  refine Calls.tick ?_
  by_cases hk : cs.kind ≠ -1
  · rw [if_pos hk]; exact Calls.pure
  · rw [if_neg hk, if_pos (h.resolve_left hk)]
    refine Calls.bind_total (Calls.bind_total ?_ fun _ => Calls.pure) fun ⟨_, _⟩ => Calls.pure
    split <;> exact Calls.pure

/-! an ordinary cell with key bits left: `deserialize_hashmap_node` parses the first two references with one key bit less, and
raises where a reference is missing -/
variable (hk : cs.kind = -1) (hm : m ≠ 0)
include hk hm

theorem fork_none (hr : cs.refs = []) : Calls (deserialize_hashmap_node_cnt (fu + 1) cs m d pfx) 1 false := by
  rw [deserialize_hashmap_node_cnt]
  refine Calls.tick ?_
  rw [if_neg fun h => h hk, if_neg hm]
  refine Calls.bind_total ?_ fun ⟨_, _⟩ => Calls.pure
  rw [loadRef_eq, hr]
  exact Calls.raise

theorem fork_left_raised {t1 : Cell} {rs : List Cell} (hr : cs.refs = t1 :: rs) {c1 : Nat}
    (h1 : ∀ d p, Calls (parse_cnt fu (Py.beginParse t1) (m - 1) d p) c1 false) :
    Calls (deserialize_hashmap_node_cnt (fu + 1) cs m d pfx) (c1 + 1) false := by
  rw [deserialize_hashmap_node_cnt]
  refine Calls.tick ?_
  rw [if_neg fun h => h hk, if_neg hm]
  refine Calls.bind_total ?_ fun ⟨_, _⟩ => Calls.pure
  rw [loadRef_eq, hr]
  exact Calls.lift (h1 _ _).bind_raised

theorem fork_one {t1 : Cell} (hr : cs.refs = [t1]) {c1 : Nat} (h1 : ∀ d p, Calls (parse_cnt fu (Py.beginParse t1) (m - 1) d p) c1 true) :
    Calls (deserialize_hashmap_node_cnt (fu + 1) cs m d pfx) (c1 + 1) false := by
  rw [deserialize_hashmap_node_cnt]
  refine Calls.tick ?_
  rw [if_neg fun h => h hk, if_neg hm]
  refine Calls.bind_total ?_ fun ⟨_, _⟩ => Calls.pure
  rw [loadRef_eq, hr]
  exact Calls.lift (((h1 _ _).bind fun ⟨_, _, _⟩ => Calls.raise).cast (Nat.add_zero c1))

theorem fork_two {t1 t2 : Cell} {rs : List Cell} (hr : cs.refs = t1 :: t2 :: rs) {c1 c2 : Nat} {ok : Bool}
    (h1 : ∀ d p, Calls (parse_cnt fu (Py.beginParse t1) (m - 1) d p) c1 true)
    (h2 : ∀ d p, Calls (parse_cnt fu (Py.beginParse t2) (m - 1) d p) c2 ok) :
    Calls (deserialize_hashmap_node_cnt (fu + 1) cs m d pfx) (c1 + c2 + 1) ok := by
  rw [deserialize_hashmap_node_cnt]
  refine Calls.tick ?_
  rw [if_neg fun h => h hk, if_neg hm]
  refine Calls.bind_total ?_ fun ⟨_, _⟩ => Calls.pure
  rw [loadRef_eq, hr]
  exact Calls.lift ((h1 _ _).bind fun ⟨_, _, _⟩ => Calls.lift ((h2 _ _).bind_total fun ⟨_, _, _⟩ => Calls.pure))

end

/-- BRIDGE.  On the tree unfolded from a (well-formed) cost-model graph the instrumented copy of the REGENERATED recursion makes
exactly the calls `Cost.dictCalls` counts, returns / raises exactly when it says, and never runs out of fuel -/
theorem cnt_bridge (g : Cost.DDag) (hg : ∀ nd ∈ g, ∀ k ∈ nd.kids, k < g.length) :
    ∀ (f v : Nat) (k : Int) (F fuel : Nat) (d : List (Bits × Py.Slice)) (pfx : Bits),
      v < g.length → k.toNat < f → k.toNat ≤ F → 2 * f ≤ fuel →
      Agrees (Cost.dictCalls g f v k) (parse_cnt fuel (Py.beginParse (unfoldD g F v)) k d pfx) := by
  intro f
  induction f with
  | zero => intro v k F fuel d pfx _ h; omega
  | succ f ih =>
    intro v k F fuel d pfx hv hk hF hfuel
    obtain ⟨fu, rfl⟩ : ∃ fu, fuel = fu + 2 := ⟨fuel - 2, by omega⟩
    obtain ⟨nd, hnd⟩ : ∃ nd, g[v]? = some nd := ⟨g[v], by simp [hv]⟩
    obtain ⟨kids, hcell, hkids⟩ := unfold_bits g F v nd hnd
    have hml : deserialize_hml (Py.beginParse (unfoldD g F v)) k =
        (deserializeHml nd.bits k).map fun t => ((t.1, t.2.1), ⟨if nd.ordinary then -1 else 1, t.2.2, kids⟩) := by
      rw [hcell, deserialize_hml_eq]; rfl
    have hfst := readLabel_fst nd.bits k
    rw [Cost.dictCalls]
    simp only [hnd]
    generalize Cost.readLabel nd.bits k = rl at hfst ⊢
    obtain ⟨lo, it⟩ := rl
    rcases hh : deserializeHml nd.bits k with _ | ⟨l, sfx, rest⟩
    · rw [hh] at hfst hml
      obtain rfl : lo = none := hfst
      exact parse_raise hml
    rw [hh] at hfst hml
    obtain rfl : lo = some l := hfst
    dsimp only
    have hle := deserializeHml_le hh
    by_cases hord : nd.ordinary = true
    swap
    · rw [if_pos (by simpa using hord)]
      exact parse_node hml (node_stop (.inl (by simp [hord])))
    rw [if_neg (by simp [hord])]
    by_cases h2 : k - (l : Int) = 0
    · rw [if_pos (by simpa using h2)]
      exact parse_node hml (node_stop (.inr h2))
    rw [if_neg (by simpa using h2)]
    have hkind : (if nd.ordinary then (-1 : Int) else 1) = -1 := if_pos hord
    obtain ⟨F', rfl⟩ : ∃ F', F = F' + 1 := ⟨F - 1, by omega⟩
    obtain rfl := hkids (Nat.succ_pos _)
    have hrec : ∀ a ∈ nd.kids, ∀ d p,
        Agrees (Cost.dictCalls g f a (k - l - 1)) (parse_cnt fu (Py.beginParse (unfoldD g F' a)) (k - l - 1) d p) :=
      fun a ha d p => ih a _ F' fu d p (hg nd (List.mem_of_getElem? hnd) a ha) (by omega) (by omega) (by omega)
    rcases hkd : nd.kids with _ | ⟨a, more⟩
    · exact parse_node hml (fork_none hkind h2 (by rw [hkd]; rfl))
    dsimp only
    have ha := hrec a (by rw [hkd]; exact List.mem_cons_self)
    rcases hc1 : Cost.dictCalls g f a (k - l - 1) with c1 | c1 | _
    · rw [hc1] at ha
      rcases more with _ | ⟨b, more'⟩
      · show Calls _ (2 + c1) false
        exact (parse_node hml (fork_one hkind h2 (by rw [hkd]; rfl) ha)).cast (Nat.add_comm c1 2)
      dsimp only
      have hb := hrec b (by rw [hkd]; simp)
      rcases hc2 : Cost.dictCalls g f b (k - l - 1) with c2 | c2 | _
      · rw [hc2] at hb
        show Calls _ (2 + c1 + c2) _
        exact (parse_node hml (fork_two hkind h2 (by rw [hkd]; rfl) ha hb)).cast (by omega)
      · rw [hc2] at hb
        show Calls _ (2 + c1 + c2) _
        exact (parse_node hml (fork_two hkind h2 (by rw [hkd]; rfl) ha hb)).cast (by omega)
      · rw [hc2] at hb
        exact (hb [] []).elim
    · rw [hc1] at ha
      show Calls _ (2 + c1) false
      exact (parse_node hml (fork_left_raised hkind h2 (by rw [hkd]; rfl) ha)).cast (Nat.add_comm c1 2)
    · rw [hc1] at ha
      exact (ha [] []).elim

end TonVerif.Proofs.SrcHashmapCnt
