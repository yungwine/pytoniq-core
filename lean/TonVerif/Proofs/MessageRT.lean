/- C15 helper lemmas, part 2: the spec decoder inverts the spec encoder (for both `Either` choices) -/
import TonVerif.Proofs.Message

namespace TonVerif.Proofs.Message
open TonVerif TonVerif.Model TonVerif.Spec.Tlb
open TonVerif.Proofs.MsgBits

variable {R : Type} {α β : Type}

/-- decoding the encoding `e` (followed by anything) yields `a` and leaves what followed -/
def RT (e : Enc R) (p : Dec R α) (a : α) : Prop :=
  ∀ c, e = some c → ∀ (tb : Bits) (tr : List R), p (c.1 ++ tb, c.2 ++ tr) = some (a, (tb, tr))

/-- the same for the last piece of a cell -/
def RTend (e : Enc R) (p : Dec R α) (a : α) : Prop :=
  ∀ c, e = some c → p c = some (a, ([], []))

theorem dec_bind_eq (p : Dec R α) (f : α → Dec R β) : (p >>= f) = Dec.bind p f := rfl
theorem dec_pure_eq (a : α) : (pure a : Dec R α) = Dec.pure a := rfl

theorem RT.bind {e1 e2 : Enc R} {p : Dec R α} {f : α → Dec R β} {a : α} {b : β}
    (h1 : RT e1 p a) (h2 : RT e2 (f a) b) : RT (e1 +++ e2) (p >>= f) b := by
  intro c hc tb tr
  obtain ⟨x, y, rfl, rfl, rfl⟩ := Enc.cat_some hc
  have := h1 x rfl (y.1 ++ tb) (y.2 ++ tr)
  simp only [dec_bind_eq, Dec.bind, List.append_assoc, this]
  exact h2 y rfl tb tr

theorem RT.bind_end {e1 e2 : Enc R} {p : Dec R α} {f : α → Dec R β} {a : α} {b : β}
    (h1 : RT e1 p a) (h2 : RTend e2 (f a) b) : RTend (e1 +++ e2) (p >>= f) b := by
  intro c hc
  obtain ⟨x, y, rfl, rfl, rfl⟩ := Enc.cat_some hc
  have := h1 x rfl y.1 y.2
  simp only [dec_bind_eq, Dec.bind, this]
  exact h2 y rfl

theorem RT.ret (a : α) : RT (eNil : Enc R) (pure a) a := by
  intro c hc tb tr; cases hc; simp [dec_pure_eq, Dec.pure]

theorem RT.map {e : Enc R} {p : Dec R α} {a : α} (g : α → β) (h : RT e p a) :
    RT e (p >>= fun x => pure (g x)) (g a) := by
  have := RT.bind (f := fun x => pure (g x)) h (RT.ret (R := R) (g a))
  rwa [Enc.cat_eNil] at this

theorem RT.toEnd {e : Enc R} {p : Dec R α} {a : α} (h : RT e p a) : RTend e p a := by
  intro c hc; have := h c hc [] []; simpa using this

theorem RT.congr {e e' : Enc R} {p : Dec R α} {a : α} (h : RT e p a) (he : e = e') : RT e' p a := he ▸ h

/-! primitives -/

theorem rt_bool (x : Bool) : RT (eBool x : Enc R) dBool x := by
  intro c hc tb tr; cases hc; simp [dBool]

theorem rt_ref (r : R) : RT (eRef r) dRef r := by
  intro c hc tb tr; cases hc; simp [dRef]

theorem dBits_append (xs tb : Bits) (tr : List R) : dBits xs.length (xs ++ tb, tr) = some (xs, (tb, tr)) := by
  simp [dBits]

theorem rt_bits (xs : Bits) : RT (eBits xs : Enc R) (dBits xs.length) xs := by
  intro c hc tb tr; cases hc; simp [dBits]

/-- a well-formed string of `n` bytes is read back from its `n * 8` bits -/
theorem rt_bytesBits (n : Nat) (h : Bytes) (g : Bytes → α) :
    RT (if h.length = n ∧ Bytes.WF h then eBits (bytesToBits h) else none : Enc R)
      (dBits (n * 8) >>= fun x => pure (g (bitsToBytes x))) (g h) := by
  split
  · rename_i hh
    have hlen : (bytesToBits h).length = n * 8 := by rw [bytesToBits_length, hh.1]; omega
    have := RT.map (R := R) (fun x => g (bitsToBytes x)) (rt_bits (R := R) (bytesToBits h))
    rwa [hlen, bitsToBytes_bytesToBits h hh.2] at this
  · intro c hc; simp at hc

theorem rt_uint (n : Nat) (v : Int) : RT (eUint n v : Enc R) (dUint n) v := by
  intro c hc tb tr
  obtain ⟨hf, rfl⟩ := eUint_some hc
  obtain ⟨h0, hv⟩ := (Builder.fitsUint_iff n v).mp hf
  have hd := dBits_append (R := R) (natToBits n v.toNat) tb tr
  rw [natToBits_length] at hd
  simp only [← Bits.natToBits_eq_uintBits, dUint, dec_bind_eq, Dec.bind, List.append_nil, List.nil_append, hd, dec_pure_eq,
    Dec.pure, natOfBits_natToBits n v.toNat hv, Int.toNat_of_nonneg h0]

theorem rt_int (n : Nat) (v : Int) : RT (eInt n v : Enc R) (dInt n) v := by
  intro c hc tb tr
  obtain ⟨⟨hn, hf⟩, rfl⟩ := eInt_some hc
  obtain ⟨k, rfl⟩ : ∃ k, n = k + 1 := ⟨n - 1, by omega⟩
  obtain ⟨x, hx, -, hxlt, hback⟩ := Builder.intBits_twos k v hf
  obtain ⟨tl, htl⟩ := Bits.natToBits_head k x hxlt
  have hd := dBits_append (R := R) (natToBits (k + 1) x) tb tr
  rw [natToBits_length] at hd
  have hnat := natOfBits_natToBits (k + 1) x hxlt
  simp only [hx, ← Bits.natToBits_eq_uintBits, dInt, dec_bind_eq, Dec.bind, List.append_nil, List.nil_append, hd]
  rw [htl] at hnat ⊢
  simp only [dec_pure_eq, Dec.pure, hnat, decide_eq_true_eq, hback]

theorem rt_maybe_none (p : Dec R α) : RT (eBool false : Enc R) (dMaybe p) none := by
  intro c hc tb tr; cases hc
  simp [dMaybe, dec_bind_eq, Dec.bind, dBool, dec_pure_eq, Dec.pure]

theorem rt_maybe_some {e : Enc R} {p : Dec R α} {a : α} (h : RT e p a) : RT (eBool true +++ e) (dMaybe p) (some a) := by
  unfold dMaybe
  refine RT.bind (rt_bool true) ?_
  simp only [if_true]
  exact RT.map some h

theorem rt_maybeRef (o : Option R) : RT (eMaybeRef o) (dMaybe dRef) o := by
  cases o with
  | none => exact rt_maybe_none _
  | some r => exact rt_maybe_some (rt_ref r)

theorem rt_varuint (k : Nat) (v : Int) : RT (eVarUint k v : Enc R) (dVarUint k) v := by
  unfold eVarUint dVarUint
  split
  · refine RT.bind (rt_uint k _) ?_
    simp only [Int.toNat_natCast]
    exact rt_uint _ v
  · intro c hc; simp at hc

theorem rt_grams (v : Int) : RT (eGrams v : Enc R) dGrams v := rt_varuint 4 v

theorem eBits2 (x y : Bool) : (eBits [x, y] : Enc R) = eBool x +++ eBool y := by simp [eBits, eBool, Enc.cat]

theorem dUint_zero : (dUint 0 : Dec R Int) = pure 0 := by
  funext c; simp [dUint, dec_bind_eq, Dec.bind, dBits, dec_pure_eq, Dec.pure, natOfBits]

theorem rt_uint0 : RT (eNil : Enc R) (dUint 0) 0 := dUint_zero ▸ RT.ret 0

theorem rt_addr (a : Addr) (hwf : AddrWF a) : RT (eAddr a : Enc R) dAddr a := by
  cases a with
  | none =>
    simp only [eAddr]; unfold dAddr; rw [eBits2]
    refine RT.bind (rt_bool false) ?_
    intro c hc tb tr; cases hc
    simp [dec_bind_eq, Dec.bind, dBool, dec_pure_eq, Dec.pure]
  | ext len val =>
    simp only [eAddr]; unfold dAddr; rw [eBits2, Enc.cat_assoc]
    refine RT.bind (rt_bool false) (RT.bind (rt_bool true) ?_)
    simp only [Bool.not_false, Bool.not_true, if_true, Bool.false_eq_true, if_false]
    refine RT.bind (rt_uint 9 len) ?_
    simp only [Int.toNat_natCast]
    by_cases h0 : len = 0
    · have hv : val = 0 := hwf h0
      subst h0; subst hv
      simp only [if_true]
      exact RT.map (fun v => Addr.ext 0 v) rt_uint0
    · simp only [h0, if_false]
      exact RT.map (fun v => Addr.ext len v) (rt_uint len val)
  | std anycast wc hash =>
    simp only [eAddr]; unfold dAddr; rw [eBits2, Enc.cat_assoc]
    refine RT.bind (rt_bool true) (RT.bind (rt_bool false) ?_)
    simp only [Bool.not_false, Bool.not_true, if_true, Bool.false_eq_true, if_false]
    refine RT.bind (a := anycast) ?_ (RT.bind (rt_int 8 wc) ?_)
    · cases anycast with
      | none => exact rt_maybe_none _
      | some dp =>
        rcases dp with ⟨d, p⟩
        simp only
        split
        · rename_i hd
          refine rt_maybe_some ?_
          unfold dAnycast
          refine RT.bind (rt_uint 5 d) ?_
          have : ¬ ((d : Int) < 1 ∨ (d : Int) > 30) := by omega
          simp only [this, if_false, Int.toNat_natCast]
          exact RT.map (fun p => (d, p)) (rt_uint d p)
        · intro c hc; simp at hc
    · exact rt_bytesBits 32 hash _

theorem rt_currency (c : Currency R) : RT (encCurrency c) dCurrency c := by
  unfold encCurrency dCurrency
  refine RT.bind (rt_grams _) ?_
  exact RT.map (fun o => (⟨c.grams, o⟩ : Currency R)) (rt_maybeRef c.other)

theorem rt_tickTock (t : TickTock) : RT (encTickTock t : Enc R) dTickTock t := by
  unfold encTickTock dTickTock
  refine RT.bind (rt_bool _) ?_
  exact RT.map (fun b => (⟨t.tick, b⟩ : TickTock)) (rt_bool t.tock)

theorem rt_stateInit (s : StateInit R) : RT (encStateInit s) dStateInit s := by
  unfold encStateInit dStateInit
  refine RT.bind (a := s.splitDepth) ?_ (RT.bind (a := s.special) ?_ (RT.bind (rt_maybeRef s.code) (RT.bind (rt_maybeRef s.data) ?_)))
  · cases s.splitDepth with
    | none => exact rt_maybe_none _
    | some d => exact rt_maybe_some (rt_uint 5 d)
  · cases s.special with
    | none => exact rt_maybe_none _
    | some t => exact rt_maybe_some (rt_tickTock t)
  · exact RT.map (fun l => (⟨s.splitDepth, s.special, s.code, s.data, l⟩ : StateInit R)) (rt_maybeRef s.library)

theorem rt_info (i : Info R) (hwf : i.WF) : RT (encInfo i) dInfo i := by
  cases i with
  | int a b c src dest value ihr fwd lt at_ =>
    simp only [encInfo]; unfold dInfo
    refine RT.bind (rt_bool false) ?_
    simp only [Bool.not_false, if_true]
    refine RT.bind (rt_bool a) <| RT.bind (rt_bool b) <| RT.bind (rt_bool c) <| RT.bind (rt_addr src hwf.1) <|
      RT.bind (rt_addr dest hwf.2) <| RT.bind (rt_currency value) <| RT.bind (rt_grams ihr) <| RT.bind (rt_grams fwd) <|
      RT.bind (rt_uint 64 lt) ?_
    exact RT.map (fun x => Info.int a b c src dest value ihr fwd lt x) (rt_uint 32 at_)
  | extIn src dest fee =>
    simp only [encInfo]; unfold dInfo; rw [eBits2, Enc.cat_assoc]
    refine RT.bind (rt_bool true) ?_
    simp only [Bool.not_true, Bool.false_eq_true, if_false]
    refine RT.bind (rt_bool false) ?_
    simp only [Bool.not_false, if_true]
    refine RT.bind (rt_addr src hwf.1) (RT.bind (rt_addr dest hwf.2) ?_)
    exact RT.map (fun x => Info.extIn src dest x) (rt_grams fee)
  | extOut src dest lt at_ =>
    simp only [encInfo]; unfold dInfo; rw [eBits2, Enc.cat_assoc]
    refine RT.bind (rt_bool true) ?_
    simp only [Bool.not_true, Bool.false_eq_true, if_false]
    refine RT.bind (rt_bool true) ?_
    simp only [Bool.not_true, Bool.false_eq_true, if_false]
    refine RT.bind (rt_addr src hwf.1) (RT.bind (rt_addr dest hwf.2) (RT.bind (rt_uint 64 lt) ?_))
    exact RT.map (fun x => Info.extOut src dest lt x) (rt_uint 32 at_)

/-! the message -/

theorem mkChunk_some {ops : CellOps R} (hl : ops.Lawful) {ch : Chunk R} {c : R} (h : mkChunk ops ch = some c) :
    ops.view c = ch := by
  unfold mkChunk at h
  split at h
  · exact hl _ _ _ h
  · simp at h

theorem rt_init (ops : CellOps R) (hl : ops.Lawful) (init : Option (StateInit R)) (byRef : Bool) :
    RT (encInit ops init byRef) (dInit ops) init := by
  unfold dInit
  cases init with
  | none => exact rt_maybe_none _
  | some s =>
    simp only [encInit]
    cases byRef with
    | false =>
      simp only [Bool.false_eq_true, if_false]
      rw [eBits2, Enc.cat_assoc]
      refine rt_maybe_some (RT.bind (rt_bool false) ?_)
      simp only [Bool.false_eq_true, if_false]
      exact rt_stateInit s
    | true =>
      simp only [if_true]
      rcases hsc : (encStateInit s).bind (mkChunk ops) with _ | c
      · intro c hc; simp at hc
      · simp only
        rw [eBits2, Enc.cat_assoc]
        refine rt_maybe_some (RT.bind (rt_bool true) ?_)
        simp only [if_true]
        obtain ⟨sc, hsc1, hsc2⟩ := Option.bind_eq_some_iff.mp hsc
        have hv := mkChunk_some hl hsc2
        have hdec : decodeWhole dStateInit (ops.view c) = some s := by
          have := (rt_stateInit s).toEnd sc hsc1
          simp [decodeWhole, hv, this]
        have := RT.bind (rt_ref c) (f := fun r => (fun ch => (decodeWhole dStateInit (ops.view r)).map (fun s => (s, ch)) : Dec R (StateInit R)))
          (e2 := eNil) (b := s) (by
            intro ch hch tb tr; cases hch; simp [hdec])
        rwa [Enc.cat_eNil] at this

theorem rt_body (ops : CellOps R) (hl : ops.Lawful) (info : Info R) (init : Option (StateInit R)) (body : Chunk R) (byRef : Bool) :
    RTend (encBody ops body byRef)
      (do
        let e ← dBool
        if e then do
          let r ← dRef
          pure ⟨info, init, ops.view r⟩
        else fun c => some (⟨info, init, c⟩, ([], []))) (⟨info, init, body⟩ : Msg R) := by
  intro ch hch
  unfold encBody at hch
  cases byRef with
  | false =>
    simp only [Bool.false_eq_true, if_false] at hch
    simp [eBool, Enc.cat] at hch
    subst hch
    simp [dec_bind_eq, Dec.bind, dBool]
  | true =>
    simp only [if_true] at hch
    rcases hm : mkChunk ops body with _ | c
    · simp [hm] at hch
    · simp [hm, eBool, eRef, Enc.cat] at hch
      subst hch
      have hv := mkChunk_some hl hm
      simp [dec_bind_eq, Dec.bind, dBool, dRef, dec_pure_eq, Dec.pure, hv]

/-- **spec round trip**: every encoding of a message (both `Either` choices free) decodes to that message -/
theorem spec_roundtrip (ops : CellOps R) (hl : ops.Lawful) (m : Msg R) (hwf : m.info.WF) (initRef bodyRef : Bool) {c : R}
    (h : encMessage ops m initRef bodyRef = some c) : decodeMessage ops c = some m := by
  obtain ⟨ch, hch, hmk⟩ := Option.bind_eq_some_iff.mp h
  have hv := mkChunk_some hl hmk
  have hrt : RTend (encMessageChunk ops m initRef bodyRef) (dMessage ops) m := by
    unfold encMessageChunk dMessage
    refine RT.bind_end (rt_info m.info hwf) (RT.bind_end (rt_init ops hl m.init initRef) ?_)
    exact rt_body ops hl m.info m.init m.body bodyRef
  have := hrt ch hch
  simp [decodeMessage, decodeWhole, hv, this]

end TonVerif.Proofs.Message
