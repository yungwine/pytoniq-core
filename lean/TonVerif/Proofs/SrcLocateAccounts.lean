/-
C11 / locsrc (b), the accounts dictionary: `ShardAccounts.deserialize(accs.begin_parse())[0][key].cell[0]` on the regenerated parsers
(`Rd.loadHashmapAugE 256`, Python dict with decimal-rendered int keys) = `loadShardAccounts srcOpaque accs` + `dictGet key` of the hand model.
-/
import TonVerif.Proofs.SrcLocateDict
namespace TonVerif.Proofs.SrcLocate
open TonVerif TonVerif.Model TonVerif.Tlb TonVerif.Model.Hashmap TonVerif.Proofs.Hashmap TonVerif.Proofs.Locate

/-- the real readers of the accounts dictionary agree -/
theorem readersAgree_accounts :
    ReadersAgree (SrcLoc.ShardAccount false) (SrcBlk.DepthBalanceInfo false) (readShardAccount srcOpaque) readDepthBalance :=
  ⟨depthBalance_rest false, shardAccount_agree⟩

/-- the entry a Python dict built by successive `d[int(key, 2)] = v` holds under `k`: the LAST entry with that key -/
def lastMatch {α : Type} (k : Nat) (e : List (Bits × Option α)) : Option α :=
  (e.reverse.find? fun q => natOfBits q.1 == k).bind (·.2)

theorem intKeys_lastMatch (k : Nat) (kv : List (Bits × PCell)) :
    (dictGet k (intKeys kv)).map tcell = lastMatch k (mdlEntries kv) := by
  rw [dictGet_intKeys]
  simp only [lastMatch, mdlEntries, ← List.map_reverse, List.find?_map]
  show _ = ((kv.reverse.find? fun q => natOfBits q.1 == k).map _).bind _
  cases kv.reverse.find? fun q => natOfBits q.1 == k <;> rfl

theorem nat_toString_inj (a b : Nat) : (toString a == toString b) = (a == b) := by
  by_cases h : a = b
  · simp [h]
  · have : toString a ≠ toString b := fun e => h (Nat.repr_injective e)
    simp [h, this]

theorem lookup_lastMatch (k : Nat) (kv : List (Bits × Val)) :
    (pyDictItem (Rd.dict kv) k).bind cell0 = lastMatch k (srcEntries (kv, ([] : List Val))) := by
  simp only [pyDictItem, Rd.dict, lastMatch, srcEntries, ← List.map_reverse]
  induction kv.reverse with
  | nil => simp
  | cons p t ih =>
    simp only [List.map_cons, List.lookup_cons, List.find?_cons]
    rw [nat_toString_inj]
    by_cases he : natOfBits p.1 = k
    · have : (k == natOfBits p.1) = true := by simp [he]
      simp [he, this]
    · have : (k == natOfBits p.1) = false := by simpa using fun e => he e.symm
      have h2 : (natOfBits p.1 == k) = false := by simpa using he
      simp [h2, this] at ih ⊢
      exact ih

/-- `ShardAccounts.deserialize(accs.begin_parse())[0][key].cell[0]` on the regenerated parsers -/
def srcAccountsLookup (accs : PCell) (key : Nat) : Option Tlb.Cell :=
  (SrcLoc.ShardAccounts (Rd.special (tcell accs)) (Rd.beginParse (tcell accs))).bind fun r =>
    (pyItem0 r.1).bind fun d => (pyDictItem d key).bind cell0

theorem tuple_item0 (a b : Val) : pyItem0 (Rd.tuple [a, b]) = some a := by
  simp [pyItem0, Rd.tuple, Rd.enumFrom, List.lookup]
  rfl

/-- the keys of a parse for 256 key bits are not empty (the model's guard before the dict is built) -/
theorem keys_nonempty {X : Type} {decY : PSlice → Option PSlice} {decX : PSlice → Option X} (c : PCell) (kv : List (Bits × X))
    (h : parseAugP decY decX c 256 [] = some kv) : (kv.any fun p => p.1.isEmpty) = false := by
  rw [List.any_eq_false]
  intro p hp he
  obtain ⟨k', hk, hl, _⟩ := parseAugP_lookup decY decX c 256 [] kv h p.1 p.2 hp
  rw [hk, List.nil_append, List.isEmpty_iff] at he
  rw [he] at hl
  exact absurd hl (by decide)

/-- (b) the accounts dictionary of the walk: regenerated parsers = hand model, for every accounts cell and key -/
theorem accounts_agree (accs : PCell) (key : Nat) :
    srcAccountsLookup accs key = ((loadShardAccounts srcOpaque accs).bind (dictGet key)).map tcell := by
  obtain ⟨info, refs⟩ := accs
  simp only [srcAccountsLookup, tcell_mk, Rd.special, Rd.beginParse, Tlb.Cell.exotic, Tlb.Cell.bits, Tlb.Cell.refs, SrcLoc.ShardAccounts,
    loadShardAccounts, PCell.info, PCell.refs]
  by_cases hk : info.kind = -1
  · simp only [hk, bne_self_eq_false, ne_eq, not_true_eq_false, if_false]
    match info.bits with
    | [] => simp [Rd.loadHashmapAugE, Rd.loadBit]
    | false :: rest =>
      simp only [Rd.loadHashmapAugE, Rd.loadBit, Rd.truthy, Bool.false_eq_true, if_false]
      rcases SrcBlk.DepthBalanceInfo false ⟨rest, tcells refs⟩ with _ | ⟨e, s2⟩
      · simp
      · simp [tuple_item0, pyDictItem, Rd.dict]
    | true :: rest =>
      match refs with
      | [] => simp [Rd.loadHashmapAugE, Rd.loadBit, Rd.truthy, Rd.loadRef, tcells_nil]
      | root :: more =>
        have hw := augWalk_eq readersAgree_accounts 257 256 [] root (by omega)
        obtain ⟨ri, rr⟩ := root
        have h256 : ((256 : Nat) : Int) = 256 := rfl
        rw [tcell_mk, h256] at hw
        simp only [Rd.loadHashmapAugE, Rd.loadBit, Rd.truthy, Rd.loadRef, tcells_cons, tcell_mk, Tlb.Cell.exotic, PCell.info]
        by_cases hrk : ri.kind = -1
        · simp only [hrk, bne_self_eq_false, ne_eq, not_true_eq_false, if_false, Bool.false_eq_true] at hw ⊢
          rcases map_eq_map_cases hw with ⟨hv, hp⟩ | ⟨r, kv, hv, hp, hw⟩
          · simp [hv, hp]
          · have hne := keys_nonempty _ kv hp
            rw [hv, hp]
            rcases readersAgree_accounts.y_cases rest more with ⟨hyv, hdy⟩ | ⟨e, sl, hyv, hdy⟩
            · simp [hyv, hdy, hne]
            · simp only [hyv, hdy, hne, Bool.false_eq_true, if_false, Option.map_some, Option.bind_some, tuple_item0]
              rw [intKeys_lastMatch, ← hw]
              exact lookup_lastMatch key r.1
        · have hb : (ri.kind != -1) = true := by simpa using hrk
          simp only [hb, hrk, ne_eq, not_false_eq_true, if_true]
          rcases SrcBlk.DepthBalanceInfo false ⟨rest, tcells more⟩ with _ | ⟨e, s3⟩ <;> simp [pyItem0]
  · have hb : (info.kind != -1) = true := by simpa using hk
    simp [Rd.loadHashmapAugE, hb, hk, pyItem0, Rd.toCell]

end TonVerif.Proofs.SrcLocate
