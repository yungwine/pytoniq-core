/-
Validity of the pruned tree (C02 second half / C11 completeness): if `t` is spec-valid (`TreeWF`) and lives at
Merkle depth `d ≥ 1` with no level above its Merkle nesting (`mask t < 2^(d-1)`, i.e. level 0 for `d = 1`), then
every pruning `t'` of it (`PruneRel H d t t'`) is spec-valid again, hence constructible, and at EVERY level its depth
is at most that of `t` (pruning never deepens a tree).

Why the depth bound needs an argument: `NodeWF.depthOk` speaks about all levels, while pruning invariance only gives
equality below `d`; a kept cell over new pruned branches gains the significant level `d`, where the new pruned
branches count with depth 0 and the kept children with their depth at a level that is insignificant for them.
-/
import TonVerif.Proofs.Binding

namespace TonVerif.Proofs.PruneWF
open TonVerif TonVerif.Model TonVerif.Proofs.CellSpec TonVerif.Proofs.Prune TonVerif.Proofs.Merkle TonVerif.Proofs.Binding

set_option linter.unusedSimpArgs false
set_option linter.unusedVariables false

/-! ### depth at a level = depth over the children at the highest significant level below -/

theorem plainDepthAt_top (k : Spec.Kind) (ss : List Spec.SInfo) (m : Nat) :
    ∀ l, ∃ L, L ≤ l ∧ sigB m L = true ∧ (∀ j, L ≤ j → j < l → m.testBit j = false) ∧
      Spec.plainDepthAt k ss m l = Spec.depthOver ss (L + k.mu) := by
  intro l
  obtain ⟨L, h1, h2, h3, h4⟩ := top_sig m _ (plainDepthAt_skip k ss m) l
  refine ⟨L, h1, h2, h3, h4.trans ?_⟩
  cases L with
  | zero => rfl
  | succ j =>
    rw [sigB_succ] at h2
    simp only [Spec.plainDepthAt, h2, if_true]

/-! ### mask bits of the children -/

theorem foldl_or_clear : ∀ (ss : List Spec.SInfo) (a j : Nat),
    (ss.foldl (fun m c => m ||| c.mask) a).testBit j = false → a.testBit j = false ∧ ∀ c ∈ ss, c.mask.testBit j = false
  | [], a, j, h => ⟨h, by simp⟩
  | c :: cs, a, j, h => by
    simp only [List.foldl_cons] at h
    obtain ⟨h1, h2⟩ := foldl_or_clear cs (a ||| c.mask) j h
    rw [Nat.testBit_or] at h1
    simp only [Bool.or_eq_false_iff] at h1
    refine ⟨h1.1, ?_⟩
    intro x hx
    rcases List.mem_cons.mp hx with rfl | hx
    · exact h1.2
    · exact h2 x hx

/-- a level that is insignificant for a non-pruned cell is insignificant (one level up below Merkle cells) for all its children -/
theorem kid_bit_clear (k : Spec.Kind) (bits : Bits) (ss : List Spec.SInfo) (j : Nat) (np : k ≠ .pruned)
    (hlib : k = .library → ss = []) (h : (Spec.nodeMask k bits ss).testBit j = false) :
    ∀ c ∈ ss, c.mask.testBit (j + k.mu) = false := by
  cases k with
  | ordinary => exact (foldl_or_clear ss 0 j h).2
  | pruned => exact absurd rfl np
  | library => rw [hlib rfl]; simp
  | merkleProof | merkleUpdate =>
    simp only [Spec.nodeMask] at h
    rw [← Nat.testBit_succ] at h
    exact (foldl_or_clear ss 0 (j+1) h).2

theorem kid_level (k : Spec.Kind) (bits : Bits) (ss : List Spec.SInfo) (n : Nat) (np : k ≠ .pruned)
    (hlib : k = .library → ss = []) (h : Spec.nodeMask k bits ss < 2 ^ n) : ∀ c ∈ ss, c.mask < 2 ^ (n + k.mu) := by
  intro c hc
  apply Nat.lt_pow_two_of_testBit
  intro i hi
  have e : i = (i - k.mu) + k.mu := by omega
  rw [e]
  apply kid_bit_clear k bits ss (i - k.mu) np hlib _ c hc
  exact Nat.testBit_lt_two_pow (Nat.lt_of_lt_of_le h (Nat.pow_le_pow_right (by decide) (by omega)))

/-! ### pointwise depth comparison of children lists -/

def LeList : List Spec.SInfo → List Spec.SInfo → Prop
  | [], [] => True
  | s' :: ss', s :: ss => (∀ l, s'.depthAt l ≤ s.depthAt l) ∧ LeList ss' ss
  | _, _ => False

theorem LeList.maxle : ∀ {ss' ss}, LeList ss' ss → ∀ (x a b : Nat), a ≤ b →
    (ss'.map (fun c => c.depthAt x)).foldl Nat.max a ≤ (ss.map (fun c => c.depthAt x)).foldl Nat.max b
  | [], [], _, _, _, _, h => h
  | s' :: ss', s :: ss, h, x, a, b, hab => by
    simp only [List.map_cons, List.foldl_cons]
    apply LeList.maxle h.2
    have := h.1 x
    show max a (s'.depthAt x) ≤ max b (s.depthAt x)
    omega
  | [], _ :: _, h, _, _, _, _ => h.elim
  | _ :: _, [], h, _, _, _, _ => h.elim

theorem LeList.depthOver_le {ss' ss : List Spec.SInfo} (h : LeList ss' ss) (x : Nat) :
    Spec.depthOver ss' x ≤ Spec.depthOver ss x := by
  cases ss' with
  | nil => cases ss with
    | nil => exact Nat.le_refl _
    | cons _ _ => exact h.elim
  | cons a as => cases ss with
    | nil => exact h.elim
    | cons b bs =>
      have := LeList.maxle h x 0 0 (Nat.le_refl _)
      simp only [Spec.depthOver, List.isEmpty_cons, Bool.false_eq_true, if_false, Spec.maxList]
      omega

/-! ### a kept cell over pruned children is not deeper, at any level -/

theorem node_depth_le (H : Bytes → Bytes) (k : Spec.Kind) (bits : Bits) (ss' ss : List Spec.SInfo) (d : Nat)
    (np : k ≠ .pruned) (hd : 1 ≤ d) (hlib : k = .library → ss = [])
    (hinv : InvList (d + k.mu) ss' ss) (hle : LeList ss' ss) (hmono : ∀ c ∈ ss, Stepwise c.mask c.depthAt)
    (hlev : Spec.nodeMask k bits ss < 2 ^ (d - 1)) :
    ∀ l, (Spec.node H k bits ss').depthAt l ≤ (Spec.node H k bits ss).depthAt l := by
  have hm := nodeMask_inv k bits ss' ss d hinv
  rw [node_plain H k bits ss' np, node_plain H k bits ss np]
  intro l
  show Spec.plainDepthAt k ss' (Spec.nodeMask k bits ss') l ≤ Spec.plainDepthAt k ss (Spec.nodeMask k bits ss) l
  obtain ⟨L', hL'l, sL', cL', eL'⟩ := plainDepthAt_top k ss' (Spec.nodeMask k bits ss') l
  obtain ⟨L, hLl, sL, cL, eL⟩ := plainDepthAt_top k ss (Spec.nodeMask k bits ss) l
  rw [eL', eL]
  have h1 := hle.depthOver_le (L' + k.mu)
  have hmd : Spec.nodeMask k bits ss' % 2 ^ (d - 1) = Spec.nodeMask k bits ss % 2 ^ (d - 1) := hm (d - 1) (by omega)
  have hLL : L ≤ L' := by
    apply Classical.byContradiction
    intro hc
    obtain ⟨j, rfl⟩ : ∃ j, L = j + 1 := ⟨L - 1, by omega⟩
    rw [sigB_succ] at sL
    have hj : j < d - 1 := by
      apply Classical.byContradiction
      intro hjc
      have := Nat.testBit_lt_two_pow (Nat.lt_of_lt_of_le hlev (Nat.pow_le_pow_right (by decide) (show d - 1 ≤ j by omega)))
      rw [this] at sL; cases sL
    have t := testBit_of_mod_eq_lt hmd hj
    have := cL' j (by omega) (by omega)
    rw [t, sL] at this
    cases this
  have hmap : ss.map (fun c => c.depthAt (L' + k.mu)) = ss.map (fun c => c.depthAt (L + k.mu)) := by
    apply List.map_congr_left
    intro c hc
    apply (hmono c hc).const (L + k.mu) (L' + k.mu) (by omega)
    intro x hx1 hx2
    have hx : x = (x - k.mu) + k.mu := by omega
    rw [hx]
    apply kid_bit_clear k bits ss (x - k.mu) np hlib _ c hc
    exact cL (x - k.mu) (by omega) (by omega)
  have : Spec.depthOver ss (L' + k.mu) = Spec.depthOver ss (L + k.mu) := by
    simp only [Spec.depthOver, hmap]
  rw [this] at h1
  exact h1

/-! ### the new pruned-branch cell is spec-valid -/

theorem prunedData_length (d : Nat) (s : Spec.SInfo) (hp : Prunable d s) :
    (prunedData d s).length = 2 + 34 * (popcount (s.mask % 2 ^ (d - 1)) + 1) := by
  obtain ⟨n, rfl⟩ : ∃ n, d = n + 1 := ⟨d - 1, by have := hp.d_pos; omega⟩
  simp only [prunedData, List.length_append, List.length_cons, List.length_nil, length_flatten_const 32 _ hp.hashes_len,
    length_flatten_const 2 _ (depths_len _ s), sigList_length, Nat.add_sub_cancel]
  omega

/-- the pruned branch built for a prunable subtree is a spec-valid cell (16 + 272·k bits ≤ 1023 is automatic, k ≤ 3) -/
theorem prunedCell_wf (H : Bytes → Bytes) (d : Nat) (s : Spec.SInfo) (hp : Prunable d s) : TreeWF H (prunedCell d s) := by
  unfold prunedCell
  rw [TreeWF]
  refine ⟨by simp [TreesWF], .pruned, [], by decide, by simp [specInfos], ?_⟩
  have hlen := prunedData_length d s hp
  have hpc := popcount_mod_le_n s.mask (d - 1)
  have hd3 := hp.d_le
  have hmask := prunedCell_mask d s hp
  refine ⟨?_, by simp, by simp, by simp, ?_, by simp, by simp, by simp⟩
  · rw [length_bytesToBits, hlen]; omega
  · intro _
    refine ⟨rfl, ?_, ?_, ?_⟩
    · rw [length_bytesToBits, hlen]; omega
    · rw [hmask]; exact pmask_pos d s.mask
    · rw [hmask]; have := pmask_lt d s.mask hp.d_le; omega

/-- ... and at no level deeper than the subtree it stands for -/
theorem prunedCell_depth_le (H : Bytes → Bytes) (d : Nat) (s : Spec.SInfo) (hp : Prunable d s) :
    ∀ l, (Spec.node H .pruned (bytesToBits (prunedData d s)) []).depthAt l ≤ s.depthAt l := by
  intro l
  by_cases hl : l < d
  · rw [(prunedCell_inv H d s hp l hl).2.1]
    exact Nat.le_refl _
  · have hlt : pmask d s.mask < 2 ^ l :=
      Nat.lt_of_lt_of_le (pmask_lt_pow d s.mask hp.d_pos) (Nat.pow_le_pow_right (by decide) (by omega))
    show Spec.prunedDepthAt _ (Spec.nodeMask .pruned _ []) l ≤ _
    rw [prunedCell_mask d s hp]
    simp [Spec.prunedDepthAt, Nat.mod_eq_of_lt hlt]

/-! ### level masks of spec-valid cells -/

theorem treeWF_node {H : Bytes → Bytes} {kind : Int} {bits : Bits} {refs : List Cell} (wf : TreeWF H (.mk kind bits refs)) :
    TreesWF H refs ∧ ∃ k ks, kindOf kind = some k ∧ specInfos H refs = some ks ∧ NodeWF H k bits ks := by
  rw [TreeWF] at wf; exact wf

theorem treeWF_mask_le (H : Bytes → Bytes) : ∀ (c : Cell) (s : Spec.SInfo), TreeWF H c → specInfo H c = some s → s.mask ≤ 7
  | .mk kind bits refs, s, wf, hs => by
    obtain ⟨_, k, ks, hk, hks, nwf⟩ := treeWF_node wf
    rw [specInfo_eq H hk hks] at hs; cases hs
    rw [node_mask]; exact nodeWF_mask_le nwf

theorem treesWF_mask_le (H : Bytes → Bytes) : ∀ (cs : List Cell) (ss : List Spec.SInfo), TreesWF H cs →
    specInfos H cs = some ss → ∀ c ∈ ss, c.mask ≤ 7 :=
  specInfos_forall H (fun c cs h => by rwa [TreesWF] at h) (treeWF_mask_le H)

/-! ### trees -/

mutual
  theorem prune_wf_aux (H : Bytes → Bytes) : ∀ (t : Cell) (d : Nat) (t' : Cell) (s : Spec.SInfo), 1 ≤ d → TreeWF H t →
      PruneRel H d t t' → specInfo H t = some s → s.mask < 2 ^ (d - 1) →
      TreeWF H t' ∧ ∀ s', specInfo H t' = some s' → ∀ l, s'.depthAt l ≤ s.depthAt l
    | .mk kind bits refs, d, t', s, hd, wf, hrel, hs, hlev => by
      rw [PruneRel] at hrel
      rcases hrel with ⟨s0, hs0, hp, rfl⟩ | ⟨k, refs', hk, rfl, hrels⟩
      · rw [hs] at hs0; cases hs0
        refine ⟨prunedCell_wf H d s hp, ?_⟩
        intro s' hs'
        rw [specInfo_prunedCell] at hs'; cases hs'
        exact prunedCell_depth_le H d s hp
      · obtain ⟨wfs, k0, ks, hk0, hks, nwf⟩ := treeWF_node wf
        rw [hk] at hk0; cases hk0
        by_cases np : k = .pruned
        · -- a pruned branch has no children: nothing below it can be pruned
          have hr : refs = [] :=
            List.eq_nil_of_length_eq_zero (by rw [← specInfos_length H refs ks hks, (nwf.pruned np).1]; rfl)
          subst hr
          rw [PruneRels] at hrels
          subst hrels
          exact ⟨wf, fun s' hs' l => by rw [hs] at hs'; cases hs'; exact Nat.le_refl _⟩
        rw [specInfo_eq H hk hks] at hs; cases hs
        rw [node_mask] at hlev
        have hkids : ∀ c ∈ ks, c.mask < 2 ^ (d + k.mu - 1) := by
          rw [show d + k.mu - 1 = d - 1 + k.mu by omega]
          exact kid_level k bits ks (d - 1) np nwf.library hlev
        obtain ⟨wfs', hles⟩ := prunes_wf_aux H refs (d + k.mu) refs' ks (by omega) wfs hrels hks hkids
        obtain ⟨ss', hss', hinv⟩ := prunes_inv_aux H refs (d + k.mu) refs' ks hrels hks
        have hlen := hinv.length_eq
        have hdepth := node_depth_le H k bits ss' ks d np hd nwf.library hinv (hles ss' hss')
          (fun c hc => (specInfos_stepwise H refs ks hks c hc).2) hlev
        have nwf' : NodeWF H k bits ss' :=
          { bitsLen := nwf.bitsLen
            nrefs := by rw [hlen]; exact nwf.nrefs
            kidsMask := treesWF_mask_le H refs' ss' wfs' hss'
            depthOk := fun _ l => Nat.le_trans (hdepth l) (nwf.depthOk np l)
            pruned := fun hp => absurd hp np
            library := fun hp => List.eq_nil_of_length_eq_zero (by rw [hlen, nwf.library hp]; rfl)
            mproof := fun hp => by rw [hlen]; exact nwf.mproof hp
            mupdate := fun hp => by rw [hlen]; exact nwf.mupdate hp }
        refine ⟨by rw [TreeWF]; exact ⟨wfs', k, ss', hk, hss', nwf'⟩, fun s' hs' => ?_⟩
        rw [specInfo_eq H hk hss'] at hs'; cases hs'
        exact hdepth
  theorem prunes_wf_aux (H : Bytes → Bytes) : ∀ (ts : List Cell) (d : Nat) (ts' : List Cell) (ss : List Spec.SInfo), 1 ≤ d →
      TreesWF H ts → PruneRels H d ts ts' → specInfos H ts = some ss → (∀ c ∈ ss, c.mask < 2 ^ (d - 1)) →
      TreesWF H ts' ∧ ∀ ss', specInfos H ts' = some ss' → LeList ss' ss
    | [], d, ts', ss, _, _, hrel, hs, _ => by
      rw [PruneRels] at hrel
      subst hrel
      simp only [specInfos, Option.some.injEq] at hs
      subst hs
      refine ⟨by simp [TreesWF], ?_⟩
      intro ss' hss'
      simp only [specInfos, Option.some.injEq] at hss'
      subst hss'
      trivial
    | t :: ts, d, ts', ss, hd, wf, hrel, hs, hlev => by
      rw [PruneRels] at hrel
      obtain ⟨t', ts'', rfl, h1, h2⟩ := hrel
      obtain ⟨s, ss0, hst, hsts, rfl⟩ := specInfos_cons H t ts ss hs
      rw [TreesWF] at wf
      obtain ⟨w1, l1⟩ := prune_wf_aux H t d t' s hd wf.1 h1 hst (hlev s (by simp))
      obtain ⟨w2, l2⟩ := prunes_wf_aux H ts d ts'' ss0 hd wf.2 h2 hsts (fun c hc => hlev c (by simp [hc]))
      refine ⟨by rw [TreesWF]; exact ⟨w1, w2⟩, ?_⟩
      intro ss' hss'
      obtain ⟨s', ss0', hst', hsts', rfl⟩ := specInfos_cons H t' ts'' ss' hss'
      exact ⟨l1 s' hst', l2 ss0' hsts'⟩
end

theorem depthOver_single (c : Spec.SInfo) (x : Nat) : Spec.depthOver [c] x = 1 + c.depthAt x := by
  show 1 + max 0 (c.depthAt x) = 1 + c.depthAt x
  omega

/-- a cell of level 0 has the same depth at every level -/
theorem depth_level0 (H : Bytes → Bytes) (t : Cell) (s : Spec.SInfo) (hs : specInfo H t = some s) (hlev : s.mask = 0) :
    ∀ l, s.depthAt l = s.depthAt 0 := by
  intro l
  exact (specInfo_stepwise H t s hs).2.const 0 l (Nat.zero_le _) (fun x _ _ => by rw [hlev]; simp)

/-- VALIDITY OF THE PRUNED TREE. `t` spec-valid at Merkle depth `d ≥ 1`, of level below its Merkle nesting
(`mask < 2^(d-1)`: level 0 for `d = 1`), `t'` any pruning of it: `t'` is spec-valid (so it can be constructed,
`tree_agrees`), and at every level `t'` is at most as deep as `t`. -/
theorem prune_treeWF (H : Bytes → Bytes) (d : Nat) (t t' : Cell) (s : Spec.SInfo) (hd : 1 ≤ d) (wf : TreeWF H t)
    (hs : specInfo H t = some s) (hlev : s.mask < 2 ^ (d - 1)) (hrel : PruneRel H d t t') :
    TreeWF H t' ∧ ∀ s', specInfo H t' = some s' → ∀ l, s'.depthAt l ≤ s.depthAt l :=
  prune_wf_aux H t d t' s hd wf hrel hs hlev

end TonVerif.Proofs.PruneWF
