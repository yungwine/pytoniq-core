/-
Snake data (`store_snake_bytes` / `load_snake_bytes`): helper lemmas for C06.
-/
import TonVerif.Proofs.Slice

namespace TonVerif.Proofs.Snake
open TonVerif TonVerif.Model TonVerif.Spec.Tlb TonVerif.Proofs.Bits TonVerif.Proofs.Builder TonVerif.Proofs.Slice
variable {R : Type}

theorem storeSnakeFuel_succ (mk : Bits → List R → Option R) (fuel : Nat) (value : Bytes) (b : Builder R) :
    BOp.storeSnakeFuel mk (fuel + 1) value b =
      if value.isEmpty then (b, true) else
      if value.length ≤ (1023 - b.bits.length) / 8 then BOp.storeBytes value b else
      if (!(BOp.storeBytes (value.take ((1023 - b.bits.length) / 8)) b).2) = true then
        BOp.storeBytes (value.take ((1023 - b.bits.length) / 8)) b else
      if (!(BOp.storeSnakeFuel mk fuel (value.drop ((1023 - b.bits.length) / 8)) Builder.empty).2) = true then
        ((BOp.storeBytes (value.take ((1023 - b.bits.length) / 8)) b).1, false) else
      match mk (BOp.storeSnakeFuel mk fuel (value.drop ((1023 - b.bits.length) / 8)) Builder.empty).1.bits
               (BOp.storeSnakeFuel mk fuel (value.drop ((1023 - b.bits.length) / 8)) Builder.empty).1.refs with
      | none => ((BOp.storeBytes (value.take ((1023 - b.bits.length) / 8)) b).1, false)
      | some c => BOp.storeRef c (BOp.storeBytes (value.take ((1023 - b.bits.length) / 8)) b).1 := rfl

theorem storeBytes_fits (bs : Bytes) (b : Builder R) (h : b.bits.length + 8 * bs.length ≤ 1023) :
    BOp.storeBytes bs b = (⟨b.bits ++ bytesToBits bs, b.refs⟩, true) := by
  unfold BOp.storeBytes BOp.extend
  have : ¬ (b.bits.length + 8 * bs.length > 1023) := by omega
  simp [this]

theorem wf_take {bs : Bytes} (h : Bytes.WF bs) (n : Nat) : Bytes.WF (bs.take n) :=
  fun x hx => h x (List.mem_of_mem_take hx)
theorem wf_drop {bs : Bytes} (h : Bytes.WF bs) (n : Nat) : Bytes.WF (bs.drop n) :=
  fun x hx => h x (List.mem_of_mem_drop hx)

theorem loadAll_bytes (bs : Bytes) (h : Bytes.WF bs) (refs : List R) :
    SOp.loadBytes bs.length ⟨bytesToBits bs, refs⟩ = (⟨[], refs⟩, some bs) := by
  have := (reads_loadBytes (R := R) bs h).run [] refs
  rwa [← bytesToBits_eq_bytesBits, List.append_nil] at this

theorem bytesToBits_aligned (bs : Bytes) : (bytesToBits bs).length % 8 = 0 := by
  rw [bytesToBits_length]; omega

/-- `load_snake_bytes` on the last cell of a chain: its bytes -/
theorem loadSnakeFuel_last (view : R → Bits × List R) (f : Nat) (hd : Bytes) (hw : Bytes.WF hd) :
    SOp.loadSnakeFuel view (f + 1) ⟨bytesToBits hd, []⟩ = (⟨[], []⟩, some hd) := by
  simp [SOp.loadSnakeFuel, loadAll_bytes hd hw]

/-- … and on a cell with a continuation `c`: its bytes, then what the reader returns on `c` -/
theorem loadSnakeFuel_cons (view : R → Bits × List R) (f : Nat) (hd tl : Bytes) (hw : Bytes.WF hd) (c : R)
    (h : (SOp.loadSnakeFuel view f ⟨(view c).1, (view c).2⟩).2 = some tl) :
    (SOp.loadSnakeFuel view (f + 1) ⟨bytesToBits hd, [c]⟩).2 = some (hd ++ tl) := by
  cases hx : SOp.loadSnakeFuel view f ⟨(view c).1, (view c).2⟩ with
  | mk sx rx =>
    rw [hx] at h
    obtain rfl : rx = some tl := h
    simp [SOp.loadSnakeFuel, loadAll_bytes hd hw, SOp.loadRef, hx]

/-! ### chains: the cells under the first one, built from the end -/

/-- the cell of a chain of chunks, built from its END as `store_snake_bytes` does (each chunk's cell refers to the cell of the
chunks after it); outer `none` = an `end_cell` raised, `some none` = no chunk, no cell -/
def chainOf (mk : Bits → List R → Option R) : List Bytes → Option (Option R)
  | [] => some none
  | c :: cs => (chainOf mk cs).bind fun t => (mk (bytesToBits c) t.toList).map some

theorem chainOf_cons_some {mk : Bits → List R → Option R} {c : Bytes} {cs : List Bytes} {t : Option R}
    (h : chainOf mk (c :: cs) = some t) :
    ∃ t' x, chainOf mk cs = some t' ∧ mk (bytesToBits c) t'.toList = some x ∧ t = some x := by
  simp only [chainOf, Option.bind_eq_some_iff, Option.map_eq_some_iff] at h
  obtain ⟨t', ht', x, hx, rfl⟩ := h
  exact ⟨t', x, ht', hx, rfl⟩

/-- a cell constructor that never fails builds every chain -/
theorem chainOf_total (mk : Bits → List R → Option R) (hmk : ∀ bits refs, (mk bits refs).isSome) :
    ∀ cs, ∃ t, chainOf mk cs = some t
  | [] => ⟨none, rfl⟩
  | c :: cs => by
    obtain ⟨t, ht⟩ := chainOf_total mk hmk cs
    obtain ⟨x, hx⟩ := Option.isSome_iff_exists.mp (hmk (bytesToBits c) t.toList)
    exact ⟨some x, by simp [chainOf, ht, hx]⟩

/-- what `store_snake_bytes` leaves in the builder: the bytes that fit, then a reference to the chain of the rest -/
def hang (b : Builder R) (hd : Bytes) : Option (Option R) → Builder R × Bool
  | none => (⟨b.bits ++ bytesToBits hd, b.refs⟩, false)
  | some none => (⟨b.bits ++ bytesToBits hd, b.refs⟩, true)
  | some (some c) => BOp.storeRef c ⟨b.bits ++ bytesToBits hd, b.refs⟩

/-- a chain hung into an empty builder: the cell `store_snake_bytes` then asks `end_cell` for -/
theorem hang_empty (hd : Bytes) (t : Option R) : hang Builder.empty hd (some t) = (⟨bytesToBits hd, t.toList⟩, true) := by
  cases t <;> rfl

theorem hang_some (b : Builder R) (hd : Bytes) (t : Option R) (hr : b.refs.length < 4) : (hang b hd (some t)).2 = true := by
  cases t with
  | none => rfl
  | some c => simp only [hang, BOp.storeRef]; rw [if_neg (by omega)]

theorem hang_ok {b b' : Builder R} {hd : Bytes} {t : Option (Option R)} (h : hang b hd t = (b', true)) :
    ∃ c, t = some c ∧ b' = ⟨b.bits ++ bytesToBits hd, b.refs ++ c.toList⟩ := by
  match t with
  | none => cases h
  | some none => exact ⟨none, rfl, by simpa [hang, eq_comm] using congrArg Prod.fst h⟩
  | some (some c) =>
    refine ⟨some c, rfl, ?_⟩
    simp only [hang, BOp.storeRef] at h
    split at h
    · cases h
    · exact (congrArg Prod.fst h).symm

/-- reading a chain back: the bytes of the first cell, then the chunks -/
theorem load_chain (mk : Bits → List R → Option R) (view : R → Bits × List R)
    (hv : ∀ bits refs c, mk bits refs = some c → view c = (bits, refs)) :
    ∀ (cs : List Bytes) (hd : Bytes) (t : Option R), Bytes.WF hd → (∀ c ∈ cs, Bytes.WF c) → chainOf mk cs = some t →
      ∀ fuel, cs.length < fuel → (SOp.loadSnakeFuel view fuel ⟨bytesToBits hd, t.toList⟩).2 = some (hd ++ cs.flatten) := by
  intro cs
  induction cs with
  | nil =>
    intro hd t hw _ h fuel hf
    obtain ⟨f, rfl⟩ : ∃ f, fuel = f + 1 := ⟨fuel - 1, by omega⟩
    obtain rfl : none = t := Option.some.inj h
    rw [Option.toList, loadSnakeFuel_last view f hd hw, List.flatten_nil, List.append_nil]
  | cons c cs ih =>
    intro hd t hw hws h fuel hf
    obtain ⟨f, rfl⟩ : ∃ f, fuel = f + 1 := ⟨fuel - 1, by omega⟩
    obtain ⟨t', x, ht', hx, rfl⟩ := chainOf_cons_some h
    have := ih c t' (hws c (by simp)) (fun d hd => hws d (by simp [hd])) ht' f (by simpa using hf)
    rw [← (hv _ _ _ hx ▸ rfl : (view x).1 = bytesToBits c), ← (hv _ _ _ hx ▸ rfl : (view x).2 = t'.toList)] at this
    exact loadSnakeFuel_cons view f hd _ hw x this

/-- a chain read as a tree by `toS` is the TL-B `SnakeData` chain of its chunks -/
theorem chainOf_toS (mk : Bits → List R → Option R) (toS : R → SCell)
    (hmk : ∀ bits refs c, mk bits refs = some c → toS c = .mk bits (refs.map toS)) :
    ∀ (cs : List Bytes) (t : Option R) (hd : Bits), chainOf mk cs = some t →
      SCell.mk hd (t.toList.map toS) = snakeCell hd (cs.map bytesToBits) := by
  intro cs
  induction cs with
  | nil => intro t hd h; obtain rfl : none = t := Option.some.inj h; rfl
  | cons c cs ih =>
    intro t hd h
    obtain ⟨t', x, ht', hx, rfl⟩ := chainOf_cons_some h
    show SCell.mk hd [toS x] = _
    rw [hmk _ _ _ hx, ih t' _ ht']; rfl

end TonVerif.Proofs.Snake
