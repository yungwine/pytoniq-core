/-
The generated TL table has no cycle of bare references: below every bundled constructor bare references nest at
most 5 deep. The depth check is evaluated by the kernel with constructors looked up by name in 16 buckets instead
of the whole table; the check with any lookup that agrees with `Table.byName` is the check of the model.
-/
import TonVerif.Model.TlNorm
import TonVerif.Generated.TlTable

namespace TonVerif.Proofs.TlBare
open TonVerif TonVerif.Spec.Tl TonVerif.Model.Tl TonVerif.Generated.Tl

/-- `bareArgsOK` with the lookup by name as a parameter. -/
def bareArgsOKBy (look : Nat → Option Ctor) : Nat → List Arg → Bool
  | 0, _ => false
  | k+1, args => args.all (fun a =>
      match a.ty with
      | .bare n =>
        match look n with
        | some c => bareArgsOKBy look k c.args
        | none => true
      | _ => true)

theorem bareArgsOKBy_eq (T : Table) (look : Nat → Option Ctor) (h : ∀ n, look n = T.byName n) (k : Nat) (args : List Arg) :
    bareArgsOKBy look k args = bareArgsOK T k args := by
  induction k generalizing args with
  | zero => rfl
  | succ k ih =>
    simp only [bareArgsOKBy, bareArgsOK, h, ih]
    rfl

/-! ### lookup by a key (name or id) in residue classes

`T.byName` and `T.byId` walk the whole table; the kernel evaluations over the generated table (here, in TlVec and in TlTable)
look a constructor up in the class of its key instead. -/

/-- the constructors in lookup order (last first), sorted into the `k` residue classes of their keys. -/
def buckets (key : Ctor → Nat) (k : Nat) (T : Table) : List (List Ctor) :=
  (List.range k).map fun r => T.ctors.reverse.filter (fun c => Nat.beq (key c % k) r)

/-- the last constructor with key `n`, searched in the class of `n` only. -/
def lookBy (key : Ctor → Nat) (bs : List (List Ctor)) (k n : Nat) : Option Ctor :=
  (bs[n % k]?).bind (·.find? (fun c => key c == n))

/-- the right side is `T.byName n` for `key = (·.name)` and `T.byId n` for `key = (·.id)`, by unfolding. -/
theorem lookBy_eq (key : Ctor → Nat) (T : Table) {k : Nat} (hk : 0 < k) (n : Nat) :
    lookBy key (buckets key k T) k n = T.ctors.reverse.find? (fun c => key c == n) := by
  have hn := Nat.mod_lt n hk
  simp only [lookBy, buckets, List.getElem?_map, List.getElem?_range hn, Option.map_some, Option.bind_some,
    List.find?_filter]
  congr 1
  funext c
  by_cases h : key c = n <;> simp [h]

/-! ### the bundled table -/

def look16 : Nat → Option Ctor := lookBy (·.name) (buckets (·.name) 16 table) 16

theorem look16_eq (k : Nat) (args : List Arg) : bareArgsOKBy look16 k args = bareArgsOK table k args :=
  bareArgsOKBy_eq table _ (lookBy_eq _ table (by decide)) k args

theorem bare_all : ctors.all (fun c => bareArgsOKBy look16 5 c.args) = true := by decide +kernel

theorem no_bare_cycle : NoBareCycle table 5 := fun c hc => look16_eq 5 c.args ▸ List.all_eq_true.mp bare_all c hc

/-- 5 is the least such depth. -/
theorem bare_4_fails : ctors.all (fun c => bareArgsOK table 4 c.args) = false := by
  simp only [← look16_eq]
  decide +kernel

end TonVerif.Proofs.TlBare
