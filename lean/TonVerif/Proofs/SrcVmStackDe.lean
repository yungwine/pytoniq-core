/-
The deserialisers of pytoniq_core/tlb/vm_stack.py as regenerated from the source (Generated/VmStackSrc.lean) equal the hand
model's parsers `Model.Vm.De.*` for ALL slices and every recursion budget: same decision to raise, same value, same slice
state afterwards (also after a failure).  Generation dependent.
-/
import TonVerif.Generated.VmStackSrc
import TonVerif.Model.VmStack
import TonVerif.Proofs.SrcSOp
set_option linter.unusedSimpArgs false
namespace TonVerif.Proofs.SrcVmDe
open TonVerif TonVerif.Model TonVerif.Model.Vm TonVerif.Spec.Vm TonVerif.Generated.VmStackSrc TonVerif.Proofs.SrcSOp

variable {R : Type} {view : R → Bits × List R} {ord : R → Bool}

theorem cellSlice_eq : VmCellSlice_deserialize view ord = De.cellSlice view := by
  unfold VmCellSlice_deserialize De.cellSlice
  sop_norm []
  rfl

theorem saveList_eq : VmSaveList_deserialize view ord = (SOp.loadMaybeRef : SOp R (Option R)) := by
  unfold VmSaveList_deserialize
  sop_norm []

/-- what the regenerated `VmCont.deserialize` computes, in terms of the hand model: Python returns `None` when no constructor
    tag matches (the hand model's `De.cont` has no value for that and fails; `De.val` tests `contTagKnown` first) -/
def contOpt (view : R → Bits × List R) (ord : R → Bool) : Nat → SOp R (Option (Cont R))
  | 0 => SOp.fail
  | f + 1 => fun s =>
    if De.contTagKnown s then ((De.cont view ord (f + 1) s).1, (De.cont view ord (f + 1) s).2.map some) else (s, some none)

theorem mapSome_eq_bind {α : Type} (X : SOp R α) (s : Slice R) :
    ((X s).1, (X s).2.map some) = SOp.bind X (fun a => SOp.pure (some a)) s := by
  unfold SOp.bind; rcases X s with ⟨s1, _ | a⟩ <;> rfl

theorem cont_unknown (f : Nat) (s : Slice R) (h : De.contTagKnown s = false) : (De.cont view ord (f + 1) s).2 = none := by
  simp only [De.contTagKnown, De.contTags, List.any_cons, List.any_nil, Bool.or_false, Bool.or_eq_false_iff] at h
  rw [De.cont]
  simp [h]

theorem cont_unknown' (f : Nat) (s : Slice R) (h : De.contTagKnown s = false) : (De.cont view ord f s).2 = none := by
  cases f with
  | zero => rfl
  | succ f => exact cont_unknown f s h

/-- a sub-continuation: `cls.deserialize(cell_slice.load_ref().begin_parse())` used where a continuation is required -/
theorem sub_unNone {β : Type} (f : Nat) (c : R) (K : Cont R → SOp R β) :
    SOp.bind (De.sub view (contOpt view ord f) c) (fun r => SOp.bind (Py.Tlb.unNone r) K) =
      SOp.bind (De.sub view (De.cont view ord f) c) K := by
  funext s
  cases f with
  | zero => rfl
  | succ f =>
    simp only [SOp.bind, De.sub, contOpt, Py.Tlb.unNone, SOp.ofOption]
    by_cases hk : De.contTagKnown (⟨(view c).1, (view c).2⟩ : Slice R) = true
    · simp only [hk, if_true]
      rcases (De.cont view ord (f + 1) ⟨(view c).1, (view c).2⟩).2 with _ | k <;> rfl
    · simp only [hk]
      rw [cont_unknown f _ (by simpa using hk)]
      rfl

/-- the `vm_stk_cont` branch of `VmStackValue.deserialize` -/
theorem val_cont_branch (f : Nat) :
    SOp.bind (contOpt view ord f) (fun r => SOp.pure (Py.Tlb.valOfOptCont r)) =
      SOp.bind (fun s' => (s', some (De.contTagKnown s'))) (fun known =>
        if known = true then SOp.bind (De.cont view ord f) (fun k => SOp.pure (Val.cont k))
        else (if f = 0 then SOp.fail else SOp.pure Val.null)) := by
  funext s
  cases f with
  | zero =>
    by_cases hk : De.contTagKnown s = true <;> simp [SOp.bind, contOpt, hk, De.cont, SOp.fail]
  | succ f =>
    by_cases hk : De.contTagKnown s = true
    · simp only [SOp.bind, contOpt, hk, if_true]
      generalize De.cont view ord (f + 1) s = r
      rcases r with ⟨s1, _ | k⟩ <;> rfl
    · simp [SOp.bind, contOpt, hk, SOp.pure, Py.Tlb.valOfOptCont]

theorem cast_succ_sub_one (m : Nat) : ((m + 1 : Nat) : Int) - (1 : Int) = (m : Int) := by omega

/-! ### one level of the recursion: every method at budget `f + 1`, given all methods at budget `f` -/

theorem tuple_step (f : Nat) (ihV : VmStackValue_deserialize view ord f = De.val view ord f)
    (ihTR : ∀ n : Nat, VmTupleRef_deserialize view ord f (n : Int) = De.tupleRef view ord f n) (n : Nat) :
    VmTuple_deserialize view ord (f + 1) (n : Int) = De.tuple view ord (f + 1) n := by
  cases n with
  | zero => simp [VmTuple_deserialize, De.tuple, pure_def]
  | succ m =>
    have h0 : ¬ ((m + 1 : Nat) : Int) = 0 := by omega
    rw [VmTuple_deserialize, De.tuple]
    simp only [h0, if_false, Nat.succ_ne_zero, cast_succ_sub_one, ihV, ihTR, Nat.add_sub_cancel, Py.RL.push]

theorem tupleRef_step (f : Nat) (ihV : VmStackValue_deserialize view ord f = De.val view ord f)
    (ihT : ∀ n : Nat, VmTuple_deserialize view ord f (n : Int) = De.tuple view ord f n) (n : Nat) :
    VmTupleRef_deserialize view ord (f + 1) (n : Int) = De.tupleRef view ord (f + 1) n := by
  rcases n with _ | _ | m
  · simp [VmTupleRef_deserialize, De.tupleRef, pure_def]
  · rw [VmTupleRef_deserialize, De.tupleRef]
    simp only [ihV]
    simp [bind_def, pure_def, sop_bind_assoc, sop_bind_pure, sop_pure_bind]
  · have h0 : ¬ ((m + 1 + 1 : Nat) : Int) = 0 := by omega
    have h1 : ¬ ((m + 1 + 1 : Nat) : Int) = 1 := by omega
    rw [VmTupleRef_deserialize, De.tupleRef]
    simp only [h0, h1, if_false, ihT]
    simp [bind_def, pure_def, sop_bind_assoc, sop_bind_pure, sop_pure_bind]

theorem stackList_step (f : Nat) (ihV : VmStackValue_deserialize view ord f = De.val view ord f)
    (ihL : ∀ n : Nat, VmStackList_deserialize view ord f (n : Int) = De.stackList view ord f n) (n : Nat) :
    VmStackList_deserialize view ord (f + 1) (n : Int) = De.stackList view ord (f + 1) n := by
  cases n with
  | zero => simp [VmStackList_deserialize, De.stackList, pure_def]
  | succ m =>
    have h0 : ¬ ((m + 1 : Nat) : Int) = 0 := by omega
    rw [VmStackList_deserialize, De.stackList]
    simp only [h0, if_false, Nat.succ_ne_zero, cast_succ_sub_one, ihV, ihL, Nat.add_sub_cancel, Py.RL.push]

theorem stackBlock_eq {β : Type} (f : Nat) (ihL : ∀ n : Nat, VmStackList_deserialize view ord f (n : Int) = De.stackList view ord f n)
    (K : List (Val R) → SOp R β) :
    SOp.bind (SOp.loadUint 24) (fun d => SOp.bind (VmStackList_deserialize view ord f d) K) =
      SOp.bind (SOp.loadUint 24) (fun d => SOp.bind (De.stackList view ord f d.toNat) K) := by
  refine loadUint_bind_congr 24 (fun v hv => ?_)
  rw [← ihL v.toNat, Int.toNat_of_nonneg hv]

theorem ctl_step (f : Nat) (ihL : ∀ n : Nat, VmStackList_deserialize view ord f (n : Int) = De.stackList view ord f n) :
    VmControlData_deserialize view ord (f + 1) = De.ctl view ord (f + 1) := by
  rw [VmControlData_deserialize, De.ctl]
  simp only [saveList_eq]
  sop_norm [stackBlock_eq f ihL]

theorem take6_2 (bs : Bits) : Py.slice (List.take 6 bs) 0 2 = List.take 2 bs := by simp [Py.slice, List.take_take]
theorem take6_4 (bs : Bits) : Py.slice (List.take 6 bs) 0 4 = List.take 4 bs := by simp [Py.slice, List.take_take]
theorem take6_5 (bs : Bits) : Py.slice (List.take 6 bs) 0 5 = List.take 5 bs := by simp [Py.slice, List.take_take]
theorem take6_6 (bs : Bits) : Py.slice (List.take 6 bs) 0 6 = List.take 6 bs := by simp [Py.slice, List.take_take]

theorem bind_ite_fun {α β : Type} (c : Slice R → Prop) [DecidablePred c] (A B : SOp R α) (K : α → SOp R β) (s : Slice R) :
    SOp.bind (fun s => if c s then A s else B s) K s = if c s then SOp.bind A K s else SOp.bind (fun s => B s) K s := by
  unfold SOp.bind
  by_cases h : c s <;> simp [h]

theorem bind_fail_fun {α β : Type} (K : α → SOp R β) (s : Slice R) :
    SOp.bind (fun s => ((s, none) : Slice R × Option α)) K s = (s, none) := rfl

theorem cont_step (f : Nat) (ihK : VmCont_deserialize view ord f = contOpt view ord f)
    (ihC : VmControlData_deserialize view ord f = De.ctl view ord f) :
    VmCont_deserialize view ord (f + 1) = contOpt view ord (f + 1) := by
  funext s
  rw [VmCont_deserialize]
  simp only [contOpt, mapSome_eq_bind]
  rw [De.cont]
  simp only [bind_def, pure_def, peekBits_bind, sop_ite_apply, take6_2, take6_4, take6_5, take6_6, ihK, ihC, cellSlice_eq,
    De.isPrefix, List.length_cons, List.length_nil, beq_iff_eq, sop_bind_assoc, sub_unNone, Nat.zero_add, Nat.reduceAdd,
    bind_ite_fun, bind_fail_fun, sop_pure_bind]
  by_cases hk : De.contTagKnown s = true
  · rw [if_pos hk]
    -- the same cascade of tag tests on both sides, with the same branches; they differ only after the last test
    refine ite_congr rfl (fun _ => rfl) fun h1 => ite_congr rfl (fun _ => rfl) fun h2 => ite_congr rfl (fun _ => rfl) fun h3 =>
      ite_congr rfl (fun _ => rfl) fun h4 => ite_congr rfl (fun _ => rfl) fun h5 => ite_congr rfl (fun _ => rfl) fun h6 =>
      ite_congr rfl (fun _ => rfl) fun h7 => ite_congr rfl (fun _ => rfl) fun h8 => ite_congr rfl (fun _ => rfl) fun h9 =>
      ite_congr rfl (fun _ => rfl) fun h10 => ?_
    exfalso
    simp [De.contTagKnown, De.contTags, De.isPrefix, *] at hk
  · have hk' := hk
    simp only [De.contTagKnown, De.contTags, List.any_cons, List.any_nil, Bool.or_false, Bool.or_eq_true, De.isPrefix,
      List.length_cons, List.length_nil, beq_iff_eq, Nat.zero_add, Nat.reduceAdd, not_or] at hk'
    simp [hk, hk', SOp.pure]

theorem tupleBlock_eq {β : Type} (f : Nat) (ihT : ∀ n : Nat, VmTuple_deserialize view ord f (n : Int) = De.tuple view ord f n)
    (K : List (Val R) → SOp R β) :
    SOp.bind (SOp.loadUint 16) (fun d => SOp.bind (VmTuple_deserialize view ord f d) K) =
      SOp.bind (SOp.loadUint 16) (fun d => SOp.bind (De.tuple view ord f d.toNat) K) := by
  refine loadUint_bind_congr 16 (fun v hv => ?_)
  rw [← ihT v.toNat, Int.toNat_of_nonneg hv]

theorem toBuilder_bind {β : Type} (c : R) (K : Bits × List R → SOp R β) :
    SOp.bind (SOp.ofOption (Py.Tlb.toBuilder? view ord c)) K = if ord c = true then K (view c) else SOp.fail := by
  unfold Py.Tlb.toBuilder?
  cases ord c <;> rfl

theorem val_step (f : Nat) (ihT : ∀ n : Nat, VmTuple_deserialize view ord f (n : Int) = De.tuple view ord f n)
    (ihK : VmCont_deserialize view ord f = contOpt view ord f) :
    VmStackValue_deserialize view ord (f + 1) = De.val view ord (f + 1) := by
  funext s
  rw [VmStackValue_deserialize, De.val]
  simp only [bind_def, pure_def, peekBits_bind, preloadBytes_bind, sop_ite_apply, Py.slice, List.drop_zero, beq_iff_eq, tagInt257,
    ihK, cellSlice_eq, sop_bind_assoc, sop_pure_bind, tupleBlock_eq f ihT, toBuilder_bind, val_cont_branch, Nat.reduceMul]
  rfl

/-! ### all methods, every budget -/

theorem src_de_all (fuel : Nat) :
    VmStackValue_deserialize view ord fuel = De.val view ord fuel ∧
    (∀ n : Nat, VmTuple_deserialize view ord fuel (n : Int) = De.tuple view ord fuel n) ∧
    (∀ n : Nat, VmTupleRef_deserialize view ord fuel (n : Int) = De.tupleRef view ord fuel n) ∧
    (∀ n : Nat, VmStackList_deserialize view ord fuel (n : Int) = De.stackList view ord fuel n) ∧
    VmCont_deserialize view ord fuel = contOpt view ord fuel ∧
    VmControlData_deserialize view ord fuel = De.ctl view ord fuel := by
  induction fuel with
  | zero =>
    refine ⟨?_, fun n => ?_, fun n => ?_, fun n => ?_, ?_, ?_⟩
    · rw [VmStackValue_deserialize, De.val]
    · rw [VmTuple_deserialize, De.tuple]
    · rw [VmTupleRef_deserialize, De.tupleRef]
    · rw [VmStackList_deserialize, De.stackList]
    · rw [VmCont_deserialize, contOpt]
    · rw [VmControlData_deserialize, De.ctl]
  | succ f ih =>
    obtain ⟨ihV, ihT, ihTR, ihL, ihK, ihC⟩ := ih
    exact ⟨val_step f ihT ihK, tuple_step f ihV ihTR, tupleRef_step f ihV ihT, stackList_step f ihV ihL, cont_step f ihK ihC,
      ctl_step f ihL⟩

/-- `VmStack.deserialize` -/
theorem src_stack_eq (fuel : Nat) : VmStack_deserialize view ord fuel = De.stack view ord fuel := by
  unfold VmStack_deserialize De.stack
  simp only [bind_def, pure_def, sop_bind_pure]
  refine loadUint_bind_congr 24 (fun v hv => ?_)
  rw [← (src_de_all (view := view) (ord := ord) fuel).2.2.2.1 v.toNat, Int.toNat_of_nonneg hv]

end TonVerif.Proofs.SrcVmDe
