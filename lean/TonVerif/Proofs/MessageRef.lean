/- C15 helper lemmas, part 3: the model's Slice programs agree with the spec decoder wherever the decoder succeeds -/
import TonVerif.Proofs.MessageRT

namespace TonVerif.Proofs.Message
open TonVerif TonVerif.Model TonVerif.Model.SOp TonVerif.Model.Message TonVerif.Spec.Tlb
open TonVerif.Proofs.MsgBits

variable {R : Type} {α β : Type}

/-- `s` refines `p` (`Ref` is short for "refines", not for a cell reference): whenever the spec reader `p` succeeds, the slice
program `s` returns the same value and leaves the same rest -/
def Ref (s : SOp R α) (p : Dec R α) : Prop :=
  ∀ (b : Bits) (r : List R) (a : α) (c' : Chunk R), p (b, r) = some (a, c') → s ⟨b, r⟩ = (⟨c'.1, c'.2⟩, some a)

theorem sop_bind_eq (s : SOp R α) (f : α → SOp R β) : (s >>= f) = SOp.bind s f := rfl
theorem sop_pure_eq (a : α) : (Pure.pure a : SOp R α) = SOp.pure a := rfl

/-- `bind` where the continuation only has to agree on values the first reader can return -/
theorem Ref.bindP {s : SOp R α} {p : Dec R α} {sf : α → SOp R β} {pf : α → Dec R β} (P : α → Prop)
    (hP : ∀ c a c', p c = some (a, c') → P a)
    (h1 : Ref s p) (h2 : ∀ a, P a → Ref (sf a) (pf a)) : Ref (s >>= sf) (p >>= pf) := by
  intro b r a c' h
  simp only [dec_bind_eq, Dec.bind] at h
  rcases hp : p (b, r) with _ | ⟨a1, c1⟩
  · simp [hp] at h
  · simp only [hp] at h
    have e1 := h1 b r a1 c1 hp
    have e2 := h2 a1 (hP _ _ _ hp) c1.1 c1.2 a c' h
    simp only [sop_bind_eq, SOp.bind, e1, e2]

theorem Ref.bind {s : SOp R α} {p : Dec R α} {sf : α → SOp R β} {pf : α → Dec R β}
    (h1 : Ref s p) (h2 : ∀ a, Ref (sf a) (pf a)) : Ref (s >>= sf) (p >>= pf) :=
  Ref.bindP (fun _ => True) (fun _ _ _ _ => trivial) h1 (fun a _ => h2 a)

theorem Ref.ret (a : α) : Ref (Pure.pure a : SOp R α) (Pure.pure a) := by
  intro b r a' c' h
  simp only [dec_pure_eq, Dec.pure, Option.some.injEq, Prod.mk.injEq] at h
  obtain ⟨rfl, rfl⟩ := h
  simp [sop_pure_eq, SOp.pure]

theorem Ref.fail (s : SOp R α) : Ref s Dec.fail := by
  intro b r a c' h; simp [Dec.fail] at h

theorem ref_loadBit : Ref (loadBit : SOp R Bool) dBool := by
  intro b r a c' h
  cases b with
  | nil => simp [dBool] at h
  | cons x t =>
    simp only [dBool, Option.some.injEq, Prod.mk.injEq] at h
    obtain ⟨rfl, rfl⟩ := h
    simp [loadBit]

theorem ref_loadRef : Ref (loadRef : SOp R R) dRef := by
  intro b r a c' h
  cases r with
  | nil => simp [dRef] at h
  | cons x t =>
    simp only [dRef, Option.some.injEq, Prod.mk.injEq] at h
    obtain ⟨rfl, rfl⟩ := h
    simp [loadRef]

theorem dBits_bind_some {n : Nat} {f : Bits → Dec R α} {b : Bits} {r : List R} {a : α} {c' : Chunk R}
    (h : (dBits n >>= f) (b, r) = some (a, c')) : n ≤ b.length ∧ f (b.take n) (b.drop n, r) = some (a, c') := by
  by_cases hl : b.length < n
  · simp [dec_bind_eq, Dec.bind, dBits, hl] at h
  · exact ⟨by omega, by simpa [dec_bind_eq, Dec.bind, dBits, hl] using h⟩

theorem delBits_of_le {n : Nat} {b : Bits} (r : List R) (h : n ≤ b.length) :
    delBits n (⟨b, r⟩ : Slice R) = (⟨b.drop n, r⟩, some ()) := by
  by_cases h0 : n = 0
  · subst h0; rfl
  · have : ¬ b.length < n := by omega
    simp [delBits, h0, this]

theorem ref_loadUint (n : Nat) (hn : 0 < n) : Ref (loadUint n : SOp R Int) (dUint n) := by
  intro b r a c' h
  obtain ⟨hl, h⟩ := dBits_bind_some h
  cases h
  have hne : List.take n b ≠ [] := by
    intro he; have := congrArg List.length he; rw [List.length_take, List.length_nil] at this; omega
  simp [loadUint, preloadUint, peekBits, ofOption, ba2intU, sop_bind_eq, SOp.bind, sop_pure_eq, SOp.pure, hne, delBits_of_le r hl]

theorem ref_loadInt (n : Nat) (hn : 0 < n) : Ref (loadInt n : SOp R Int) (dInt n) := by
  intro b r a c' h
  obtain ⟨hl, h⟩ := dBits_bind_some h
  have hlen : (List.take n b).length = n := by simp; omega
  rcases ht : List.take n b with _ | ⟨sg, tl⟩
  · simp [ht] at hlen; omega
  · rw [ht] at h hlen
    cases h
    simp [loadInt, preloadInt, peekBits, ofOption, ba2intS, sop_bind_eq, SOp.bind, sop_pure_eq, SOp.pure, ht, hlen, delBits_of_le r hl]

theorem ref_loadBytes32 (g : Bytes → α) :
    Ref (loadBytes 32 >>= fun h => (Pure.pure (g h) : SOp R α)) (dBits 256 >>= fun h => Pure.pure (g (bitsToBytes h))) := by
  intro b r a c' h
  obtain ⟨hl, h⟩ := dBits_bind_some h
  cases h
  simp [loadBytes, preloadBytes, peekBits, sop_bind_eq, SOp.bind, sop_pure_eq, SOp.pure, delBits_of_le r hl]

theorem dUint_nonneg (n : Nat) (c : Chunk R) (a : Int) (c' : Chunk R) (h : dUint n c = some (a, c')) : 0 ≤ a := by
  obtain ⟨_, h⟩ := dBits_bind_some (b := c.1) (r := c.2) h
  cases h
  exact Int.natCast_nonneg _

theorem ref_loadVarUint (k : Nat) (hk : 0 < k) : Ref (loadVarUint k : SOp R Int) (dVarUint k) := by
  unfold loadVarUint dVarUint
  refine Ref.bindP (fun len => 0 ≤ len) (dUint_nonneg k) (ref_loadUint k hk) (fun len hlen => ?_)
  by_cases h0 : len = 0
  · subst h0
    simp only [if_true, Int.toNat_zero, Nat.zero_mul, dUint_zero]
    exact Ref.ret 0
  · simp only [h0, if_false]
    exact ref_loadUint _ (by omega)

theorem ref_loadCoins : Ref (loadCoins : SOp R Int) dGrams := ref_loadVarUint 4 (by omega)

theorem ref_loadIf {s : SOp R α} {p : Dec R α} (h : Ref s p) : Ref (loadIf s) (dMaybe p) := by
  unfold loadIf dMaybe
  refine Ref.bind ref_loadBit (fun b => ?_)
  cases b with
  | false => simp only [Bool.false_eq_true, if_false]; exact Ref.ret none
  | true => simp only [if_true]; exact Ref.bind h (fun a => Ref.ret (some a))

theorem ref_loadMaybeRef : Ref (loadMaybeRef : SOp R (Option R)) (dMaybe dRef) := by
  unfold loadMaybeRef dMaybe
  refine Ref.bind ref_loadBit (fun b => ?_)
  cases b with
  | false => simp only [Bool.false_eq_true, if_false]; exact Ref.ret none
  | true => simp only [if_true]; exact Ref.bind ref_loadRef (fun a => Ref.ret (some a))

theorem ref_loadCurrency : Ref (loadCurrency : SOp R (Currency R)) dCurrency := by
  unfold loadCurrency dCurrency
  exact Ref.bind ref_loadCoins (fun g => Ref.bind ref_loadMaybeRef (fun o => Ref.ret _))

theorem ref_loadTickTock : Ref (loadTickTock : SOp R TickTock) dTickTock := by
  unfold loadTickTock dTickTock
  exact Ref.bind ref_loadBit (fun a => Ref.bind ref_loadBit (fun b => Ref.ret _))

theorem ref_loadStateInit : Ref (loadStateInit : SOp R (StateInit R)) dStateInit := by
  unfold loadStateInit dStateInit
  exact Ref.bind (ref_loadIf (ref_loadUint 5 (by omega))) (fun _ => Ref.bind (ref_loadIf ref_loadTickTock) (fun _ =>
    Ref.bind (ref_loadIf ref_loadRef) (fun _ => Ref.bind (ref_loadIf ref_loadRef) (fun _ =>
    Ref.bind (ref_loadIf ref_loadRef) (fun _ => Ref.ret _)))))


/-! monad laws needed to align the two programs -/

theorem dec_bind_assoc {γ : Type} (p : Dec R α) (f : α → Dec R β) (g : β → Dec R γ) :
    ((p >>= f) >>= g) = (p >>= fun a => f a >>= g) := by
  funext c
  simp only [dec_bind_eq, Dec.bind]
  rcases p c with _ | ⟨a, c1⟩ <;> simp

theorem dec_pure_bind (a : α) (f : α → Dec R β) : ((Pure.pure a : Dec R α) >>= f) = f a := by
  funext c; simp [dec_bind_eq, Dec.bind, dec_pure_eq, Dec.pure]

theorem dec_fail_bind (f : α → Dec R β) : ((Dec.fail : Dec R α) >>= f) = Dec.fail := by
  funext c; simp [dec_bind_eq, Dec.bind, Dec.fail]

theorem sop_bind_assoc {γ : Type} (p : SOp R α) (f : α → SOp R β) (g : β → SOp R γ) :
    ((p >>= f) >>= g) = (p >>= fun a => f a >>= g) := by
  funext s
  simp only [sop_bind_eq, SOp.bind]
  rcases hp : p s with ⟨s1, _ | a⟩ <;> simp

theorem sop_bind_at {s : SOp R α} {f : α → SOp R β} {x x' : Slice R} {a : α} (h : s x = (x', some a)) :
    (s >>= f) x = f a x' := by
  simp only [sop_bind_eq, SOp.bind, h]

theorem Ref.congr {s s' : SOp R α} {p p' : Dec R α} (h : Ref s p) (hs : s = s') (hp : p = p') : Ref s' p' := by
  subst hs; subst hp; exact h

/-- the anycast block of `load_address` -/
def anycastBlock : SOp R (Option (Nat × Int)) := do
  let any ← loadBit
  (if any then do
      let depth ← loadUint 5
      if depth < 1 then SOp.fail else do
        let pfx ← loadUint depth.toNat
        return some (depth.toNat, pfx)
    else return none)

theorem ref_anycast : Ref (anycastBlock : SOp R (Option (Nat × Int))) (dMaybe dAnycast) := by
  unfold anycastBlock dMaybe
  refine Ref.bind ref_loadBit (fun any => ?_)
  cases any with
  | false => simp only [Bool.false_eq_true, if_false]; exact Ref.ret none
  | true =>
    simp only [if_true]
    unfold dAnycast
    rw [dec_bind_assoc]
    refine Ref.bindP (fun d => 0 ≤ d) (dUint_nonneg 5) (ref_loadUint 5 (by omega)) (fun d hd => ?_)
    by_cases hc : d < 1 ∨ d > 30
    · simp only [hc, if_true, dec_fail_bind]; exact Ref.fail _
    · have h1 : ¬ d < 1 := by omega
      have h30 : ¬ d > 30 := by omega
      simp only [h1, h30, or_self, if_false]
      rw [dec_bind_assoc]
      refine Ref.bind (ref_loadUint d.toNat (by omega)) (fun p => ?_)
      rw [dec_pure_bind]
      exact Ref.ret _

theorem loadUint2_cons (t0 t1 : Bool) (rest : Bits) (r : List R) :
    (loadUint 2 ⟨t0 :: t1 :: rest, r⟩ : Slice R × Option Int) = (⟨rest, r⟩, some (natOfBits [t0, t1] : Int)) := by
  refine ref_loadUint 2 (by omega) _ _ _ (rest, r) ?_
  have : ¬ (rest.length + 1 + 1 < 2) := by omega
  simp [dUint, dec_bind_eq, Dec.bind, dBits, dec_pure_eq, Dec.pure, this]

theorem ref_addrExt : Ref (do
      let len ← loadUint 9
      if len = 0 then return Addr.ext 0 0
      else do
        let v ← loadUint len.toNat
        return Addr.ext len.toNat v : SOp R Addr)
    (do
      let len ← dUint 9
      let v ← dUint len.toNat
      Pure.pure (Addr.ext len.toNat v)) := by
  refine Ref.bindP (fun d => 0 ≤ d) (dUint_nonneg 9) (ref_loadUint 9 (by omega)) (fun len hlen => ?_)
  by_cases h0 : len = 0
  · subst h0
    simp only [if_true, Int.toNat_zero, dUint_zero, dec_pure_bind]
    exact Ref.ret _
  · simp only [h0, if_false]
    exact Ref.bind (ref_loadUint _ (by omega)) (fun v => Ref.ret _)

theorem ref_addrStd : Ref (do
      let anycast ← anycastBlock
      let wc ← loadInt 8
      let h ← loadBytes 32
      return Addr.std anycast wc h : SOp R Addr)
    (do
      let any ← dMaybe dAnycast
      let wc ← dInt 8
      let h ← dBits 256
      Pure.pure (Addr.std any wc (bitsToBytes h))) :=
  Ref.bind ref_anycast (fun any => Ref.bind (ref_loadInt 8 (by omega)) (fun wc => ref_loadBytes32 _))

/-- Both sides branch on the two tag bits; with the tag known each is one of the programs above (`load_address` reads
the anycast block inline, hence the re-bracketing for tag 2). -/
theorem ref_loadAddress : Ref (loadAddress : SOp R Addr) dAddr := by
  intro b r a c' h
  rcases b with _ | ⟨t0, _ | ⟨t1, rest⟩⟩
  · exact nomatch h
  · exact nomatch h
  · refine (sop_bind_at (loadUint2_cons t0 t1 rest r)).trans ?_
    cases t0 <;> cases t1
    · cases h; rfl
    · exact ref_addrExt rest r a c' h
    · exact (congrFun (sop_bind_assoc _ _ _).symm _).trans (ref_addrStd rest r a c' h)
    · exact nomatch h


/-! the header, the message -/

theorem ref_infoInt : Ref (do
      let a ← loadBit
      let b ← loadBit
      let c ← loadBit
      let src ← loadAddress
      let dest ← loadAddress
      let value ← loadCurrency
      let ihr ← loadCoins
      let fwd ← loadCoins
      let lt ← loadUint 64
      let at_ ← loadUint 32
      return Info.int a b c src dest value ihr fwd lt at_ : SOp R (Info R))
    (do
      let a ← dBool
      let b ← dBool
      let c ← dBool
      let src ← dAddr
      let dest ← dAddr
      let value ← dCurrency
      let ihr ← dGrams
      let fwd ← dGrams
      let lt ← dUint 64
      let at_ ← dUint 32
      Pure.pure (Info.int a b c src dest value ihr fwd lt at_)) :=
  Ref.bind ref_loadBit fun _ => Ref.bind ref_loadBit fun _ => Ref.bind ref_loadBit fun _ =>
  Ref.bind ref_loadAddress fun _ => Ref.bind ref_loadAddress fun _ => Ref.bind ref_loadCurrency fun _ =>
  Ref.bind ref_loadCoins fun _ => Ref.bind ref_loadCoins fun _ => Ref.bind (ref_loadUint 64 (by omega)) fun _ =>
  Ref.bind (ref_loadUint 32 (by omega)) fun _ => Ref.ret _

theorem ref_infoExtIn : Ref (do
      let src ← loadAddress
      let dest ← loadAddress
      let fee ← loadCoins
      return Info.extIn src dest fee : SOp R (Info R))
    (do
      let src ← dAddr
      let dest ← dAddr
      let fee ← dGrams
      Pure.pure (Info.extIn src dest fee)) :=
  Ref.bind ref_loadAddress fun _ => Ref.bind ref_loadAddress fun _ => Ref.bind ref_loadCoins fun _ => Ref.ret _

theorem ref_infoExtOut : Ref (do
      let src ← loadAddress
      let dest ← loadAddress
      let lt ← loadUint 64
      let at_ ← loadUint 32
      return Info.extOut src dest lt at_ : SOp R (Info R))
    (do
      let src ← dAddr
      let dest ← dAddr
      let lt ← dUint 64
      let at_ ← dUint 32
      Pure.pure (Info.extOut src dest lt at_)) :=
  Ref.bind ref_loadAddress fun _ => Ref.bind ref_loadAddress fun _ => Ref.bind (ref_loadUint 64 (by omega)) fun _ =>
  Ref.bind (ref_loadUint 32 (by omega)) fun _ => Ref.ret _

theorem dBool_cons (x : Bool) (t : Bits) (r : List R) : (dBool (x :: t, r) : Option (Bool × Chunk R)) = some (x, (t, r)) := rfl
theorem loadBit_cons (x : Bool) (t : Bits) (r : List R) : (loadBit ⟨x :: t, r⟩ : Slice R × Option Bool) = (⟨t, r⟩, some x) := rfl
theorem preloadBit_cons (x : Bool) (t : Bits) (r : List R) : (preloadBit ⟨x :: t, r⟩ : Slice R × Option Bool) = (⟨x :: t, r⟩, some x) := rfl
theorem peekBits2_cons (x y : Bool) (t : Bits) (r : List R) :
    (peekBits 2 ⟨x :: y :: t, r⟩ : Slice R × Option Bits) = (⟨x :: y :: t, r⟩, some [x, y]) := rfl
theorem loadBits2_cons (x y : Bool) (t : Bits) (r : List R) :
    (loadBits 2 ⟨x :: y :: t, r⟩ : Slice R × Option Bits) = (⟨t, r⟩, some [x, y]) := by
  have : ¬ (t.length + 1 + 1 < 2) := by omega
  simp [loadBits, peekBits, delBits, sop_bind_eq, SOp.bind, sop_pure_eq, SOp.pure, this]

/-- `loadInfo` looks at the tag bits without consuming them and hands over to the reader of that kind, which reads
them again; after that each side is one of the three straight-line programs above. -/
theorem ref_loadInfo : Ref (loadInfo : SOp R (Info R)) dInfo := by
  intro b r a c' h
  rcases b with _ | ⟨_ | _, rest⟩
  · exact nomatch h
  · exact ref_infoInt rest r a c' h
  · rcases rest with _ | ⟨_ | _, rest⟩
    · exact nomatch h
    · exact (sop_bind_at (preloadBit_cons true _ r)).trans <| (sop_bind_at (peekBits2_cons true false rest r)).trans <|
        (sop_bind_at (loadBits2_cons true false rest r)).trans (ref_infoExtIn rest r a c' h)
    · exact (sop_bind_at (preloadBit_cons true _ r)).trans <| (sop_bind_at (peekBits2_cons true true rest r)).trans <|
        (sop_bind_at (loadBits2_cons true true rest r)).trans (ref_infoExtOut rest r a c' h)

/-- agreement on the returned value only (the state after the last step is not observed) -/
def RefV (s : SOp R α) (p : Dec R α) : Prop :=
  ∀ (b : Bits) (r : List R) (a : α) (c' : Chunk R), p (b, r) = some (a, c') → (s ⟨b, r⟩).2 = some a

theorem RefV.bind {s : SOp R α} {p : Dec R α} {sf : α → SOp R β} {pf : α → Dec R β}
    (h1 : Ref s p) (h2 : ∀ a, RefV (sf a) (pf a)) : RefV (s >>= sf) (p >>= pf) := by
  intro b r a c' h
  simp only [dec_bind_eq, Dec.bind] at h
  rcases hp : p (b, r) with _ | ⟨a1, c1⟩
  · simp [hp] at h
  · simp only [hp] at h
    have e1 := h1 b r a1 c1 hp
    have e2 := h2 a1 c1.1 c1.2 a c' h
    simp only [sop_bind_eq, SOp.bind, e1]
    exact e2

theorem Ref.toV {s : SOp R α} {p : Dec R α} (h : Ref s p) : RefV s p := by
  intro b r a c' hp; rw [h b r a c' hp]

theorem decodeWhole_some {p : Dec R α} {c : Chunk R} {a : α} (h : decodeWhole p c = some a) : p c = some (a, ([], [])) := by
  unfold decodeWhole at h
  split at h
  · rename_i a' heq; simp at h; subst h; exact heq
  · simp at h

/-- the init part of `MessageAny.deserialize` -/
def initBlock (ops : CellOps R) : SOp R (Option (StateInit R)) := do
  let maybe ← loadBit
  (if maybe then do
      let either ← loadBit
      if either then do
        let r ← loadRef
        let v := ops.view r
        let s ← ofOption ((loadStateInit ⟨v.1, v.2⟩).2)
        return some s
      else do
        let s ← loadStateInit
        return some s
    else return none)

theorem ref_initBlock (ops : CellOps R) : Ref (initBlock ops) (dInit ops) := by
  unfold initBlock dInit dMaybe
  refine Ref.bind ref_loadBit (fun mb => ?_)
  cases mb with
  | false => simp only [Bool.false_eq_true, if_false]; exact Ref.ret none
  | true =>
    simp only [if_true]
    rw [dec_bind_assoc]
    refine Ref.bind ref_loadBit (fun e => ?_)
    cases e with
    | false =>
      simp only [Bool.false_eq_true, if_false]
      exact Ref.bind ref_loadStateInit (fun s => Ref.ret _)
    | true =>
      simp only [if_true]
      rw [dec_bind_assoc]
      refine Ref.bind ref_loadRef (fun r => ?_)
      intro b rr a c' h
      simp only [dec_bind_eq, Dec.bind] at h
      rcases hd : decodeWhole dStateInit (ops.view r) with _ | s
      · simp [hd] at h
      · simp only [hd, Option.map_some, dec_pure_eq, Dec.pure, Option.some.injEq, Prod.mk.injEq] at h
        obtain ⟨rfl, rfl⟩ := h
        have h1 := decodeWhole_some hd
        have h2 := ref_loadStateInit (ops.view r).1 (ops.view r).2 s ([], []) (by simpa using h1)
        simp [sop_bind_eq, SOp.bind, ofOption, h2, sop_pure_eq, SOp.pure]

theorem loadMessage_eq (ops : CellOps R) : loadMessage ops = (do
    let info ← loadInfo
    let init ← initBlock ops
    let either ← loadBit
    if either then do
      let r ← loadRef
      return ⟨info, init, ops.view r⟩
    else fun s => (s, some ⟨info, init, (s.bits, s.refs)⟩)) := by
  unfold loadMessage initBlock
  congr 1; funext info
  rw [sop_bind_assoc]

theorem refV_loadMessage (ops : CellOps R) : RefV (loadMessage ops) (dMessage ops) := by
  rw [loadMessage_eq]
  unfold dMessage
  refine RefV.bind ref_loadInfo (fun info => RefV.bind (ref_initBlock ops) (fun init => RefV.bind ref_loadBit (fun e => ?_)))
  cases e with
  | true =>
    simp only [if_true]
    exact (Ref.bind ref_loadRef (fun r => Ref.ret _)).toV
  | false =>
    simp only [Bool.false_eq_true, if_false]
    intro b r a c' h
    simp only [Option.some.injEq, Prod.mk.injEq] at h
    rw [← h.1]

theorem RefV.whole {s : SOp R α} {p : Dec R α} (h : RefV s p) {c : Chunk R} {a : α} (hd : decodeWhole p c = some a) :
    (s ⟨c.1, c.2⟩).2 = some a :=
  h c.1 c.2 a ([], []) (by simpa using decodeWhole_some hd)

/-- **own parser = spec decoder on valid encodings** -/
theorem own_parser (ops : CellOps R) (c : R) (m : Msg R) (h : decodeMessage ops c = some m) :
    Message.deserialize ops c = some m := (refV_loadMessage ops).whole h

theorem own_parser_stateInit (ops : CellOps R) (c : R) (s : StateInit R) (h : decodeStateInit ops c = some s) :
    Message.deserializeStateInit ops c = some s := ref_loadStateInit.toV.whole h

theorem own_parser_currency (ops : CellOps R) (c : R) (v : Currency R) (h : decodeCurrency ops c = some v) :
    Message.deserializeCurrency ops c = some v := ref_loadCurrency.toV.whole h

end TonVerif.Proofs.Message
