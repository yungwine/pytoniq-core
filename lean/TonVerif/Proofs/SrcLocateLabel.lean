/-
C11 / locsrc (a): the HmLabel reader of the regenerated parser files — the spec codec `(hmLabel n).dec`, used by `Rd.augWalk` / `Rd.dictWalk`
(Model/TlbRdTx.lean, TlbRdBlk.lean) — IS the C10 label reader `Hashmap.deserializeHml` (source-tied: `deserialize_hml_eq`) on EVERY bit
string: same decision to raise, same label length, same label bits, same rest.
-/
import TonVerif.Model.LocateSrc
namespace TonVerif.Proofs.SrcLocate
open TonVerif TonVerif.Model TonVerif.Tlb

theorem bitLenF_eq : ∀ f v, v ≤ f → bitLenF f v = bitLength v := by
  intro f
  induction f with
  | zero => intro v h; have : v = 0 := by omega
            subst this; simp [bitLenF, bitLength]
  | succ f ih =>
    intro v h
    cases v with
    | zero => simp [bitLenF, bitLength]
    | succ k =>
      rw [bitLenF, bitLength]
      simp only [Nat.succ_ne_zero, if_false]
      rw [ih ((k + 1) / 2) (by omega)]

theorem bitLen_eq (v : Nat) : bitLen v = bitLength v := bitLenF_eq v v (Nat.le_refl v)

theorem decUnary_eq : ∀ b : Bits, decUnary b = Hashmap.readUnary b := by
  intro b
  induction b with
  | nil => rfl
  | cons x r ih => cases x <;> simp [decUnary, Hashmap.readUnary, ih]

theorem uintLe_dec (m : Nat) (s : Frag) :
    (uintLe m).dec s = if s.bits.length < bitLength m then none
      else if natOfBits (s.bits.take (bitLength m)) ≤ m
        then some (.int (natOfBits (s.bits.take (bitLength m))), ⟨s.bits.drop (bitLength m), s.refs⟩) else none := by
  simp only [uintLe, uintRange, withPaths, constrained, uint, bitLen_eq]
  by_cases h : s.bits.length < bitLength m
  · simp [h]
  · simp [h, vBetween]

/-- the `#<= n` field of `hml_long` / `hml_same`: the codec reads what `loadLen` reads (nothing when `n = 0`) and refuses a value
above `n` at once; `deserialize_hml` refuses it at its end -/
theorem uintLe_dec_loadLen (n : Nat) (s : Frag) :
    (uintLe n).dec s =
      (Hashmap.loadLen (n : Int) s.bits).bind fun p => if p.1 ≤ n then some (.int p.1, ⟨p.2, s.refs⟩) else none := by
  rw [uintLe_dec]
  unfold Hashmap.loadLen Hashmap.loadUint
  simp only [Int.natAbs_natCast]
  generalize bitLength n = L
  by_cases hL0 : L = 0
  · subst hL0
    simp [natOfBits]
  · by_cases hlen : s.bits.length < L <;> simp [hlen, hL0]

/-- what the walks use of a decoded label: length, bits, rest of the slice -/
def labelView (p : Val × Frag) : Nat × Bits × Bits × List Tlb.Cell := (labelLen p.1, Rd.labelBitsOf p.1, p.2.bits, p.2.refs)

theorem hmLabel_dec_alts (n : Nat) (s : Frag) : (hmLabel n).dec s = decAlts [
    ([false], "hml_short", recd [fld "n" (constrained unary (vBetween 0 n)), dep "s" (fun e => bitsC (e.nat "n"))]),
    ([true, false], "hml_long", recd [fld "n" (uintLe n), dep "s" (fun e => bitsC (e.nat "n"))]),
    ([true, true], "hml_same", recd [fld "v" boolC, fld "n" (uintLe n)])] s := rfl

theorem unaryLe_dec (n : Nat) (bits : Bits) (refs : List Tlb.Cell) :
    (constrained unary (vBetween 0 n)).dec ⟨bits, refs⟩ =
      (Hashmap.readUnary bits).bind fun p => if p.1 ≤ n then some (.int p.1, ⟨p.2, refs⟩) else none := by
  simp only [constrained, unary, decUnary_eq]
  rcases Hashmap.readUnary bits with _ | ⟨k, r1⟩
  · rfl
  · by_cases hk : k ≤ n <;> simp [vBetween, hk]

theorem labelView_len_bits (name : String) (hname : name ≠ "hml_same") (k : Nat) (s : Bits) (f : Frag) :
    labelView (.con name (.record [("n", .int k), ("s", .bits s)]), f) = (k, s, f.bits, f.refs) := by
  simp [labelView, labelLen, Rd.labelBitsOf, Env.nat, List.lookup, hname]

/-- `hml_short` / `hml_long`: a length `k ≤ n` read by `rd`, then `k` label bits.  The codec refuses `k > n` at once,
`deserialize_hml` at its end. -/
theorem label_len_bits (name : String) (hname : name ≠ "hml_same") (cN : Codec) (rd : Bits → Option (Nat × Bits)) (n : Nat)
    (bits : Bits) (refs : List Tlb.Cell)
    (h : cN.dec ⟨bits, refs⟩ = (rd bits).bind fun p => if p.1 ≤ n then some (.int p.1, ⟨p.2, refs⟩) else none) :
    (((recd [fld "n" cN, dep "s" fun e => bitsC (e.nat "n")]).dec ⟨bits, refs⟩).map fun p => labelView (.con name p.1, p.2)) =
      Option.map (fun t => (t.1, t.2.1, t.2.2, refs))
        (match (rd bits).bind fun p => (Hashmap.loadBits p.1 p.2).bind fun q => some (p.1, q.1, q.2) with
         | none => none
         | some (k, s, rest) => if (k : Int) > n then none else some (k, s, rest)) := by
  simp only [recd, fld, dep, decFields, h]
  rcases rd bits with _ | ⟨k, r1⟩
  · rfl
  · by_cases hkn : n < k <;> by_cases hl : r1.length < k <;>
      simp [bitsC, Env.nat, List.lookup, Hashmap.loadBits, labelView_len_bits name hname, hkn, hl, Nat.not_le.2, Nat.le_of_not_lt]

/-- (a) the label reader of the parser files = the C10 label reader, on every bit string -/
theorem hmLabel_dec_eq (n : Nat) (bits : Bits) (refs : List Tlb.Cell) :
    ((hmLabel n).dec ⟨bits, refs⟩).map labelView =
      (Hashmap.deserializeHml bits (n : Int)).map fun t => (t.1, t.2.1, t.2.2, refs) := by
  rw [hmLabel_dec_alts]
  unfold Hashmap.deserializeHml
  match bits with
  | [] => simp [decAlts, Hashmap.readHml, List.isPrefixOf]
  | false :: r =>
    simp only [decAlts, List.isPrefixOf, Hashmap.readHml, beq_self_eq_true, Bool.and_true, if_true, List.length_singleton,
      List.drop_succ_cons, List.drop_zero, Option.map_map]
    exact label_len_bits "hml_short" (by decide) _ _ n r refs (unaryLe_dec n r refs)
  | [true] => simp [decAlts, Hashmap.readHml, List.isPrefixOf]
  | true :: false :: r =>
    simp only [decAlts, List.isPrefixOf, Hashmap.readHml, beq_self_eq_true, Bool.and_true, Bool.and_self, if_true, if_false,
      List.length_cons, List.length_nil, List.drop_succ_cons, List.drop_zero, Bool.false_eq_true,
      show (false == true) = false from rfl, Nat.zero_add, Nat.reduceAdd, Option.map_map]
    exact label_len_bits "hml_long" (by decide) _ _ n r refs (uintLe_dec_loadLen n ⟨r, refs⟩)
  | [true, true] => simp [decAlts, Hashmap.readHml, List.isPrefixOf, recd, fld, decFields, boolC]
  | true :: true :: v :: r =>
    simp only [decAlts, List.isPrefixOf, Hashmap.readHml, recd, fld, dep, decFields, uintLe_dec_loadLen, boolC]
    simp only [beq_self_eq_true, Bool.and_true, Bool.and_self, if_true, if_false, List.length_cons, List.length_nil, List.drop_succ_cons,
      List.drop_zero, Bool.false_eq_true, show (false == true) = false from rfl, Bool.false_and, Bool.and_false, Nat.zero_add, Nat.reduceAdd]
    rcases Hashmap.loadLen (n : Int) r with _ | ⟨k, r1⟩
    · simp
    · by_cases hkn : n < k <;>
        simp [Env.nat, List.lookup, labelView, labelLen, Rd.labelBitsOf, hkn, Nat.not_le.2, Nat.le_of_not_lt]

end TonVerif.Proofs.SrcLocate
