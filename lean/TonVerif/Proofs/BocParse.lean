/-
Helper lemmas for C05 (BoC parser model `Model/BocParse.lean` against the spec encoder `Spec/BocEncode.lean`).
-/
import TonVerif.Model.BocParse
import TonVerif.Spec.BocEncode
import TonVerif.Proofs.CrcFlip
import TonVerif.Proofs.CellSpec
import TonVerif.Proofs.Bits
import TonVerif.Proofs.BocHeaderPath

namespace TonVerif.Proofs.BocParse
open TonVerif TonVerif.Model TonVerif.Model.BocParse TonVerif.Spec.BocEncode
open TonVerif.Proofs.BocHeaderPath (Fixed readFields_eq_some Accepts header_iff)

/-! ### generic -/

theorem mapM_none_of_mem {α β : Type} (f : α → Option β) : ∀ (l : List α) (x : α), x ∈ l → f x = none → l.mapM f = none := by
  intro l
  induction l with
  | nil => intro x hx; cases hx
  | cons a as ih =>
    intro x hx hf
    rw [List.mapM_cons]
    rcases List.mem_cons.mp hx with rfl | h
    · simp [hf]
    · cases hfa : f a with
      | none => simp
      | some b => simp [ih x h hf]

theorem mapM_map_eq {α β γ : Type} (p : α → β) (f : β → Option γ) (g : α → γ) : ∀ (l : List α),
    (∀ x ∈ l, f (p x) = some (g x)) → (l.map p).mapM f = some (l.map g)
  | [], _ => by simp
  | x :: xs, h => by
    have ih := mapM_map_eq p f g xs (fun y hy => h y (by simp [hy]))
    simp [List.mapM_cons, h x (by simp), ih]

theorem mapM_eq_map {α β : Type} (f : α → Option β) (g : α → β) (l : List α) (h : ∀ x ∈ l, f x = some (g x)) :
    l.mapM f = some (l.map g) := by
  simpa using mapM_map_eq id f g l h

/-! ### second loop: reference checks -/

theorem rebuildFrom_length {R : Type} (mk : Bits → List R → Int → Option R) :
    ∀ (recs : List RawCell) (base : Nat) (out : List R), rebuildFrom mk recs base = some out → out.length = recs.length := by
  intro recs
  induction recs with
  | nil => intro base out h; simp [rebuildFrom] at h; subst h; rfl
  | cons c cs ih =>
    intro base out h
    simp only [rebuildFrom, Option.bind_eq_some_iff, Option.map_eq_some_iff] at h
    obtain ⟨later, h1, refs, -, v, -, rfl⟩ := h
    simp [ih _ _ h1]

/-- a reference that is not strictly forward, or points past the last cell, aborts the rebuild loop. -/
theorem rebuildFrom_bad_ref {R : Type} (mk : Bits → List R → Int → Option R) :
    ∀ (recs : List RawCell) (base k : Nat) (c : RawCell) (r : Nat), recs[k]? = some c → r ∈ c.refs →
      (r ≤ base + k ∨ base + recs.length ≤ r) → rebuildFrom mk recs base = none := by
  intro recs
  induction recs with
  | nil => intro base k c r h; simp at h
  | cons c0 cs ih =>
    intro base k c r hk hr hbad
    simp only [rebuildFrom]
    cases k with
    | succ k' =>
      have hk' : cs[k']? = some c := by simpa using hk
      have := ih (base + 1) k' c r hk' hr (by simp only [List.length_cons] at hbad; omega)
      simp [this]
    | zero =>
      have hc : c0 = c := by simpa using hk
      subst hc
      cases h1 : rebuildFrom mk cs (base + 1) with
      | none => simp
      | some later =>
        have hl := rebuildFrom_length mk cs (base + 1) later h1
        simp only [Option.bind_some]
        have : List.mapM (fun r => if r < base then none else if r = base then none else later[r - base - 1]?) c0.refs = none := by
          apply mapM_none_of_mem _ _ r hr
          simp only [List.length_cons] at hbad
          by_cases h1 : r < base
          · simp [h1]
          · by_cases h2 : r = base
            · simp [h2]
            · simp only [h1, h2, if_false]
              apply List.getElem?_eq_none
              omega
        simp [this]

theorem readCells_length : ∀ (n : Nat) (data : Bytes) (size : Nat) (recs : List RawCell),
    readCells n data size = some recs → recs.length = n := by
  intro n
  induction n with
  | zero => intro data size recs h; simp [readCells] at h; subst h; rfl
  | succ n ih =>
    intro data size recs h
    simp only [readCells, Option.bind_eq_some_iff, Option.map_eq_some_iff] at h
    obtain ⟨cj, -, rest, h2, rfl⟩ := h
    simp [ih _ _ _ h2]

/-! ### header: necessary conditions for acceptance -/

/-- what an accepted header implies: the fixed fields were readable, the total length is exactly the one they
announce, and if the CRC flag is on, the last four bytes are the CRC-32C of everything before them. -/
theorem header_accept (d : Bytes) (h : Header) (hh : deserializeBocHeader d = some h) :
    ∃ f, readFields d = some f ∧ d.length = f.expectedLen ∧ h.fl = f.fl ∧ h.cellsNum = f.cells ∧
      (f.fl.hasCrc = true → Model.crc32c (d.take (d.length - 4)) = some (d.drop (d.length - 4)) ∧ 4 ≤ d.length) := by
  have a := (header_iff d h).1 hh
  refine ⟨_, a.fields, a.len, rfl, rfl, fun hc => ⟨a.crc hc, ?_⟩⟩
  have := a.len
  simp only [Fields.expectedLen, Fields.crcLen, show h.fields.fl.hasCrc = true from hc, if_true] at this
  omega

/-! ### header: the fixed fields of a prefix -/

theorem pySlice_append_left {α : Type} (p t : List α) (a b : Nat) (hb : b ≤ p.length) :
    pySlice (p ++ t) a b = pySlice p a b := by
  unfold pySlice
  rw [List.take_append_of_le_length hb]

theorem readFlags_append (p t : Bytes) (h5 : 5 ≤ p.length) : readFlags (p ++ t) = readFlags p := by
  unfold readFlags
  have h4 : (p ++ t)[4]? = p[4]? := List.getElem?_append_left (by omega)
  rw [pySlice_append_left p t 0 4 (by omega), h4]
  have e1 : ¬ (p ++ t).length < 4 := by simp; omega
  have e2 : ¬ p.length < 4 := by omega
  rw [if_neg e1, if_neg e2]

theorem readFields_len (d : Bytes) (f : Fields) (h : readFields d = some f) :
    6 + 3 * f.fl.sizeBytes ≤ d.length ∧ 1 ≤ f.fl.sizeBytes :=
  have hx := (readFields_eq_some d f.fl f.off f.cells f.roots f.absent f.tot).1 h
  ⟨Nat.le_of_not_lt hx.hpre, Nat.pos_of_ne_zero hx.hs⟩

theorem readFields_flags (d : Bytes) (f : Fields) (h : readFields d = some f) : readFlags d = some f.fl :=
  ((readFields_eq_some d f.fl f.off f.cells f.roots f.absent f.tot).1 h).hfl

theorem readFields_append (p t : Bytes) (f : Fields) (hp : readFields p = some f) (hl : f.hdrEnd ≤ p.length) :
    readFields (p ++ t) = some f := by
  obtain ⟨h0, h1, h2, h5, c1, c2, c3, c4⟩ := (readFields_eq_some p f.fl f.off f.cells f.roots f.absent f.tot).1 hp
  simp only [Fields.hdrEnd] at hl
  refine (readFields_eq_some _ f.fl f.off f.cells f.roots f.absent f.tot).2 ⟨by rw [readFlags_append p t (by omega), h0],
    by simp; omega, h2, by rw [List.getElem?_append_left (by omega), h5], ?_, ?_, ?_, ?_⟩
  · rw [pySlice_append_left p t _ _ (by omega), c1]
  · rw [pySlice_append_left p t _ _ (by omega), c2]
  · rw [pySlice_append_left p t _ _ (by omega), c3]
  · rw [pySlice_append_left p t _ _ (by omega), c4]

/-- of a byte string and a proper extension of it at most one has an acceptable header. -/
theorem header_prefix_unique (p t : Bytes) (hp : Header) (hd : Header)
    (h1 : deserializeBocHeader p = some hp) (h2 : deserializeBocHeader (p ++ t) = some hd) : t = [] := by
  obtain ⟨f, hf, hlen, -⟩ := header_accept p hp h1
  obtain ⟨f', hf', hlen', -⟩ := header_accept (p ++ t) hd h2
  have hle : f.hdrEnd ≤ p.length := by
    rw [hlen]; simp only [Fields.expectedLen, Fields.cellsStart]; omega
  rw [readFields_append p t f hf hle] at hf'
  simp only [Option.some.injEq] at hf'
  subst hf'
  rw [List.length_append, hlen] at hlen'
  exact List.eq_nil_of_length_eq_zero (by omega)

/-! ### header: corruption of one byte -/

theorem pySlice_set_out {α : Type} (d : List α) (j : Nat) (v : α) (a b : Nat) (h : j < a ∨ b ≤ j) :
    pySlice (d.set j v) a b = pySlice d a b := by
  unfold pySlice
  apply List.ext_getElem?
  intro i
  simp only [List.getElem?_drop, List.getElem?_take]
  by_cases hi : a + i < b
  · simp only [hi, if_true]
    rw [List.getElem?_set_ne (by omega)]
  · simp [hi]

theorem readFlags_set_ge5 (d : Bytes) (j v : Nat) (hj : 5 ≤ j) : readFlags (d.set j v) = readFlags d := by
  unfold readFlags
  rw [pySlice_set_out d j v 0 4 (by omega), List.getElem?_set_ne (by omega), List.length_set]

theorem nat_xor_eq_self (a e : Nat) (h : a ^^^ e = a) : e = 0 := by
  have : a ^^^ (a ^^^ e) = a ^^^ a := by rw [h]
  rw [← Nat.xor_assoc, Nat.xor_self, Nat.zero_xor] at this
  exact this

theorem magic_byte : ∀ m ∈ [magicGeneric, magicIdx, magicIdxCrc], ∀ m' ∈ [magicGeneric, magicIdx, magicIdxCrc],
    ∀ k < 4, m[k]? = m'[k]? → m = m' := by decide

theorem readFlags_isSome_magic (d : Bytes) (h : (readFlags d).isSome) : pySlice d 0 4 ∈ [magicGeneric, magicIdx, magicIdxCrc] := by
  unfold readFlags at h
  simp only [beq_iff_eq] at h
  simp only [List.mem_cons, List.not_mem_nil, or_false]
  by_cases h1 : pySlice d 0 4 = magicGeneric
  · exact Or.inl h1
  by_cases h2 : pySlice d 0 4 = magicIdx
  · exact Or.inr (Or.inl h2)
  by_cases h3 : pySlice d 0 4 = magicIdxCrc
  · exact Or.inr (Or.inr h3)
  simp [h1, h2, h3] at h

/-- no corruption of ONE byte turns a magic into a magic -/
theorem readFlags_set_lt4 (d : Bytes) (j e : Nat) (hj : j < 4) (he : e ≠ 0) (hl : 4 ≤ d.length)
    (h1 : (readFlags d).isSome) : readFlags (d.set j (d[j]'(by omega) ^^^ e)) = none := by
  have hne : d[j]'(by omega) ^^^ e ≠ d[j]'(by omega) := fun h => he (nat_xor_eq_self _ _ h)
  generalize d[j]'(by omega) ^^^ e = v at hne
  cases h2 : readFlags (d.set j v) with
  | none => rfl
  | some fl =>
    have hm := readFlags_isSome_magic d h1
    have hm' := readFlags_isSome_magic (d.set j v) (by rw [h2]; rfl)
    have hs : pySlice (d.set j v) 0 4 = (pySlice d 0 4).set j v := by simp only [pySlice, List.drop_zero, List.take_set]
    rw [hs] at hm'
    -- a byte other than `j` is unchanged, so the magic is the same one; but byte `j` did change
    have hk : ∃ k, k < 4 ∧ j ≠ k := ⟨if j = 0 then 1 else 0, by split <;> omega, by split <;> omega⟩
    obtain ⟨k, hk4, hjk⟩ := hk
    have heq := magic_byte _ hm _ hm' k hk4 (List.getElem?_set_ne hjk).symm
    have hj' : (pySlice d 0 4)[j]? = some (d[j]'(by omega)) := by
      simp only [pySlice, List.drop_zero, List.getElem?_take, hj, if_true]
      exact List.getElem?_eq_getElem (by omega)
    have : ((pySlice d 0 4).set j v)[j]? = some v := List.getElem?_set_self (by simp [pySlice]; omega)
    rw [← heq, hj'] at this
    exact absurd (Option.some.inj this).symm hne

/-- the flags a generic (`b5ee9c72`) header derives from its flag byte. -/
def genFlags (fb : Nat) : Flags :=
  { generic := true, hasIdx := fb.testBit 7, hasCrc := fb.testBit 6, hasCacheBits := fb.testBit 5,
    flags := (if fb.testBit 4 then 16 else 0) * 2 + (if fb.testBit 3 then 8 else 0), sizeBytes := fb % 8 }

theorem readFlags_set4 (d : Bytes) (v : Nat) (hl : 5 ≤ d.length) (fl fl' : Flags)
    (h : readFlags d = some fl) (h' : readFlags (d.set 4 v) = some fl') :
    (fl.generic = false → fl'.hasCrc = fl.hasCrc) ∧
    (fl.generic = true → fl = genFlags (d[4]'(by omega)) ∧ fl' = genFlags v) := by
  unfold readFlags at h h'
  rw [pySlice_set_out d 4 v 0 4 (by omega), List.length_set] at h'
  have e1 : ¬ d.length < 4 := by omega
  rw [if_neg e1] at h h'
  have g4 : (d.set 4 v)[4]? = some v := by rw [List.getElem?_set_self (by omega)]
  have g4' : d[4]? = some (d[4]'(by omega)) := List.getElem?_eq_getElem (by omega)
  rw [g4] at h'
  rw [g4'] at h
  simp only [Option.map_some] at h h'
  by_cases m1 : (pySlice d 0 4 == magicGeneric) = true
  · rw [if_pos m1] at h h'
    simp only [Option.some.injEq] at h h'
    subst h; subst h'
    simp [genFlags]
  · rw [if_neg m1] at h h'
    by_cases m2 : (pySlice d 0 4 == magicIdx) = true
    · rw [if_pos m2] at h h'
      simp only [Option.some.injEq] at h h'
      subst h; subst h'; simp
    · rw [if_neg m2] at h h'
      by_cases m3 : (pySlice d 0 4 == magicIdxCrc) = true
      · rw [if_pos m3] at h h'
        simp only [Option.some.injEq] at h h'
        subst h; subst h'; simp
      · rw [if_neg m3] at h
        cases h

/-- rewriting byte 4 without changing the size leaves every other fixed field as it was. -/
theorem readFields_set4 (d : Bytes) (v : Nat) (f f' : Fields)
    (h : readFields d = some f) (h' : readFields (d.set 4 v) = some f') (hs : f'.fl.sizeBytes = f.fl.sizeBytes) :
    f'.off = f.off ∧ f'.cells = f.cells ∧ f'.roots = f.roots ∧ f'.absent = f.absent ∧ f'.tot = f.tot := by
  obtain ⟨-, -, -, h5, c1, c2, c3, c4⟩ := (readFields_eq_some d f.fl f.off f.cells f.roots f.absent f.tot).1 h
  obtain ⟨-, -, -, h5', c1', c2', c3', c4'⟩ := (readFields_eq_some _ f'.fl f'.off f'.cells f'.roots f'.absent f'.tot).1 h'
  rw [List.getElem?_set_ne (by omega), h5] at h5'
  have ho : f'.off = f.off := (Option.some.inj h5').symm
  rw [hs, pySlice_set_out d 4 v _ _ (by omega)] at c1' c2' c3'
  rw [hs, ho, pySlice_set_out d 4 v _ _ (by omega)] at c4'
  exact ⟨ho, c1'.symm.trans c1, c2'.symm.trans c2, c3'.symm.trans c3, c4'.symm.trans c4⟩

theorem genFlags_xor64 (a : Nat) (h : a.testBit 6 = true) :
    genFlags (a ^^^ 64) = { genFlags a with hasCrc := false } := by
  have t7 : (64 : Nat).testBit 7 = false := by decide
  have t6 : (64 : Nat).testBit 6 = true := by decide
  have t5 : (64 : Nat).testBit 5 = false := by decide
  have t4 : (64 : Nat).testBit 4 = false := by decide
  have t3 : (64 : Nat).testBit 3 = false := by decide
  have hm : (a ^^^ 64) % 8 = a % 8 := by
    have := Nat.xor_mod_two_pow (a := a) (b := 64) (n := 3)
    simpa using this
  simp [genFlags, Nat.testBit_xor, t7, t6, t5, t4, t3, h, hm]

/-- CRC-protected input, one byte corrupted by a non-zero xor pattern `e` (at byte 4, the flag byte, `e` must not
touch bit 6 together with other bits): the header is no longer accepted. -/
theorem header_crc_byte_error (d : Bytes) (hwf : Bytes.WF d) (h : Header) (hh : deserializeBocHeader d = some h)
    (hc : h.fl.hasCrc = true) (j : Nat) (hj : j < d.length) (e : Nat) (he0 : 0 < e) (he : e < 256)
    (h4 : j = 4 → e.testBit 6 = false ∨ e = 64) :
    deserializeBocHeader (d.set j (d[j] ^^^ e)) = none := by
  cases hh' : deserializeBocHeader (d.set j (d[j] ^^^ e)) with
  | none => rfl
  | some h' =>
    exfalso
    obtain ⟨f, hf, hlen, hfl, -, hcrc⟩ := header_accept d h hh
    obtain ⟨f', hf', hlen', -, -, hcrc'⟩ := header_accept _ h' hh'
    rw [hfl] at hc
    have hcrc := hcrc hc
    rw [List.length_set] at hlen' hcrc'
    have hne : d[j] ^^^ e ≠ d[j] := fun hx => by have := nat_xor_eq_self _ _ hx; omega
    by_cases hc' : f'.fl.hasCrc = true
    · -- both pass the CRC comparison
      obtain ⟨c1, l4⟩ := hcrc
      obtain ⟨c2, -⟩ := hcrc' hc'
      by_cases hjb : j < d.length - 4
      · -- error in the protected part: same stored CRC, different computed CRC
        rw [List.take_set, List.drop_set, if_pos hjb, ← c1] at c2
        have hwf2 : Bytes.WF (List.take (d.length - 4) d) := fun b hb => hwf b (List.mem_of_mem_take hb)
        refine TonVerif.Proofs.CrcFlip.model_crc32c_flip_ne _ hwf2 j (by simp; omega) e he0 he ?_
        rw [List.getElem_take]
        exact c2
      · -- error in the stored CRC
        rw [List.take_set, List.set_eq_of_length_le (by simp; omega), c1] at c2
        have := congrArg (fun l => l[j - (d.length - 4)]?) (Option.some.inj c2)
        simp only [List.getElem?_drop, show d.length - 4 + (j - (d.length - 4)) = j by omega, List.getElem?_set_self hj,
          List.getElem?_eq_getElem hj, Option.some.injEq] at this
        exact hne this.symm
    · -- the CRC flag got lost: only the magic or the flag byte can do that
      have hF := readFields_flags d f hf
      have hF' := readFields_flags _ f' hf'
      have hl6 := (readFields_len d f hf).1
      by_cases j5 : 5 ≤ j
      · rw [readFlags_set_ge5 d j _ j5, hF] at hF'
        simp only [Option.some.injEq] at hF'
        rw [← hF'] at hc'; exact hc' hc
      · by_cases j4 : j < 4
        · have := readFlags_set_lt4 d j e j4 (by omega) (by omega) (by rw [hF]; rfl)
          rw [this] at hF'; cases hF'
        · have j4 : j = 4 := by omega
          subst j4
          obtain ⟨g1, g2⟩ := readFlags_set4 d _ (by omega) f.fl f'.fl hF hF'
          by_cases hg : f.fl.generic = true
          · obtain ⟨ea, eb⟩ := g2 hg
            have ha6 : d[4].testBit 6 = true := by rw [ea] at hc; simpa [genFlags] using hc
            have hb6 : (d[4] ^^^ e).testBit 6 = false := by
              rw [eb] at hc'; simpa [genFlags] using hc'
            rw [Nat.testBit_xor, ha6] at hb6
            have he6 : e.testBit 6 = true := by simpa using hb6
            rcases h4 rfl with h6 | h64
            · rw [h6] at he6; cases he6
            · subst h64
              rw [genFlags_xor64 _ ha6, ← ea] at eb
              have hs : f'.fl.sizeBytes = f.fl.sizeBytes := by rw [eb]
              obtain ⟨o1, o2, o3, o4, o5⟩ := readFields_set4 d _ f f' hf hf' hs
              have : f'.expectedLen + 4 = f.expectedLen := by
                simp only [Fields.expectedLen, Fields.cellsStart, Fields.hdrEnd, Fields.rootsLen, Fields.indexLen,
                  Fields.crcLen, o1, o2, o3, o5, eb, hc]
                simp
              omega
          · have hg' : f.fl.generic = false := by simpa using hg
            rw [g1 hg'] at hc'; exact hc' hc

/-- flip bit `k` (0 = most significant bit of byte 0) of a byte string. -/
def flipBit (d : Bytes) (k : Nat) : Bytes := d.set (k / 8) (d.getD (k / 8) 0 ^^^ (128 >>> (k % 8)))

theorem flipMask_props (k : Nat) : 0 < 128 >>> (k % 8) ∧ 128 >>> (k % 8) < 256 ∧
    ((128 >>> (k % 8)).testBit 6 = false ∨ 128 >>> (k % 8) = 64) := by
  have : k % 8 = 0 ∨ k % 8 = 1 ∨ k % 8 = 2 ∨ k % 8 = 3 ∨ k % 8 = 4 ∨ k % 8 = 5 ∨ k % 8 = 6 ∨ k % 8 = 7 := by omega
  rcases this with h | h | h | h | h | h | h | h <;> rw [h] <;> decide

/-! ### accepts: second loop = denotation -/

/-- the record a listing entry must be read back as. -/
def raw (c : SCell) : RawCell := { bits := c.bits, refs := c.refs, type := c.kind }

theorem infos_eq_mapM (H : Bytes → Bytes) : ∀ ts : List Cell, Cell.infos H ts = ts.mapM (Cell.info H) := by
  intro ts
  induction ts with
  | nil => simp [Cell.infos]
  | cons c cs ih =>
    rw [Cell.infos, List.mapM_cons, ih]

theorem mapM_infos_of_pairs (H : Bytes → Bytes) (ps : List CellV) (h : ∀ p ∈ ps, Cell.info H p.1 = some p.2) :
    (ps.map (·.1)).mapM (Cell.info H) = some (ps.map (·.2)) :=
  mapM_map_eq (·.1) (Cell.info H) (·.2) ps h

theorem lookup_lift {α β : Type} (f : α → β) (out : List α) (base : Nat) : ∀ (refs : List Nat) (kids : List β),
    refs.mapM (fun r => if r ≤ base then none else (out.map f)[r - base - 1]?) = some kids →
    ∃ ks, refs.mapM (fun r => if r < base then none else if r = base then none else out[r - base - 1]?) = some ks ∧
      ks.map f = kids ∧ ∀ p ∈ ks, p ∈ out := by
  intro refs
  induction refs with
  | nil => intro kids h; simp at h; subst h; exact ⟨[], by simp⟩
  | cons r rs ih =>
    intro kids h
    rw [List.mapM_cons] at h
    by_cases hr : r ≤ base
    · simp [hr] at h
    · simp only [hr, if_false, List.getElem?_map, Option.bind_eq_bind, Option.bind_eq_some_iff, Option.map_eq_some_iff,
        Option.pure_def, Option.some.injEq] at h
      obtain ⟨_, ⟨p, ho, rfl⟩, kids', hm, rfl⟩ := h
      obtain ⟨ks, h1, h2, h3⟩ := ih kids' (by simpa only [List.getElem?_map] using hm)
      refine ⟨p :: ks, ?_, by rw [List.map_cons, h2], ?_⟩
      · have a1 : ¬ r < base := by omega
        have a2 : ¬ r = base := by omega
        simp only [List.mapM_cons, a1, a2, if_false, ho, h1]
        rfl
      · intro q hq
        rcases List.mem_cons.mp hq with rfl | hq
        · exact List.mem_of_getElem? ho
        · exact h3 q hq

/-- second loop = denotation: rebuilding the records of a listing bottom-up yields exactly the denoted trees, each
paired with what the constructor computes for it, provided every denoted cell is constructible. -/
theorem rebuild_denote (H : Bytes → Bytes) : ∀ (cs : List SCell) (base : Nat) (trees : List Cell),
    denoteFrom cs base = some trees → (∀ t ∈ trees, (Cell.info H t).isSome) →
    ∃ out, rebuildFrom (mkCell H) (cs.map raw) base = some out ∧ out.map (·.1) = trees ∧
      ∀ p ∈ out, Cell.info H p.1 = some p.2 := by
  intro cs
  induction cs with
  | nil => intro base trees h _; simp [denoteFrom] at h; subst h; exact ⟨[], by simp [rebuildFrom]⟩
  | cons c cs ih =>
    intro base trees h hcon
    simp only [denoteFrom, Option.bind_eq_some_iff, Option.map_eq_some_iff] at h
    obtain ⟨lt, hl, kids, hk, rfl⟩ := h
    obtain ⟨out', h1, h2, h3⟩ := ih (base + 1) lt hl (fun t ht => hcon t (List.mem_cons_of_mem _ ht))
    rw [← h2] at hk
    obtain ⟨ks, k1, k2, k3⟩ := lookup_lift (·.1) out' base c.refs kids hk
    have hhead := hcon (Cell.mk c.kind c.bits kids) List.mem_cons_self
    rw [Cell.info, infos_eq_mapM, ← k2, mapM_infos_of_pairs H ks (fun p hp => h3 p (k3 p hp))] at hhead
    simp only [Option.bind_eq_bind, Option.bind_some] at hhead
    obtain ⟨i, hi⟩ := Option.isSome_iff_exists.mp hhead
    refine ⟨(Cell.mk c.kind c.bits (ks.map (·.1)), i) :: out', ?_, ?_, ?_⟩
    · simp only [List.map_cons, rebuildFrom, h1, Option.bind_some, raw, k1, mkCell, hi, Option.map_some]
    · simp [k2, h2]
    · intro p hp
      rcases List.mem_cons.mp hp with rfl | hp
      · simp only [Cell.info, infos_eq_mapM, mapM_infos_of_pairs H ks (fun p hp => h3 p (k3 p hp))]
        simpa using hi
      · exact h3 p hp

/-! ### numbers -/

theorem natToBE_length : ∀ (w v : Nat), (natToBE w v).length = w := by
  intro w; induction w with
  | zero => intro v; rfl
  | succ w ih => intro v; simp [natToBE, ih]

theorem foldl_be_acc : ∀ (b : Bytes) (acc : Nat),
    b.foldl (fun acc x => acc * 256 + x) acc = acc * 256 ^ b.length + b.foldl (fun acc x => acc * 256 + x) 0 := by
  intro b; induction b with
  | nil => intro acc; simp
  | cons x xs ih =>
    intro acc
    simp only [List.foldl_cons, List.length_cons]
    rw [ih (acc * 256 + x), ih (0 * 256 + x), Nat.pow_succ]
    simp only [Nat.zero_mul, Nat.zero_add, Nat.add_mul]
    rw [Nat.mul_assoc, Nat.mul_comm 256, Nat.add_assoc]

theorem natOfBE_append (a b : Bytes) : natOfBE (a ++ b) = natOfBE a * 256 ^ b.length + natOfBE b := by
  unfold natOfBE
  rw [List.foldl_append, foldl_be_acc]

theorem natOfBE_natToBE_mod : ∀ (w v : Nat), natOfBE (natToBE w v) = v % 256 ^ w
  | 0, v => by simp [natToBE, natOfBE, Nat.mod_one]
  | w + 1, v => by
    rw [natToBE, natOfBE_append, natOfBE_natToBE_mod w, Nat.pow_succ, Nat.mul_comm (256 ^ w) 256, Nat.mod_mul]
    simp only [natOfBE, List.foldl_cons, List.foldl_nil, List.length_singleton]
    omega

theorem natOfBE_natToBE (w v : Nat) (h : v < 256 ^ w) : natOfBE (natToBE w v) = v := by
  rw [natOfBE_natToBE_mod, Nat.mod_eq_of_lt h]

theorem natToBE_wf : ∀ (w v : Nat), Bytes.WF (natToBE w v) := by
  intro w; induction w with
  | zero => intro v b hb; cases hb
  | succ w ih =>
    intro v b hb
    rw [natToBE] at hb
    rcases List.mem_append.mp hb with h | h
    · exact ih _ b h
    · simp at h; omega

/-! ### the flag byte and the descriptor byte as positional numerals -/

theorem flagByte_digits (i c h size : Nat) (hi : i < 2) (hc : c < 2) (hh : h < 2) (hs : size < 8) :
    (128 * i + 64 * c + 32 * h + size) / 128 % 2 = i ∧ (128 * i + 64 * c + 32 * h + size) / 64 % 2 = c ∧
    (128 * i + 64 * c + 32 * h + size) / 32 % 2 = h ∧ (128 * i + 64 * c + 32 * h + size) / 16 % 2 = 0 ∧
    (128 * i + 64 * c + 32 * h + size) / 8 % 2 = 0 ∧ (128 * i + 64 * c + 32 * h + size) % 8 = size := by omega

/-- d1 = refs + 8·exotic + 16·with_hashes + 32·mask -/
theorem d1_digits (r e s m : Nat) (hr : r < 8) (he : e < 2) (hs : s < 2) :
    (r + 8 * e + 16 * s + 32 * m) % 8 = r ∧ (r + 8 * e + 16 * s + 32 * m) / 8 % 2 = e ∧
    (r + 8 * e + 16 * s + 32 * m) / 16 % 2 = s ∧ (r + 8 * e + 16 * s + 32 * m) / 32 = m := by omega

theorem bit_lt (b : Bool) : (if b then 1 else 0 : Nat) < 2 := by cases b <;> decide

theorem bit_beq (b : Bool) : ((if b then 1 else 0 : Nat) == 1) = b := by cases b <;> rfl

/-! ### bits and bytes -/

theorem stripTagRev_replicate : ∀ (p n : Nat) (r : Bits), p < n →
    stripTagRev n (List.replicate p false ++ true :: r) = some r := by
  intro p; induction p with
  | zero => intro n r h; cases n with
    | zero => omega
    | succ n => simp [stripTagRev]
  | succ p ih => intro n r h; cases n with
    | zero => omega
    | succ n => simp only [List.replicate_succ, List.cons_append, stripTagRev]; simp; exact ih n r (by omega)

/-- reading the data bytes back and cutting the completion tag gives the original bits. -/
theorem data_roundtrip (bits : Bits) :
    (let bits0 := bytesToBits (Spec.dataBytes bits)
     if (Spec.d2 bits.length % 2 == 1 && !bits0.isEmpty) then stripTag bits0 else bits0) = bits := by
  simp only [← CellSpec.padBits_eq]
  unfold Spec.padBits Spec.d2
  by_cases h8 : bits.length % 8 = 0
  · have : (bits.length / 8 + (bits.length + 7) / 8) % 2 = 0 := by omega
    simp [h8, this]
  · have : (bits.length / 8 + (bits.length + 7) / 8) % 2 = 1 := by omega
    simp only [h8, if_false, this, beq_self_eq_true, Bool.true_and]
    have hne : (bits ++ [true] ++ List.replicate (7 - bits.length % 8) false).isEmpty = false := by
      cases bits <;> simp
    simp only [hne, Bool.not_false, if_true]
    unfold stripTag
    have hr : (bits ++ [true] ++ List.replicate (7 - bits.length % 8) false).reverse =
        List.replicate (7 - bits.length % 8) false ++ true :: bits.reverse := by
      simp [List.reverse_append]
    rw [hr, stripTagRev_replicate _ 7 _ (by omega)]
    simp

/-! ### slices of concatenations -/

theorem pySlice_mid {α : Type} (pre seg post : List α) (a b : Nat) (ha : a = pre.length) (hb : b = pre.length + seg.length) :
    pySlice (pre ++ seg ++ post) a b = seg := by
  subst ha; subst hb
  unfold pySlice
  rw [List.append_assoc, List.take_append, List.take_of_length_le (by omega)]
  simp

theorem pySlice_split {α : Type} {d : List α} (pre seg post : List α) {a b : Nat} (h : d = pre ++ seg ++ post)
    (ha : a = pre.length) (hb : b = a + seg.length) : pySlice d a b = seg := by
  subst h ha hb
  exact pySlice_mid pre seg post _ _ rfl rfl

theorem flatMap_length_uniform {α β : Type} (f : α → List β) (w : Nat) (h : ∀ x, (f x).length = w) (xs : List α) :
    (xs.flatMap f).length = xs.length * w := by
  rw [List.flatMap_def, Bits.flatten_length_uniform w _ (by simp [h]), List.length_map]

theorem uintsAt_flatMap (size : Nat) (xs : List Nat) (hx : ∀ x ∈ xs, x < 256 ^ size) (pre post : Bytes) (a : Nat)
    (ha : a = pre.length) :
    uintsAt (pre ++ xs.flatMap (natToBE size) ++ post) a size xs.length = xs := by
  subst ha
  unfold uintsAt
  apply List.ext_getElem
  · simp
  · intro t h1 h2
    simp only [List.getElem_map, List.getElem_range]
    have ht : t < xs.length := by simpa using h1
    have hsplit : xs = xs.take t ++ xs[t] :: xs.drop (t + 1) := by
      rw [List.getElem_cons_drop ht, List.take_append_drop]
    have hfl : xs.flatMap (natToBE size) =
        (xs.take t).flatMap (natToBE size) ++ natToBE size xs[t] ++ (xs.drop (t + 1)).flatMap (natToBE size) := by
      calc xs.flatMap (natToBE size) = (xs.take t ++ xs[t] :: xs.drop (t + 1)).flatMap (natToBE size) := by rw [← hsplit]
        _ = _ := by rw [List.flatMap_append, List.flatMap_cons, List.append_assoc]
    have hlen : ((xs.take t).flatMap (natToBE size)).length = t * size := by
      rw [flatMap_length_uniform _ size (natToBE_length size), List.length_take, Nat.min_eq_left (by omega)]
    unfold uintAt
    rw [hfl]
    have : pre ++ ((xs.take t).flatMap (natToBE size) ++ natToBE size xs[t] ++ (xs.drop (t + 1)).flatMap (natToBE size)) ++ post
        = (pre ++ (xs.take t).flatMap (natToBE size)) ++ natToBE size xs[t] ++ ((xs.drop (t + 1)).flatMap (natToBE size) ++ post) := by
      simp [List.append_assoc]
    rw [this, pySlice_mid _ _ _ _ _ (by simp [hlen]) (by simp [hlen, natToBE_length])]
    exact natOfBE_natToBE _ _ (hx _ (List.getElem_mem ht))

/-! ### one cell record -/

/-- `deserialize_cell` on a record laid out as d1 d2 | hash block | data | reference indices | anything. -/
theorem deserializeCell_record (d1 d2 size : Nat) (HB DB rest : Bytes) (refs : List Nat)
    (hHB : HB.length = if (d1 / 16 % 2 == 1) = true then (Model.popcount (d1 / 32) + 1) * 34 else 0)
    (hDB : DB.length = d2 / 2 + d2 % 2) (hn : refs.length = d1 % 8) (hfit : ∀ r ∈ refs, r < 256 ^ size) (h7 : d1 % 8 ≠ 7) :
    deserializeCell (d1 :: d2 :: (HB ++ DB ++ refs.flatMap (natToBE size) ++ rest)) size =
      (let bits0 := bytesToBits DB
       let bits := if (d2 % 2 == 1 && !bits0.isEmpty) = true then stripTag bits0 else bits0
       (if (d1 / 8 % 2 == 1) = true then (if bits.length < 8 then none else some (signed8 bits)) else some (-1)).bind fun ty =>
         some ({ bits := bits, refs := refs, type := ty }, 2 + HB.length + DB.length + refs.length * size)) := by
  have hRB : (refs.flatMap (natToBE size)).length = size * (d1 % 8) := by
    rw [flatMap_length_uniform _ size (natToBE_length size), hn, Nat.mul_comm]
  have hi : (2 + if (d1 / 16 % 2 == 1) = true then
      (if (d1 / 16 % 2 == 1) = true then (Model.popcount (d1 / 32) + 1) * 32 else 0) +
        (if ((if (d1 / 16 % 2 == 1) = true then (Model.popcount (d1 / 32) + 1) * 32 else 0) != 0) = true
          then (Model.popcount (d1 / 32) + 1) * 2 else 0) else 0) = 2 + HB.length := by
    rw [hHB]; split <;> simp <;> omega
  have hlen : ¬ (d1 :: d2 :: (HB ++ DB ++ refs.flatMap (natToBE size) ++ rest)).length < 2 +
      ((if (d1 / 16 % 2 == 1) = true then (Model.popcount (d1 / 32) + 1) * 32 else 0) +
        (if ((if (d1 / 16 % 2 == 1) = true then (Model.popcount (d1 / 32) + 1) * 32 else 0) != 0) = true
          then (Model.popcount (d1 / 32) + 1) * 2 else 0) + (d2 / 2 + d2 % 2) + size * (d1 % 8)) := by
    simp only [List.length_cons, List.length_append, hHB, hDB, hRB]
    split <;> simp <;> omega
  have hslice : pySlice (d1 :: d2 :: (HB ++ DB ++ refs.flatMap (natToBE size) ++ rest)) (2 + HB.length)
      (2 + HB.length + (d2 / 2 + d2 % 2)) = DB :=
    pySlice_split (d1 :: d2 :: HB) DB (refs.flatMap (natToBE size) ++ rest) (by simp) (by simp; omega) (by rw [hDB])
  have hrefs : uintsAt (d1 :: d2 :: (HB ++ DB ++ refs.flatMap (natToBE size) ++ rest)) (2 + HB.length + DB.length) size (d1 % 8) = refs := by
    rw [← hn, show d1 :: d2 :: (HB ++ DB ++ refs.flatMap (natToBE size) ++ rest) =
      (d1 :: d2 :: (HB ++ DB)) ++ refs.flatMap (natToBE size) ++ rest by simp]
    exact uintsAt_flatMap size refs hfit _ rest _ (by simp; omega)
  have h7' : (d1 % 8 == 7 && d1 / 16 % 2 == 1) = false := by simp [h7]
  unfold deserializeCell
  simp only [List.getElem?_cons_zero, List.getElem?_cons_succ, Option.bind_some, h7', Bool.false_eq_true, if_false,
    hlen, hi, hslice]
  rw [← hDB, hrefs, hn]

theorem signed8_kind (bits : Bits) (kind : Int) (h1 : -128 ≤ kind) (h2 : kind < 128)
    (h : natOfBits (bits.take 8) = (kind % 256).toNat) : signed8 bits = kind := by
  unfold signed8
  simp only [h]
  split <;> omega

/-- what the per-cell part of `Valid` gives for one cell. -/
structure RecOK (size : Nat) (c : SCell) : Prop where
  bits : c.bits.length ≤ 1023
  refs : c.refs.length ≤ 4
  refsFit : ∀ r ∈ c.refs, r < 256 ^ size
  exotic : c.kind ≠ -1 → 8 ≤ c.bits.length ∧ -128 ≤ c.kind ∧ c.kind < 128 ∧ natOfBits (c.bits.take 8) = (c.kind % 256).toNat
  mask : c.mask < 8
  hashes : c.hashes.length = Spec.popcount c.mask + 1
  hashes32 : ∀ h ∈ c.hashes, h.length = 32 ∧ Bytes.WF h
  depths : c.depths.length = Spec.popcount c.mask + 1

theorem encodeCell_roundtrip (size : Nat) (c : SCell) (store : Bool) (rest : Bytes) (ok : RecOK size c) :
    deserializeCell (encodeCell size c store ++ rest) size = some (raw c, (encodeCell size c store).length) := by
  have hr := ok.refs
  obtain ⟨e2, e4, e3, e1⟩ := d1_digits c.refs.length (if c.kind = -1 then 0 else 1) (if store then 1 else 0) c.mask
    (by omega) (by split <;> omega) (bit_lt store)
  have hHB : (if store then hashBlock c else []).length = if store then (Model.popcount c.mask + 1) * 34 else 0 := by
    cases store
    · rfl
    · simp only [if_true, hashBlock, List.length_append, Bits.flatten_length_uniform 32 _ (fun x hx => (ok.hashes32 x hx).1),
        flatMap_length_uniform _ 2 (natToBE_length 2), ok.hashes, ok.depths, CellSpec.popcount_eq]; omega
  have hlen : (encodeCell size c store).length =
      2 + (if store then hashBlock c else []).length + (Spec.dataBytes c.bits).length + c.refs.length * size := by
    simp only [encodeCell, List.length_append, List.length_cons, List.length_nil, flatMap_length_uniform _ size (natToBE_length size)]
  have hdr := data_roundtrip c.bits
  simp only at hdr
  generalize hd1 : c.refs.length + 8 * (if c.kind = -1 then 0 else 1) + 16 * (if store = true then 1 else 0) + 32 * c.mask = d1
    at e1 e2 e3 e4
  rw [hlen, show encodeCell size c store ++ rest = d1 :: Spec.d2 c.bits.length :: ((if store then hashBlock c else []) ++
      Spec.dataBytes c.bits ++ c.refs.flatMap (natToBE size) ++ rest) by simp [encodeCell, hd1],
    deserializeCell_record d1 _ size _ _ rest c.refs (by rw [e3, e1, hHB, bit_beq])
      (by rw [CellSpec.dataBytes_length, Spec.d2]; omega) e2.symm ok.refsFit (by omega)]
  simp only [hdr, e4]
  by_cases hk : c.kind = -1
  · simp [hk, raw]
  · obtain ⟨k1, k2, k3, k4⟩ := ok.exotic hk
    simp [hk, show ¬ c.bits.length < 8 by omega, signed8_kind c.bits c.kind k2 k3 k4, raw]

/-- first loop: the concatenated records of a listing are read back one by one. -/
theorem readCells_records (size : Nat) (store : List Bool) : ∀ (cs : List SCell) (base : Nat) (rest : Bytes),
    (∀ c ∈ cs, RecOK size c) →
    readCells cs.length ((records size store cs base).flatten ++ rest) size = some (cs.map raw) := by
  intro cs
  induction cs with
  | nil => intro base rest _; simp [readCells]
  | cons c cs ih =>
    intro base rest h
    simp only [records, List.flatten_cons, List.length_cons, readCells, List.append_assoc]
    rw [encodeCell_roundtrip size c _ _ (h c List.mem_cons_self)]
    simp only [Option.bind_some, List.drop_left]
    rw [ih (base + 1) rest (fun x hx => h x (List.mem_cons_of_mem _ hx))]
    simp

/-! ### header of a laid-out bag -/

theorem readFields_layout (M C1 C2 C3 T rest : Bytes) (b4 off : Nat) (fl : Flags)
    (hM : M.length = 4) (hfl : ∀ r, readFlags (M ++ b4 :: r) = some fl) (hs1 : 1 ≤ fl.sizeBytes)
    (hC1 : C1.length = fl.sizeBytes) (hC2 : C2.length = fl.sizeBytes) (hC3 : C3.length = fl.sizeBytes)
    (hT : T.length = off) :
    readFields (M ++ b4 :: off :: (C1 ++ C2 ++ C3 ++ T ++ rest)) =
      some { fl := fl, off := off, cells := natOfBE C1, roots := natOfBE C2, absent := natOfBE C3, tot := natOfBE T } := by
  generalize hD : M ++ b4 :: off :: (C1 ++ C2 ++ C3 ++ T ++ rest) = D
  refine (readFields_eq_some ..).2 ⟨hD ▸ hfl _, ?_, by omega, ?_, ?_, ?_, ?_, ?_⟩
  · rw [← hD]; simp only [List.length_append, List.length_cons, hM, hC1, hC2, hC3]; omega
  · rw [← hD, List.getElem?_append_right (by omega), hM]; rfl
  · rw [pySlice_split (M ++ [b4, off]) C1 (C2 ++ C3 ++ T ++ rest) (by simp [← hD]) (by simp [hM]) (by rw [hC1])]
  · rw [pySlice_split (M ++ [b4, off] ++ C1) C2 (C3 ++ T ++ rest) (by simp [← hD]) (by simp [hM, hC1]; omega) (by rw [hC2])]
  · rw [pySlice_split (M ++ [b4, off] ++ C1 ++ C2) C3 (T ++ rest) (by simp [← hD]) (by simp [hM, hC1, hC2]; omega) (by rw [hC3])]
  · rw [pySlice_split (M ++ [b4, off] ++ C1 ++ C2 ++ C3) T rest (by simp [← hD]) (by simp [hM, hC1, hC2, hC3]; omega) (by rw [hT])]

/-! ### the encoder's pieces -/

theorem wf_append {a b : Bytes} (ha : Bytes.WF a) (hb : Bytes.WF b) : Bytes.WF (a ++ b) := by
  intro x hx; rcases List.mem_append.mp hx with h | h
  · exact ha x h
  · exact hb x h

theorem wf_flatMap_be {α : Type} (w : Nat) (g : α → Nat) (xs : List α) : Bytes.WF (xs.flatMap (fun x => natToBE w (g x))) := by
  intro b hb
  obtain ⟨x, _, hx⟩ := List.mem_flatMap.mp hb
  exact natToBE_wf _ _ b hx

theorem wf_flatMap_be' (w : Nat) (xs : List Nat) : Bytes.WF (xs.flatMap (natToBE w)) := wf_flatMap_be w id xs

theorem wf_flatten (xs : List Bytes) (h : ∀ x ∈ xs, Bytes.WF x) : Bytes.WF xs.flatten := by
  intro b hb
  obtain ⟨x, hx, hbx⟩ := List.mem_flatten.mp hb
  exact h x hx b hbx

theorem encodeCell_wf (size : Nat) (c : SCell) (store : Bool) (ok : RecOK size c) : Bytes.WF (encodeCell size c store) := by
  unfold encodeCell
  have hb := ok.bits; have hr := ok.refs; have hm := ok.mask
  refine wf_append (wf_append (wf_append ?_ ?_) ?_) (wf_flatMap_be' _ _)
  · intro b hb'
    simp only [List.mem_cons, List.not_mem_nil, or_false] at hb'
    rcases hb' with rfl | rfl
    · split <;> split <;> omega
    · unfold Spec.d2; omega
  · split
    · unfold hashBlock
      exact wf_append (wf_flatten _ (fun x hx => (ok.hashes32 x hx).2)) (wf_flatMap_be' _ _)
    · intro b hb'; cases hb'
  · exact Bits.bitsToBytes_wf _

theorem encodeCell_length_ge (size : Nat) (c : SCell) (store : Bool) : 2 ≤ (encodeCell size c store).length := by
  unfold encodeCell; simp only [List.length_append, List.length_cons]; omega

theorem records_length (size : Nat) (store : List Bool) : ∀ (cs : List SCell) (base : Nat),
    (records size store cs base).length = cs.length := by
  intro cs; induction cs with
  | nil => intro _; rfl
  | cons c cs ih => intro base; simp [records, ih]

theorem records_wf (size : Nat) (store : List Bool) : ∀ (cs : List SCell) (base : Nat), (∀ c ∈ cs, RecOK size c) →
    ∀ r ∈ records size store cs base, Bytes.WF r := by
  intro cs; induction cs with
  | nil => intro _ _ r hr; cases hr
  | cons c cs ih =>
    intro base h r hr
    simp only [records, List.mem_cons] at hr
    rcases hr with rfl | hr
    · exact encodeCell_wf _ _ _ (h c List.mem_cons_self)
    · exact ih (base + 1) (fun x hx => h x (List.mem_cons_of_mem _ hx)) r hr

theorem records_flatten_ge (size : Nat) (store : List Bool) (cs : List SCell) (base : Nat) (h : 0 < cs.length) :
    2 ≤ ((records size store cs base).flatten).length := by
  cases cs with
  | nil => simp at h
  | cons c cs =>
    simp only [records, List.flatten_cons, List.length_append]
    have := encodeCell_length_ge size c (store.getD base false); omega

theorem endOffsets_length : ∀ (rs : List Bytes) (acc : Nat), (endOffsets rs acc).length = rs.length := by
  intro rs; induction rs with
  | nil => intro _; rfl
  | cons r rs ih => intro acc; simp [endOffsets, ih]

theorem indexEntries_length (cache : Bool) (cf : List Bool) : ∀ (es : List Nat) (k : Nat),
    (indexEntries cache cf es k).length = es.length := by
  intro es; induction es with
  | nil => intro _; rfl
  | cons e es ih => intro k; simp [indexEntries, ih]

theorem two_le_pow_off (off tot : Nat) (h2 : 2 ≤ tot) (h : tot < 256 ^ off) : off ≠ 0 := by
  intro h0; subst h0; simp at h; omega

/-! ### flag bytes of the three constructors -/

theorem readFlags_generic (idx crc cache : Bool) (size : Nat) (hs : size < 8) (r : Bytes) :
    readFlags ([0xb5, 0xee, 0x9c, 0x72] ++
      (128 * (if idx then 1 else 0) + 64 * (if crc then 1 else 0) + 32 * (if cache then 1 else 0) + size) :: r) =
      some { generic := true, hasIdx := idx, hasCrc := crc, hasCacheBits := cache, flags := 0, sizeBytes := size } := by
  obtain ⟨h7, h6, h5, h4, h3, h8⟩ := flagByte_digits _ _ _ size (bit_lt idx) (bit_lt crc) (bit_lt cache) hs
  simp [readFlags, pySlice, magicGeneric, BocHeaderPath.testBit_div, h7, h6, h5, h4, h3, h8, bit_beq]

theorem readFlags_legacy (fr : Freedoms) (hg : fr.magic ≠ .generic) (size : Nat) (r : Bytes) :
    readFlags (fr.magic.bytes ++ size :: r) =
      some { generic := false, hasIdx := true, hasCrc := fr.withCrc, hasCacheBits := false, flags := 0, sizeBytes := size } := by
  cases hmg : fr.magic with
  | generic => exact absurd hmg hg
  | idx => simp [Freedoms.withCrc, hmg, Magic.bytes, readFlags, pySlice, magicGeneric, magicIdx]
  | idxCrc => simp [Freedoms.withCrc, hmg, Magic.bytes, readFlags, pySlice, magicGeneric, magicIdx, magicIdxCrc]

/-! ### header of an encoding -/

theorem crcBytes_spec (body : Bytes) (h : Bytes.WF body) :
    Model.crc32c body = some (crcBytes body) ∧ (crcBytes body).length = 4 := by
  constructor
  · have := TonVerif.Properties.C18.c18_crc32c body h false
    simpa [crcBytes] using this
  · simp [crcBytes, Spec.le32]

/-- the byte layout shared by the three constructors (legacy ones: empty root list). -/
def layoutBody (M RL IDX CD : Bytes) (b4 off size n nr : Nat) : Bytes :=
  M ++ [b4] ++ [off] ++ (natToBE size n ++ natToBE size nr ++ natToBE size 0 ++ natToBE off CD.length) ++ RL ++ IDX ++ CD

theorem header_of_layout (M RL IDX CD : Bytes) (b4 off size n nr : Nat) (fl : Flags)
    (hM : M.length = 4) (hMwf : Bytes.WF M) (hfl : ∀ r, readFlags (M ++ b4 :: r) = some fl) (hsz : fl.sizeBytes = size)
    (hs1 : 1 ≤ size) (hn : n < 256 ^ size) (hnr : nr < 256 ^ size) (htot : CD.length < 256 ^ off) (hoff : off ≠ 0)
    (hb4 : b4 < 256) (hoff8 : off < 256)
    (hRL : RL.length = if fl.generic then nr * size else 0) (hleg : fl.generic = false → nr = 1)
    (hIDX : IDX.length = if fl.hasIdx then n * off else 0)
    (wRL : Bytes.WF RL) (wIDX : Bytes.WF IDX) (wCD : Bytes.WF CD) (data : Bytes)
    (hdata0 : data = if fl.hasCrc then layoutBody M RL IDX CD b4 off size n nr ++ crcBytes (layoutBody M RL IDX CD b4 off size n nr)
      else layoutBody M RL IDX CD b4 off size n nr) :
    ∃ h, deserializeBocHeader data = some h ∧ h.fl = fl ∧ h.cellsNum = n ∧ h.cellsData = CD ∧
      h.rootList = (if fl.generic then uintsAt data (6 + 3 * size + off) size nr else [0]) ∧ Bytes.WF data := by
  subst hsz
  generalize hB : layoutBody M RL IDX CD b4 off fl.sizeBytes n nr = B at hdata0
  have hBe : B = M ++ b4 :: off :: (natToBE fl.sizeBytes n ++ natToBE fl.sizeBytes nr ++ natToBE fl.sizeBytes 0 ++
      natToBE off CD.length ++ (RL ++ IDX ++ CD)) := by rw [← hB]; simp [layoutBody, List.append_assoc]
  have wB : Bytes.WF B := by
    rw [hBe]
    refine wf_append hMwf fun x hx => ?_
    rcases List.mem_cons.1 hx with rfl | hx
    · exact hb4
    rcases List.mem_cons.1 hx with rfl | hx
    · exact hoff8
    · exact wf_append (wf_append (wf_append (wf_append (natToBE_wf _ _) (natToBE_wf _ _)) (natToBE_wf _ _)) (natToBE_wf _ _))
        (wf_append (wf_append wRL wIDX) wCD) x hx
  obtain ⟨k1, k2⟩ := crcBytes_spec B wB
  -- `data = B ++ C`, `C` the checksum or nothing
  obtain ⟨C, hC, hCl, hCc⟩ : ∃ C, data = B ++ C ∧ C.length = (if fl.hasCrc then 4 else 0) ∧ (fl.hasCrc = true → C = crcBytes B) := by
    by_cases hc : fl.hasCrc = true
    · exact ⟨crcBytes B, by rw [hdata0, if_pos hc], by rw [if_pos hc, k2], fun _ => rfl⟩
    · exact ⟨[], by rw [hdata0, if_neg hc, List.append_nil], by rw [if_neg hc]; rfl, fun h => absurd h hc⟩
  have hBl : B.length = 6 + 3 * fl.sizeBytes + off + RL.length + IDX.length + CD.length := by
    rw [hBe]; simp only [List.length_append, List.length_cons, hM, natToBE_length]; omega
  have hF : readFields data = some ⟨fl, off, n, nr, 0, CD.length⟩ := by
    have := readFields_layout M (natToBE fl.sizeBytes n) (natToBE fl.sizeBytes nr) (natToBE fl.sizeBytes 0) (natToBE off CD.length)
      (RL ++ IDX ++ CD ++ C) b4 off fl hM hfl hs1 (natToBE_length _ _) (natToBE_length _ _) (natToBE_length _ _) (natToBE_length _ _)
    rw [natOfBE_natToBE _ _ hn, natOfBE_natToBE _ _ hnr, natOfBE_natToBE _ _ (Nat.pow_pos (by omega)), natOfBE_natToBE _ _ htot] at this
    rw [hC, hBe, ← this]; simp [List.append_assoc]
  refine ⟨⟨fl, off, n, nr, 0, CD.length, _, if fl.hasIdx then uintsAt data (6 + 3 * fl.sizeBytes + off +
      if fl.generic then nr * fl.sizeBytes else 0) off n else [], CD⟩,
    (header_iff _ _).2 ⟨hF, ?_, hleg, rfl, fun _ => hoff, rfl, ?_, fun hc => ?_⟩, rfl, rfl, rfl, rfl, ?_⟩
  · dsimp only [Header.fields, Fields.expectedLen, Fields.cellsStart, Fields.hdrEnd, Fields.rootsLen, Fields.indexLen, Fields.crcLen]
    rw [hC, List.length_append, hBl, hRL, hIDX, hCl]
  · dsimp only [Header.fields, Fields.cellsStart, Fields.hdrEnd, Fields.rootsLen, Fields.indexLen]
    rw [← hRL, ← hIDX]
    exact (pySlice_split (M ++ [b4, off] ++ natToBE fl.sizeBytes n ++ natToBE fl.sizeBytes nr ++ natToBE fl.sizeBytes 0 ++
      natToBE off CD.length ++ RL ++ IDX) CD C (by rw [hC, hBe]; simp [List.append_assoc])
      (by simp [hM, natToBE_length]; omega) rfl).symm
  · rw [if_pos hc] at hCl
    rw [hC, List.length_append, hCl, Nat.add_sub_cancel, List.take_left', k1, hCc hc, List.drop_left']
    all_goals rfl
  · rw [hC]
    refine wf_append wB ?_
    by_cases hc : fl.hasCrc = true
    · rw [hCc hc]; intro b hb
      simp only [crcBytes, List.mem_map] at hb
      obtain ⟨x, _, rfl⟩ := hb
      exact x.isLt
    · rw [if_neg hc] at hCl; rw [List.eq_nil_of_length_eq_zero hCl]; intro b hb; cases hb

/-! ### acceptance of every valid encoding -/

theorem recOK_of_cellsOK (size : Nat) (cells : List SCell) (h : CellsOK cells) (hn : cells.length < 256 ^ size) :
    ∀ c ∈ cells, RecOK size c := by
  intro c hc
  obtain ⟨pos, hpos, rfl⟩ := List.getElem_of_mem hc
  obtain ⟨a, b, r, e, m, hh, h32, d⟩ := h pos hpos
  exact ⟨a, b, fun x hx => by have := (r x hx).2; omega, e, m, hh, h32, d⟩

theorem roots_lookup {α β : Type} (f : α → β) (all : List α) : ∀ (roots : List Nat), (∀ r ∈ roots, r < all.length) →
    ∃ out, roots.mapM (fun r => all[r]?) = some out ∧ roots.mapM (fun r => (all.map f)[r]?) = some (out.map f) ∧
      ∀ p ∈ out, p ∈ all := by
  intro roots
  induction roots with
  | nil => intro _; exact ⟨[], by simp⟩
  | cons r rs ih =>
    intro h
    obtain ⟨out, h1, h2, h3⟩ := ih (fun x hx => h x (List.mem_cons_of_mem _ hx))
    have hr : r < all.length := h r List.mem_cons_self
    refine ⟨all[r] :: out, ?_, ?_, ?_⟩
    · rw [List.mapM_cons, List.getElem?_eq_getElem hr, h1]; rfl
    · rw [List.mapM_cons, List.getElem?_map, List.getElem?_eq_getElem hr, h2]; rfl
    · intro p hp
      rcases List.mem_cons.mp hp with rfl | hp
      · exact List.getElem_mem hr
      · exact h3 p hp

/-- the header of every valid encoding is accepted and yields the listing's data. -/
theorem encode_header (fr : Freedoms) (cells : List SCell) (roots : List Nat) (hv : Valid fr cells roots) :
    ∃ h, deserializeBocHeader (encodeWith fr cells roots) = some h ∧ h.fl.sizeBytes = fr.size ∧
      h.cellsNum = cells.length ∧ h.cellsData = (records fr.size fr.storeHashes cells 0).flatten ∧ h.rootList = roots ∧
      h.fl.hasCrc = fr.withCrc ∧ Bytes.WF (encodeWith fr cells roots) := by
  obtain ⟨hcells, hs1, hs4, hn, hoff8, htot, hm⟩ := hv
  have hrec := recOK_of_cellsOK fr.size cells hcells hn
  have wCD : Bytes.WF (records fr.size fr.storeHashes cells 0).flatten := wf_flatten _ (records_wf _ _ _ _ hrec)
  have htot' : ((records fr.size fr.storeHashes cells 0).flatten).length < 256 ^ fr.offBytes := by
    simp only at htot; split at htot <;> omega
  have hidxlen : ((indexEntries fr.withCache fr.cacheFlags (endOffsets (records fr.size fr.storeHashes cells 0) 0) 0).flatMap
      (natToBE fr.offBytes)).length = cells.length * fr.offBytes := by
    rw [flatMap_length_uniform _ _ (natToBE_length _), indexEntries_length, endOffsets_length, records_length]
  have h256 : (256 : Nat) ≤ 256 ^ fr.size := by
    calc 256 = 256 ^ 1 := by simp
      _ ≤ 256 ^ fr.size := Nat.pow_le_pow_right (by omega) hs1
  by_cases hmg : fr.magic = .generic
  · rw [hmg] at hm
    obtain ⟨hr0, hrlt, hrn, hci⟩ := hm
    have hpos : 0 < cells.length := by
      cases roots with
      | nil => exact absurd rfl hr0
      | cons r rs => have := hrlt r List.mem_cons_self; omega
    have hoff := two_le_pow_off _ _ (records_flatten_ge fr.size fr.storeHashes cells 0 hpos) htot'
    obtain ⟨h, h1, h2, h3, h4, h5, h6⟩ := header_of_layout [0xb5, 0xee, 0x9c, 0x72] (roots.flatMap (natToBE fr.size))
      (if fr.hasIdx then (indexEntries fr.withCache fr.cacheFlags (endOffsets (records fr.size fr.storeHashes cells 0) 0) 0).flatMap
        (natToBE fr.offBytes) else [])
      (records fr.size fr.storeHashes cells 0).flatten
      (128 * (if fr.hasIdx then 1 else 0) + 64 * (if fr.hasCrc then 1 else 0) + 32 * (if fr.hasCacheBits then 1 else 0) + fr.size)
      fr.offBytes fr.size cells.length roots.length
      { generic := true, hasIdx := fr.hasIdx, hasCrc := fr.hasCrc, hasCacheBits := fr.hasCacheBits, flags := 0, sizeBytes := fr.size }
      rfl (by decide) (fun r => readFlags_generic _ _ _ _ (by omega) r) rfl hs1 hn hrn htot' hoff
      (by split <;> split <;> split <;> omega) (by omega)
      (by simp [flatMap_length_uniform _ _ (natToBE_length fr.size)]) (by simp)
      (by cases fr.hasIdx <;> simp [hidxlen])
      (wf_flatMap_be' _ _) (by split; exact wf_flatMap_be' _ _; intro b hb; cases hb) wCD
      (encodeWith fr cells roots)
      (by simp only [encodeWith, encodeBody, Freedoms.withCrc, hmg, Magic.bytes, layoutBody])
    refine ⟨h, h1, by rw [h2], h3, h4, ?_, by rw [h2]; simp [Freedoms.withCrc, hmg], h6⟩
    rw [h5]
    simp only [if_true]
    -- the root list is read back
    have hbody : ∃ pre post0, encodeBody fr cells roots = pre ++ roots.flatMap (natToBE fr.size) ++ post0 ∧
        pre.length = 6 + 3 * fr.size + fr.offBytes := by
      refine ⟨[0xb5, 0xee, 0x9c, 0x72] ++ [128 * (if fr.hasIdx then 1 else 0) + 64 * (if fr.hasCrc then 1 else 0) + 32 * (if fr.hasCacheBits then 1 else 0) + fr.size]
          ++ [fr.offBytes] ++ (natToBE fr.size cells.length ++ natToBE fr.size roots.length ++ natToBE fr.size 0 ++
            natToBE fr.offBytes (records fr.size fr.storeHashes cells 0).flatten.length),
        (if fr.hasIdx then (indexEntries fr.withCache fr.cacheFlags (endOffsets (records fr.size fr.storeHashes cells 0) 0) 0).flatMap
            (natToBE fr.offBytes) else []) ++ (records fr.size fr.storeHashes cells 0).flatten, ?_, ?_⟩
      · simp only [encodeBody, hmg, Magic.bytes, List.append_assoc]
      · simp [natToBE_length]; omega
    obtain ⟨pre, post0, hb1, hb2⟩ := hbody
    have hform : ∃ post, encodeWith fr cells roots = pre ++ roots.flatMap (natToBE fr.size) ++ post := by
      refine ⟨if fr.withCrc then post0 ++ crcBytes (encodeBody fr cells roots) else post0, ?_⟩
      simp only [encodeWith]
      split
      · generalize crcBytes (encodeBody fr cells roots) = C
        rw [hb1]; simp only [List.append_assoc]
      · exact hb1
    obtain ⟨post, e1⟩ := hform
    have e2 := hb2
    rw [e1]
    exact uintsAt_flatMap fr.size roots (fun r hr => by have := hrlt r hr; omega) pre post _ e2.symm
  · -- the two legacy constructors: one root, always an index, CRC decided by the magic
    have hm' : roots = [0] ∧ 0 < cells.length := by
      cases hmg' : fr.magic with
      | generic => exact absurd hmg' hmg
      | idx => rw [hmg'] at hm; exact hm
      | idxCrc => rw [hmg'] at hm; exact hm
    obtain ⟨rfl, hpos⟩ := hm'
    have hoff := two_le_pow_off _ _ (records_flatten_ge fr.size fr.storeHashes cells 0 hpos) htot'
    obtain ⟨h, h1, h2, h3, h4, h5, h6⟩ := header_of_layout fr.magic.bytes []
      ((indexEntries fr.withCache fr.cacheFlags (endOffsets (records fr.size fr.storeHashes cells 0) 0) 0).flatMap (natToBE fr.offBytes))
      (records fr.size fr.storeHashes cells 0).flatten fr.size fr.offBytes fr.size cells.length 1 _
      (by cases fr.magic <;> rfl) (by cases fr.magic <;> decide) (readFlags_legacy fr hmg fr.size) rfl hs1 hn (by omega) htot' hoff
      (by omega) (by omega) (by simp) (by simp) (by simp [hidxlen])
      (by intro b hb; cases hb) (wf_flatMap_be' _ _) wCD
      (encodeWith fr cells [0])
      (by
        cases hmg' : fr.magic with
        | generic => exact absurd hmg' hmg
        | idx => simp [encodeWith, encodeBody, Freedoms.withCrc, hmg', Magic.bytes, layoutBody, List.append_assoc]
        | idxCrc => simp [encodeWith, encodeBody, Freedoms.withCrc, hmg', Magic.bytes, layoutBody, List.append_assoc])
    refine ⟨h, h1, by rw [h2], h3, h4, ?_, by rw [h2], h6⟩
    rw [h5]; simp

theorem denoteFrom_length : ∀ (cs : List SCell) (base : Nat) (trees : List Cell),
    denoteFrom cs base = some trees → trees.length = cs.length := by
  intro cs; induction cs with
  | nil => intro base trees h; simp [denoteFrom] at h; subst h; rfl
  | cons c cs ih =>
    intro base trees h
    simp only [denoteFrom, Option.bind_eq_some_iff, Option.map_eq_some_iff] at h
    obtain ⟨lt, hl, kids, -, rfl⟩ := h
    simp [ih _ _ hl]

/-- ACCEPTANCE: every valid encoding parses to exactly the denoted roots. -/
theorem encode_accepts (H : Bytes → Bytes) (fr : Freedoms) (cells : List SCell) (roots : List Nat)
    (hv : Valid fr cells roots) (trees : List Cell) (hden : denote cells = some trees)
    (hcon : ∀ t ∈ trees, (Cell.info H t).isSome) :
    ∃ out, fromBoc H (encodeWith fr cells roots) = some out ∧
      roots.mapM (fun r => trees[r]?) = some (out.map (·.1)) ∧ ∀ p ∈ out, Cell.info H p.1 = some p.2 := by
  obtain ⟨h, h1, h2, h3, h4, h5, -, -⟩ := encode_header fr cells roots hv
  have hrec := recOK_of_cellsOK fr.size cells hv.1 hv.2.2.2.1
  have hcells := readCells_records fr.size fr.storeHashes cells 0 [] hrec
  rw [List.append_nil] at hcells
  obtain ⟨all, r1, r2, r3⟩ := rebuild_denote H cells 0 trees hden hcon
  have hlen : all.length = cells.length := by
    have := denoteFrom_length cells 0 trees hden
    rw [← r2] at this; simpa using this
  have hroots : ∀ r ∈ roots, r < all.length := by
    rw [hlen]
    have hm := hv.2.2.2.2.2.2
    cases hmg : fr.magic with
    | generic => rw [hmg] at hm; exact hm.2.1
    | idx => rw [hmg] at hm; intro r hr; rw [hm.1] at hr; simp at hr; omega
    | idxCrc => rw [hmg] at hm; intro r hr; rw [hm.1] at hr; simp at hr; omega
  obtain ⟨out, o1, o2, o3⟩ := roots_lookup (·.1) all roots hroots
  refine ⟨out, ?_, ?_, fun p hp => r3 p (o3 p hp)⟩
  · unfold fromBoc deserialize
    simp only [h1, Option.bind_some, h2, h3, h4, hcells, r1, h5, o1]
  · rw [← r2]; exact o2

end TonVerif.Proofs.BocParse
