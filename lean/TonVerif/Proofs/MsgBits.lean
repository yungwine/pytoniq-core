/- the facts of `Proofs/Bits.lean` under the names by which the C15 proofs use them -/
import TonVerif.Proofs.Bits

namespace TonVerif.Proofs.MsgBits
open TonVerif

export TonVerif.Proofs.Bits (natToBits_length natOfBits_natToBits bytesToBits_length bitsToBytes_bytesToBits)

theorem natOfBits_lt (bs : Bits) : natOfBits bs < 2 ^ bs.length := Bits.natOfBits_lt bs

theorem byteToBits_length (b : Nat) : (byteToBits b).length = 8 := natToBits_length 8 b

end TonVerif.Proofs.MsgBits
