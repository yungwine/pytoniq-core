/-
The regenerated heap transformers (Generated/HeapSrc.lean, translated from boc/cell.py, boc/slice.py, boc/builder.py on every run)
are the transitions of the heap model Model/Heap.lean on every well-formed heap: the eleven copy methods are `derive` (two shapes,
"copy both containers, then `Slice(..)` / `Cell(..)`", and `Builder()` followed by a store), `store_ref` / `load_ref` are `storeRef` /
`loadRef`, the bit-moving stores and loads are `storeBits` / `storeFrom` / `peekBits` / `dropBits`, and `Cell.__init__` is `cellCtor`.
-/
import TonVerif.Generated.HeapSrc
import TonVerif.Proofs.Heap

set_option linter.unusedSimpArgs false

namespace TonVerif.Proofs.SrcHeap
open TonVerif TonVerif.Model TonVerif.Model.Heap TonVerif.Proofs.Heap TonVerif.Generated.HeapSrc

theorem has_lt {σ : State} {i : Nat} {t : Tag} (h : σ.has i t = true) : i < σ.nObj ∧ (σ.obj i).tag = t := has_iff.1 h

/-- what `derive src .slice` does when `src` is a live cell / slice / builder -/
theorem derive_slice (H) (σ : State) (src : Nat) (h : (σ.has src .cell || σ.has src .slice || σ.has src .builder) = true) :
    step H σ (.derive src .slice) =
      ((((σ.allocB (σ.bitsOf src)).allocR (σ.refsOf src)).push
        { ObjRec.blank with tag := .slice, kind := (σ.obj src).kind, bitsId := σ.nBit, refsId := σ.nRef }), .obj σ.nObj) := by
  simp only [step, h, if_true, freshObj]

theorem off0_of_has {σ : State} (wf : WF σ) {self : Nat} {t : Tag} (h : σ.has self t = true) (ht : t ≠ .slice) :
    (σ.obj self).off = 0 :=
  wf.off0 self (has_lt h).1 (by rw [(has_lt h).2]; exact ht)

/-- the regenerated "copy the bits, copy the list from index `k`, then `Slice(..)`" is `derive · slice` when `k` is the source's
`ref_offset` -/
theorem copy_then_slice (H) (σ : State) (self k : Nat) (hk : (σ.obj self).off = k)
    (h : (σ.has self .cell || σ.has self .slice || σ.has self .builder) = true) :
    Py.Heap.result σ
      (let r1 := Py.Heap.copyBits σ (σ.obj self).bitsId
       let r3 := Py.Heap.copyRefs r1.1 (r1.1.obj self).refsId k
       let r5 := Py.Heap.newSlice r3.1 r1.2 r3.2 (r3.1.obj self).kind
       some (r5.1, r5.2)) = step H σ (.derive self .slice) := by
  subst hk
  rw [derive_slice H σ self h]
  rfl

theorem Cell_begin_parse_eq (H) (σ : State) (wf : WF σ) (self : Nat) (h : σ.has self .cell = true) :
    Py.Heap.result σ (Cell_begin_parse H σ self) = step H σ (.derive self .slice) :=
  copy_then_slice H σ self 0 (off0_of_has wf h nofun) (by simp [h])

theorem Cell_to_slice_eq (H) (σ : State) (wf : WF σ) (self : Nat) (h : σ.has self .cell = true) :
    Py.Heap.result σ (Cell_to_slice H σ self) = step H σ (.derive self .slice) := by
  rw [← Cell_begin_parse_eq H σ wf self h]
  simp only [Cell_to_slice]
  cases Cell_begin_parse H σ self <;> rfl

theorem Slice_from_cell_eq (H) (σ : State) (wf : WF σ) (self : Nat) (h : σ.has self .cell = true) :
    Py.Heap.result σ (Slice_from_cell H σ self) = step H σ (.derive self .slice) :=
  copy_then_slice H σ self 0 (off0_of_has wf h nofun) (by simp [h])

theorem Slice_copy_eq (H) (σ : State) (self : Nat) (h : σ.has self .slice = true) :
    Py.Heap.result σ (Slice_copy H σ self) = step H σ (.derive self .slice) :=
  copy_then_slice H σ self _ rfl (by simp [h])

theorem Builder_to_slice_eq (H) (σ : State) (wf : WF σ) (self : Nat) (h : σ.has self .builder = true) :
    Py.Heap.result σ (Builder_to_slice H σ self) = step H σ (.derive self .slice) :=
  copy_then_slice H σ self 0 (off0_of_has wf h nofun) (by simp [h])

/-- the regenerated "copy the bits, copy the list from index `k`, then `Cell(..)`" is `derive · cell` when `k` is the source's
`ref_offset`: the constructor runs on the copies -/
theorem copy_then_cell (H) (σ : State) (self k : Nat) (hk : (σ.obj self).off = k)
    (h : (σ.has self .cell || σ.has self .slice || σ.has self .builder) = true) :
    Py.Heap.result σ
      (let r1 := Py.Heap.copyBits σ (σ.obj self).bitsId
       let r3 := Py.Heap.copyRefs r1.1 (r1.1.obj self).refsId k
       (Py.Heap.newCell? H r3.1 r1.2 r3.2 (r3.1.obj self).kind).bind fun r5 => some (r5.1, r5.2)) =
      step H σ (.derive self .cell) := by
  subst hk
  simp only [step, h, if_true, freshObj, Py.Heap.newCell?, Py.Heap.copyBits, Py.Heap.copyRefs, mkCellRec, State.allocB, State.allocR,
    State.bitsOf, State.refsOf]
  cases construct H (σ.obj self).kind (σ.bitBuf (σ.obj self).bitsId)
      (List.map (fun j => (σ.obj j).info) (List.drop (σ.obj self).off (σ.refBuf (σ.obj self).refsId))) <;> rfl

theorem Cell_copy_eq (H) (σ : State) (wf : WF σ) (self : Nat) (h : σ.has self .cell = true) :
    Py.Heap.result σ (Cell_copy H σ self) = step H σ (.derive self .cell) :=
  copy_then_cell H σ self 0 (off0_of_has wf h nofun) (by simp [h])

theorem Builder_end_cell_eq (H) (σ : State) (wf : WF σ) (self : Nat) (h : σ.has self .builder = true) :
    Py.Heap.result σ (Builder_end_cell H σ self) = step H σ (.derive self .cell) :=
  copy_then_cell H σ self 0 (off0_of_has wf h nofun) (by simp [h])

theorem Builder_to_cell_eq (H) (σ : State) (wf : WF σ) (self : Nat) (h : σ.has self .builder = true) :
    Py.Heap.result σ (Builder_to_cell H σ self) = step H σ (.derive self .cell) := by
  rw [← Builder_end_cell_eq H σ wf self h]
  simp only [Builder_to_cell]
  cases Builder_end_cell H σ self <;> rfl

theorem Slice_to_cell_eq (H) (σ : State) (self : Nat) (h : σ.has self .slice = true) :
    Py.Heap.result σ (Slice_to_cell H σ self) = step H σ (.derive self .cell) :=
  copy_then_cell H σ self _ rfl (by simp [h])

/-! ### `to_builder`: `Builder()` then `store_cell` / `store_slice` is `derive · builder` -/

/-- a fresh builder filled from a live cell / slice `self`: raises exactly when `self` has more than 4 references left or more than
1023 bits, and is otherwise a new builder holding COPIES of the remaining bits and references. -/
theorem builder_core (H) (σ : State) (wf : WF σ) (self : Nat) (t : Tag) (ht' : t = .cell ∨ t = .slice) (h : σ.has self t = true) :
    Py.Heap.result σ ((Py.Heap.storeFrom? H (Py.Heap.newBuilder σ).1 (Py.Heap.newBuilder σ).2 self).bind
        fun r => some (r, (Py.Heap.newBuilder σ).2)) =
      if (σ.refsOf self).length > 4 then (σ, .err)
      else if (σ.bitsOf self).length > 1023 then (σ, .err)
      else freshObj σ { ObjRec.blank with tag := .builder } (σ.bitsOf self) (σ.refsOf self) := by
  obtain ⟨hi, ht⟩ := has_lt h
  have hne : self ≠ σ.nObj := Nat.ne_of_lt hi
  have hB : (σ.obj self).bitsId ≠ σ.nBit := Nat.ne_of_lt (wf.idB self hi (by rw [ht]; rcases ht' with rfl | rfl <;> rfl))
  have hR : (σ.obj self).refsId ≠ σ.nRef := Nat.ne_of_lt (wf.idR self hi (by rw [ht]; rcases ht' with rfl | rfl <;> rfl))
  have hub : t ≠ .ubits := by rcases ht' with rfl | rfl <;> decide
  have hcs : (decide (t = .cell) || decide (t = .slice)) = true := by rcases ht' with rfl | rfl <;> decide
  simp only [Py.Heap.storeFrom?, Py.Heap.newBuilder, step, State.has, State.bitsOf, State.refsOf, push_obj, push_nObj, push_bitBuf,
    push_refBuf, allocR_obj, allocR_nObj, allocR_bitBuf, allocR_refBuf, allocB_obj, allocB_nObj, allocB_bitBuf, allocB_refBuf,
    allocB_nRef, hne, if_false, if_true, ht, hub, hcs, Nat.lt_succ_self, decide_true, decide_false,
    Bool.and_self, Bool.true_and, Bool.and_true, Bool.false_eq_true, hB, hR, List.drop_zero, List.length_nil, Nat.zero_add,
    List.nil_append, Nat.lt_succ_of_lt hi, Bool.false_and, ObjRec.blank, freshObj]
  by_cases c1 : (List.drop (σ.obj self).off (σ.refBuf (σ.obj self).refsId)).length > 4
  · simp only [c1, if_true]; rfl
  · by_cases c2 : List.length (σ.bitBuf (σ.obj self).bitsId) > 1023
    · simp only [c1, c2, if_true, if_false]; rfl
    · simp only [c1, c2, if_false, Py.Heap.result, Option.bind]
      -- the two writes hit the two containers just allocated
      refine Prod.ext ?_ rfl
      show ((((σ.allocB []).setB σ.nBit _).allocR []).setR σ.nRef _).push _ = _
      rw [allocB_setB, ← allocB_nRef σ, allocR_setR]

theorem derive_builder (H) (σ : State) (_wf : WF σ) (src : Nat) (t : Tag) (ht' : t = .cell ∨ t = .slice) (h : σ.has src t = true) :
    step H σ (.derive src .builder) =
      if (σ.obj src).kind != -1 then (σ, .err)
      else if (σ.refsOf src).length > 4 then (σ, .err)
      else if (σ.bitsOf src).length > 1023 then (σ, .err)
      else freshObj σ { ObjRec.blank with tag := .builder } (σ.bitsOf src) (σ.refsOf src) := by
  obtain ⟨hi, ht⟩ := has_lt h
  have hb : σ.has src .builder = false := by
    simp only [State.has, ht]; rcases ht' with rfl | rfl <;> simp
  have hsrc : (σ.has src .cell || σ.has src .slice || σ.has src .builder) = true := by
    rcases ht' with rfl | rfl <;> simp [h]
  have hsrc2 : (σ.has src .cell || σ.has src .slice) = true := by
    rcases ht' with rfl | rfl <;> simp [h]
  simp only [step, hb, Bool.or_false, hsrc2, if_true, Bool.false_or]
  cases hk : ((σ.obj src).kind != -1) <;> by_cases c1 : (σ.refsOf src).length > 4 <;>
    by_cases c2 : (σ.bitsOf src).length > 1023 <;>
    simp only [c1, c2, decide_true, decide_false, Bool.or_true, Bool.or_false, Bool.false_or, Bool.true_or, if_true, if_false,
      Bool.false_eq_true, Bool.or_self]

/-- `Builder.store_ref(ref)` = the model's `storeRef`: raises exactly when the builder's list already has 4 entries, otherwise the
builder's OWN list container gets the very object `ref` appended in place; nothing else changes. -/
theorem Builder_store_ref_eq (H) (σ : State) (wf : WF σ) (self ref : Nat) (h : σ.has self .builder = true) (hc : σ.has ref .cell = true) :
    Py.Heap.resultUnit σ (Builder_store_ref H σ self ref) = step H σ (.storeRef self ref) := by
  have ho := off0_of_has wf h nofun
  simp only [step, h, hc, Bool.and_self, if_true, Builder_store_ref, State.refsOf, ho, List.drop_zero, decide_eq_true_eq]
  by_cases hl : (σ.refBuf (σ.obj self).refsId).length ≥ 4 <;> simp [hl, Py.Heap.resultUnit, Py.Heap.appendRef]

/-- `Slice.load_ref()` = the model's `loadRef`: IndexError exactly when no reference remains, otherwise `ref_offset` is bumped and the
result is the very Cell object stored in the list (no copy); no container changes. -/
theorem Slice_load_ref_eq (H) (σ : State) (self : Nat) (h : σ.has self .slice = true) :
    Py.Heap.result σ (Slice_load_ref H σ self) = step H σ (.loadRef self) := by
  simp only [step, h, if_true, Slice_load_ref, State.refsOf, Py.Heap.refAt?, Py.Heap.setOff]
  rw [← List.head?_drop]
  cases (σ.refBuf (σ.obj self).refsId).drop (σ.obj self).off <;> simp [Py.Heap.result]

/-- `Builder.store_bits(bits)` = the model's `storeBits` with the items of `bits`: raises exactly when the builder's array would exceed
1023 bits, otherwise the builder's OWN bit container is extended in place; the argument is only read. -/
theorem Builder_store_bits_eq (H) (σ : State) (self : Nat) (bs : Bits) (h : σ.has self .builder = true) :
    Py.Heap.resultUnit σ (Builder_store_bits H σ self bs) = step H σ (.storeBits self bs) := by
  simp only [step, h, if_true, Builder_store_bits, Py.Heap.extendBits?, State.bitsOf]
  by_cases hl : (σ.bitBuf (σ.obj self).bitsId).length + bs.length > 1023 <;> simp [hl, Py.Heap.resultUnit]

/-- `store_bits(array)` with an array object the caller holds = the model's `storeFrom · <ubits>` -/
theorem Builder_store_bits_array_eq (H) (σ : State) (self src : Nat) (h : σ.has self .builder = true) (hs : σ.has src .ubits = true) :
    Py.Heap.resultUnit σ (Builder_store_bits H σ self (σ.bitsOf src)) = step H σ (.storeFrom self src) := by
  simp only [step, h, hs, if_true, Builder_store_bits, Py.Heap.extendBits?, State.bitsOf]
  by_cases hl : (σ.bitBuf (σ.obj self).bitsId).length + (σ.bitBuf (σ.obj src).bitsId).length > 1023 <;> simp [hl, Py.Heap.resultUnit]

/-- `Builder.store_uint(value, size)`: `int2ba` raises or yields the encoding `e`; then it is the model's `storeBits · e`. -/
theorem Builder_store_uint_eq (H) (σ : State) (self : Nat) (v : Int) (n : Nat) (h : σ.has self .builder = true) :
    Py.Heap.resultUnit σ (Builder_store_uint H σ self v n) =
      match Py.Heap.int2baU? v n with
      | none => (σ, .err)
      | some e => step H σ (.storeBits self e) := by
  cases he : Py.Heap.int2baU? v n with
  | none => simp [Builder_store_uint, he, Py.Heap.resultUnit]
  | some e =>
    show _ = step H σ (.storeBits self e)
    rw [← Builder_store_bits_eq H σ self e h]
    simp only [Builder_store_uint, he, Option.bind_some, Builder_store_bits]

/-- `Builder.store_cell(cell)` = the model's `storeFrom`: references overflow checked first, then the bits overflow; then the builder's
OWN array gets the cell's bits and its OWN list the ELEMENTS of the cell's list - neither of the cell's containers is kept. -/
theorem Builder_store_cell_core (H) (σ : State) (self cell : Nat) (h : σ.has self .builder = true) (hc : σ.has cell .cell = true)
    (ho : (σ.obj self).off = 0) (hco : (σ.obj cell).off = 0) :
    Py.Heap.resultUnit σ (Builder_store_cell H σ self cell) = step H σ (.storeFrom self cell) := by
  obtain ⟨hci, hct⟩ := has_lt hc
  have hu : σ.has cell .ubits = false := by simp [State.has, hct]
  simp only [step, h, hc, hu, if_true, Bool.true_or, Bool.false_eq_true, if_false, Builder_store_cell, Builder_store_bits,
    Py.Heap.extendBits?, Py.Heap.extendRefs, State.bitsOf, State.refsOf, ho, hco, List.drop_zero, decide_eq_true_eq]
  by_cases h1 : (σ.refBuf (σ.obj self).refsId).length + (σ.refBuf (σ.obj cell).refsId).length > 4
  · simp [h1, Py.Heap.resultUnit]
  · by_cases h2 : (σ.bitBuf (σ.obj self).bitsId).length + (σ.bitBuf (σ.obj cell).bitsId).length > 1023
    · simp [h1, h2, Py.Heap.resultUnit]
    · simp [h1, h2, Py.Heap.resultUnit, State.setB, State.setR]

theorem Builder_store_cell_eq (H) (σ : State) (wf : WF σ) (self cell : Nat) (h : σ.has self .builder = true) (hc : σ.has cell .cell = true) :
    Py.Heap.resultUnit σ (Builder_store_cell H σ self cell) = step H σ (.storeFrom self cell) :=
  Builder_store_cell_core H σ self cell h hc (off0_of_has wf h nofun) (off0_of_has wf hc nofun)

/-- `store_cell` returns its receiver -/
theorem Builder_store_cell_ret (H) (σ σ' : State) (b c r : Nat) (h : Builder_store_cell H σ b c = some (σ', r)) : r = b := by
  unfold Builder_store_cell at h
  split at h
  · cases h
  · obtain ⟨_, _, e⟩ := Option.bind_eq_some_iff.1 h
    cases e; rfl

/-- `Slice.preload_bits(n)` = the model's `peekBits`: a NEW array with the first `n` bits; the slice is untouched. -/
theorem Slice_preload_bits_eq (H) (σ : State) (self n : Nat) (h : σ.has self .slice = true) :
    Py.Heap.resultBits σ (Slice_preload_bits H σ self n) = step H σ (.peekBits self n) := by
  simp only [step, h, if_true, Slice_preload_bits, Py.Heap.sliceBits, Py.Heap.resultBits, State.bitsOf, State.allocB, State.push]
  rfl

/-- `Slice.skip_bits(n)` = the model's `dropBits · n false`: raises (nothing deleted) when fewer than `n` bits remain, otherwise the
first `n` bits are deleted from the slice's OWN array in place. -/
theorem Slice_skip_bits_eq (H) (σ : State) (self n : Nat) (h : σ.has self .slice = true) :
    Py.Heap.resultDrop σ ((σ.bitsOf self).take n) (Slice_skip_bits H σ self n) = step H σ (.dropBits self n false) := by
  simp only [step, h, if_true, Slice_skip_bits, Py.Heap.delBits?, State.bitsOf]
  by_cases hl : (σ.bitBuf (σ.obj self).bitsId).length < n <;> simp [hl, Py.Heap.resultDrop]

/-- `Slice.load_uint(0)` raises (`ba2int` of an empty array) -/
theorem Slice_load_uint_zero (H) (σ : State) (self : Nat) : Slice_load_uint H σ self 0 = none := by
  simp [Slice_load_uint, Slice_preload_uint, Py.Heap.ba2intU?]

/-- `Slice.load_uint(n)`, `n ≥ 1` = the model's `dropBits · n false`; the int returned is `ba2int` of the consumed bits. -/
theorem Slice_load_uint_eq (H) (σ : State) (self n : Nat) (hn : 1 ≤ n) (h : σ.has self .slice = true) :
    Py.Heap.resultDrop σ ((σ.bitsOf self).take n) (Slice_load_uint H σ self n) = step H σ (.dropBits self n false) ∧
    ∀ σ' v, Slice_load_uint H σ self n = some (σ', v) → Py.Heap.ba2intU? ((σ.bitsOf self).take n) = some v := by
  constructor
  · simp only [step, h, if_true, Slice_load_uint, Slice_preload_uint, Py.Heap.delBits?, Py.Heap.ba2intU?, State.bitsOf]
    by_cases hl : (σ.bitBuf (σ.obj self).bitsId).length < n
    · by_cases he : (List.take n (σ.bitBuf (σ.obj self).bitsId)).isEmpty = true <;> simp [hl, he, Py.Heap.resultDrop]
    · have he : (List.take n (σ.bitBuf (σ.obj self).bitsId)).isEmpty = false := by
        simp only [List.isEmpty_eq_false_iff, Ne, List.eq_nil_iff_length_eq_zero, List.length_take]; omega
      simp [hl, he, Py.Heap.resultDrop]
  · intro σ' v hv
    simp only [Slice_load_uint, Slice_preload_uint, State.bitsOf] at hv ⊢
    cases hb : Py.Heap.ba2intU? (List.take n (σ.bitBuf (σ.obj self).bitsId)) with
    | none => simp [hb] at hv
    | some w =>
      simp only [hb, Option.bind_some] at hv
      cases hd : Py.Heap.delBits? σ (σ.obj self).bitsId n with
      | none => simp [hd] at hv
      | some σ2 => simp only [hd, Option.bind_some, Option.some.injEq, Prod.mk.injEq] at hv; rw [hv.2]

/-- `Slice.load_bits(n)` = the model's `dropBits · n true`: a NEW array with the first `n` bits is returned and the slice's OWN array
loses them in place; raises (nothing changed) when fewer than `n` bits remain. -/
theorem Slice_load_bits_eq (H) (σ : State) (wf : WF σ) (self n : Nat) (h : σ.has self .slice = true) :
    Py.Heap.resultBits σ (Slice_load_bits H σ self n) = step H σ (.dropBits self n true) := by
  obtain ⟨hi, ht⟩ := has_lt h
  have hB : (σ.obj self).bitsId ≠ σ.nBit := Nat.ne_of_lt (wf.idB self hi (by rw [ht]; rfl))
  simp only [step, h, if_true, Slice_load_bits, Slice_preload_bits, Py.Heap.sliceBits, Py.Heap.delBits?, State.bitsOf,
    Option.bind_some, allocB_obj, allocB_bitBuf, hB, if_false]
  by_cases hl : (σ.bitBuf (σ.obj self).bitsId).length < n
  · simp [hl, Py.Heap.resultBits]
  · -- the source allocates the result and then shortens the slice's array; the model does it in the other order
    simp only [gt_iff_lt, hl, if_false, Option.bind_some, Py.Heap.resultBits, setB_allocB _ _ _ _ hB]; rfl

/-- the loop of `store_slice`: `n` rounds of `self.store_ref(src.refs[i])` from index `i`, when the builder's list `R` is not the
source list `S`, there is room for `n` more entries and the source list has them: the builder's list gets exactly the `n` ELEMENTS
`S[i], .., S[i+n-1]` appended in place; nothing else changes. -/
theorem store_loop (H) (self src : Nat) (n : Nat) : ∀ (i : Nat) (τ : State),
    (τ.obj self).refsId ≠ (τ.obj src).refsId →
    (τ.refBuf (τ.obj self).refsId).length + n ≤ 4 → (n = 0 ∨ i + n ≤ (τ.refBuf (τ.obj src).refsId).length) →
    Py.Heap.forFuel n i τ (fun i τ => (Py.Heap.refAt? τ (τ.obj src).refsId i).bind fun c =>
        (Builder_store_ref H τ self c).bind fun r => some r.1) =
      some (τ.setR (τ.obj self).refsId (τ.refBuf (τ.obj self).refsId ++ ((τ.refBuf (τ.obj src).refsId).drop i).take n)) := by
  induction n with
  | zero => intro i τ _ _ _; simp only [Py.Heap.forFuel, List.take_zero, List.append_nil, setR_self]
  | succ n ih =>
    intro i τ hne hroom hlen
    have hlen : i + (n + 1) ≤ (τ.refBuf (τ.obj src).refsId).length := by omega
    have hi : i < (τ.refBuf (τ.obj src).refsId).length := by omega
    have hroom' : ¬ (τ.refBuf (τ.obj self).refsId).length ≥ 4 := by omega
    have hstep : ((Py.Heap.refAt? τ (τ.obj src).refsId i).bind fun c => (Builder_store_ref H τ self c).bind fun r => some r.1) =
        some (τ.setR (τ.obj self).refsId (τ.refBuf (τ.obj self).refsId ++ [(τ.refBuf (τ.obj src).refsId)[i]])) := by
      simp [Py.Heap.refAt?, List.getElem?_eq_getElem hi, Builder_store_ref, hroom', Py.Heap.appendRef]
    have hne' : (τ.obj src).refsId ≠ (τ.obj self).refsId := Ne.symm hne
    simp only [Py.Heap.forFuel]
    rw [hstep, Option.bind_some,
      ih (i + 1) _ (by simpa using hne) (by simp; omega) (Or.inr (by simp [hne']; omega))]
    -- the second write replaces the first: `old ++ [S[i]] ++ S[i+1 ..]` is `old ++ S[i ..]`
    simp only [setR_obj, setR_refBuf, if_true, hne', if_false, setR_setR, List.append_assoc, List.singleton_append,
      List.drop_eq_getElem_cons hi, List.take_succ_cons]

/-- `Builder.store_slice(s)` = the model's `storeFrom`: references overflow (against the REMAINING references `len(refs) - ref_offset`)
checked first, then the bits overflow; then the builder's OWN array gets the slice's remaining bits and its OWN list the remaining
ELEMENTS `refs[ref_offset:]` one by one - neither of the slice's containers is kept.  Needs: the builder's list is not the slice's
list (`Sep`; in `to_builder` the builder is new); `ref_offset ≤ len(refs)` is `WF.offLe` (`load_ref` never moves past the end). -/
theorem Builder_store_slice_core (H) (σ : State) (self src : Nat) (h : σ.has self .builder = true) (hs : σ.has src .slice = true)
    (ho : (σ.obj self).off = 0) (hne : (σ.obj self).refsId ≠ (σ.obj src).refsId)
    (hoff : (σ.obj src).off ≤ (σ.refBuf (σ.obj src).refsId).length ∨ (σ.refBuf (σ.obj self).refsId).length = 0) :
    Py.Heap.resultUnit σ (Builder_store_slice H σ self src) = step H σ (.storeFrom self src) := by
  obtain ⟨hsi, hst⟩ := has_lt hs
  have hu : σ.has src .ubits = false := by simp [State.has, hst]
  simp only [step, h, hs, hu, if_true, Bool.or_true, Bool.false_eq_true, if_false, State.bitsOf, State.refsOf, ho, List.drop_zero,
    List.length_drop]
  by_cases h1 : (σ.refBuf (σ.obj self).refsId).length + ((σ.refBuf (σ.obj src).refsId).length - (σ.obj src).off) > 4
  · have h1' : (((σ.refBuf (σ.obj self).refsId).length : Nat) : Int) +
        ((((σ.refBuf (σ.obj src).refsId).length : Nat) : Int) - (((σ.obj src).off : Nat) : Int)) > (4 : Int) := by omega
    simp [Builder_store_slice, h1, h1', Py.Heap.resultUnit]
  · have h1' : ¬ (((σ.refBuf (σ.obj self).refsId).length : Nat) : Int) +
        ((((σ.refBuf (σ.obj src).refsId).length : Nat) : Int) - (((σ.obj src).off : Nat) : Int)) > (4 : Int) := by omega
    by_cases h2 : (σ.bitBuf (σ.obj self).bitsId).length + (σ.bitBuf (σ.obj src).bitsId).length > 1023
    · simp [Builder_store_slice, Builder_store_bits, Py.Heap.extendBits?, h1, h1', h2, Py.Heap.resultUnit]
    · have hl := store_loop H self src ((σ.refBuf (σ.obj src).refsId).length - (σ.obj src).off) (σ.obj src).off
        (σ.setB (σ.obj self).bitsId (σ.bitBuf (σ.obj self).bitsId ++ σ.bitBuf (σ.obj src).bitsId))
        (by simpa [State.setB] using hne) (by simp [State.setB]; omega) (by simp [State.setB]; omega)
      simp only [Builder_store_slice, Builder_store_bits, Py.Heap.extendBits?, h1, h1', h2, decide_false, Bool.false_eq_true, if_false,
        Option.bind_some, Py.Heap.forRange]
      simp only [setB_obj, setB_refBuf] at hl ⊢
      rw [hl]
      simp [Py.Heap.resultUnit, List.take_of_length_le]

theorem Builder_store_slice_eq (H) (σ : State) (wf : WF σ) (self src : Nat) (h : σ.has self .builder = true) (hs : σ.has src .slice = true)
    (hne : (σ.obj self).refsId ≠ (σ.obj src).refsId) :
    Py.Heap.resultUnit σ (Builder_store_slice H σ self src) = step H σ (.storeFrom self src) :=
  Builder_store_slice_core H σ self src h hs (off0_of_has wf h nofun) hne (Or.inl (wf.offLe src (has_lt hs).1))

/-- `store_slice` returns its receiver -/
theorem Builder_store_slice_ret (H) (σ σ' : State) (b c r : Nat) (h : Builder_store_slice H σ b c = some (σ', r)) : r = b := by
  unfold Builder_store_slice at h
  split at h
  · cases h
  · obtain ⟨_, _, h⟩ := Option.bind_eq_some_iff.1 h
    obtain ⟨_, _, e⟩ := Option.bind_eq_some_iff.1 h
    cases e; rfl

/-! ### `to_builder`: `Builder()` then the REGENERATED `store_cell` / `store_slice` is `derive · builder` -/

theorem newBuilder_has {σ : State} {self : Nat} {t : Tag} (h : σ.has self t = true) :
    (Py.Heap.newBuilder σ).1.has (Py.Heap.newBuilder σ).2 .builder = true ∧ (Py.Heap.newBuilder σ).1.has self t = true := by
  obtain ⟨hi, ht⟩ := has_lt h
  have hne : self ≠ σ.nObj := Nat.ne_of_lt hi
  constructor
  · simp [Py.Heap.newBuilder, State.has, State.push, State.allocB, State.allocR]
  · simp [Py.Heap.newBuilder, State.has, State.push, State.allocB, State.allocR, hne, ht]; exact decide_eq_true (Nat.lt_succ_of_lt hi)

/-- the shape of both `to_builder`: the exotic test `raise`, then `Builder()`, then a regenerated store `f` into the new builder that
is the model's `storeFrom` on the new heap and returns its receiver -/
theorem to_builder_eq (H) (σ : State) (wf : WF σ) (self : Nat) (t : Tag) (ht' : t = .cell ∨ t = .slice) (h : σ.has self t = true)
    (f : Option (State × Nat)) (hr : ∀ σ' r, f = some (σ', r) → r = (Py.Heap.newBuilder σ).2)
    (he : Py.Heap.resultUnit (Py.Heap.newBuilder σ).1 f = step H (Py.Heap.newBuilder σ).1 (.storeFrom (Py.Heap.newBuilder σ).2 self))
    (raise : Bool) (hraise : raise = ((σ.obj self).kind != -1)) :
    Py.Heap.result σ (if raise then none else f.bind fun r => some (r.1, r.2)) = step H σ (.derive self .builder) := by
  rw [derive_builder H σ wf self t ht' h, ← builder_core H σ wf self t ht' h]
  subst hraise
  by_cases c0 : ((σ.obj self).kind != -1) = true
  · simp [c0, Py.Heap.result]
  · simp only [c0]
    -- `f` used as the primitive `storeFrom?`
    refine congrArg (Py.Heap.result σ) ?_
    unfold Py.Heap.storeFrom?
    rw [← he]
    cases f with
    | none => simp [Py.Heap.resultUnit]
    | some p =>
      obtain ⟨σ', r⟩ := p
      have := hr σ' r rfl
      subst this
      simp [Py.Heap.resultUnit]

theorem Cell_to_builder_eq (H) (σ : State) (wf : WF σ) (self : Nat) (h : σ.has self .cell = true) :
    Py.Heap.result σ (Cell_to_builder H σ self) = step H σ (.derive self .builder) := by
  obtain ⟨hb1, hc1⟩ := newBuilder_has h
  have hne : self ≠ σ.nObj := Nat.ne_of_lt (has_lt h).1
  exact to_builder_eq H σ wf self .cell (Or.inl rfl) h _ (fun σ' r => Builder_store_cell_ret H _ σ' _ _ r)
    (Builder_store_cell_core H _ _ self hb1 hc1
      (by simp [Py.Heap.newBuilder, State.push, State.allocB, State.allocR, ObjRec.blank])
      (by simpa [Py.Heap.newBuilder, State.push, State.allocB, State.allocR, hne] using off0_of_has wf h nofun)) _ rfl

theorem Slice_to_builder_eq (H) (σ : State) (wf : WF σ) (self : Nat) (h : σ.has self .slice = true) :
    Py.Heap.result σ (Slice_to_builder H σ self) = step H σ (.derive self .builder) := by
  obtain ⟨hb1, hc1⟩ := newBuilder_has h
  obtain ⟨hi, ht⟩ := has_lt h
  have hne : self ≠ σ.nObj := Nat.ne_of_lt hi
  have hR : (σ.obj self).refsId ≠ σ.nRef := Nat.ne_of_lt (wf.idR self hi (by rw [ht]; rfl))
  exact to_builder_eq H σ wf self .slice (Or.inr rfl) h _ (fun σ' r => Builder_store_slice_ret H _ σ' _ _ r)
    (Builder_store_slice_core H _ _ self hb1 hc1
      (by simp [Py.Heap.newBuilder, State.push, State.allocB, State.allocR, ObjRec.blank])
      (by simp [Py.Heap.newBuilder, State.push, State.allocB, State.allocR, hne]; exact Ne.symm hR)
      (Or.inr (by simp [Py.Heap.newBuilder, State.push, State.allocB, State.allocR]))) _
    (by cases e : (σ.obj self).kind == -1 <;> simp [bne, e])

/-! ### `Cell.get_data_bytes`: the heap-touching helper of `Cell.__init__` reads only -/

/-- `Cell.get_data_bytes()` pads a COPY: all it does to the heap is ONE allocation (the copy, padded), so every existing bit container
(in particular the one `self.bits` points to - the caller's own array for `Cell(bits, refs)`), every list and every object record is
as it was. -/
theorem Cell_get_data_bytes_frame (H) (σ : State) (self : Nat) :
    ∃ bs, Cell_get_data_bytes H σ self = some (σ.allocB bs, bitsToBytes bs) := by
  have key : ∀ τ : State, (∃ bs, τ = σ.allocB bs) →
      ∃ bs, some (τ, bitsToBytes (τ.bitBuf σ.nBit)) = some (σ.allocB bs, bitsToBytes bs) := by
    rintro _ ⟨bs, rfl⟩; exact ⟨bs, by simp⟩
  apply key
  -- with or without padding, the writes go to the copy just allocated
  simp only [Py.Heap.copyBits, Py.Heap.appendBit, Py.Heap.fillBits, allocB_setB]
  exact ⟨_, (apply_ite σ.allocB ..).symm⟩

theorem dropScratch_allocB (σ : State) (bs : Bits) : Py.Heap.dropScratch σ (σ.allocB bs) = σ := by
  refine state_ext (funext fun j => ?_) rfl rfl rfl rfl rfl
  by_cases hj : j < σ.nBit <;> simp [Py.Heap.dropScratch, hj, Nat.ne_of_lt]

/-- the scratch run of `get_data_bytes` leaves the heap exactly as it was -/
theorem scratch_get_data_bytes (H) (σ : State) (self : Nat) : Py.Heap.scratch σ (Cell_get_data_bytes H σ self) = some σ := by
  obtain ⟨bs, e⟩ := Cell_get_data_bytes_frame H σ self
  rw [e]; exact congrArg some (dropScratch_allocB σ bs)

/-- `Cell(bits, refs, cell_type)` - the regenerated `__init__` - is the model's `cellCtor`: the new cell points at the caller's OWN two
containers, its caches are fresh values, nothing that existed is changed; it raises exactly when the constructor refuses the content. -/
theorem Cell___init___eq (H) (σ : State) (ub ur : Nat) (kind : Int) (hb : σ.has ub .ubits = true) (hr : σ.has ur .urefs = true) :
    Py.Heap.result σ (Cell___init__ H σ (σ.obj ub).bitsId (σ.obj ur).refsId kind) = step H σ (.cellCtor ub ur kind) := by
  simp only [step, hb, hr, Bool.and_self, if_true, Cell___init__, Py.Heap.newCell?]
  cases hm : mkCellRec H σ (σ.obj ub).bitsId (σ.obj ur).refsId kind (σ.bitBuf (σ.obj ub).bitsId) (σ.refBuf (σ.obj ur).refsId) with
  | none => simp [Py.Heap.result]
  | some c => simp [Py.Heap.result, scratch_get_data_bytes]

end TonVerif.Proofs.SrcHeap
