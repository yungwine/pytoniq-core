/-
Helper lemmas for C06 / C07, Slice side: closed forms of the primitive reads, read-back of every
TL-B encoding with an arbitrary continuation, reads only ever consume a prefix.
-/
import TonVerif.Proofs.Builder

namespace TonVerif.Proofs.Slice
open TonVerif TonVerif.Model TonVerif.Spec.Tlb TonVerif.Proofs.Bits TonVerif.Proofs.Builder
variable {R : Type} {α β : Type}

@[simp] theorem bind_eq (f : SOp R α) (g : α → SOp R β) : (f >>= g) = SOp.bind f g := rfl
@[simp] theorem pure_eq (a : α) : (pure a : SOp R α) = SOp.pure a := rfl

theorem bind_some {f : SOp R α} {g : α → SOp R β} {s s1 : Slice R} {a : α} (h : f s = (s1, some a)) :
    SOp.bind f g s = g a s1 := by
  simp [SOp.bind, h]

theorem bind_none {f : SOp R α} {g : α → SOp R β} {s s1 : Slice R} (h : f s = (s1, none)) :
    SOp.bind f g s = (s1, none) := by
  simp [SOp.bind, h]

/-! ### closed forms of the primitive reads -/

theorem loadBits_eq (n : Nat) (bits : Bits) (refs : List R) :
    SOp.loadBits n ⟨bits, refs⟩ = if bits.length < n then (⟨bits, refs⟩, none)
      else (⟨bits.drop n, refs⟩, some (bits.take n)) := by
  simp only [SOp.loadBits, bind_eq, pure_eq, SOp.bind, SOp.peekBits, SOp.delBits, SOp.pure]
  by_cases h0 : n = 0
  · subst h0; simp
  · by_cases h : bits.length < n <;> simp [h0, h]

theorem skipBits_eq (n : Nat) (bits : Bits) (refs : List R) :
    SOp.skipBits n ⟨bits, refs⟩ = if bits.length < n then (⟨bits, refs⟩, none)
      else (⟨bits.drop n, refs⟩, some ()) := by
  simp only [SOp.skipBits, SOp.delBits]
  by_cases h0 : n = 0
  · subst h0; simp
  · by_cases h : bits.length < n <;> simp [h0, h]

theorem take_isEmpty_false {n : Nat} {bits : Bits} (h0 : n ≠ 0) (h : ¬ bits.length < n) :
    (List.take n bits).isEmpty = false := by
  cases hb : bits with
  | nil => simp [hb] at h; omega
  | cons x xs => cases n with
    | zero => omega
    | succ m => simp

theorem loadUint_eq (n : Nat) (bits : Bits) (refs : List R) :
    SOp.loadUint n ⟨bits, refs⟩ = if n = 0 ∨ bits.length < n then (⟨bits, refs⟩, none)
      else (⟨bits.drop n, refs⟩, some (natOfBits (bits.take n) : Int)) := by
  simp only [SOp.loadUint, SOp.preloadUint, bind_eq, pure_eq, SOp.bind, SOp.peekBits, SOp.delBits, SOp.pure,
    SOp.ofOption, SOp.ba2intU]
  by_cases h0 : n = 0
  · subst h0; simp
  · by_cases h : bits.length < n
    · simp only [h, or_true, if_true]
      cases he : (List.take n bits).isEmpty <;> simp [h0, h]
    · simp [h0, h, take_isEmpty_false h0 h]

theorem loadInt_eq (n : Nat) (bits : Bits) (refs : List R) :
    SOp.loadInt n ⟨bits, refs⟩ = if n = 0 ∨ bits.length < n then (⟨bits, refs⟩, none)
      else (⟨bits.drop n, refs⟩, SOp.ba2intS (bits.take n)) := by
  simp only [SOp.loadInt, SOp.preloadInt, bind_eq, pure_eq, SOp.bind, SOp.peekBits, SOp.delBits, SOp.pure,
    SOp.ofOption]
  by_cases h0 : n = 0
  · subst h0; simp [SOp.ba2intS]
  · by_cases h : bits.length < n
    · simp only [h, or_true, if_true]
      cases he : SOp.ba2intS (List.take n bits) <;> simp [h0, h]
    · have he := take_isEmpty_false h0 h
      cases ht : List.take n bits with
      | nil => rw [ht] at he; simp at he
      | cons x xs => simp [h0, h, SOp.ba2intS]

theorem loadBytes_eq (n : Nat) (bits : Bits) (refs : List R) :
    SOp.loadBytes n ⟨bits, refs⟩ = if bits.length < n * 8 then (⟨bits, refs⟩, none)
      else (⟨bits.drop (n * 8), refs⟩, some (bitsToBytes (bits.take (n * 8)))) := by
  simp only [SOp.loadBytes, SOp.preloadBytes, bind_eq, pure_eq, SOp.bind, SOp.peekBits, SOp.delBits, SOp.pure]
  by_cases h0 : n * 8 = 0
  · rw [h0]; simp
  · by_cases h : bits.length < n * 8 <;> simp [h0, h]

/-! a primitive read returned: what the slice was -/

theorem loadUint_some {n : Nat} {bits : Bits} {refs : List R} {s' : Slice R} {v : Int}
    (h : SOp.loadUint n ⟨bits, refs⟩ = (s', some v)) :
    n ≠ 0 ∧ n ≤ bits.length ∧ s' = ⟨bits.drop n, refs⟩ ∧ v = natOfBits (bits.take n) := by
  rw [loadUint_eq] at h
  split at h
  · cases h
  · cases h; exact ⟨by omega, by omega, rfl, rfl⟩

theorem loadInt_some {n : Nat} {bits : Bits} {refs : List R} {s' : Slice R} {v : Int}
    (h : SOp.loadInt n ⟨bits, refs⟩ = (s', some v)) :
    n ≠ 0 ∧ n ≤ bits.length ∧ s' = ⟨bits.drop n, refs⟩ ∧ SOp.ba2intS (bits.take n) = some v := by
  rw [loadInt_eq] at h
  split at h
  · cases h
  · exact ⟨by omega, by omega, (congrArg Prod.fst h).symm, congrArg Prod.snd h⟩

theorem loadBytes_some {n : Nat} {bits : Bits} {refs : List R} {s' : Slice R} {v : Bytes}
    (h : SOp.loadBytes n ⟨bits, refs⟩ = (s', some v)) :
    n * 8 ≤ bits.length ∧ s' = ⟨bits.drop (n * 8), refs⟩ ∧ v = bitsToBytes (bits.take (n * 8)) := by
  rw [loadBytes_eq] at h
  split at h
  · cases h
  · cases h; exact ⟨by omega, rfl, rfl⟩

/-- `ba2int(signed=True)` computes the two's complement value of the bit string -/
theorem ba2intS_eq_bitsValS (bs : Bits) (h : bs.isEmpty = false) : SOp.ba2intS bs = some (bitsValS bs) := by
  cases bs with
  | nil => simp at h
  | cons b rest =>
    simp only [SOp.ba2intS, bitsValS, natOfBits_eq_bitsVal, bitsVal, List.length_cons]
    have := int_pow_cast rest.length
    have e := two_pow_succ_int rest.length
    cases b <;> simp <;> omega

/-! ### reading back an encoding followed by an arbitrary continuation -/

/-- `rd` reads `a` off the encoding `xs` / `rs`, whatever follows it, and leaves exactly what follows.  (A structure, so that
unification does not unfold it.) -/
structure Reads (rd : SOp R α) (xs : Bits) (rs : List R) (a : α) : Prop where
  run : ∀ (kb : Bits) (kr : List R), rd ⟨xs ++ kb, rs ++ kr⟩ = (⟨kb, kr⟩, some a)

theorem Reads.pure (a : α) : Reads (SOp.pure a : SOp R α) [] [] a := ⟨fun _ _ => rfl⟩

theorem Reads.bind {f : SOp R α} {g : α → SOp R β} {xs ys : Bits} {rs qs : List R} {a : α} {b : β}
    (hf : Reads f xs rs a) (hg : Reads (g a) ys qs b) : Reads (SOp.bind f g) (xs ++ ys) (rs ++ qs) b := by
  refine ⟨fun kb kr => ?_⟩
  rw [List.append_assoc, List.append_assoc, bind_some (hf.run _ _)]
  exact hg.run kb kr

/-- the last read of a program, its value wrapped -/
theorem Reads.ret {f : SOp R α} {xs : Bits} {rs : List R} {a : α} (g : α → β) (h : Reads f xs rs a) :
    Reads (SOp.bind f fun v => SOp.pure (g v)) xs rs (g a) := ⟨fun kb kr => bind_some (h.run kb kr)⟩

theorem Reads.map {f : SOp R α} {xs : Bits} {rs : List R} {a : α} (g : α → β) (h : Reads f xs rs a) :
    Reads (f.map g) xs rs (g a) := ⟨fun kb kr => by simp only [SOp.map, h.run kb kr, Option.map]⟩

theorem Reads.congr {f : SOp R α} {xs xs' : Bits} {rs rs' : List R} {a a' : α} (h : Reads f xs rs a)
    (hx : xs = xs') (hr : rs = rs') (ha : a = a') : Reads f xs' rs' a' := by
  subst hx hr ha; exact h

theorem sop_bind_assoc {γ : Type} (f : SOp R α) (g : α → SOp R β) (k : β → SOp R γ) :
    SOp.bind (SOp.bind f g) k = SOp.bind f (fun a => SOp.bind (g a) k) := by
  funext s
  simp only [SOp.bind]
  rcases f s with ⟨s1, _ | a⟩ <;> rfl

theorem reads_loadUint (n : Nat) (v : Int) (hn : 0 < n) (h : FitsUint n v) :
    Reads (SOp.loadUint n : SOp R Int) (uintBits n v.toNat) [] v := by
  refine ⟨fun kb kr => ?_⟩
  rw [loadUint_eq]
  have hl : (uintBits n v.toNat).length = n := uintBits_length _ _
  have h1 : ¬ (n = 0 ∨ (uintBits n v.toNat ++ kb).length < n) := by
    simp only [List.length_append, hl]; omega
  rw [if_neg h1, List.take_left' hl, List.drop_left' hl]
  have := ba2intU_uintBits n v hn h
  unfold SOp.ba2intU at this
  split at this
  · simp at this
  · simpa using this

/-- a natural number that fits, as `load_uint` returns it -/
theorem reads_loadNat (n L : Nat) (hn : 0 < n) (h : L < 2 ^ n) :
    Reads (SOp.loadUint n : SOp R Int) (uintBits n L) [] (L : Int) :=
  (reads_loadUint n L hn ((fitsUint_nat _ _).mpr h)).congr (by rw [Int.toNat_natCast]) rfl rfl

theorem reads_loadInt (n : Nat) (v : Int) (hn : 0 < n) (h : FitsInt n v) :
    Reads (SOp.loadInt n : SOp R Int) (intBits n v) [] v := by
  refine ⟨fun kb kr => ?_⟩
  rw [loadInt_eq]
  have hl : (intBits n v).length = n := by unfold intBits; exact uintBits_length _ _
  have h1 : ¬ (n = 0 ∨ (intBits n v ++ kb).length < n) := by
    simp only [List.length_append, hl]; omega
  rw [if_neg h1, List.take_left' hl, List.drop_left' hl, ba2intS_intBits n v hn h]
  rfl

theorem reads_loadBits (bs : Bits) : Reads (SOp.loadBits bs.length : SOp R Bits) bs [] bs := by
  refine ⟨fun kb kr => ?_⟩
  rw [loadBits_eq]
  have h1 : ¬ (bs ++ kb).length < bs.length := by simp
  rw [if_neg h1, List.take_left' rfl, List.drop_left' rfl]
  rfl

theorem reads_loadBytes (bs : Bytes) (h : Bytes.WF bs) :
    Reads (SOp.loadBytes bs.length : SOp R Bytes) (bytesBits bs) [] bs := by
  refine ⟨fun kb kr => ?_⟩
  rw [loadBytes_eq]
  have hl : (bytesBits bs).length = bs.length * 8 := by rw [bytesBits_length]; omega
  have h1 : ¬ (bytesBits bs ++ kb).length < bs.length * 8 := by
    simp only [List.length_append, hl]; omega
  rw [if_neg h1, List.take_left' hl, List.drop_left' hl, ← bytesToBits_eq_bytesBits,
    bitsToBytes_bytesToBits bs h]
  rfl

theorem reads_loadBit (b : Bool) : Reads (SOp.loadBit : SOp R Bool) [b] [] b := ⟨fun _ _ => rfl⟩
theorem reads_loadRef (r : R) : Reads (SOp.loadRef : SOp R R) [] [r] r := ⟨fun _ _ => rfl⟩

/-- the variable-length encodings: a `k`-bit length `L`, then the value in `L` bytes, read back by `rd`; nothing follows
the length 0, which stands for the value 0 -/
theorem loadVar_rt {rd : Nat → SOp R Int} (k L : Nat) (v : Int) (body : Bits) (hk : 0 < k) (hL : L < 2 ^ k)
    (h0 : L = 0 → v = 0 ∧ body = []) (hrd : 0 < L → Reads (rd (L * 8)) body [] v) :
    Reads (SOp.bind (SOp.loadUint k) fun len => if len = 0 then SOp.pure 0 else rd (len.toNat * 8))
      (uintBits k L ++ body) [] v := by
  refine Reads.bind (reads_loadNat k L hk hL) ?_
  by_cases hl : L = 0
  · obtain ⟨rfl, rfl⟩ := h0 hl
    rw [if_pos (by omega)]; exact Reads.pure 0
  · rw [if_neg (by omega), Int.toNat_natCast]; exact hrd (by omega)

/-- `load_var_uint(k)` on any `len` field `L` that holds `v`, minimal or not -/
theorem reads_loadVarUint (k L : Nat) (v : Int) (hk : 0 < k) (hL : L < 2 ^ k) (hv : FitsUint (8 * L) v) :
    Reads (SOp.loadVarUint k : SOp R Int) (uintBits k L ++ uintBits (8 * L) v.toNat) [] v := by
  refine loadVar_rt k L v _ hk hL (fun hl => ?_) (fun hpos => ?_)
  · subst hl
    obtain ⟨h1, h2⟩ := hv
    exact ⟨by simp at h2; omega, rfl⟩
  · rw [Nat.mul_comm]
    exact reads_loadUint _ v (by omega) hv

theorem reads_loadVarInt (k L : Nat) (v : Int) (hk : 0 < k) (hL : L < 2 ^ k) (hv : FitsInt (8 * L) v) :
    Reads (SOp.loadVarInt k : SOp R Int) (uintBits k L ++ intBits (8 * L) v) [] v := by
  refine loadVar_rt k L v _ hk hL (fun hl => ?_) (fun hpos => ?_)
  · subst hl
    obtain ⟨h1, h2⟩ := hv
    exact ⟨by simp at h1 h2; omega, rfl⟩
  · rw [Nat.mul_comm]
    exact reads_loadInt _ v (by omega) hv

theorem reads_loadMaybeRef (r : Option R) :
    Reads (SOp.loadMaybeRef : SOp R (Option R)) (maybeRefBits r) (maybeRefRefs r) r := by
  cases r with
  | none => exact Reads.bind (reads_loadBit false) (Reads.pure none)
  | some c => exact Reads.bind (reads_loadBit true) ((reads_loadRef c).ret some)

/-- the `Maybe Anycast` in front of `addr_std` -/
theorem reads_anycast (any : Option (Nat × Int))
    (hr : match any with | Option.none => True | some (d, p) => 1 ≤ d ∧ d < 32 ∧ FitsUint d p) :
    Reads (SOp.bind SOp.loadBit fun a => if a = true then
        SOp.bind (SOp.loadUint 5) fun depth => if depth < 1 then SOp.fail else
          SOp.bind (SOp.loadUint depth.toNat) fun pfx => SOp.pure (some (depth.toNat, pfx))
      else SOp.pure none : SOp R (Option (Nat × Int)))
      (anycastBits (any.map fun dp => (dp.1, uintBits dp.1 dp.2.toNat))) [] any := by
  cases any with
  | none => exact Reads.bind (reads_loadBit false) (Reads.pure none)
  | some dp =>
    obtain ⟨d, p⟩ := dp
    obtain ⟨hd1, hd2, hp⟩ := hr
    refine Reads.bind (reads_loadBit true) (Reads.bind (reads_loadNat 5 d (by decide) hd2) ?_)
    rw [if_neg (by omega), Int.toNat_natCast]
    exact (reads_loadUint d p (by omega) hp).ret _

theorem reads_loadAddress (a : Addr) (hr : InRange (R := R) (.addr a)) (hw : WF (R := R) (.addr a)) :
    Reads (SOp.loadAddress : SOp R Addr) (addrBits (addrOf a)) [] a := by
  unfold SOp.loadAddress
  simp only [bind_eq, pure_eq]
  cases a with
  | none => exact Reads.bind (reads_loadNat 2 0 (by decide) (by decide)) (Reads.pure _)
  | ext len val =>
    obtain ⟨hlen, hval⟩ := hr
    refine (Reads.bind (reads_loadNat 2 1 (by decide) (by decide))
      (Reads.bind (reads_loadNat 9 len (by decide) hlen) ?_)).congr (List.append_assoc ..).symm rfl rfl
    by_cases hl0 : len = 0
    · subst hl0
      obtain rfl : val = 0 := by unfold FitsUint at hval; simp at hval; omega
      exact Reads.pure _
    · rw [if_neg (by omega), Int.toNat_natCast]
      exact (reads_loadUint len val (by omega) hval).ret _
  | std any wc h =>
    obtain ⟨hany, hwc⟩ := hr
    obtain ⟨hwf, hlen⟩ := hw
    have hb := reads_loadBytes (R := R) h hwf
    rw [hlen] at hb
    refine (Reads.bind (ys := anycastBits (any.map fun dp => (dp.1, uintBits dp.1 dp.2.toNat)) ++ (intBits 8 wc ++ bytesBits h))
      (reads_loadNat 2 2 (by decide) (by decide)) ?_).congr (by simp only [addrBits, addrOf, List.append_assoc]; rfl) rfl rfl
    rw [if_neg (by decide), if_neg (by decide), ← sop_bind_assoc]
    exact Reads.bind (reads_anycast any hany) (Reads.bind (reads_loadInt 8 wc (by decide) hwc) (hb.ret _))

theorem loadString_pos {n : Nat} (h : n ≠ 0) : (SOp.loadString n : SOp R Bytes) = SOp.loadBytes n := by
  funext s; simp only [SOp.loadString, if_neg h]

theorem reads_load (tv : TVal R) (hr : InRange tv) (hw : WF tv) :
    Reads (tv.kind.load : SOp R (TVal R)) (enc tv) (refsOf tv) tv := by
  cases tv with
  | uint n v => exact (reads_loadUint n v hr.1 hr.2).map _
  | int n v => exact (reads_loadInt n v hr.1 hr.2).map _
  | varUint k v =>
    exact (reads_loadVarUint k _ v hr.1 hr.2.2 ((fitsUint_iff _ _).mpr ⟨hr.2.1, lt_pow_byteLenU _⟩)).map _
  | varInt k v => exact (reads_loadVarInt k _ v hr.1 hr.2 (byteLenS_fits v)).map _
  | coins v =>
    exact (reads_loadVarUint 4 _ v (by decide) hr.2 ((fitsUint_iff _ _).mpr ⟨hr.1, lt_pow_byteLenU _⟩)).map _
  | bit b => exact (reads_loadBit b).map _
  | bits bs => exact (reads_loadBits bs).map _
  | bytes bs => exact (reads_loadBytes bs hw).map _
  | string bs =>
    have hne : bs.length ≠ 0 := fun h => hw.2 (List.eq_nil_of_length_eq_zero h)
    exact Reads.map _ (loadString_pos (R := R) hne ▸ reads_loadBytes bs hw.1)
  | ref r => exact (reads_loadRef r).map _
  | maybeRef r => exact (reads_loadMaybeRef r).map _
  | dict r => exact (reads_loadMaybeRef r).map _
  | addr a => exact (reads_loadAddress a hr hw).map _

/-- reading back any typed value from its TL-B encoding followed by an arbitrary continuation -/
theorem load_rt (tv : TVal R) (hr : InRange tv) (hw : WF tv) (kb : Bits) (kr : List R) :
    tv.kind.load ⟨enc tv ++ kb, refsOf tv ++ kr⟩ = (⟨kb, kr⟩, some tv) :=
  (reads_load tv hr hw).run kb kr

/-! ### reads only ever consume a prefix -/

/-- `s'` is what remains of `s` after removing some leading bits and references -/
def Suffix (s s' : Slice R) : Prop := ∃ pb pr, s.bits = pb ++ s'.bits ∧ s.refs = pr ++ s'.refs

theorem Suffix.refl (s : Slice R) : Suffix s s := ⟨[], [], rfl, rfl⟩

theorem Suffix.trans {a b c : Slice R} (h1 : Suffix a b) (h2 : Suffix b c) : Suffix a c := by
  obtain ⟨p1, q1, e1, f1⟩ := h1
  obtain ⟨p2, q2, e2, f2⟩ := h2
  exact ⟨p1 ++ p2, q1 ++ q2, by rw [e1, e2, List.append_assoc], by rw [f1, f2, List.append_assoc]⟩

/-- whatever the outcome, the slice after the call is a suffix of the slice before -/
def Mono (f : SOp R α) : Prop := ∀ s, Suffix s (f s).1

theorem mono_pure (a : α) : Mono (SOp.pure a : SOp R α) := fun s => Suffix.refl s
theorem mono_fail : Mono (SOp.fail : SOp R α) := fun s => Suffix.refl s
theorem mono_ofOption (o : Option α) : Mono (SOp.ofOption o : SOp R α) := fun s => Suffix.refl s
theorem mono_peekBits (n : Nat) : Mono (SOp.peekBits n : SOp R Bits) := fun s => Suffix.refl s

theorem mono_bind {f : SOp R α} {g : α → SOp R β} (hf : Mono f) (hg : ∀ a, Mono (g a)) :
    Mono (SOp.bind f g) := by
  intro s
  unfold SOp.bind
  have h1 := hf s
  cases hfs : f s with
  | mk s1 r =>
    rw [hfs] at h1
    cases r with
    | none => exact h1
    | some a => exact h1.trans (hg a s1)

theorem mono_delBits (n : Nat) : Mono (SOp.delBits n : SOp R Unit) := by
  intro s
  unfold SOp.delBits
  split
  · exact Suffix.refl s
  · split
    · exact Suffix.refl s
    · exact ⟨s.bits.take n, [], (List.take_append_drop n s.bits).symm, rfl⟩

theorem mono_loadBit : Mono (SOp.loadBit : SOp R Bool) := by
  intro s
  unfold SOp.loadBit
  cases h : s.bits with
  | nil => exact Suffix.refl s
  | cons b rest => exact ⟨[b], [], by simp [h], rfl⟩

theorem mono_loadRef : Mono (SOp.loadRef : SOp R R) := by
  intro s
  unfold SOp.loadRef
  cases h : s.refs with
  | nil => exact Suffix.refl s
  | cons b rest => exact ⟨[], [b], rfl, by simp [h]⟩

theorem mono_map {f : SOp R α} (g : α → β) (hf : Mono f) : Mono (f.map g) := fun s => hf s

/-- a decoded peek followed by the deletion of the bits read -/
theorem mono_thenDel {f : SOp R α} (hf : Mono f) (m : Nat) :
    Mono (SOp.bind f fun v => SOp.bind (SOp.delBits m) fun _ => SOp.pure v) :=
  mono_bind hf fun _ => mono_bind (mono_delBits m) fun _ => mono_pure _

theorem mono_loadBits (n : Nat) : Mono (SOp.loadBits n : SOp R Bits) :=
  mono_thenDel (mono_peekBits n) n
theorem mono_loadUint (n : Nat) : Mono (SOp.loadUint n : SOp R Int) :=
  mono_thenDel (mono_bind (mono_peekBits n) fun _ => mono_ofOption _) n
theorem mono_loadInt (n : Nat) : Mono (SOp.loadInt n : SOp R Int) :=
  mono_thenDel (mono_bind (mono_peekBits n) fun _ => mono_ofOption _) n
theorem mono_loadBytes (n : Nat) : Mono (SOp.loadBytes n : SOp R Bytes) :=
  mono_thenDel (mono_bind (mono_peekBits (n * 8)) fun _ => mono_pure _) (n * 8)
theorem mono_loadVarUint (k : Nat) : Mono (SOp.loadVarUint k : SOp R Int) := by
  unfold SOp.loadVarUint; simp only [bind_eq, pure_eq]
  apply mono_bind (mono_loadUint k); intro len; split
  · exact mono_pure _
  · exact mono_loadUint _
theorem mono_loadVarInt (k : Nat) : Mono (SOp.loadVarInt k : SOp R Int) := by
  unfold SOp.loadVarInt; simp only [bind_eq, pure_eq]
  apply mono_bind (mono_loadUint k); intro len; split
  · exact mono_pure _
  · exact mono_loadInt _
theorem mono_loadMaybeRef : Mono (SOp.loadMaybeRef : SOp R (Option R)) := by
  unfold SOp.loadMaybeRef; simp only [bind_eq, pure_eq]
  apply mono_bind mono_loadBit; intro b; split
  · apply mono_bind mono_loadRef; intro; exact mono_pure _
  · exact mono_pure _
theorem mono_loadDict : Mono (SOp.loadDict : SOp R (Option R)) := mono_loadMaybeRef
theorem mono_loadString (n : Nat) : Mono (SOp.loadString n : SOp R Bytes) := by
  intro s; unfold SOp.loadString; exact mono_loadBytes _ s

theorem mono_loadAddress : Mono (SOp.loadAddress : SOp R Addr) := by
  unfold SOp.loadAddress; simp only [bind_eq, pure_eq]
  apply mono_bind (mono_loadUint 2); intro tag; split
  · exact mono_pure _
  · split
    · apply mono_bind (mono_loadUint 9); intro len; split
      · exact mono_pure _
      · apply mono_bind (mono_loadUint _); intro; exact mono_pure _
    · apply mono_bind mono_loadBit; intro any
      apply mono_bind
      · split
        · apply mono_bind (mono_loadUint 5); intro d; split
          · exact mono_fail
          · apply mono_bind (mono_loadUint _); intro; exact mono_pure _
        · exact mono_pure _
      · intro ac; split
        · apply mono_bind (mono_loadInt 8); intro
          apply mono_bind (mono_loadBytes 32); intro; exact mono_pure _
        · exact mono_fail

/-- every consuming typed read leaves a suffix of the slice, whether it succeeds or raises -/
theorem mono_load (k : Kind) : Mono (k.load : SOp R (TVal R)) := by
  cases k with
  | uint n => exact mono_map _ (mono_loadUint n)
  | int n => exact mono_map _ (mono_loadInt n)
  | varUint k => exact mono_map _ (mono_loadVarUint k)
  | varInt k => exact mono_map _ (mono_loadVarInt k)
  | coins => exact mono_map _ (mono_loadVarUint 4)
  | bit => exact mono_map _ mono_loadBit
  | bits n => exact mono_map _ (mono_loadBits n)
  | bytes n => exact mono_map _ (mono_loadBytes n)
  | string n => exact mono_map _ (mono_loadString n)
  | ref => exact mono_map _ mono_loadRef
  | maybeRef => exact mono_map _ mono_loadMaybeRef
  | dict => exact mono_map _ mono_loadDict
  | addr => exact mono_map _ mono_loadAddress

end TonVerif.Proofs.Slice
