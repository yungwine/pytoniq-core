/-
The dictionary SERIALISER regenerated from pytoniq_core/boc/hashmap/utils.py (Generated/HashmapSrc.lean: `pad`,
`remove_prefix_map`, `find_common_prefix`, `fork_map`, `build_node` / `build_edge`, `build_tree`, `write_label*`, `write_node` /
`write_edge`, `serialize_dict`) equals the hand model Model/Hashmap.lean (`keyBits`, `findCommonPrefix`, `forkMap`, `buildEdge`,
`buildTree`, `labelBits`, `writeEdge`, `serialize`) — for all inputs of the stated domains.

Part 1: `pad`, dict re-keying, `sorted`, `find_common_prefix` (every list of strings).
Part 2: `remove_prefix_map`, `fork_map`, `build_edge` / `build_node`, `build_tree` (pairwise different keys of equal length — what
        `set_int_key` guarantees; outside that domain the Python dict re-keying may merge keys, see design/translators-hashmap.md).
Part 3: `write_label` (three kinds), `write_edge` / `write_node`, `serialize_dict`; for EVERY fuel ≥ 2·key_size + 2.
-/
import TonVerif.Generated.HashmapSrc
import TonVerif.Proofs.Hashmap
import TonVerif.Proofs.SrcHashmap

set_option linter.unusedSimpArgs false
namespace TonVerif.Proofs.SrcHashmapSer
open TonVerif TonVerif.Model TonVerif.Model.Hashmap TonVerif.Spec.Hashmap TonVerif.Proofs.Hashmap
open TonVerif.Generated.HashmapSrc TonVerif.Proofs.SrcHashmap
open TonVerif.Generated.LabelFns

/-! ### Part 1a: `pad` -/

/-- the `while len(src) < size` loop of `pad`, for every loop fuel that is at least the declared variant -/
theorem pad_loop (size : Nat) : ∀ (lf : Nat) (src : Bits), size - src.length ≤ lf →
    pad_while1 size lf src = some (List.replicate (size - src.length) false ++ src) := by
  intro lf
  induction lf with
  | zero =>
    intro src h
    have h0 : size - src.length = 0 := by omega
    have : ¬ src.length < size := by omega
    simp [pad_while1, this, h0]
  | succ lf ih =>
    intro src h
    by_cases hlt : src.length < size
    · have hlen : ([false] ++ src).length = src.length + 1 := by rw [List.length_append, List.length_singleton, Nat.add_comm]
      have hl : size - ([false] ++ src).length ≤ lf := by omega
      simp only [pad_while1, hlt, if_true, ih _ hl]
      have e : size - src.length = (size - ([false] ++ src).length) + 1 := by omega
      rw [e, List.replicate_succ']
      simp
    · have h0 : size - src.length = 0 := by omega
      simp [pad_while1, hlt, h0]

/-- the declared loop variant of `pad` loses nothing -/
theorem pad_loop_fuel_indep (size lf : Nat) (src : Bits) (h : size - src.length ≤ lf) :
    pad_while1 size lf src = pad_while1 size (size - src.length) src := by
  rw [pad_loop size lf src h, pad_loop size _ src (Nat.le_refl _)]

/-- `pad(src, size)` left-pads `src` with zeros to `size` bits (and returns it as it is when it is longer) -/
theorem pad_eq (src : Bits) (size : Nat) : pad src size = some (List.replicate (size - src.length) false ++ src) := by
  unfold pad
  simp [pad_loop size _ src (Nat.le_refl _)]

/-- `pad(bin(key)[2:], key_size)` is the model's `keyBits` -/
theorem pad_key (k size : Nat) : pad (Py.binDigits k) size = some (keyBits size k) := by
  rw [pad_eq]; simp [keyBits, Py.binDigits, binDigits, SrcArith.py_bitLength_eq]

/-! ### Part 1b: dict re-keying -/

theorem dget_of_mem {K V : Type} [DecidableEq K] : ∀ (d : List (K × V)), (d.map Prod.fst).Nodup → ∀ (k : K) (v : V),
    (k, v) ∈ d → Py.dget? k d = some v := by
  intro d
  induction d with
  | nil => intro _ k v h; simp at h
  | cons x d ih =>
    intro hnd k v hm
    obtain ⟨k', v'⟩ := x
    simp only [List.map_cons, List.nodup_cons] at hnd
    by_cases hk : k' = k
    · subst hk
      rcases List.mem_cons.1 hm with h | h
      · simp only [Prod.mk.injEq] at h; simp [Py.dget?, h.2]
      · exact absurd (List.mem_map.2 ⟨(k', v), h, rfl⟩) hnd.1
    · rcases List.mem_cons.1 hm with h | h
      · simp only [Prod.mk.injEq] at h; exact absurd h.1.symm hk
      · simp [Py.dget?, hk, ih hnd.2 k v h]

/-- a loop `for k in l: acc = g(acc, k, src[k])` over entries of `src` never raises KeyError: it is the fold over the entries -/
theorem foldlM_dget {K V β : Type} [DecidableEq K] (src : List (K × V)) (hnd : (src.map Prod.fst).Nodup) (g : β → K → V → β) :
    ∀ (l : List (K × V)) (acc : β), (∀ kv ∈ l, kv ∈ src) →
      (l.map (·.1)).foldlM (fun acc k => (Py.dget? k src).bind fun v => some (g acc k v)) acc =
        some (l.foldl (fun acc kv => g acc kv.1 kv.2) acc)
  | [], _, _ => rfl
  | (k, v) :: l, acc, h => by
    rw [List.map_cons, List.foldlM_cons, dget_of_mem src hnd k v (h _ List.mem_cons_self)]
    exact foldlM_dget src hnd g l _ fun kv hkv => h kv (List.mem_cons_of_mem _ hkv)

/-- one step of `for k in src: res[f(k)] = src[k]` -/
def rekeyStep {K K' V : Type} [DecidableEq K] [DecidableEq K'] (f : K → K') (src : List (K × V)) (res : List (K' × V)) (k : K) :
    Option (List (K' × V)) :=
  (Py.dget? k src).bind fun v => some (Py.dset (f k) v res)

/-- `res = {}; for k in src: res[f(k)] = src[k]` is the list map, when the keys and the new keys are pairwise different; for any
spelling `step` of the loop body -/
theorem rekey_fold {K K' V : Type} [DecidableEq K] [DecidableEq K'] (f : K → K') (src : List (K × V))
    (hnd : (src.map Prod.fst).Nodup) (hnd' : (src.map fun kv => f kv.1).Nodup)
    (step : List (K' × V) → K → Option (List (K' × V))) (hs : ∀ res k, step res k = rekeyStep f src res k) :
    List.foldlM step [] (src.map (·.1)) = some (src.map fun kv => (f kv.1, kv.2)) := by
  obtain rfl : step = rekeyStep f src := funext fun x => funext fun k => hs x k
  exact (foldlM_dget src hnd (fun res k v => Py.dset (f k) v res) src [] fun _ h => h).trans
    (congrArg some (foldl_dset_fresh (fun kv => f kv.1) (·.2) src [] hnd' (by simp)))

/-! ### Part 1c: `sorted` on '0'/'1' strings -/

theorem strLe_eq : ∀ (a b : Bits), Py.strLe a b = lexLe a b := by
  intro a
  induction a with
  | nil => intro b; simp [Py.strLe, lexLe]
  | cons x a ih =>
    intro b
    cases b with
    | nil => simp [Py.strLe, lexLe]
    | cons y b => simp [Py.strLe, lexLe, ih]

def Sorted (l : List Bits) : Prop := l.Pairwise (fun a b => lexLe a b = true)

theorem insertSorted_perm (x : Bits) : ∀ l : List Bits, (Py.insertSorted x l).Perm (x :: l) := by
  intro l
  induction l with
  | nil => simp [Py.insertSorted]
  | cons y ys ih =>
    simp only [Py.insertSorted]
    split
    · exact (List.Perm.cons y ih).trans (List.Perm.swap x y ys)
    · exact List.Perm.refl _

theorem insertSorted_sorted (x : Bits) : ∀ l : List Bits, Sorted l → Sorted (Py.insertSorted x l) := by
  intro l
  induction l with
  | nil => intro _; simp [Py.insertSorted, Sorted]
  | cons y ys ih =>
    intro hs
    simp only [Sorted, List.pairwise_cons] at hs
    simp only [Py.insertSorted]
    split
    · rename_i hle
      rw [strLe_eq] at hle
      simp only [Sorted, List.pairwise_cons]
      refine ⟨?_, ih hs.2⟩
      intro z hz
      rcases List.mem_cons.1 ((insertSorted_perm x ys).subset hz) with h | h
      · subst h; exact hle
      · exact hs.1 z h
    · rename_i hle
      rw [strLe_eq] at hle
      have hxy : lexLe x y = true := by
        rcases lexLe_total x y with h | h
        · exact h
        · exact absurd h hle
      simp only [Sorted, List.pairwise_cons]
      refine ⟨?_, hs⟩
      intro z hz
      rcases List.mem_cons.1 hz with h | h
      · subst h; exact hxy
      · exact lexLe_trans _ _ _ hxy (hs.1 z h)

theorem sortedStrs_aux : ∀ (xs acc : List Bits), Sorted acc →
    Sorted (xs.foldl (fun acc x => Py.insertSorted x acc) acc) ∧ (xs.foldl (fun acc x => Py.insertSorted x acc) acc).Perm (acc ++ xs) := by
  intro xs
  induction xs with
  | nil => intro acc h; simp [h]
  | cons x xs ih =>
    intro acc h
    obtain ⟨s, p⟩ := ih (Py.insertSorted x acc) (insertSorted_sorted x acc h)
    refine ⟨s, p.trans ?_⟩
    have := (insertSorted_perm x acc).append_right xs
    exact this.trans (by simpa using (List.perm_middle (l₁ := acc) (l₂ := xs) (a := x)).symm)

theorem sortedStrs_spec (xs : List Bits) : Sorted (Py.sortedStrs xs) ∧ (Py.sortedStrs xs).Perm xs := by
  have := sortedStrs_aux xs [] (by simp [Sorted])
  simpa [Py.sortedStrs] using this

/-- `sorted(src)[0]` is the lexicographic minimum, `sorted(src)[-1]` the maximum -/
theorem sortedStrs_ends (k : Bits) (ks : List Bits) :
    (Py.sortedStrs (k :: ks))[0]? = some (lexMin k ks) ∧ (Py.sortedStrs (k :: ks)).getLast? = some (lexMax k ks) := by
  obtain ⟨hs, hp⟩ := sortedStrs_spec (k :: ks)
  generalize Py.sortedStrs (k :: ks) = l at hs hp
  have hmin_mem : lexMin k ks ∈ l := hp.symm.subset (lexMin_mem k ks)
  have hmax_mem : lexMax k ks ∈ l := hp.symm.subset (lexMax_mem k ks)
  constructor
  · cases l with
    | nil => simp at hmin_mem
    | cons h t =>
      simp only [List.getElem?_cons_zero, Option.some.injEq]
      simp only [Sorted, List.pairwise_cons] at hs
      apply lexLe_antisymm
      · rcases List.mem_cons.1 hmin_mem with e | e
        · rw [e]; exact lexLe_refl _
        · exact hs.1 _ e
      · exact lexMin_le k ks h (hp.subset (by simp))
  · have hne : l ≠ [] := by intro e; simp [e] at hmin_mem
    rw [List.getLast?_eq_some_getLast hne]
    simp only [Option.some.injEq]
    have hl : l = l.dropLast ++ [l.getLast hne] := (List.dropLast_concat_getLast hne).symm
    have hlast_mem : l.getLast hne ∈ l := List.getLast_mem hne
    apply lexLe_antisymm
    · exact le_lexMax k ks _ (hp.subset hlast_mem)
    · rw [hl] at hmax_mem hs
      simp only [Sorted, List.pairwise_append, List.mem_singleton] at hs
      rcases List.mem_append.1 hmax_mem with e | e
      · exact hs.2.2 _ e _ rfl
      · simp only [List.mem_singleton] at e; rw [e]; exact lexLe_refl _

/-! ### Part 1d: `find_common_prefix` -/

/-- the `for i, e in enumerate(a): if e == b[i]: size += 1 else: break` loop: never indexes out of `b` when `a <= b` -/
theorem prefix_loop (b : Bits) (f : Nat × Bool → Nat → Option (Nat × Bool))
    (hf : ∀ i e size, f (i, e) size = (b[i]?).bind fun x => if e = x then some (size + 1, false) else some (size, true)) :
    ∀ (a' b' : Bits) (j size : Nat), (∀ i, b[j + i]? = b'[i]?) → lexLe a' b' = true →
      Py.loop? ((List.range' j a'.length).zip a') size f = some (size + (commonPrefix a' b').length) := by
  intro a'
  induction a' with
  | nil => intro b' j size _ _; simp [Py.loop?, commonPrefix]
  | cons a0 a'' ih =>
    intro b' j size hb hle
    cases b' with
    | nil => simp [lexLe] at hle
    | cons b0 b'' =>
      have hbj : b[j]? = some b0 := by simpa using hb 0
      simp only [List.length_cons, List.range'_succ, List.zip_cons_cons, Py.loop?, hf, hbj, Option.bind_some]
      by_cases he : a0 = b0
      · subst he
        simp only [if_true, Option.bind_some, Bool.false_eq_true, if_false, commonPrefix, beq_self_eq_true, List.length_cons]
        have hle' : lexLe a'' b'' = true := by simpa [lexLe] using hle
        rw [ih b'' (j + 1) (size + 1) (fun i => by have := hb (i + 1); simp only [List.getElem?_cons_succ] at this; rw [← this]; congr 1; omega) hle']
        congr 1; omega
      · have : (a0 == b0) = false := by simpa using he
        simp [he, commonPrefix, this]

theorem take_commonPrefix (a b : Bits) : a.take (commonPrefix a b).length = commonPrefix a b :=
  (List.prefix_iff_eq_take.1 (commonPrefix_left a b)).symm

/-- REGENERATED `find_common_prefix(src)` = the hand model's `findCommonPrefix`, for EVERY list of '0'/'1' strings: it never raises
(`_sorted[-1][i]` stays in range because `_sorted[0] <= _sorted[-1]`), and returns the common prefix of the least and the greatest string. -/
theorem find_common_prefix_eq (src : List Bits) : find_common_prefix src = some (findCommonPrefix src) := by
  unfold find_common_prefix
  match src with
  | [] => simp [findCommonPrefix]
  | [k] => simp [findCommonPrefix]
  | k1 :: k2 :: ks =>
    obtain ⟨h0, hl⟩ := sortedStrs_ends k1 (k2 :: ks)
    have hle : lexLe (lexMin k1 (k2 :: ks)) (lexMax k1 (k2 :: ks)) = true := le_lexMax k1 (k2 :: ks) _ (lexMin_mem k1 (k2 :: ks))
    have hloop := prefix_loop (lexMax k1 (k2 :: ks))
      (fun (x : Nat × Bool) size => do
          let x3 ← (Py.sortedStrs (k1 :: k2 :: ks)).getLast?
          let x4 ← (x3)[x.1]?
          if (x.2 = x4) then do
            let size := (size + 1)
            pure (size, false)
          else do
            pure (size, true))
      (by intro i e size; simp [hl])
      (lexMin k1 (k2 :: ks)) (lexMax k1 (k2 :: ks)) 0 0 (by simp) hle
    simp only [List.length_cons, Nat.add_eq_zero_iff, one_ne_zero, and_false, if_false, Nat.reduceEqDiff, h0,
      Option.bind_eq_bind, Option.bind_some, Option.pure_def, Py.enumerate, List.range_eq_range']
    simp only [Nat.zero_add, Option.bind_eq_bind, Option.pure_def] at hloop
    simp only [findCommonPrefix]
    rw [hloop]
    simp [take_commonPrefix]

/-! ### Part 2a: `remove_prefix_map`, `fork_map` -/

/-- REGENERATED `remove_prefix_map(src, length)` = the list map of the hand model, when the keys and the shortened keys are pairwise
different (else the Python dict would merge entries). -/
theorem remove_prefix_map_eq {V : Type} (src : List (Bits × V)) (len : Nat) (hnd : (src.map Prod.fst).Nodup)
    (hnd' : (src.map fun kv => kv.1.drop len).Nodup) :
    remove_prefix_map src len = some (src.map fun kv => (kv.1.drop len, kv.2)) := by
  unfold remove_prefix_map
  by_cases h : len = 0
  · subst h; simp
  · simp only [h, if_false, Option.bind_eq_bind, Option.pure_def]
    exact rekey_fold (fun k : Bits => k.drop len) src hnd hnd' _ fun _ _ => rfl

theorem findBit_zero (k : Bits) : Py.findBit k false = 0 ↔ ∃ t, k = false :: t := by
  cases k with
  | nil => simp [Py.findBit]
  | cons b t =>
    cases b with
    | false => simp [Py.findBit, List.findIdx?_cons]
    | true =>
      simp only [Py.findBit, List.findIdx?_cons]
      cases List.findIdx? (fun x => x == false) t with
      | none => simp
      | some i => simp; omega

/-- one step of the `for k in src` loop of `fork_map` -/
def forkStep {V : Type} (src : List (Bits × V)) (acc : List (Bits × V) × List (Bits × V)) (k : Bits) :
    Option (List (Bits × V) × List (Bits × V)) :=
  if Py.findBit k false = (0 : Int) then (Py.dget? k src).bind fun v => some (Py.dset (k.drop 1) v acc.1, acc.2)
  else (Py.dget? k src).bind fun v => some (acc.1, Py.dset (k.drop 1) v acc.2)

theorem leftOf_nil {V : Type} : leftOf ([] : List (Bits × V)) = [] := rfl
theorem rightOf_nil {V : Type} : rightOf ([] : List (Bits × V)) = [] := rfl
theorem leftOf_append {V : Type} (a b : List (Bits × V)) : leftOf (a ++ b) = leftOf a ++ leftOf b := by
  simp [leftOf, List.filterMap_append]
theorem rightOf_append {V : Type} (a b : List (Bits × V)) : rightOf (a ++ b) = rightOf a ++ rightOf b := by
  simp [rightOf, List.filterMap_append]

theorem fork_aux {V : Type} (src : List (Bits × V)) (hnd : (src.map Prod.fst).Nodup)
    (hl : ((leftOf src).map Prod.fst).Nodup) (hr : ((rightOf src).map Prod.fst).Nodup) :
    ∀ (suf pre : List (Bits × V)), src = pre ++ suf →
      List.foldlM (forkStep src) (leftOf pre, rightOf pre) (suf.map (·.1)) = some (leftOf src, rightOf src) := by
  intro suf
  induction suf with
  | nil => intro pre h; simp [h]
  | cons x suf ih =>
    intro pre h
    obtain ⟨k, v⟩ := x
    have hm : (k, v) ∈ src := by rw [h]; simp
    have hg := dget_of_mem src hnd k v hm
    have hnext := ih (pre ++ [(k, v)]) (by rw [h]; simp)
    simp only [List.map_cons, List.foldlM_cons, forkStep, hg, Option.bind_eq_bind, Option.bind_some]
    by_cases hz : Py.findBit k false = 0
    · obtain ⟨t, rfl⟩ := (findBit_zero k).1 hz
      have hk : ∀ sf : List (Bits × V), leftOf ((false :: t, v) :: sf) = (t, v) :: leftOf sf ∧
          rightOf ((false :: t, v) :: sf) = rightOf sf := fun _ => ⟨rfl, rfl⟩
      have hfresh : t ∉ (leftOf pre).map Prod.fst := by
        rw [h, leftOf_append, (hk suf).1, List.map_append, List.nodup_append] at hl
        exact fun hin => hl.2.2 _ hin t List.mem_cons_self rfl
      simp only [hz, if_true, List.drop_succ_cons, List.drop_zero, dset_new _ _ _ hfresh, Option.bind_some]
      rw [leftOf_append, rightOf_append, (hk []).1, (hk []).2, leftOf_nil, rightOf_nil, List.append_nil] at hnext
      exact hnext
    · have hk : ∀ sf : List (Bits × V), leftOf ((k, v) :: sf) = leftOf sf ∧ rightOf ((k, v) :: sf) = (k.drop 1, v) :: rightOf sf := by
        intro sf
        match k, hz with
        | [], _ => simp [leftOf, rightOf]
        | true :: t, _ => simp [leftOf, rightOf]
        | false :: t, hz => exact absurd ((findBit_zero _).2 ⟨t, rfl⟩) hz
      have hfresh : k.drop 1 ∉ (rightOf pre).map Prod.fst := by
        rw [h, rightOf_append, (hk suf).2, List.map_append, List.nodup_append] at hr
        exact fun hin => hr.2.2 _ hin (k.drop 1) List.mem_cons_self rfl
      simp only [hz, if_false, dset_new _ _ _ hfresh, Option.bind_some]
      rw [leftOf_append, rightOf_append, (hk []).1, (hk []).2, leftOf_nil, rightOf_nil, List.append_nil] at hnext
      exact hnext

/-- REGENERATED `fork_map(src)` = the hand model's `forkMap` (both assertions included), when the keys of `src`, of the left part and of
the right part are pairwise different. -/
theorem fork_map_eq {V : Type} (src : List (Bits × V)) (hnd : (src.map Prod.fst).Nodup)
    (hl : ((leftOf src).map Prod.fst).Nodup) (hr : ((rightOf src).map Prod.fst).Nodup) :
    fork_map src = forkMap src := by
  unfold fork_map
  rw [forkMap_eq]
  by_cases h0 : src = []
  · subst h0; simp [leftOf]
  have hpos : src.length > 0 := List.length_pos_iff.2 h0
  have hfold := fork_aux src hnd hl hr src [] rfl
  rw [leftOf_nil, rightOf_nil] at hfold
  have key : ∀ (step : List (Bits × V) × List (Bits × V) → Bits → Option (List (Bits × V) × List (Bits × V))),
      (∀ x k, step x k = forkStep src x k) → List.foldlM step ([], []) (src.map (·.1)) = some (leftOf src, rightOf src) := by
    intro step hs
    have : step = forkStep src := funext fun x => funext fun k => hs x k
    rw [this]; exact hfold
  simp only [hpos, not_true_eq_false, if_false, Option.bind_eq_bind, Option.pure_def]
  rw [key]
  rotate_left
  · rintro ⟨l, r⟩ k
    simp only [forkStep]
    split <;> cases Py.dget? k src <;> rfl
  simp only [Option.bind_some]
  by_cases h1 : leftOf src = []
  · simp [h1]
  by_cases h2 : rightOf src = []
  · simp [h2, List.length_pos_iff.2 h1]
  simp [h1, h2, List.length_pos_iff.2 h1, List.length_pos_iff.2 h2]

/-! ### Part 2b: `build_edge` / `build_node`, `build_tree` -/

/-- the dict tree `build_edge` returns for the hand model's `Edge` -/
def toTree {V : Type} : Edge V → Py.Tree V
  | .leaf s v => .edge s (.leaf v)
  | .fork s l r => .edge s (.fork (toTree l) (toTree r))

/-- REGENERATED `build_edge(src)` (with `build_node`, `find_common_prefix`, `remove_prefix_map`, `fork_map`) = the hand model's
`buildEdge`, for every dict of pairwise different `n`-bit keys, every Python-side fuel ≥ 2n + 2 and every model fuel > n: the same
tree (labels, fork structure, leaf values) or the same AssertionError. -/
theorem build_edge_eq {V : Type} : ∀ (n : Nat) (src : List (Bits × V)) (fuel mf : Nat),
    Keyed n src → 2 * n + 2 ≤ fuel → n < mf →
    build_edge fuel src = (buildEdge mf src).map toTree := by
  intro n
  induction n using Nat.strong_induction_on with
  | _ n ih =>
    intro src fuel mf hk hf hm
    obtain ⟨f, rfl⟩ : ∃ f, fuel = f + 2 := ⟨fuel - 2, by omega⟩
    obtain ⟨mf', rfl⟩ : ∃ g, mf = g + 1 := ⟨mf - 1, by omega⟩
    rw [build_edge, buildEdge]
    by_cases h0 : src = []
    · subst h0; simp
    have hpos : src.length > 0 := List.length_pos_iff.2 h0
    have hemp : src.isEmpty = false := by simpa using h0
    simp only [hpos, not_true_eq_false, if_false, hemp, Bool.false_eq_true, find_common_prefix_eq, Option.bind_eq_bind,
      Option.bind_some, Option.pure_def]
    generalize hlab : findCommonPrefix (src.map (·.1)) = label
    obtain ⟨-, hrest⟩ := rest_facts hk label hlab
    have hrnd' : (src.map fun kv => kv.1.drop label.length).Nodup := by simpa [List.map_map, Function.comp_def] using hrest.nodup
    rw [remove_prefix_map_eq src label.length hk.nodup hrnd']
    have hrne : src.map (fun kv => (kv.1.drop label.length, kv.2)) ≠ [] := by simpa using h0
    generalize src.map (fun kv => (kv.1.drop label.length, kv.2)) = rest at hrest hrne
    simp only [Option.bind_some]
    rw [build_node]
    match rest, hrne, hrest with
    | [], hrne, _ => exact absurd rfl hrne
    | [(k, v)], _, _ => simp [toTree]
    | a :: b :: tl, _, hrest =>
      -- two different keys have at least one bit
      obtain ⟨m, hmm⟩ : ∃ m, n - label.length = m + 1 := by
        refine ⟨n - label.length - 1, ?_⟩
        by_contra hz
        have ha : a.1 = [] := List.length_eq_zero_iff.1 (by rw [hrest.len a (by simp)]; omega)
        have hb : b.1 = [] := List.length_eq_zero_iff.1 (by rw [hrest.len b (by simp)]; omega)
        have hnd := hrest.nodup
        rw [List.map_cons, List.map_cons, List.nodup_cons, ha, hb] at hnd
        exact hnd.1 List.mem_cons_self
      rw [hmm] at hrest
      obtain ⟨-, hkl, hkr⟩ := fork_facts hrest
      have hlen2 : (a :: b :: tl).length > 0 := by simp
      have hlen3 : ¬ (a :: b :: tl).length = 1 := by simp
      simp only [hlen2, not_true_eq_false, if_false, hlen3, Option.bind_eq_bind, Option.pure_def,
        fork_map_eq (a :: b :: tl) hrest.nodup hkl.nodup hkr.nodup]
      cases hfm : forkMap (a :: b :: tl) with
      | none => simp
      | some lr =>
        obtain ⟨l, r⟩ := lr
        rw [forkMap_eq] at hfm
        split at hfm
        · simp at hfm
        · simp only [Option.some.injEq, Prod.mk.injEq] at hfm
          obtain ⟨rfl, rfl⟩ := hfm
          have il := ih m (by omega) (leftOf (a :: b :: tl)) f mf' hkl (by omega) (by omega)
          have ir := ih m (by omega) (rightOf (a :: b :: tl)) f mf' hkr (by omega) (by omega)
          simp only [Option.bind_some, il, ir]
          cases buildEdge mf' (leftOf (a :: b :: tl)) <;> cases buildEdge mf' (rightOf (a :: b :: tl)) <;> simp [toTree]

/-- REGENERATED `build_tree(src, key_size)` = the hand model's `buildTree`, for every map built by `set_int_key` (`DictOK`: pairwise
different keys < 2^n), n ≥ 1, every fuel ≥ 2n + 2. -/
theorem build_tree_eq {V : Type} (n : Nat) (hn : 0 < n) (d : Dict V) (hd : DictOK n d) (fuel : Nat) (hf : 2 * n + 2 ≤ fuel) :
    build_tree fuel d n = (buildTree n d).map toTree := by
  unfold build_tree buildTree
  simp only [Option.bind_eq_bind, Option.pure_def]
  have hk := keyed_of_dictOK hn hd
  rw [rekey_fold (keyBits n) d hd.1 (by simpa [List.map_map, Function.comp_def] using hk.nodup)]
  rotate_left
  · intro res k
    simp [rekeyStep, pad_key]
  simp only [Option.bind_some]
  rw [build_edge_eq n _ fuel (n + 1) hk hf (by omega)]

/-! ### Part 3a: the label writer -/

/-- the builder with `x` appended -/
def app (b : Py.Bld) (x : Bits) : Py.Bld := { b with bits := b.bits ++ x }
@[simp] theorem app_bits (b : Py.Bld) (x : Bits) : (app b x).bits = b.bits ++ x := rfl
@[simp] theorem app_refs (b : Py.Bld) (x : Bits) : (app b x).refs = b.refs := rfl
theorem app_app (b : Py.Bld) (x y : Bits) : app (app b x) y = app b (x ++ y) := by simp [app]

theorem extend_eq (b : Py.Bld) (x : Bits) : b.extend? x = if b.bits.length + x.length > 1023 then none else some (app b x) := rfl

theorem extend_extend (b : Py.Bld) (x y : Bits) : (b.extend? x).bind (fun b' => b'.extend? y) = b.extend? (x ++ y) := by
  simp only [extend_eq]
  by_cases h1 : b.bits.length + x.length > 1023
  · have : b.bits.length + (x ++ y).length > 1023 := by simp; omega
    rw [if_pos h1, if_pos this]; rfl
  · rw [if_neg h1]
    simp only [Option.bind_some, app_bits, List.length_append, app_app]
    by_cases h2 : b.bits.length + x.length + y.length > 1023
    · have : b.bits.length + (x.length + y.length) > 1023 := by omega
      rw [if_pos h2, if_pos this]
    · have : ¬ b.bits.length + (x.length + y.length) > 1023 := by omega
      rw [if_neg h2, if_neg this]

/-- a `for e in src: to.store_bit_int(g(e))` loop on a builder that is not over-full -/
theorem storeBits_fold {α : Type} (g : α → Bool) : ∀ (l : List α) (b : Py.Bld), b.bits.length ≤ 1023 →
    List.foldlM (fun to_ e => (Py.Bld.extend? to_ [g e])) b l = b.extend? (l.map g) := by
  intro l
  induction l with
  | nil =>
    intro b hb
    have : ¬ b.bits.length + 0 > 1023 := by omega
    simp only [List.foldlM_nil, List.map_nil, extend_eq, List.length_nil, if_neg this]
    simp [app]
  | cons e l ih =>
    intro b hb
    simp only [List.foldlM_cons, List.map_cons, Option.bind_eq_bind]
    by_cases h1 : b.bits.length + [g e].length > 1023
    · have : b.bits.length + ((g e) :: l.map g).length > 1023 := by simp at h1 ⊢; omega
      rw [extend_eq b [g e], if_pos h1, extend_eq b (g e :: _), if_pos this]; rfl
    · have hb' : (app b [g e]).bits.length ≤ 1023 := by simp at h1 ⊢; omega
      rw [extend_eq b [g e], if_neg h1]
      simp only [Option.bind_some, ih _ hb']
      have := extend_extend b [g e] (l.map g)
      rw [extend_eq b [g e], if_neg h1] at this
      simpa using this

/-- … after a first store (which makes the builder not over-full) -/
theorem extend_then_fold {α : Type} (g : α → Bool) (l : List α) (b : Py.Bld) (x : Bits) :
    (b.extend? x).bind (fun b' => List.foldlM (fun to_ e => (Py.Bld.extend? to_ [g e])) b' l) = b.extend? (x ++ l.map g) := by
  rw [← extend_extend]
  by_cases h1 : b.bits.length + x.length > 1023
  · rw [extend_eq b x, if_pos h1]; rfl
  · have hb' : (app b x).bits.length ≤ 1023 := by simp; omega
    rw [extend_eq b x, if_neg h1]
    simp only [Option.bind_some, storeBits_fold g l _ hb']

theorem storeUint_eq (b : Py.Bld) (v l : Nat) : b.storeUint? v l = (BOp.int2baU (v : Int) l).bind b.extend? := rfl
theorem storeBit_eq (b : Py.Bld) (x : Bool) : b.storeBit? x = b.extend? [x] := rfl

/-- REGENERATED `write_label_short(src, to)` appends `0 1^n 0 src` (or raises on overflow) -/
theorem write_label_short_eq (src : Bits) (b : Py.Bld) :
    write_label_short src b = b.extend? (false :: (List.replicate src.length true ++ false :: src)) := by
  unfold write_label_short
  simp only [Option.bind_eq_bind, storeBit_eq]
  rw [← Option.bind_assoc, extend_then_fold (fun _ => true)]
  rw [← Option.bind_assoc, extend_extend]
  rw [extend_then_fold (fun e : Bool => decide (e = true))]
  congr 1
  have : List.map (fun _ : Bool => true) src = List.replicate src.length true := by
    induction src with
    | nil => rfl
    | cons x t ih => simp [List.replicate_succ, ih]
  simp [this]

/-- REGENERATED `write_label_long(src, key_length, to)` appends `10 len src`, `len` in `bit_length(key_length)` bits -/
theorem write_label_long_eq (src : Bits) (k : Int) (b : Py.Bld) :
    write_label_long src k b =
      (BOp.int2baU src.length (bitLength k.natAbs)).bind fun lb => b.extend? (true :: false :: (lb ++ src)) := by
  unfold write_label_long
  simp only [Option.bind_eq_bind, SrcArith.py_bitLength_eq, storeUint_eq, storeBit_eq]
  cases hlb : BOp.int2baU (src.length : Int) (bitLength k.natAbs) with
  | none => simp
  | some lb =>
    simp only [Option.bind_some]
    rw [← Option.bind_assoc, extend_extend, ← Option.bind_assoc, extend_extend, extend_then_fold (fun e : Bool => decide (e = true))]
    congr 1
    simp

/-- REGENERATED `write_label_same(value, length, key_length, to)` appends `11 v len` -/
theorem write_label_same_eq (v : Bool) (len : Nat) (k : Int) (b : Py.Bld) :
    write_label_same v len k b =
      (BOp.int2baU len (bitLength k.natAbs)).bind fun lb => b.extend? (true :: true :: v :: lb) := by
  unfold write_label_same
  simp only [Option.bind_eq_bind, SrcArith.py_bitLength_eq, storeUint_eq, storeBit_eq]
  cases hlb : BOp.int2baU (len : Int) (bitLength k.natAbs) with
  | none => simp
  | some lb =>
    simp only [Option.bind_some]
    rw [← Option.bind_assoc, extend_extend, ← Option.bind_assoc, extend_extend, extend_extend]
    rfl

/-- REGENERATED `write_label(src, key_size, to)` appends exactly the bits of the hand model's `labelBits` — the constructor chosen by
`detect_label_type` (short / long / same, ties to the earlier one), its length field, its payload — and raises iff `store_uint` refuses
the length or the builder overflows; for EVERY label, EVERY int `key_size` and every builder. -/
theorem write_label_eq (src : Bits) (k : Int) (b : Py.Bld) :
    write_label src k b = (labelBits src k.natAbs).bind b.extend? := by
  unfold write_label labelBits
  simp only [Option.bind_eq_bind, Option.pure_def]
  cases hk : detect_label_type src k.natAbs with
  | short =>
    simp [Py.kindStr, write_label_short_eq]
  | long =>
    simp only [Py.kindStr, write_label_long_eq]
    simp
    cases BOp.int2baU (src.length : Int) (bitLength k.natAbs) <;> simp
  | same =>
    have hne : src ≠ [] := by
      rw [detect_eq] at hk
      exact refPolicy_same_ne hk
    obtain ⟨x, t, rfl⟩ : ∃ x t, src = x :: t := by
      cases src with
      | nil => exact absurd rfl hne
      | cons x t => exact ⟨x, t, rfl⟩
    simp only [Py.kindStr, write_label_same_eq]
    simp
    cases BOp.int2baU ((t.length : Int) + 1) (bitLength k.natAbs) <;> simp

/-! ### Part 3b: `write_edge` / `write_node`, `serialize_dict` -/

/-- the callback `serializer(value, builder)` of a value serialiser that appends the bits and references `ser v` to the builder
(`none` = it raises; more than 1023 bits / 4 references in the builder raise) -/
def serCb {V : Type} (ser : V → Option Val) (v : V) (b : Py.Bld) : Option Py.Bld :=
  (ser v).bind fun w =>
    if b.bits.length + w.1.length > 1023 ∨ b.refs.length + w.2.length > 4 then none
    else some ⟨b.bits ++ w.1, b.refs ++ w.2⟩

/-! `write_node` / `write_edge` on the three shapes of a dict tree -/
theorem write_node_leaf {V : Type} (cb : V → Py.Bld → Option Py.Bld) (f : Nat) (v : V) (k : Int) (b : Py.Bld) :
    write_node cb (f + 1) (.leaf v) k b = cb v b := by
  simp [write_node, Py.Tree.type?, Py.Tree.value?]

theorem write_node_fork {V : Type} (cb : V → Py.Bld → Option Py.Bld) (f : Nat) (l r : Py.Tree V) (k : Int) (b : Py.Bld) :
    write_node cb (f + 1) (.fork l r) k b =
      (write_edge cb f l (k - 1) Py.Bld.empty).bind fun lc => (write_edge cb f r (k - 1) Py.Bld.empty).bind fun rc =>
        (b.storeRef? lc.endCell).bind fun b' => b'.storeRef? rc.endCell := by
  simp [write_node, Py.Tree.type?, Py.Tree.left?, Py.Tree.right?]

theorem write_edge_edge {V : Type} (cb : V → Py.Bld → Option Py.Bld) (f : Nat) (s : Bits) (nd : Py.Tree V) (k : Int) (b : Py.Bld) :
    write_edge cb (f + 1) (.edge s nd) k b = (write_label s k b).bind fun b' => write_node cb f nd (k - (s.length : Int)) b' := by
  simp [write_edge, Py.Tree.label?, Py.Tree.node?]

/-- REGENERATED `write_edge(tree, key_size, serializer, Builder())` + `end_cell()` = the hand model's `writeEdge`, for every tree that
spells `n`-bit keys, every value serialiser of the form `serCb ser`, every fuel ≥ 2n + 2: same cell (label bits, value, the two child
cells) or both raise (the per-store overflow checks of the code amount to the one check per cell of the model). -/
theorem write_edge_eq {V : Type} (ser : V → Option Val) : ∀ (t : Edge V) (n fuel : Nat), Edge.Sized t n → 2 * n + 2 ≤ fuel →
    (write_edge (serCb ser) fuel (toTree t) (n : Int) Py.Bld.empty).map Py.Bld.endCell = writeEdge ser t n := by
  intro t
  induction t with
  | leaf s v =>
    intro n fuel hs hf
    obtain ⟨f, rfl⟩ : ∃ f, fuel = f + 2 := ⟨fuel - 2, by omega⟩
    rw [toTree, write_edge_edge, write_label_eq, Int.natAbs_natCast, writeEdge]
    simp only [write_node_leaf, Option.bind_eq_bind]
    cases labelBits s n with
    | none => rfl
    | some lb =>
      simp only [Option.bind_some, extend_eq, Py.Bld.empty, List.length_nil, Nat.zero_add]
      by_cases h1 : lb.length > 1023
      · simp only [h1, if_true, Option.bind_none, Option.map_none]
        cases ser v with
        | none => rfl
        | some w =>
          have : (lb ++ w.1).length > 1023 ∨ w.2.length > 4 := Or.inl (by simp; omega)
          simp only [Option.bind_some, if_pos this]
      · simp only [h1, if_false, Option.bind_some, serCb, app]
        cases ser v with
        | none => rfl
        | some w =>
          obtain ⟨vb, vr⟩ := w
          simp only [Option.bind_some, List.nil_append, List.length_nil, Nat.zero_add, List.length_append]
          by_cases h2 : lb.length + vb.length > 1023 ∨ vr.length > 4
          · simp [h2]
          · simp [h2, Py.Bld.endCell]
  | fork s l r ihl ihr =>
    intro n fuel hs hf
    obtain ⟨m, hn, hsl, hsr⟩ := hs
    obtain ⟨f, rfl⟩ : ∃ f, fuel = f + 2 := ⟨fuel - 2, by omega⟩
    have hm : n - s.length - 1 = m := by omega
    have hmi : (n : Int) - (s.length : Int) - 1 = (m : Int) := by omega
    rw [toTree, write_edge_edge, write_label_eq, Int.natAbs_natCast, writeEdge]
    simp only [write_node_fork, Option.bind_eq_bind, hm, hmi, ← ihl m f hsl (by omega), ← ihr m f hsr (by omega)]
    cases labelBits s n with
    | none => rfl
    | some lb =>
      simp only [Option.bind_some, extend_eq, Py.Bld.empty, List.length_nil, Nat.zero_add]
      by_cases h1 : lb.length > 1023
      · simp [h1]
      · simp only [h1, if_false, Option.bind_some]
        cases write_edge (serCb ser) f (toTree l) (m : Int) ⟨[], []⟩ with
        | none => rfl
        | some bl =>
          cases write_edge (serCb ser) f (toTree r) (m : Int) ⟨[], []⟩ with
          | none => rfl
          | some br => simp [Py.Bld.storeRef?, app, Py.Bld.endCell]

/-- REGENERATED `serialize_dict(src, key_size, serializer).end_cell()` = what the hand model's `HashMap.serialize()` returns for a
non-empty map: for every map built by `set_int_key` (`DictOK`), n ≥ 1, every value serialiser `serCb ser`, every fuel ≥ 2n + 2. -/
theorem serialize_dict_eq {V : Type} (n : Nat) (hn : 0 < n) (ser : V → Option Val) (d : Dict V) (hd : DictOK n d) (hne : d ≠ [])
    (fuel : Nat) (hf : 2 * n + 2 ≤ fuel) :
    (serialize_dict (serCb ser) fuel d n).map (fun b => some b.endCell) = serialize n ser d := by
  have he : d.isEmpty = false := by cases d <;> simp at hne ⊢
  obtain ⟨t, ht, hsz, _⟩ := serialize_iff_fits n hn ser d hd hne
  unfold serialize_dict serialize
  simp only [he, Bool.false_eq_true, if_false, build_tree_eq n hn d hd fuel hf, ht, Option.map_some, Option.bind_eq_bind,
    Option.bind_some, Option.pure_def]
  rw [← write_edge_eq ser t n fuel hsz hf]
  cases write_edge (serCb ser) fuel (toTree t) (n : Int) Py.Bld.empty <;> rfl

/-- `serialize_dict` of the empty dict raises (the assertion of `build_edge`) — `HashMap.serialize()` never calls it so -/
theorem serialize_dict_nil {V : Type} (cb : V → Py.Bld → Option Py.Bld) (fuel n : Nat) :
    serialize_dict cb fuel ([] : List (Nat × V)) n = none := by
  unfold serialize_dict build_tree
  cases fuel <;> simp [build_edge]

end TonVerif.Proofs.SrcHashmapSer
