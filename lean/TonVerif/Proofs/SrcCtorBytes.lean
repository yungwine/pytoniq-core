/-
BYTES FED TO SHA-256 by the regenerated cell constructor (Generated/CellCtor.lean, tied to `Model.construct` for all inputs by
`c02_src_constructor`):
  * `hashStep_pre`   : one level iteration applies `H` at most once, to the string `hashPre` (which does not depend on `H`);
  * `hashPre_len`    : that string is `2 + (data bytes | previous hash) + len(refs)·(2 + child hash)` bytes long;
  * `fold_inputs`    : the list of SHA inputs of one call (`_hashes = inputs.map H`), one per hash, each within that bound; two hash
                       functions that agree on every string within the bound give the same constructor result (so `H` is never
                       applied to anything longer).
-/
import TonVerif.Generated.CellCtor
import TonVerif.Proofs.SrcCellCtor
import TonVerif.Proofs.SrcCtorCnt
import TonVerif.Proofs.CellSpec
import TonVerif.Proofs.Merkle

set_option linter.unusedSimpArgs false
set_option linter.unusedVariables false
namespace TonVerif.Proofs.SrcCtorBytes
open TonVerif TonVerif.Model

/-- the byte string one level iteration of `calculate_hashes` feeds to `hashlib.sha256` and the depth it records; `none` = the iteration raises.
No hash function occurs in it: the previous level's hash is read from the state. -/
def hashPre (kind : Int) (bits : Bits) (refs : List CellInfo) (mask offset : Nat) (st : HashState) (li : Nat) : Option (Bytes × Nat) :=
  (descriptors refs.length (kind != kOrdinary) bits.length (maskApply mask li)).bind fun dsc =>
  (if st.hashIndex == offset then
      (if li != 0 && kind != kPruned then none else some (dataBytes bits))
    else
      (if li == 0 || kind == kPruned then none else st.hashes[st.hashIndex - offset - 1]?)).bind fun payload =>
  let childLvl := if isMerkle kind then li + 1 else li
  (refs.mapM (fun (r : CellInfo) => r.getDepth childLvl)).bind fun refDepths =>
  (refDepths.mapM (toBytesBE? 2)).bind fun depthBytes =>
  let depth0 := refDepths.foldl (fun d x => if x > d then x else d) 0
  (if refs.length > 0 then (if depth0 + 1 >= 1024 then none else some (depth0 + 1)) else some depth0).bind fun depth =>
  (refs.mapM (fun (r : CellInfo) => r.getHash childLvl)).bind fun refHashes =>
  some (dsc ++ payload ++ depthBytes.flatten ++ refHashes.flatten, depth)

theorem bind_ite' {α β : Type} (c : Prop) [Decidable c] (x y : Option α) (k : α → Option β) :
    (if c then x else y).bind k = if c then x.bind k else y.bind k := by split <;> rfl

theorem map_bind' {α β γ : Type} (f : β → γ) (x : Option α) (g : α → Option β) :
    (x.bind g).map f = x.bind (fun a => (g a).map f) := by cases x <;> rfl

theorem map_ite' {α β : Type} (f : α → β) (c : Prop) [Decidable c] (x y : Option α) :
    (if c then x else y).map f = if c then x.map f else y.map f := by split <;> rfl

theorem hashStep_pre (H : Bytes → Bytes) (kind : Int) (bits : Bits) (refs : List CellInfo) (mask offset : Nat) (st : HashState) (li : Nat) :
    hashStep H kind bits refs mask offset st li =
      if !isSignificant mask li then some st
      else if st.hashIndex < offset then some { st with hashIndex := st.hashIndex + 1 }
      else (hashPre kind bits refs mask offset st li).map fun p =>
        { hashIndex := st.hashIndex + 1, hashes := st.hashes ++ [H p.1], depths := st.depths ++ [p.2] } := by
  unfold hashStep hashPre
  refine ite_congr rfl (fun _ => rfl) fun _ => ite_congr rfl (fun _ => rfl) fun _ => ?_
  simp only [bind, pure, map_bind', map_ite', bind_ite', Option.map_some]

theorem natToBE_len : ∀ (w v : Nat), (natToBE w v).length = w
  | 0, _ => by simp [natToBE]
  | w + 1, v => by simp [natToBE, natToBE_len w]

theorem toBytesBE_len (w v : Nat) (b : Bytes) (h : toBytesBE? w v = some b) : b.length = w := by
  unfold toBytesBE? at h
  split at h
  · simp only [Option.some.injEq] at h; rw [← h]; exact natToBE_len w v
  · simp at h

theorem descriptors_len (n : Nat) (e : Bool) (bl m : Nat) (b : Bytes) (h : descriptors n e bl m = some b) : b.length = 2 := by
  unfold descriptors at h
  simp only [bind, pure, Option.bind_eq_some_iff] at h
  obtain ⟨a, ha, c, hc, h⟩ := h
  simp only [Option.some.injEq] at h
  rw [← h, List.length_append, toBytesBE_len _ _ _ ha, toBytesBE_len _ _ _ hc]

theorem flatten_len_le (B : Nat) : ∀ (xs : List Bytes), (∀ x ∈ xs, x.length ≤ B) → xs.flatten.length ≤ B * xs.length
  | [], _ => by simp
  | x :: xs, h => by
    have := flatten_len_le B xs (fun y hy => h y (by simp [hy]))
    have := h x (by simp)
    simp only [List.flatten_cons, List.length_append, List.length_cons]
    rw [Nat.mul_succ]; omega

theorem mapM_all {β γ : Type} (f : β → Option γ) (P : γ → Prop) : ∀ (xs : List β) (ys : List γ), xs.mapM f = some ys →
    (∀ x ∈ xs, ∀ y, f x = some y → P y) → ∀ y ∈ ys, P y
  | [], ys, h, _ => by simp at h; subst h; simp
  | x :: xs, ys, h, hp => by
    simp only [List.mapM_cons, bind, pure, Option.bind_eq_some_iff] at h
    obtain ⟨y, hy, ys', hys, h⟩ := h
    simp only [Option.some.injEq] at h
    subst h
    intro z hz
    rcases List.mem_cons.1 hz with rfl | hz
    · exact hp x (by simp) _ hy
    · exact mapM_all f P xs ys' hys (fun a ha => hp a (by simp [ha])) z hz

theorem mapM_len {β γ : Type} (f : β → Option γ) : ∀ (xs : List β) (ys : List γ), xs.mapM f = some ys → ys.length = xs.length
  | [], ys, h => by simp at h; subst h; rfl
  | x :: xs, ys, h => by
    simp only [List.mapM_cons, bind, pure, Option.bind_eq_some_iff] at h
    obtain ⟨y, _, ys', hys, h⟩ := h
    simp only [Option.some.injEq] at h
    subst h
    simp [mapM_len f xs ys' hys]

/-- `get_hash` of a child returns at most 32 bytes when the child's stored hashes do (a pruned branch slices 32 bytes out of its data) -/
theorem getHash_len (c : CellInfo) (l : Nat) (h : Bytes) (hc : ∀ x ∈ c.hashes, x.length ≤ 32) (hh : c.getHash l = some h) : h.length ≤ 32 := by
  unfold CellInfo.getHash at hh
  simp only at hh
  split at hh
  · split at hh
    · simp only [Option.some.injEq] at hh
      rw [← hh]; unfold pySlice
      simp only [List.length_drop, List.length_take]
      omega
    · exact hc h (List.mem_of_getElem? hh)
  · exact hc h (List.mem_of_getElem? hh)

/-- the per-level bound: 2 descriptor bytes + the data bytes or a previous 32-byte hash + (2 + 32) per reference -/
def levelBound (bits : Bits) (refs : List CellInfo) : Nat := 2 + max (dataBytes bits).length 32 + 34 * refs.length

theorem hashPre_len (kind : Int) (bits : Bits) (refs : List CellInfo) (mask offset : Nat) (st : HashState) (li : Nat) (p : Bytes × Nat)
    (hst : ∀ x ∈ st.hashes, x.length ≤ 32) (hr : ∀ r ∈ refs, ∀ x ∈ r.hashes, x.length ≤ 32)
    (h : hashPre kind bits refs mask offset st li = some p) : p.1.length ≤ levelBound bits refs := by
  unfold hashPre at h
  simp only [bind, pure, Option.bind_eq_some_iff] at h
  obtain ⟨dsc, hdsc, payload, hpay, rd, hrd, db, hdb, depth, _, rh, hrh, h⟩ := h
  simp only [Option.some.injEq] at h
  rw [← h]
  have h1 := descriptors_len _ _ _ _ _ hdsc
  have h2 : payload.length ≤ max (dataBytes bits).length 32 := by
    split at hpay
    · split at hpay
      · simp at hpay
      · simp only [Option.some.injEq] at hpay; rw [← hpay]; omega
    · split at hpay
      · simp at hpay
      · have := hst payload (List.mem_of_getElem? hpay); omega
  have h3 : db.flatten.length ≤ 2 * db.length :=
    flatten_len_le 2 db (mapM_all _ (fun y => y.length ≤ 2) rd db hdb (fun x _ y hy => by rw [toBytesBE_len _ _ _ hy]; exact Nat.le_refl 2))
  have h4 : rh.flatten.length ≤ 32 * rh.length :=
    flatten_len_le 32 rh (mapM_all _ (fun y => y.length ≤ 32) refs rh hrh (fun r hr' y hy => getHash_len r _ y (hr r hr') hy))
  have h5 := mapM_len _ _ _ hrd
  have h6 := mapM_len _ _ _ hdb
  have h7 := mapM_len _ _ _ hrh
  show (dsc ++ payload ++ db.flatten ++ rh.flatten).length ≤ levelBound bits refs
  simp only [List.length_append, levelBound]
  omega

/-- invariant of the level loop: what `_hashes` holds are outputs of `H` (≤ 32 bytes), one per SHA input in `ins`, each input within the bound -/
structure Inv (H : Bytes → Bytes) (B : Nat) (st : HashState) (ins : List Bytes) : Prop where
  eq : st.hashes = ins.map H
  len : ∀ p ∈ ins, p.length ≤ B

theorem inv_hashes_len (H : Bytes → Bytes) (hH : ∀ b, (H b).length ≤ 32) (B : Nat) (st : HashState) (ins : List Bytes) (hi : Inv H B st ins) :
    ∀ x ∈ st.hashes, x.length ≤ 32 := by
  intro x hx
  rw [hi.eq] at hx
  obtain ⟨p, _, rfl⟩ := List.mem_map.1 hx
  exact hH p

/-- one level iteration keeps the invariant, adding at most one input; on strings within the bound only `H` is consulted -/
theorem step_inputs (H G : Bytes → Bytes) (hH : ∀ b, (H b).length ≤ 32) (kind : Int) (bits : Bits) (refs : List CellInfo) (mask offset : Nat)
    (hr : ∀ r ∈ refs, ∀ x ∈ r.hashes, x.length ≤ 32) (hG : ∀ b, b.length ≤ levelBound bits refs → G b = H b)
    (st : HashState) (ins : List Bytes) (hi : Inv H (levelBound bits refs) st ins) (li : Nat) :
    hashStep G kind bits refs mask offset st li = hashStep H kind bits refs mask offset st li ∧
    ∀ st', hashStep H kind bits refs mask offset st li = some st' →
      ∃ more, Inv H (levelBound bits refs) st' (ins ++ more) ∧ more.length ≤ 1 := by
  rw [hashStep_pre G, hashStep_pre H]
  have keep : ∀ (st' : HashState), st'.hashes = st.hashes → ∃ more, Inv H (levelBound bits refs) st' (ins ++ more) ∧ more.length ≤ 1 :=
    fun st' e => ⟨[], ⟨by rw [e, List.append_nil]; exact hi.eq, by rw [List.append_nil]; exact hi.len⟩, Nat.zero_le 1⟩
  by_cases h1 : (!isSignificant mask li) = true
  · rw [if_pos h1, if_pos h1]; exact ⟨rfl, fun st' h => keep st' (by cases h; rfl)⟩
  rw [if_neg h1, if_neg h1]
  by_cases h2 : st.hashIndex < offset
  · rw [if_pos h2, if_pos h2]; exact ⟨rfl, fun st' h => keep st' (by cases h; rfl)⟩
  rw [if_neg h2, if_neg h2]
  cases hp : hashPre kind bits refs mask offset st li with
  | none => exact ⟨rfl, fun _ h => by cases h⟩
  | some p =>
    have hlen := hashPre_len kind bits refs mask offset st li p (inv_hashes_len H hH _ st ins hi) hr hp
    rw [Option.map_some, Option.map_some, hG p.1 hlen]
    refine ⟨rfl, fun st' h => ⟨[p.1], ?_, Nat.le_refl 1⟩⟩
    cases h
    refine ⟨by simp [hi.eq], fun q hq => ?_⟩
    rcases List.mem_append.1 hq with hq | hq
    · exact hi.len q hq
    · rw [List.mem_singleton.1 hq]; exact hlen

/-- the level loop from any state satisfying the invariant: the final `_hashes` are `H` of a list of inputs that extends the given one by at most
one entry per iteration, each within the bound; and a hash function `G` that agrees with `H` on all strings within the bound gives the same run. -/
theorem fold_inputs (H G : Bytes → Bytes) (hH : ∀ b, (H b).length ≤ 32) (kind : Int) (bits : Bits) (refs : List CellInfo) (mask offset : Nat)
    (hr : ∀ r ∈ refs, ∀ x ∈ r.hashes, x.length ≤ 32) (hG : ∀ b, b.length ≤ levelBound bits refs → G b = H b) :
    ∀ (ls : List Nat) (st : HashState) (ins : List Bytes), Inv H (levelBound bits refs) st ins →
      ls.foldlM (hashStep G kind bits refs mask offset) st = ls.foldlM (hashStep H kind bits refs mask offset) st ∧
      ∀ st', ls.foldlM (hashStep H kind bits refs mask offset) st = some st' →
        ∃ more, Inv H (levelBound bits refs) st' (ins ++ more) ∧ more.length ≤ ls.length := by
  intro ls
  induction ls with
  | nil =>
    intro st ins hi
    rw [List.foldlM_nil, List.foldlM_nil]
    refine ⟨rfl, fun st' h => ?_⟩
    cases h
    exact ⟨[], by rw [List.append_nil]; exact hi, Nat.le_refl 0⟩
  | cons li ls ih =>
    intro st ins hi
    obtain ⟨e, s⟩ := step_inputs H G hH kind bits refs mask offset hr hG st ins hi li
    rw [List.foldlM_cons, List.foldlM_cons, e]
    simp only [bind]
    cases hs : hashStep H kind bits refs mask offset st li with
    | none => rw [Option.bind_none, Option.bind_none]; exact ⟨rfl, fun _ h => by cases h⟩
    | some st1 =>
      rw [Option.bind_some, Option.bind_some]
      obtain ⟨m1, hi1, hl1⟩ := s st1 hs
      obtain ⟨a, b⟩ := ih st1 (ins ++ m1) hi1
      refine ⟨a, fun st' h => ?_⟩
      obtain ⟨m2, hm, hl⟩ := b st' h
      exact ⟨m1 ++ m2, by rwa [← List.append_assoc], by rw [List.length_append, List.length_cons]; omega⟩
/-- one call of the hand model `construct` (= the regenerated `Cell.__init__`, `c02_src_constructor`) -/
theorem construct_inputs (H G : Bytes → Bytes) (hH : ∀ b, (H b).length ≤ 32) (kind : Int) (bits : Bits) (refs : List CellInfo)
    (hr : ∀ r ∈ refs, ∀ x ∈ r.hashes, x.length ≤ 32) (hG : ∀ b, b.length ≤ levelBound bits refs → G b = H b) :
    construct G kind bits refs = construct H kind bits refs ∧
    ∀ out, construct H kind bits refs = some out →
      ∃ ins : List Bytes, out.hashes = ins.map H ∧ ins.length ≤ bitLength out.mask + 1 ∧ ∀ p ∈ ins, p.length ≤ levelBound bits refs := by
  unfold construct
  simp only [bind, pure]
  cases hm : resolveMask kind bits refs with
  | none => simp
  | some mask =>
    simp only [Option.bind_some]
    obtain ⟨a, b⟩ := fold_inputs H G hH kind bits refs mask
      (popcount mask + 1 - (if kind == kPruned then 1 else popcount mask + 1)) hr hG (List.range (bitLength mask + 1)) ⟨0, [], []⟩ []
      ⟨rfl, by simp⟩
    refine ⟨by rw [a], fun out h => ?_⟩
    simp only [Option.bind_eq_some_iff] at h
    obtain ⟨st', hst, _, _, _, _, h⟩ := h
    simp only [Option.some.injEq] at h
    obtain ⟨more, hi, hl⟩ := b st' hst
    rw [← h]
    refine ⟨more, by simpa using hi.eq, by simpa using hl, fun p hp => hi.len p (by simpa using hp)⟩

theorem levelBound_le (bits : Bits) (refs : List CellInfo) (hb : bits.length ≤ 1023) (hd : refs.length ≤ 4) : levelBound bits refs ≤ 266 := by
  unfold levelBound
  rw [CellSpec.dataBytes_eq, Merkle.length_dataBytes]
  omega

theorem sum_len_le (B : Nat) : ∀ (ins : List Bytes), (∀ p ∈ ins, p.length ≤ B) → (ins.map List.length).sum ≤ ins.length * B
  | [], _ => by simp
  | x :: xs, h => by
    have := sum_len_le B xs (fun y hy => h y (by simp [hy]))
    have := h x (by simp)
    simp only [List.map_cons, List.sum_cons, List.length_cons, Nat.succ_mul]
    omega

/-- a returning call of the regenerated constructor is a returning call of the hand model with the same `_hashes` and mask (`src_construct_eq_model`) -/
theorem init_construct (H : Bytes → Bytes) (bits : Bits) (refs : List CellInfo) (ty : Int) (out : Generated.CellCtor.CtorOut)
    (h : Generated.CellCtor.init H bits refs ty = some out) : ∃ i, construct H ty bits refs = some i ∧ i.hashes = out.hashes ∧ i.mask = out.mask := by
  rw [SrcCellCtor.src_construct_eq_model] at h
  cases hc : construct H ty bits refs with
  | none => rw [hc] at h; simp at h
  | some i =>
    rw [hc] at h
    simp only [Option.map_some, Option.some.injEq] at h
    exact ⟨i, rfl, by rw [← h]; rfl, by rw [← h]; rfl⟩

end TonVerif.Proofs.SrcCtorBytes
