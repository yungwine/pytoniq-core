/-
Laws of the TL-B codec combinators (Spec/Tlb/Codec.lean): each combinator is `Lawful`
(round trip + exact consumption for any continuation) given that its arguments are.
Registered as instances, so the law of a TL-B type that is a TERM of combinators is found by
type-class resolution.
-/
import TonVerif.Spec.Tlb.Codec
import TonVerif.Proofs.Bits

namespace TonVerif.Tlb
open TonVerif

/-! ### bit-level lemmas -/

theorem natToBits_length (n v : Nat) : (natToBits n v).length = n := Proofs.Bits.natToBits_length n v

theorem natOfBits_natToBits (n v : Nat) (h : v < 2 ^ n) : natOfBits (natToBits n v) = v :=
  Proofs.Bits.natOfBits_natToBits n v h

theorem isPrefixOf_app (p r : Bits) : p.isPrefixOf (p ++ r) = true := by
  induction p with
  | nil => simp [List.isPrefixOf]
  | cons a p ih => simp [ih]

/-- a tag that matches `q ++ r` is comparable with `q` -/
theorem isPrefixOf_app_cases (p q r : Bits) (h : p.isPrefixOf (q ++ r) = true) :
    p.isPrefixOf q = true ∨ q.isPrefixOf p = true := by
  induction p generalizing q with
  | nil => left; simp [List.isPrefixOf]
  | cons a p ih =>
    cases q with
    | nil => right; simp [List.isPrefixOf]
    | cons b q =>
      simp only [List.cons_append, List.isPrefixOf, Bool.and_eq_true] at h ⊢
      rcases ih q h.2 with h1 | h1
      · left; exact ⟨h.1, h1⟩
      · right; refine ⟨?_, h1⟩
        have := h.1; simp at this; simp [this]

/-! ### fragments -/

@[simp] theorem Frag.app_bits (a b : Frag) : (a ++ b).bits = a.bits ++ b.bits := rfl
@[simp] theorem Frag.app_refs (a b : Frag) : (a ++ b).refs = a.refs ++ b.refs := rfl
@[simp] theorem Frag.ofBits_bits (b : Bits) : (Frag.ofBits b).bits = b := rfl
@[simp] theorem Frag.ofBits_refs (b : Bits) : (Frag.ofBits b).refs = [] := rfl
@[simp] theorem Frag.nil_bits : Frag.nil.bits = [] := rfl
@[simp] theorem Frag.nil_refs : Frag.nil.refs = [] := rfl

theorem Frag.ext' {a b : Frag} (h1 : a.bits = b.bits) (h2 : a.refs = b.refs) : a = b := by
  cases a; cases b; simp_all

@[simp] theorem Frag.nil_app (k : Frag) : Frag.nil ++ k = k := Frag.ext' (by simp) (by simp)
@[simp] theorem Frag.app_nil (k : Frag) : k ++ Frag.nil = k := Frag.ext' (by simp) (by simp)
theorem Frag.app_assoc (a b c : Frag) : (a ++ b) ++ c = a ++ (b ++ c) :=
  Frag.ext' (by simp) (by simp)
@[simp] theorem Frag.mk_app (a b : Frag) : (⟨a.bits ++ b.bits, a.refs ++ b.refs⟩ : Frag) = a ++ b := rfl
@[simp] theorem Frag.eta (k : Frag) : (⟨k.bits, k.refs⟩ : Frag) = k := rfl
theorem Frag.ofBits_app (b : Bits) (k : Frag) : Frag.ofBits b ++ k = ⟨b ++ k.bits, k.refs⟩ :=
  Frag.ext' (by simp) (by simp)
theorem Frag.ofBits_append (a b : Bits) : Frag.ofBits (a ++ b) = Frag.ofBits a ++ Frag.ofBits b := rfl

/-- a codec that is lawful for every continuation is lawful at the end of a cell -/
instance (priority := low) lawfulEnd_of_lawful (c : Codec) [h : Lawful c] : LawfulEnd c where
  law v f hf := by simpa using h.law v f hf Frag.nil

/-! ### primitives

For each primitive, `X_enc` says what its encoder writes and on which values; `Lawful` then needs what the decoder reads off
that (`read_X`), `Traced` only its width. The decoders of the bit primitives are `readBits` followed by a conversion (`X_dec`). -/

theorem nothing_enc {v : Val} {f : Frag} (h : nothing.enc v = some f) : v = .unit ∧ f = Frag.nil := by
  cases v with
  | unit => exact ⟨rfl, (Option.some.inj h).symm⟩
  | _ => cases h

instance lawful_nothing : Lawful nothing where
  law v f h k := by
    obtain ⟨rfl, rfl⟩ := nothing_enc h
    rw [Frag.nil_app]; rfl

instance lawful_failC : Lawful failC where
  law v f h := by simp [failC] at h

def readBits (n : Nat) (s : Frag) : Option (Bits × Frag) :=
  if s.bits.length < n then none else some (s.bits.take n, ⟨s.bits.drop n, s.refs⟩)

theorem readBits_app (b : Bits) (k : Frag) {n : Nat} (h : b.length = n) : readBits n (Frag.ofBits b ++ k) = some (b, k) := by
  subst h
  rw [readBits, if_neg (by simp), Frag.ofBits_app]
  simp

theorem uint_dec (n : Nat) (s : Frag) : (uint n).dec s = (readBits n s).map fun p => (.int (natOfBits p.1), p.2) := by
  simp only [uint, readBits]; split <;> rfl

theorem uint_enc {n : Nat} {v : Val} {f : Frag} (h : (uint n).enc v = some f) :
    ∃ x : Nat, x < 2 ^ n ∧ v = .int x ∧ f = Frag.ofBits (natToBits n x) := by
  cases v with
  | int i =>
    obtain ⟨⟨h0, hlt⟩, hf⟩ := Option.ite_none_right_eq_some.mp h
    exact ⟨i.toNat, hlt, by rw [Int.toNat_of_nonneg h0], (Option.some.inj hf).symm⟩
  | _ => cases h

theorem read_uint (n x : Nat) (k : Frag) (hx : x < 2 ^ n) :
    (uint n).dec (Frag.ofBits (natToBits n x) ++ k) = some (.int x, k) := by
  rw [uint_dec, readBits_app _ k (natToBits_length n x), Option.map_some, natOfBits_natToBits n x hx]

instance lawful_uint (n : Nat) : Lawful (uint n) where
  law v f h k := by
    obtain ⟨x, hx, rfl, rfl⟩ := uint_enc h
    exact read_uint n x k hx

theorem sint_dec (m : Nat) (s : Frag) : (sint (m + 1)).dec s = (readBits (m + 1) s).map fun p =>
    (.int (if natOfBits p.1 < 2 ^ m then (natOfBits p.1 : Int) else (natOfBits p.1 : Int) - (2 ^ (m + 1) : Int)), p.2) := by
  simp only [sint, readBits, Nat.add_sub_cancel, Nat.succ_ne_zero, false_or]; split <;> rfl

/-- the value is given as the decoder computes it from the bit pattern `x` (`Proofs.Bits.twos`) -/
theorem sint_enc {n : Nat} {v : Val} {f : Frag} (h : (sint n).enc v = some f) :
    ∃ m x : Nat, n = m + 1 ∧ x < 2 ^ (m + 1) ∧
      v = .int (if x < 2 ^ m then (x : Int) else (x : Int) - (2 ^ (m + 1) : Int)) ∧ f = Frag.ofBits (natToBits n x) := by
  cases v with
  | int i =>
    obtain ⟨hn, h⟩ := Option.ite_none_left_eq_some.mp h
    obtain ⟨⟨hlo, hhi⟩, hf⟩ := Option.ite_none_right_eq_some.mp h
    obtain ⟨m, rfl⟩ : ∃ m, n = m + 1 := ⟨n - 1, by omega⟩
    obtain ⟨x, -, hx, hxlt, hback⟩ := Proofs.Bits.twos m i hlo hhi
    refine ⟨m, x, rfl, hxlt, ?_, by rw [← hx]; exact (Option.some.inj hf).symm⟩
    rw [← hback, ← ite_not]; simp only [Nat.not_le]
  | _ => cases h

theorem read_sint (m x : Nat) (k : Frag) (hx : x < 2 ^ (m + 1)) :
    (sint (m + 1)).dec (Frag.ofBits (natToBits (m + 1) x) ++ k) =
      some (.int (if x < 2 ^ m then (x : Int) else (x : Int) - (2 ^ (m + 1) : Int)), k) := by
  rw [sint_dec, readBits_app _ k (natToBits_length _ x), Option.map_some, natOfBits_natToBits _ x hx]

instance lawful_sint (n : Nat) : Lawful (sint n) where
  law v f h k := by
    obtain ⟨m, x, rfl, hx, rfl, rfl⟩ := sint_enc h
    exact read_sint m x k hx

theorem bitsC_dec (n : Nat) (s : Frag) : (bitsC n).dec s = (readBits n s).map fun p => (.bits p.1, p.2) := by
  simp only [bitsC, readBits]; split <;> rfl

theorem bitsC_enc {n : Nat} {v : Val} {f : Frag} (h : (bitsC n).enc v = some f) :
    ∃ b : Bits, b.length = n ∧ v = .bits b ∧ f = Frag.ofBits b := by
  cases v with
  | bits b =>
    obtain ⟨hl, hf⟩ := Option.ite_none_right_eq_some.mp h
    exact ⟨b, hl, rfl, (Option.some.inj hf).symm⟩
  | _ => cases h

instance lawful_bitsC (n : Nat) : Lawful (bitsC n) where
  law v f h k := by
    obtain ⟨b, hl, rfl, rfl⟩ := bitsC_enc h
    rw [bitsC_dec, readBits_app b k hl]; rfl

theorem boolC_enc {v : Val} {f : Frag} (h : boolC.enc v = some f) : ∃ b, v = .bool b ∧ f = Frag.ofBits [b] := by
  cases v with
  | bool b => exact ⟨b, rfl, (Option.some.inj h).symm⟩
  | _ => cases h

instance lawful_boolC : Lawful boolC where
  law v f h k := by
    obtain ⟨b, rfl, rfl⟩ := boolC_enc h
    rfl

theorem lt_two_pow_bitLenF (f v : Nat) (h : v ≤ f) : v < 2 ^ bitLenF f v := by
  induction f generalizing v with
  | zero => simp [bitLenF]; omega
  | succ f ih =>
    simp only [bitLenF]
    split
    · omega
    · have := ih (v / 2) (by omega)
      rw [Nat.pow_add, Nat.pow_one]; omega

theorem lt_two_pow_bitLen (v : Nat) : v < 2 ^ bitLen v := lt_two_pow_bitLenF v v (Nat.le_refl v)

/-- `len:(#< k)` in `bitLen (k - 1)` bits, then `value:(uint (len * 8))` -/
theorem varUInt_dec (k : Nat) (s : Frag) : (varUInt k).dec s = (readBits (bitLen (k - 1)) s).bind fun p =>
    if natOfBits p.1 ≥ k then none
    else (readBits (8 * natOfBits p.1) p.2).map fun q => (.int (natOfBits q.1), q.2) := by
  simp only [varUInt, readBits]
  split
  · rfl
  · simp only [Option.bind_some]
    by_cases h1 : natOfBits (s.bits.take (bitLen (k - 1))) ≥ k
    · rw [if_pos (Or.inl h1), if_pos h1]
    · by_cases h2 : (s.bits.drop (bitLen (k - 1))).length < 8 * natOfBits (s.bits.take (bitLen (k - 1)))
      · rw [if_pos (Or.inr h2), if_neg h1, if_pos h2]; rfl
      · rw [if_neg (not_or.mpr ⟨h1, h2⟩), if_neg h1, if_neg h2]; rfl

theorem varUInt_enc {k : Nat} {v : Val} {f : Frag} (h : (varUInt k).enc v = some f) :
    ∃ x : Nat, v = .int x ∧ (bitLen x + 7) / 8 < k ∧
      f = Frag.ofBits (natToBits (bitLen (k - 1)) ((bitLen x + 7) / 8) ++ natToBits (8 * ((bitLen x + 7) / 8)) x) := by
  cases v with
  | int i =>
    obtain ⟨⟨h0, hlen⟩, hf⟩ := Option.ite_none_right_eq_some.mp h
    exact ⟨i.toNat, by rw [Int.toNat_of_nonneg h0], hlen, (Option.some.inj hf).symm⟩
  | _ => cases h

/-- every `len < k` that holds `v` is read back as `v`, not only the minimal one, which the encoder writes -/
theorem read_varUInt (k len v : Nat) (hlen : len < k) (hv : v < 2 ^ (8 * len)) (c : Frag) :
    (varUInt k).dec (Frag.ofBits (natToBits (bitLen (k - 1)) len ++ natToBits (8 * len) v) ++ c) = some (.int (v : Int), c) := by
  have hlw : len < 2 ^ bitLen (k - 1) := Nat.lt_of_le_of_lt (by omega) (lt_two_pow_bitLen (k - 1))
  rw [varUInt_dec, Frag.ofBits_append, Frag.app_assoc, readBits_app _ _ (natToBits_length _ len), Option.bind_some]
  simp only [natOfBits_natToBits _ _ hlw]
  rw [if_neg (by omega), readBits_app _ _ (natToBits_length _ v), Option.map_some, natOfBits_natToBits _ _ hv]

instance lawful_varUInt (k : Nat) : Lawful (varUInt k) where
  law v f h c := by
    obtain ⟨x, rfl, hlen, rfl⟩ := varUInt_enc h
    exact read_varUInt k _ x hlen
      (Nat.lt_of_lt_of_le (lt_two_pow_bitLen x) (Nat.pow_le_pow_right (by omega) (by omega))) c

instance lawful_grams : Lawful grams := lawful_varUInt 16

theorem cellRef_enc {v : Val} {f : Frag} (h : cellRef.enc v = some f) : ∃ c, v = .cell c ∧ f = ⟨[], [c]⟩ := by
  cases v with
  | cell c => exact ⟨c, rfl, (Option.some.inj h).symm⟩
  | _ => cases h

instance lawful_cellRef : Lawful cellRef where
  law v f h k := by
    obtain ⟨c, rfl, rfl⟩ := cellRef_enc h
    rfl

theorem rest_enc {v : Val} {f : Frag} (h : rest.enc v = some f) : ∃ b r, v = .cell (.mk false b r) ∧ f = ⟨b, r⟩ := by
  cases v with
  | cell c =>
    obtain ⟨e, b, r⟩ := c
    cases e with
    | false => exact ⟨b, r, rfl, (Option.some.inj h).symm⟩
    | true => cases h
  | _ => cases h

instance lawfulEnd_rest : LawfulEnd rest where
  law v f h := by
    obtain ⟨b, r, rfl, rfl⟩ := rest_enc h
    rfl

instance lawful_ref (c : Codec) [hc : LawfulEnd c] : Lawful (ref c) where
  law v f h k := by
    simp only [ref] at h
    split at h
    · rename_i g hg
      split at h
      · simp at h; subst h
        have := hc.law v g hg
        simp [ref, this, Frag.nil]
      · simp at h
    · simp at h

theorem maybe_enc_cases (c : Codec) (v : Val) (f : Frag) (h : (maybe c).enc v = some f) :
    (v = .unit ∧ f = Frag.ofBits [false]) ∨
    (∃ g, c.enc v = some g ∧ f = Frag.ofBits [true] ++ g ∧ (maybe c).trace v = .rd "c" 1 :: c.trace v) := by
  cases v with
  | unit => exact .inl ⟨rfl, (Option.some.inj h).symm⟩
  | _ =>
    obtain ⟨g, hg, rfl⟩ := Option.map_eq_some_iff.mp h
    exact .inr ⟨g, hg, rfl, rfl⟩

theorem maybe_dec_true (c : Codec) (s : Frag) : (maybe c).dec (Frag.ofBits [true] ++ s) = c.dec s := rfl

instance lawful_maybe (c : Codec) [hc : Lawful c] : Lawful (maybe c) where
  law v f h k := by
    rcases maybe_enc_cases c v f h with ⟨rfl, rfl⟩ | ⟨g, hg, rfl, -⟩
    · rfl
    · rw [Frag.app_assoc, maybe_dec_true]; exact hc.law v g hg k

instance lawfulEnd_maybe (c : Codec) [hc : LawfulEnd c] : LawfulEnd (maybe c) where
  law v f h := by
    rcases maybe_enc_cases c v f h with ⟨rfl, rfl⟩ | ⟨g, hg, rfl, -⟩
    · rfl
    · rw [maybe_dec_true]; exact hc.law v g hg

theorem either_enc_cases (a b : Codec) (v : Val) (f : Frag) (h : (either a b).enc v = some f) :
    (∃ x g, v = .con "left" x ∧ a.enc x = some g ∧ f = Frag.ofBits [false] ++ g) ∨
    (∃ y g, v = .con "right" y ∧ b.enc y = some g ∧ f = Frag.ofBits [true] ++ g) := by
  simp only [either] at h
  split at h
  · simp only [Option.map_eq_some_iff] at h
    obtain ⟨g, hg, rfl⟩ := h
    left; exact ⟨_, g, rfl, hg, rfl⟩
  · simp only [Option.map_eq_some_iff] at h
    obtain ⟨g, hg, rfl⟩ := h
    right; exact ⟨_, g, rfl, hg, rfl⟩
  · simp at h

instance lawful_either (a b : Codec) [ha : Lawful a] [hb : Lawful b] : Lawful (either a b) where
  law v f h k := by
    rcases either_enc_cases a b v f h with ⟨x, g, rfl, hg, rfl⟩ | ⟨y, g, rfl, hg, rfl⟩
    · have := ha.law x g hg k
      simp [either, this]
    · have := hb.law y g hg k
      simp [either, this]

instance lawfulEnd_either (a b : Codec) [ha : LawfulEnd a] [hb : LawfulEnd b] : LawfulEnd (either a b) where
  law v f h := by
    rcases either_enc_cases a b v f h with ⟨x, g, rfl, hg, rfl⟩ | ⟨y, g, rfl, hg, rfl⟩
    · have := ha.law x g hg
      simp [either, this]
    · have := hb.law y g hg
      simp [either, this]

instance lawful_constrained (c : Codec) (p : Val → Bool) (g : Option (Gen Val)) [hc : Lawful c] :
    Lawful (constrained c p g) where
  law v f h k := by
    simp only [constrained] at h
    split at h
    · rename_i hp
      simp [constrained, hc.law v f h k, hp]
    · simp at h

instance lawful_withGen (c : Codec) (g : Gen Val) [hc : Lawful c] : Lawful (withGen c g) where
  law v f h k := hc.law v f h k

instance lawfulEnd_withGen (c : Codec) (g : Gen Val) [hc : LawfulEnd c] : LawfulEnd (withGen c g) where
  law v f h := hc.law v f h

instance lawful_withPaths (c : Codec) (p : PMode → Gen (List Val)) [hc : Lawful c] : Lawful (withPaths c p) where
  law v f h k := hc.law v f h k
instance lawfulEnd_withPaths (c : Codec) (p : PMode → Gen (List Val)) [hc : LawfulEnd c] : LawfulEnd (withPaths c p) where
  law v f h := hc.law v f h
instance lawful_typ (n : String) (c : Codec) [hc : Lawful c] : Lawful (typ n c) where
  law v f h k := hc.law v f h k
instance lawfulEnd_typ (n : String) (c : Codec) [hc : LawfulEnd c] : LawfulEnd (typ n c) where
  law v f h := hc.law v f h
instance lawful_untyped (c : Codec) [hc : Lawful c] : Lawful (untyped c) where
  law v f h k := hc.law v f h k
instance lawfulEnd_untyped (c : Codec) [hc : LawfulEnd c] : LawfulEnd (untyped c) where
  law v f h := hc.law v f h

instance lawful_ctag (p : Bits) (c : Codec) [hc : Lawful c] : Lawful (ctag p c) where
  law v f h k := by
    simp only [ctag, Option.map_eq_some_iff] at h
    obtain ⟨g, hg, rfl⟩ := h
    have := hc.law v g hg k
    simp [ctag, this]

instance lawfulEnd_ctag (p : Bits) (c : Codec) [hc : LawfulEnd c] : LawfulEnd (ctag p c) where
  law v f h := by
    simp only [ctag, Option.map_eq_some_iff] at h
    obtain ⟨g, hg, rfl⟩ := h
    have := hc.law v g hg
    simp [ctag, this]

theorem named_enc {n : String} {c : Codec} {v : Val} {f : Frag} (h : (named n c).enc v = some f) :
    ∃ x, v = .con n x ∧ c.enc x = some f := by
  cases v with
  | con nm x =>
    obtain ⟨rfl, hx⟩ := Option.ite_none_right_eq_some.mp h
    exact ⟨x, rfl, hx⟩
  | _ => cases h

instance lawful_named (n : String) (c : Codec) [hc : Lawful c] : Lawful (named n c) where
  law v f h k := by
    obtain ⟨x, rfl, hx⟩ := named_enc h
    simp only [named, hc.law x f hx k, Option.map_some]

instance lawfulEnd_named (n : String) (c : Codec) [hc : LawfulEnd c] : LawfulEnd (named n c) where
  law v f h := by
    cases v <;> simp [named] at h
    case con nm x =>
      obtain ⟨rfl, hx⟩ := h
      simp [named, hc.law x f hx]

instance lawful_ite (p : Prop) [Decidable p] (a b : Codec) [ha : Lawful a] [hb : Lawful b] :
    Lawful (if p then a else b) := by
  split <;> assumption

instance lawfulEnd_ite (p : Prop) [Decidable p] (a b : Codec) [ha : LawfulEnd a] [hb : LawfulEnd b] :
    LawfulEnd (if p then a else b) := by
  split <;> assumption

/-! ### records -/

instance lawfulFields_nil : LawfulFields [] where
  law env vs f h k := by
    cases vs <;> simp [encFields] at h
    subst h; simp [decFields]

theorem encFields_cons_cases (n : String) (g : Env → Codec) (fs : List Field) (env : Env)
    (vs : List (String × Val)) (f : Frag) (h : encFields ((n, g) :: fs) env vs = some f) :
    ∃ v vs' a b, vs = (n, v) :: vs' ∧ (g env).enc v = some a ∧
      encFields fs ((n, v) :: env) vs' = some b ∧ f = a ++ b := by
  cases vs with
  | nil => simp [encFields] at h
  | cons hd vs' =>
    obtain ⟨n', v⟩ := hd
    simp only [encFields] at h
    split at h
    · rename_i hn
      subst hn
      split at h
      · rename_i a b ha hb
        simp at h
        exact ⟨v, vs', a, b, rfl, ha, hb, h.symm⟩
      · simp at h
    · simp at h

instance lawfulFields_cons (n : String) (g : Env → Codec) (fs : List Field)
    [hg : ∀ env, Lawful (g env)] [hfs : LawfulFields fs] : LawfulFields ((n, g) :: fs) where
  law env vs f h k := by
    obtain ⟨v, vs', a, b, rfl, ha, hb, rfl⟩ := encFields_cons_cases n g fs env vs f h
    have h1 := (hg env).law v a ha (b ++ k)
    have h2 := hfs.law _ vs' b hb k
    simp [decFields, Frag.app_assoc, h1, h2]

instance lawfulFields_fld (n : String) (c : Codec) (fs : List Field)
    [hc : Lawful c] [hfs : LawfulFields fs] : LawfulFields (fld n c :: fs) :=
  lawfulFields_cons n (fun _ => c) fs

instance lawfulFields_dep (n : String) (g : Env → Codec) (fs : List Field)
    [hg : ∀ env, Lawful (g env)] [hfs : LawfulFields fs] : LawfulFields (dep n g :: fs) :=
  lawfulFields_cons n g fs

theorem recd_enc {fs : List Field} {v : Val} {f : Frag} (h : (recd fs).enc v = some f) :
    ∃ vs, v = .record vs ∧ encFields fs [] vs = some f := by
  cases v with
  | record vs => exact ⟨vs, rfl, h⟩
  | _ => cases h

instance lawful_recd (fs : List Field) [h : LawfulFields fs] : Lawful (recd fs) where
  law v f hv k := by
    obtain ⟨vs, rfl, hv⟩ := recd_enc hv
    simp only [recd, h.law [] vs f hv k, Option.map_some]

/-- a record whose LAST field closes the cell -/
instance lawfulEndFields_last (n : String) (g : Env → Codec) [hg : ∀ env, LawfulEnd (g env)] :
    LawfulEndFields [(n, g)] where
  law env vs f h := by
    obtain ⟨v, vs', a, b, rfl, ha, hb, rfl⟩ := encFields_cons_cases n g [] env vs f h
    cases vs' <;> simp [encFields] at hb
    subst hb
    have h1 := (hg env).law v a ha
    simp [decFields, h1]

instance lawfulEndFields_cons (n : String) (g : Env → Codec) (fs : List Field)
    [hg : ∀ env, Lawful (g env)] [hfs : LawfulEndFields fs] : LawfulEndFields ((n, g) :: fs) where
  law env vs f h := by
    obtain ⟨v, vs', a, b, rfl, ha, hb, rfl⟩ := encFields_cons_cases n g fs env vs f h
    have h1 := (hg env).law v a ha b
    have h2 := hfs.law _ vs' b hb
    simp [decFields, h1, h2]

instance lawfulEndFields_last_fld (n : String) (c : Codec) [hc : LawfulEnd c] : LawfulEndFields [fld n c] :=
  lawfulEndFields_last n (fun _ => c)

instance lawfulEndFields_fld (n : String) (c : Codec) (fs : List Field)
    [hc : Lawful c] [hfs : LawfulEndFields fs] : LawfulEndFields (fld n c :: fs) :=
  lawfulEndFields_cons n (fun _ => c) fs

instance lawfulEndFields_dep (n : String) (g : Env → Codec) (fs : List Field)
    [hg : ∀ env, Lawful (g env)] [hfs : LawfulEndFields fs] : LawfulEndFields (dep n g :: fs) :=
  lawfulEndFields_cons n g fs

instance lawfulEnd_recd (fs : List Field) [h : LawfulEndFields fs] : LawfulEnd (recd fs) where
  law v f hv := by
    obtain ⟨vs, rfl, hv⟩ := recd_enc hv
    simp only [recd, h.law [] vs f hv, Option.map_some]

/-! ### constructor alternatives -/

instance lawfulAlts_nil : LawfulAlts [] where
  law p n c h := by simp at h

instance lawfulAlts_cons (p : Bits) (n : String) (c : Codec) (more : List Alt)
    [hc : Lawful c] [hm : LawfulAlts more] : LawfulAlts ((p, n, c) :: more) where
  law p' n' c' h := by
    simp only [List.mem_cons] at h
    rcases h with h | h
    · cases h; exact hc
    · exact hm.law p' n' c' h

instance lawfulEndAlts_nil : LawfulEndAlts [] where
  law p n c h := by simp at h

instance lawfulEndAlts_cons (p : Bits) (n : String) (c : Codec) (more : List Alt)
    [hc : LawfulEnd c] [hm : LawfulEndAlts more] : LawfulEndAlts ((p, n, c) :: more) where
  law p' n' c' h := by
    simp only [List.mem_cons] at h
    rcases h with h | h
    · cases h; exact hc
    · exact hm.law p' n' c' h

/-- what `encAlts` emits starts with the tag of one of the alternatives -/
theorem encAlts_some (alts : List Alt) (nm : String) (v : Val) (f : Frag) (h : encAlts alts nm v = some f) :
    ∃ p c g, (p, nm, c) ∈ alts ∧ c.enc v = some g ∧ f = Frag.ofBits p ++ g := by
  induction alts with
  | nil => simp [encAlts] at h
  | cons a more ih =>
    obtain ⟨p, name, c⟩ := a
    simp only [encAlts] at h
    split at h
    · rename_i hn; subst hn
      simp only [Option.map_eq_some_iff] at h
      obtain ⟨g, hg, rfl⟩ := h
      exact ⟨p, c, g, by simp, hg, rfl⟩
    · obtain ⟨p', c', g, hm, hg, rfl⟩ := ih h
      exact ⟨p', c', g, by simp [hm], hg, rfl⟩

theorem noClash_mem (p : Bits) (qs : List Bits) (h : noClash p qs = true) (q : Bits) (hq : q ∈ qs) :
    p.isPrefixOf q = false ∧ q.isPrefixOf p = false := by
  induction qs with
  | nil => simp at hq
  | cons a qs ih =>
    simp only [noClash, Bool.and_eq_true, Bool.not_eq_true'] at h
    simp only [List.mem_cons] at hq
    rcases hq with rfl | hq
    · exact ⟨h.1.1, h.1.2⟩
    · exact ih h.2 hq

/-- decoding what `encAlts` emitted, under prefix-freeness, for a family of per-alternative laws `P` -/
theorem decAlts_encAlts (alts : List Alt) (hpf : prefixFree (altTags alts) = true)
    (nm : String) (v : Val) (f : Frag) (h : encAlts alts nm v = some f) (k : Frag)
    (hl : ∀ p c g, (p, nm, c) ∈ alts → c.enc v = some g → c.dec (g ++ k) = some (v, k)) :
    decAlts alts (f ++ k) = some (.con nm v, k) := by
  induction alts with
  | nil => simp [encAlts] at h
  | cons a more ih =>
    obtain ⟨p, name, c⟩ := a
    simp only [altTags, List.map_cons, prefixFree, Bool.and_eq_true] at hpf
    simp only [encAlts] at h
    split at h
    · rename_i hn; subst hn
      simp only [Option.map_eq_some_iff] at h
      obtain ⟨g, hg, rfl⟩ := h
      have := hl p c g (by simp) hg
      simp [decAlts, isPrefixOf_app, this]
    · obtain ⟨q, c', g, hm, hg, rfl⟩ := encAlts_some more nm v f h
      have hq : q ∈ altTags more := by
        simp only [altTags, List.mem_map]; exact ⟨_, hm, rfl⟩
      have hnc := noClash_mem p _ hpf.1 q hq
      have hnot : p.isPrefixOf ((Frag.ofBits q ++ g ++ k).bits) = false := by
        cases hpp : p.isPrefixOf ((Frag.ofBits q ++ g ++ k).bits) with
        | false => rfl
        | true =>
          simp only [Frag.app_bits, Frag.ofBits_bits, List.append_assoc] at hpp
          rcases isPrefixOf_app_cases p q _ hpp with h1 | h1
          · simp [hnc.1] at h1
          · simp [hnc.2] at h1
      simp only [decAlts, hnot]
      exact ih hpf.2 h (fun p c g hm' => hl p c g (by simp [hm']))

instance lawful_tagged (alts : List Alt) [ha : LawfulAlts alts] : Lawful (tagged alts) := by
  unfold tagged
  split
  · rename_i hpf
    exact ⟨fun v f h k => by
      cases v <;> simp at h
      case con nm x =>
        exact decAlts_encAlts alts hpf nm x f h k (fun p c g hm hg => (ha.law p nm c hm).law x g hg k)⟩
  · infer_instance

instance lawfulEnd_tagged (alts : List Alt) [ha : LawfulEndAlts alts] : LawfulEnd (tagged alts) := by
  unfold tagged
  split
  · rename_i hpf
    exact ⟨fun v f h => by
      cases v <;> simp at h
      case con nm x =>
        have := decAlts_encAlts alts hpf nm x f h Frag.nil
          (fun p c g hm hg => by simpa using (ha.law p nm c hm).law x g hg)
        simpa using this⟩
  · infer_instance

/-! ### ranges, Unary, HmLabel, Hashmap*, BinTree -/

instance lawful_uintRange (n lo hi : Nat) : Lawful (uintRange n lo hi) := by
  unfold uintRange; infer_instance
instance lawful_uintLe (m : Nat) : Lawful (uintLe m) := by unfold uintLe; infer_instance
instance lawful_uintLt (m : Nat) : Lawful (uintLt m) := by unfold uintLt; infer_instance

theorem decUnary_replicate (n : Nat) (r : Bits) :
    decUnary (List.replicate n true ++ false :: r) = some (n, r) := by
  induction n with
  | zero => simp [decUnary]
  | succ n ih => simp [List.replicate_succ, decUnary, ih]

theorem unary_enc {v : Val} {f : Frag} (h : unary.enc v = some f) :
    ∃ n : Nat, v = .int n ∧ f = Frag.ofBits (List.replicate n true ++ [false]) := by
  cases v with
  | int i =>
    obtain ⟨h0, hf⟩ := Option.ite_none_right_eq_some.mp h
    exact ⟨i.toNat, by rw [Int.toNat_of_nonneg h0], (Option.some.inj hf).symm⟩
  | _ => cases h

instance lawful_unary : Lawful unary where
  law v f h k := by
    obtain ⟨n, rfl, rfl⟩ := unary_enc h
    simp only [unary, Frag.app_bits, Frag.ofBits_bits, List.append_assoc, List.cons_append, List.nil_append,
      decUnary_replicate, Frag.app_refs, Frag.ofBits_refs, Option.map_some]

instance lawful_hmLabel (m : Nat) : Lawful (hmLabel m) := by unfold hmLabel; infer_instance

instance lawful_hmNode (edge : Nat → Codec) (X : Codec) (n l : Nat) [Lawful X] [∀ m, Lawful (edge m)] :
    Lawful (hmNode edge X n l) := by unfold hmNode; infer_instance

instance lawful_hashmapF (X : Codec) [Lawful X] : ∀ fuel n, Lawful (hashmapF X fuel n)
  | 0, n => by unfold hashmapF; infer_instance
  | fuel+1, n => by
    have ih := lawful_hashmapF X fuel
    unfold hashmapF; infer_instance

instance lawful_ahmNode (edge : Nat → Codec) (X Y : Codec) (n l : Nat) [Lawful X] [Lawful Y]
    [∀ m, Lawful (edge m)] : Lawful (ahmNode edge X Y n l) := by unfold ahmNode; infer_instance

instance lawful_hashmapAugF (X Y : Codec) [Lawful X] [Lawful Y] : ∀ fuel n, Lawful (hashmapAugF X Y fuel n)
  | 0, n => by unfold hashmapAugF; infer_instance
  | fuel+1, n => by
    have ih := lawful_hashmapAugF X Y fuel
    unfold hashmapAugF; infer_instance

instance lawful_hashmap (n : Nat) (X : Codec) [Lawful X] : Lawful (hashmap n X) := by
  unfold hashmap; infer_instance
instance lawful_hashmapAug (n : Nat) (X Y : Codec) [Lawful X] [Lawful Y] : Lawful (hashmapAug n X Y) := by
  unfold hashmapAug; infer_instance
instance lawful_hashmapE (n : Nat) (X : Codec) [Lawful X] : Lawful (hashmapE n X) := by
  unfold hashmapE; infer_instance
instance lawful_hashmapAugE (n : Nat) (X Y : Codec) [Lawful X] [Lawful Y] : Lawful (hashmapAugE n X Y) := by
  unfold hashmapAugE; infer_instance

instance lawful_binTreeF (X : Codec) [Lawful X] : ∀ fuel, Lawful (binTreeF X fuel)
  | 0 => by unfold binTreeF; infer_instance
  | fuel+1 => by
    have ih := lawful_binTreeF X fuel
    unfold binTreeF; infer_instance

instance lawful_binTree (X : Codec) [Lawful X] : Lawful (binTree X) := by unfold binTree; infer_instance


/-! ### read traces (`Traced`): the trace of a value, replayed as a read script on its encoding followed by any
    continuation, consumes exactly the encoding — at every nesting level -/

theorem replay_cons (e : Ev) (es : List Ev) (st : List Frag) :
    replay (e :: es) st = (e.step st).bind (replay es) := by
  simp only [replay]; cases e.step st <;> rfl

theorem replay_append (a b : List Ev) (st : List Frag) :
    replay (a ++ b) st = (replay a st).bind (replay b) := by
  induction a generalizing st with
  | nil => simp [replay]
  | cons e es ih =>
    simp only [List.cons_append, replay_cons]
    cases e.step st with
    | none => simp
    | some st' => simp [ih]

theorem step_rd (kind : String) (b : Bits) (k : Frag) (st : List Frag) :
    (Ev.rd kind b.length).step ((Frag.ofBits b ++ k) :: st) = some (k :: st) := by
  simp [Ev.step]

theorem step_push (n : String) (st : List Frag) : (Ev.push n).step st = some st := by
  cases st <;> rfl
theorem step_pop (st : List Frag) : Ev.pop.step st = some st := by
  cases st <;> rfl

/-- a codec that writes bits only and whose trace is one read of exactly that many bits -/
theorem traced_of_rd (c : Codec)
    (h : ∀ v f, c.enc v = some f → ∃ kind b, f = Frag.ofBits b ∧ c.trace v = [.rd kind b.length]) : Traced c where
  law v f hf k st := by
    obtain ⟨kind, b, rfl, ht⟩ := h v f hf
    rw [ht, replay_cons, step_rd]; rfl

instance traced_nothing : Traced nothing where
  law v f h k st := by
    obtain ⟨rfl, rfl⟩ := nothing_enc h
    rw [Frag.nil_app]; rfl

instance traced_failC : Traced failC where
  law v f h := by simp [failC] at h

instance traced_uint (n : Nat) : Traced (uint n) := traced_of_rd _ fun v f h => by
  obtain ⟨x, -, rfl, rfl⟩ := uint_enc h
  exact ⟨"u", _, rfl, by rw [natToBits_length]; rfl⟩

instance traced_sint (n : Nat) : Traced (sint n) := traced_of_rd _ fun v f h => by
  obtain ⟨m, x, rfl, -, rfl, rfl⟩ := sint_enc h
  exact ⟨"i", _, rfl, by rw [natToBits_length]; rfl⟩

instance traced_bitsC (n : Nat) : Traced (bitsC n) := traced_of_rd _ fun v f h => by
  obtain ⟨b, hl, rfl, rfl⟩ := bitsC_enc h
  exact ⟨"b", b, rfl, by rw [hl]; rfl⟩

instance traced_boolC : Traced boolC := traced_of_rd _ fun v f h => by
  obtain ⟨b, rfl, rfl⟩ := boolC_enc h
  exact ⟨"c", [b], rfl, rfl⟩

instance traced_varUInt (k : Nat) : Traced (varUInt k) := traced_of_rd _ fun v f h => by
  obtain ⟨x, rfl, -, rfl⟩ := varUInt_enc h
  exact ⟨"v" ++ toString (bitLen (k - 1)), _, rfl, by rw [List.length_append, natToBits_length, natToBits_length]; rfl⟩

instance traced_grams : Traced grams := traced_varUInt 16

instance traced_unary : Traced unary := traced_of_rd _ fun v f h => by
  obtain ⟨n, rfl, rfl⟩ := unary_enc h
  exact ⟨"c", _, rfl, by simp [unary]⟩

instance traced_cellRef : Traced cellRef where
  law v f h k st := by
    obtain ⟨c, rfl, rfl⟩ := cellRef_enc h
    rfl

theorem replay_rawrefs (r : List Cell) (bits : Bits) (kr : List Cell) (st : List Frag) :
    replay (List.replicate r.length Ev.rawref) (⟨bits, r ++ kr⟩ :: st) = some (⟨bits, kr⟩ :: st) := by
  induction r with
  | nil => simp [replay]
  | cons c r ih => simp [List.replicate_succ, replay_cons, Ev.step, ih]

instance traced_rest : Traced rest where
  law v f h k st := by
    obtain ⟨b, r, rfl, rfl⟩ := rest_enc h
    have : (Ev.rd "b" b.length).step ((⟨b, r⟩ ++ k) :: st) = some (⟨k.bits, r ++ k.refs⟩ :: st) := by
      simp [Ev.step]
    simp only [rest, replay_cons, this]
    simpa using replay_rawrefs r k.bits k.refs st

instance traced_ref (c : Codec) [hc : Traced c] : Traced (ref c) where
  law v f h k st := by
    simp only [ref] at h
    split at h
    · rename_i g hg
      split at h
      · simp at h; subst h
        have h1 := hc.law v g hg Frag.nil (k :: st)
        simp only [Frag.app_nil] at h1
        have h0 : Ev.enter.step ((⟨[], [Cell.mk false g.bits g.refs]⟩ ++ k) :: st) = some (g :: k :: st) := by
          simp [Ev.step]
        simp only [ref, replay_cons, h0, Option.bind_some, replay_append, h1]
        simp [replay, Ev.step, Frag.nil]
      · simp at h
    · simp at h

instance traced_maybe (c : Codec) [hc : Traced c] : Traced (maybe c) where
  law v f h k st := by
    rcases maybe_enc_cases c v f h with ⟨rfl, rfl⟩ | ⟨g, hg, rfl, ht⟩
    · rfl
    · rw [ht, replay_cons, Frag.app_assoc, show (1 : Nat) = [true].length from rfl, step_rd]
      exact hc.law v g hg k st

instance traced_either (a b : Codec) [ha : Traced a] [hb : Traced b] : Traced (either a b) where
  law v f h k st := by
    rcases either_enc_cases a b v f h with ⟨x, g, rfl, hg, rfl⟩ | ⟨y, g, rfl, hg, rfl⟩
    · have h1 := ha.law x g hg k st
      have h0 := step_rd "c" [false] (g ++ k) st
      simp only [List.length_singleton] at h0
      simp only [either, replay_cons, Frag.app_assoc, h0]
      simpa using h1
    · have h1 := hb.law y g hg k st
      have h0 := step_rd "c" [true] (g ++ k) st
      simp only [List.length_singleton] at h0
      simp only [either, replay_cons, Frag.app_assoc, h0]
      simpa using h1

instance traced_constrained (c : Codec) (p : Val → Bool) (g : Option (Gen Val)) [hc : Traced c] :
    Traced (constrained c p g) where
  law v f h k st := by
    simp only [constrained] at h
    split at h
    · exact hc.law v f h k st
    · simp at h

instance traced_withGen (c : Codec) (g : Gen Val) [hc : Traced c] : Traced (withGen c g) where
  law v f h k st := hc.law v f h k st
instance traced_withPaths (c : Codec) (p : PMode → Gen (List Val)) [hc : Traced c] : Traced (withPaths c p) where
  law v f h k st := hc.law v f h k st
instance traced_typ (n : String) (c : Codec) [hc : Traced c] : Traced (typ n c) where
  law v f h k st := hc.law v f h k st

theorem step_untype (e : Ev) (st : List Frag) : e.untype.step st = e.step st := by
  cases e <;> cases st <;> rfl

theorem replay_untype (t : List Ev) (st : List Frag) : replay (t.map Ev.untype) st = replay t st := by
  induction t generalizing st with
  | nil => rfl
  | cons e es ih =>
    simp only [List.map_cons, replay_cons, step_untype]
    cases e.step st with
    | none => rfl
    | some st' => simp [ih]

instance traced_untyped (c : Codec) [hc : Traced c] : Traced (untyped c) where
  law v f h k st := by
    have := hc.law v f h k st
    simpa [untyped, replay_untype] using this

instance traced_ctag (p : Bits) (c : Codec) [hc : Traced c] : Traced (ctag p c) where
  law v f h k st := by
    simp only [ctag, Option.map_eq_some_iff] at h
    obtain ⟨g, hg, rfl⟩ := h
    have h1 := hc.law v g hg k st
    have h0 := step_rd "c" p (g ++ k) st
    simp only [ctag, replay_cons, Frag.app_assoc, h0]
    simpa using h1

instance traced_named (n : String) (c : Codec) [hc : Traced c] : Traced (named n c) where
  law v f h k st := by
    obtain ⟨x, rfl, hx⟩ := named_enc h
    simp [named, replay_cons, step_push, replay_append, hc.law x f hx k st, step_pop, replay]

instance traced_ite (p : Prop) [Decidable p] (a b : Codec) [ha : Traced a] [hb : Traced b] :
    Traced (if p then a else b) := by
  split <;> assumption

class TracedFields (fs : List Field) : Prop where
  law : ∀ env vs f, encFields fs env vs = some f → ∀ (k : Frag) (st : List Frag),
    replay (traceFields fs env vs) ((f ++ k) :: st) = some (k :: st)

instance tracedFields_nil : TracedFields [] where
  law env vs f h k st := by
    cases vs <;> simp [encFields] at h
    subst h; simp [traceFields, replay]

instance tracedFields_cons (n : String) (g : Env → Codec) (fs : List Field)
    [hg : ∀ env, Traced (g env)] [hfs : TracedFields fs] : TracedFields ((n, g) :: fs) where
  law env vs f h k st := by
    obtain ⟨v, vs', a, b, rfl, ha, hb, rfl⟩ := encFields_cons_cases n g fs env vs f h
    have h1 := (hg env).law v a ha (b ++ k) st
    have h2 := hfs.law _ vs' b hb k st
    simp [traceFields, replay_cons, step_push, step_pop, replay_append, Frag.app_assoc, h1, h2]

instance tracedFields_fld (n : String) (c : Codec) (fs : List Field)
    [hc : Traced c] [hfs : TracedFields fs] : TracedFields (fld n c :: fs) :=
  tracedFields_cons n (fun _ => c) fs

instance tracedFields_dep (n : String) (g : Env → Codec) (fs : List Field)
    [hg : ∀ env, Traced (g env)] [hfs : TracedFields fs] : TracedFields (dep n g :: fs) :=
  tracedFields_cons n g fs

instance traced_recd (fs : List Field) [h : TracedFields fs] : Traced (recd fs) where
  law v f hv k st := by
    obtain ⟨vs, rfl, hv⟩ := recd_enc hv
    exact h.law [] vs f hv k st

class TracedAlts (alts : List Alt) : Prop where
  law : ∀ p n c, (p, n, c) ∈ alts → Traced c

instance tracedAlts_nil : TracedAlts [] where
  law p n c h := by simp at h

instance tracedAlts_cons (p : Bits) (n : String) (c : Codec) (more : List Alt)
    [hc : Traced c] [hm : TracedAlts more] : TracedAlts ((p, n, c) :: more) where
  law p' n' c' h := by
    simp only [List.mem_cons] at h
    rcases h with h | h
    · cases h; exact hc
    · exact hm.law p' n' c' h

theorem replay_traceAlts (alts : List Alt) (nm : String) (v : Val) (f : Frag) (h : encAlts alts nm v = some f)
    (hl : ∀ p c, (p, nm, c) ∈ alts → Traced c) (k : Frag) (st : List Frag) :
    replay (traceAlts alts nm v) ((f ++ k) :: st) = some (k :: st) := by
  induction alts with
  | nil => simp [encAlts] at h
  | cons a more ih =>
    obtain ⟨p, name, c⟩ := a
    simp only [encAlts] at h
    split at h
    · rename_i hn; subst hn
      simp only [Option.map_eq_some_iff] at h
      obtain ⟨g, hg, rfl⟩ := h
      have h1 := (hl p c (by simp)).law v g hg k st
      have h0 := step_rd "c" p (g ++ k) st
      simp [traceAlts, replay_cons, Frag.app_assoc, h0, step_push, replay_append, h1, step_pop, replay]
    · rename_i hn
      simp only [traceAlts, hn, if_false]
      exact ih h (fun p c hm => hl p c (by simp [hm]))

instance traced_tagged (alts : List Alt) [ha : TracedAlts alts] : Traced (tagged alts) := by
  unfold tagged
  split
  · exact ⟨fun v f h k st => by
      cases v <;> simp at h
      case con nm x =>
        exact replay_traceAlts alts nm x f h (fun p c hm => ha.law p nm c hm) k st⟩
  · infer_instance

instance traced_uintRange (n lo hi : Nat) : Traced (uintRange n lo hi) := by
  unfold uintRange; infer_instance
instance traced_uintLe (m : Nat) : Traced (uintLe m) := by unfold uintLe; infer_instance
instance traced_uintLt (m : Nat) : Traced (uintLt m) := by unfold uintLt; infer_instance
instance traced_hmLabel (m : Nat) : Traced (hmLabel m) := by unfold hmLabel; infer_instance

instance traced_hmNode (edge : Nat → Codec) (X : Codec) (n l : Nat) [Traced X] [∀ m, Traced (edge m)] :
    Traced (hmNode edge X n l) := by unfold hmNode; infer_instance

instance traced_hashmapF (X : Codec) [Traced X] : ∀ fuel n, Traced (hashmapF X fuel n)
  | 0, n => by unfold hashmapF; infer_instance
  | fuel+1, n => by
    have ih := traced_hashmapF X fuel
    unfold hashmapF; infer_instance

instance traced_ahmNode (edge : Nat → Codec) (X Y : Codec) (n l : Nat) [Traced X] [Traced Y]
    [∀ m, Traced (edge m)] : Traced (ahmNode edge X Y n l) := by unfold ahmNode; infer_instance

instance traced_hashmapAugF (X Y : Codec) [Traced X] [Traced Y] : ∀ fuel n, Traced (hashmapAugF X Y fuel n)
  | 0, n => by unfold hashmapAugF; infer_instance
  | fuel+1, n => by
    have ih := traced_hashmapAugF X Y fuel
    unfold hashmapAugF; infer_instance

instance traced_hashmap (n : Nat) (X : Codec) [Traced X] : Traced (hashmap n X) := by
  unfold hashmap; infer_instance
instance traced_hashmapAug (n : Nat) (X Y : Codec) [Traced X] [Traced Y] : Traced (hashmapAug n X Y) := by
  unfold hashmapAug; infer_instance
instance traced_hashmapE (n : Nat) (X : Codec) [Traced X] : Traced (hashmapE n X) := by
  unfold hashmapE; infer_instance
instance traced_hashmapAugE (n : Nat) (X Y : Codec) [Traced X] [Traced Y] : Traced (hashmapAugE n X Y) := by
  unfold hashmapAugE; infer_instance

instance traced_binTreeF (X : Codec) [Traced X] : ∀ fuel, Traced (binTreeF X fuel)
  | 0 => by unfold binTreeF; infer_instance
  | fuel+1 => by
    have ih := traced_binTreeF X fuel
    unfold binTreeF; infer_instance

instance traced_binTree (X : Codec) [Traced X] : Traced (binTree X) := by unfold binTree; infer_instance

end TonVerif.Tlb
