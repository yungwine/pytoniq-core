/-
Helper lemmas for C19 (Properties/C19.lean): potential-function argument for the iterative `Cell.order`,
byte accounting for the BoC parser loops, call-tree bound for the dictionary parser, loop bounds of the TL parser.
-/
import TonVerif.Model.Cost

namespace TonVerif.Proofs.Cost
open TonVerif TonVerif.Model TonVerif.Model.Cost

/-! ## order -/

theorem wf_of_forall (g : Dag) (h : ∀ nd ∈ g, ∀ c ∈ nd.kids, c < g.length) : g.WF := by
  intro v c hc
  unfold kidsOf at hc
  cases hv : g[v]? with
  | none => rw [hv] at hc; cases hc
  | some nd => rw [hv] at hc; exact h nd (List.mem_of_getElem? hv) c hc

/-- Σ_{v<n, v∉vis} f v : weight of the cells not yet expanded -/
def W (f : Nat → Nat) : Nat → List Nat → Nat
  | 0, _ => 0
  | n+1, vis => W f n vis + (if n ∈ vis then 0 else f n)

theorem W_nil (f : Nat → Nat) (n : Nat) : W f n [] = sumTo f n := by
  induction n with
  | zero => rfl
  | succ k ih => simp [W, sumTo, ih]

theorem W_cons_ge (f : Nat → Nat) (n v : Nat) (vis : List Nat) (h : n ≤ v) : W f n (v :: vis) = W f n vis := by
  induction n with
  | zero => rfl
  | succ k ih =>
    have hk : k ≠ v := by omega
    simp [W, ih (by omega), hk]

theorem W_cons_lt (f : Nat → Nat) (n v : Nat) (vis : List Nat) (h : v < n) (hv : v ∉ vis) :
    W f n (v :: vis) + f v = W f n vis := by
  induction n with
  | zero => omega
  | succ k ih =>
    by_cases hk : k = v
    · subst hk
      simp [W, hv, W_cons_ge f k k vis (Nat.le_refl _)]
    · have h2 := ih (by omega)
      simp only [W, List.mem_cons, hk, false_or]
      omega

theorem sumTo_succ (f : Nat → Nat) (n : Nat) : sumTo (fun v => f v + 1) n = sumTo f n + n := by
  induction n with
  | zero => rfl
  | succ k ih => simp only [sumTo, ih]; omega

/-- Σ of `f` over the "expanded" markers `(v, True)` on the stack -/
def markers (f : Nat → Nat) : List (Nat × Bool) → Nat
  | [] => 0
  | (v, true) :: r => f v + markers f r
  | (_, false) :: r => markers f r

theorem markers_append (f : Nat → Nat) (a b : List (Nat × Bool)) : markers f (a ++ b) = markers f a + markers f b := by
  induction a with
  | nil => simp [markers]
  | cons p r ih =>
    obtain ⟨v, b'⟩ := p
    cases b' <;> simp [markers, ih] <;> omega

theorem markers_false (f : Nat → Nat) (l : List Nat) : markers f ((l.map (fun c => (c, false))).reverse) = 0 := by
  induction l with
  | nil => rfl
  | cons c r ih => simp [markers_append, ih, markers]

def lsum (f : Nat → Nat) (l : List Nat) : Nat := (l.map f).sum

def StackOK (n : Nat) (st : List (Nat × Bool)) : Prop := ∀ p ∈ st, p.1 < n

/-- potential: pending stack entries + (deg+1) for every cell not yet expanded -/
def phi (g : Dag) (s : OSt) : Nat := s.stack.length + W (fun v => deg g v + 1) g.length s.visited

/-- conserved: every cell is unexpanded, or has its marker on the stack, or is in the post-order -/
def Q (g : Dag) (f : Nat → Nat) (s : OSt) : Nat := lsum f s.post + markers f s.stack + W f g.length s.visited

theorem step_inv (g : Dag) (hg : g.WF) (f : Nat → Nat) (s : OSt) (hs : StackOK g.length s.stack) (hne : s.stack ≠ []) :
    StackOK g.length (orderStep g s).stack ∧ (orderStep g s).steps = s.steps + 1 ∧
      phi g (orderStep g s) + 1 = phi g s ∧ Q g f (orderStep g s) = Q g f s := by
  obtain ⟨stack, visited, post, steps⟩ := s
  cases stack with
  | nil => exact absurd rfl hne
  | cons p rest =>
    obtain ⟨v, b⟩ := p
    have hv : v < g.length := hs (v, b) (by simp)
    have hrest : StackOK g.length rest := fun q hq => hs q (by simp [hq])
    cases b with
    | true =>
      refine ⟨hrest, rfl, ?_, ?_⟩
      · simp [orderStep, phi]; omega
      · simp [orderStep, Q, lsum, markers]; omega
    | false =>
      by_cases hm : v ∈ visited
      · refine ⟨?_, ?_, ?_, ?_⟩
        · simpa [orderStep, hm] using hrest
        · simp [orderStep, hm]
        · simp [orderStep, hm, phi]; omega
        · simp [orderStep, hm, Q, markers]
      · refine ⟨?_, ?_, ?_, ?_⟩
        · simp only [orderStep, hm, if_false]
          intro q hq
          simp only [List.mem_append, List.mem_reverse, List.mem_map, List.mem_cons] at hq
          rcases hq with ⟨c, hc, rfl⟩ | rfl | hq
          · exact hg v c hc
          · exact hv
          · exact hrest q hq
        · simp [orderStep, hm]
        · have hw := W_cons_lt (fun v => deg g v + 1) g.length v visited hv hm
          simp only [orderStep, hm, if_false, phi, List.length_append, List.length_reverse, List.length_map,
            List.length_cons]
          simp only [deg] at hw ⊢
          omega
        · have hw := W_cons_lt f g.length v visited hv hm
          simp only [orderStep, hm, if_false, Q, markers_append, markers_false, markers]
          omega

theorem loop_inv (g : Dag) (hg : g.WF) (f : Nat → Nat) : ∀ (fuel : Nat) (s : OSt), StackOK g.length s.stack → phi g s ≤ fuel →
    (orderLoop g fuel s).stack = [] ∧ (orderLoop g fuel s).steps + phi g (orderLoop g fuel s) = s.steps + phi g s ∧
      Q g f (orderLoop g fuel s) = Q g f s := by
  intro fuel
  induction fuel with
  | zero =>
    intro s _ hphi
    have : s.stack = [] := List.length_eq_zero_iff.mp (by simp only [phi] at hphi; omega)
    simp [orderLoop, this]
  | succ k ih =>
    intro s hs hphi
    by_cases he : s.stack = []
    · simp [orderLoop, he]
    · obtain ⟨h1, h2, h3, h4⟩ := step_inv g hg f s hs he
      obtain ⟨i1, i2, i3⟩ := ih (orderStep g s) h1 (by omega)
      simp only [orderLoop, List.isEmpty_iff, he, if_false]
      exact ⟨i1, by omega, by rw [i3, h4]⟩

theorem phi_init (g : Dag) (root : Nat) : phi g (orderInit root) = 1 + g.length + edges g := by
  simp only [phi, orderInit, W_nil, List.length_cons, List.length_nil, edges]
  rw [sumTo_succ]; omega

theorem lsum_one (l : List Nat) : lsum (fun _ => 1) l = l.length := by
  induction l with
  | nil => rfl
  | cons a r ih => simp only [lsum, List.map_cons, List.sum_cons, List.length_cons] at ih ⊢; omega

theorem sumTo_one (n : Nat) : sumTo (fun _ => 1) n = n := by
  induction n with
  | zero => rfl
  | succ k ih => simp [sumTo, ih]

/-- all facts about a run of `Cell.order` -/
theorem order_run (g : Dag) (hg : g.WF) (root : Nat) (hr : root < g.length) :
    (orderRun g root).stack = [] ∧ (orderRun g root).steps ≤ 1 + g.length + edges g ∧
      (orderRun g root).post.length ≤ g.length ∧ lsum (deg g) (orderRun g root).post ≤ edges g := by
  have hs : StackOK g.length (orderInit root).stack := by
    intro p hp; simp [orderInit] at hp; subst hp; exact hr
  have hphi := phi_init g root
  -- what is in the post-order at the end was unexpanded at the start
  have hpost : ∀ f, (orderRun g root).stack = [] ∧ (orderRun g root).steps ≤ 1 + g.length + edges g ∧
      lsum f (orderRun g root).post ≤ sumTo f g.length := fun f => by
    obtain ⟨e, st, q⟩ := loop_inv g hg f (1 + g.length + edges g) (orderInit root) hs (by omega)
    have hq : Q g f (orderInit root) = sumTo f g.length := by simp [Q, orderInit, lsum, markers, W_nil]
    have h0 : (orderInit root).steps = 0 := rfl
    rw [hq] at q
    simp only [Q, e, markers] at q
    exact ⟨e, by simp only [orderRun]; omega, by simp only [orderRun]; omega⟩
  obtain ⟨e, st, h1⟩ := hpost fun _ => 1
  rw [lsum_one, sumTo_one] at h1
  exact ⟨e, st, h1, (hpost (deg g)).2.2⟩

/-! ## to_boc -/

theorem toBoc_steps_le (g : Dag) (hg : g.WF) (root : Nat) (hr : root < g.length) (hasIdx hasCrc hasCache : Bool) :
    toBocSteps g root hasIdx hasCrc hasCache ≤ 5 * (g.length + edges g) + 1 + (toBoc g root hasIdx hasCrc hasCache).bytes := by
  obtain ⟨_, h2, h3, h4⟩ := order_run g hg root hr
  simp only [lsum] at h4
  simp only [toBocSteps, toBoc]
  cases hasIdx <;> cases hasCrc <;> simp <;> omega

/-! ## construction / hashing -/

theorem sumTo_le (f h : Nat → Nat) : ∀ n, (∀ v, v < n → f v ≤ h v) → sumTo f n ≤ sumTo h n := by
  intro n
  induction n with
  | zero => intro _; exact Nat.le_refl _
  | succ k ih =>
    intro hk
    have h1 := ih (fun v hv => hk v (by omega))
    have h2 := hk k (by omega)
    simp only [sumTo]; omega

theorem sumTo_add (f h : Nat → Nat) (n : Nat) : sumTo (fun v => f v + h v) n = sumTo f n + sumTo h n := by
  induction n with
  | zero => rfl
  | succ k ih => simp only [sumTo, ih]; omega

theorem sumTo_mul (c : Nat) (f : Nat → Nat) (n : Nat) : sumTo (fun v => c * f v) n = c * sumTo f n := by
  induction n with
  | zero => rfl
  | succ k ih => simp only [sumTo, ih, Nat.mul_add]

theorem sumTo_const (c n : Nat) : sumTo (fun _ => c) n = c * n := by
  induction n with
  | zero => rfl
  | succ k ih => simp only [sumTo, ih, Nat.mul_succ]

theorem hashWork_eq (g : Dag) : hashWork g = 4 * (g.length + edges g) := by
  have h := sumTo_mul 4 (fun v => 1 + deg g v) g.length
  have h2 := sumTo_add (fun _ => 1) (deg g) g.length
  have h3 := sumTo_const 1 g.length
  simp only [hashWork, edges] at *
  omega

theorem ctorSteps_le (lv d : Nat) (h : lv ≤ 4) : ctorSteps lv d ≤ 4 + 9 * d := by
  have h1 : lv * (1 + 2 * d) ≤ 4 * (1 + 2 * d) := Nat.mul_le_mul_right _ h
  simp only [ctorSteps]; omega

theorem ctorBytes_le (lv d size : Nat) (h : lv ≤ 4) : ctorBytes lv d size ≤ 4 * size + 136 + 136 * d := by
  have h1 : lv * (max size 34 + 34 * d) ≤ 4 * (max size 34 + 34 * d) := Nat.mul_le_mul_right _ h
  simp only [ctorBytes]; omega

theorem buildSteps_le (lv : Nat → Nat) (g : Dag) (h : ∀ v, lv v ≤ 4) : buildSteps lv g ≤ 4 * g.length + 9 * edges g := by
  have h1 := sumTo_le (fun v => ctorSteps (lv v) (deg g v)) (fun v => 4 + 9 * deg g v) g.length
    (fun v _ => ctorSteps_le _ _ (h v))
  have h2 := sumTo_add (fun _ => 4) (fun v => 9 * deg g v) g.length
  have h3 := sumTo_mul 9 (deg g) g.length
  have h4 := sumTo_const 4 g.length
  simp only [buildSteps, edges] at *
  omega

theorem buildBytes_le (lv : Nat → Nat) (g : Dag) (h : ∀ v, lv v ≤ 4) :
    buildBytes lv g ≤ 4 * cellBytes g + 136 * (g.length + edges g) := by
  have h1 := sumTo_le (fun v => ctorBytes (lv v) (deg g v) ((g[v]?.map (·.size)).getD 0))
    (fun v => 4 * ((g[v]?.map (·.size)).getD 0) + (136 + 136 * deg g v)) g.length
    (fun v _ => by have := ctorBytes_le (lv v) (deg g v) ((g[v]?.map (·.size)).getD 0) (h v); omega)
  have h2 := sumTo_add (fun v => 4 * ((g[v]?.map (·.size)).getD 0)) (fun v => 136 + 136 * deg g v) g.length
  have h3 := sumTo_mul 4 (fun v => (g[v]?.map (·.size)).getD 0) g.length
  have h4 := sumTo_add (fun _ => 136) (fun v => 136 * deg g v) g.length
  have h5 := sumTo_mul 136 (deg g) g.length
  have h6 := sumTo_const 136 g.length
  simp only [buildBytes, cellBytes, edges] at *
  omega

/-! ## BoC parser -/

theorem cellLoop_bound (sb : Nat) (hsb : 1 ≤ sb) : ∀ (cnt : Nat) (data : Bytes),
    2 * (cellLoop sb cnt data).1 + (cellLoop sb cnt data).2.1 ≤ data.length + 2 ∧
    ((cellLoop sb cnt data).2.2 = true →
      (cellLoop sb cnt data).1 = cnt ∧ 2 * (cellLoop sb cnt data).1 + (cellLoop sb cnt data).2.1 ≤ data.length) := by
  intro cnt
  induction cnt with
  | zero => intro data; simp [cellLoop]
  | succ k ih =>
    intro data
    match data with
    | [] => simp [cellLoop]
    | [_] => simp [cellLoop]
    | d1 :: d2 :: rest =>
      have hmul : d1 % 8 ≤ cellNeed sb d1 d2 := by
        have : d1 % 8 ≤ sb * (d1 % 8) := Nat.le_mul_of_pos_left _ hsb
        simp only [cellNeed]; omega
      simp only [cellLoop]
      by_cases habs : cellAbsent d1 = true
      · simp [habs]
      · by_cases hneed : rest.length < cellNeed sb d1 d2
        · simp [habs, hneed]
        · simp only [habs, hneed, if_false, Bool.false_eq_true]
          generalize cellNeed sb d1 d2 = need at hmul hneed ⊢
          have hlen : (List.drop need rest).length + need = rest.length := by
            simp only [List.length_drop]; omega
          obtain ⟨i1, i2⟩ := ih (List.drop need rest)
          simp only [List.length_cons]
          refine ⟨by omega, ?_⟩
          intro hc
          obtain ⟨j1, j2⟩ := i2 hc
          exact ⟨by omega, by omega⟩

theorem sl_length_le (bs : Bytes) (a k : Nat) : (sl bs a (a + k)).length ≤ k := by
  simp only [sl, List.length_drop, List.length_take]; omega

/-- the two bounds of C19 on the parse of an `n`-byte BoC: all iterations, and those of the three outer loops -/
def Within (n : Nat) (c : BocCost) : Prop := c.total ≤ 3 * n + 5 ∧ c.outer ≤ n + 1

theorem Within.ite {n : Nat} {p : Prop} [Decidable p] {a b : BocCost} (ha : p → Within n a) (hb : ¬p → Within n b) :
    Within n (if p then a else b) := by
  by_cases h : p
  · rw [if_pos h]; exact ha h
  · rw [if_neg h]; exact hb h

theorem Within.zero (n : Nat) : Within n {} := ⟨Nat.zero_le _, Nat.zero_le _⟩

/-- Every header comprehension runs at most once per byte it consumes (`sb ≥ 1`; `ob = 0` with an index raises), the CRC loop
runs over the bytes before the checksum, and the cell loops are bounded by the cell data (`cellLoop_bound`); each guard that
is passed puts the bytes consumed so far below `len(bs)`. -/
theorem bocBody_bound (bs : Bytes) (isGen hasIdx hasCrc : Bool) (sb ob cn rn tot : Nat) (hsb : 1 ≤ sb) :
    Within bs.length (bocBody bs isGen hasIdx hasCrc sb ob cn rn tot) := by
  unfold bocBody
  extract_lets n i0 rootBytes rootIters idxBytes idxIters crcBytes i2 i3 crc r
  have hi2 : i2 = i0 + rootBytes + idxBytes := rfl
  have hi3 : i3 = i2 + tot := rfl
  have hroot : rootIters ≤ rootBytes := by
    cases isGen
    · exact Nat.le_refl 0
    · exact Nat.le_mul_of_pos_right rn hsb
  have hrn : ¬(!isGen && rn != 1) = true → rn ≤ rootBytes + 1 := by
    cases isGen
    · simp only [Bool.not_false, Bool.true_and, bne_iff_ne, ne_eq, Decidable.not_not]
      intro h; exact Nat.le_of_eq h
    · intro _; exact Nat.le_succ_of_le (Nat.le_mul_of_pos_right rn hsb)
  have hidx : ¬(hasIdx && ob == 0) = true → idxIters ≤ idxBytes := by
    cases hasIdx
    · intro _; exact Nat.le_refl 0
    · intro h; exact Nat.le_mul_of_pos_right cn (Nat.pos_of_ne_zero (by simpa using h))
  have hcrc : crc ≤ i3 := by
    cases hasCrc
    · exact Nat.zero_le _
    · exact Nat.le_refl _
  have hsl : (sl bs i2 i3).length ≤ tot := sl_length_le bs i2 tot
  obtain ⟨c1, c2⟩ : 2 * r.1 + r.2.1 ≤ (sl bs i2 i3).length + 2 ∧
      (r.2.2 = true → r.1 = cn ∧ 2 * r.1 + r.2.1 ≤ (sl bs i2 i3).length) := cellLoop_bound sb hsb cn (sl bs i2 i3)
  change Within n _
  clear_value n i0 rootBytes rootIters idxBytes idxIters crcBytes i2 i3 crc r
  simp only [short, decide_eq_true_eq, bne_iff_ne, ne_eq]
  -- the nine exits of `bocBody`, each with the guards passed before it
  refine Within.ite (fun _ => ?_) fun _ => Within.ite (fun _ => ?_) fun h =>
    have := hrn h
    Within.ite (fun _ => ?_) fun _ => Within.ite (fun _ => ?_) fun h =>
    have := hidx h
    Within.ite (fun _ => ?_) fun _ => Within.ite (fun _ => ?_) fun _ => Within.ite (fun _ => ?_) fun _ =>
    Within.ite (fun _ => ?_) fun h =>
    have := c2 (by simpa using h)
    ?_
  all_goals
    simp only [Within, BocCost.total, BocCost.outer]
    omega

theorem bocGuarded_bound (bs : Bytes) (isGen hasIdx hasCrc : Bool) (sb ob : Nat) :
    Within bs.length (bocGuarded bs isGen hasIdx hasCrc sb ob) :=
  Within.ite (fun _ => Within.zero _) fun _ => Within.ite (fun _ => Within.zero _) fun h =>
    bocBody_bound _ _ _ _ _ _ _ _ _ (Nat.pos_of_ne_zero (by simpa using h))

theorem bocCost_bound (bs : Bytes) : Within bs.length (bocCost bs) :=
  Within.ite (fun _ => Within.zero _) fun _ => bocGuarded_bound _ _ _ _ _ _

/-! ## dictionary parser -/

theorem unary_len : ∀ (r : Bits) (n : Nat) (rest : Bits), unary r = some (n, rest) → n + rest.length + 1 = r.length := by
  intro r
  induction r with
  | nil => intro n rest h; simp [unary] at h
  | cons b t ih =>
    intro n rest h
    cases b with
    | false => simp [unary] at h; obtain ⟨h1, h2⟩ := h; subst h1; subst h2; simp
    | true =>
      simp only [unary, Option.map_eq_some_iff] at h
      obtain ⟨⟨n', rest'⟩, h1, h2⟩ := h
      have := ih n' rest' h1
      simp only [Prod.mk.injEq] at h2
      obtain ⟨h3, h4⟩ := h2
      subst h3; subst h4
      simp only [List.length_cons]; omega

/-- iterations of the `deserialize_unary` loop never exceed the bits of the cell -/
theorem readLabelRaw_iters (bits : Bits) (m : Int) : (readLabelRaw bits m).2 ≤ bits.length := by
  unfold readLabelRaw
  match bits with
  | [] => simp
  | false :: r =>
    simp only []
    cases h : unary r with
    | none => simp
    | some p =>
      obtain ⟨n, rest⟩ := p
      have := unary_len r n rest h
      simp only [List.length_cons]; omega
  | [true] => simp
  | true :: false :: r => simp only []; split <;> (try split) <;> simp
  | [true, true] => simp
  | true :: true :: _ :: r => simp only []; split <;> (try split) <;> simp

/-- the `{n <= m}` test changes the verdict only, not the work done before it -/
theorem readLabel_snd (bits : Bits) (m : Int) : (readLabel bits m).2 = (readLabelRaw bits m).2 := by
  unfold readLabel
  rcases readLabelRaw bits m with ⟨l, it⟩
  cases l with
  | none => rfl
  | some n => simp only []; split <;> rfl

theorem readLabel_iters (bits : Bits) (m : Int) : (readLabel bits m).2 ≤ bits.length := by
  rw [readLabel_snd]; exact readLabelRaw_iters bits m

/-- a label `deserialize_hml` returns fits the remaining key (so the remaining key was not negative) -/
theorem readLabel_le {bits : Bits} {m : Int} {n it : Nat} (h : readLabel bits m = (some n, it)) : (n : Int) ≤ m := by
  unfold readLabel at h
  rcases hr : readLabelRaw bits m with ⟨l, it'⟩
  rw [hr] at h
  cases l with
  | none => simp at h
  | some n' =>
    simp only [] at h
    split at h
    · simp at h
    · rename_i hgt
      simp only [Prod.mk.injEq, Option.some.injEq] at h
      obtain ⟨rfl, _⟩ := h
      omega

/-- a label longer than the remaining key makes `deserialize_hml` raise -/
theorem readLabel_too_long {bits : Bits} {m : Int} {n it : Nat} (h : readLabelRaw bits m = (some n, it)) (hgt : m < (n : Int)) :
    readLabel bits m = (none, it) := by
  simp [readLabel, h, hgt]

/-- result of a fork with own steps `s0` from the results of the parses of its two references (`rb = none`: there is no second
reference, the code raises after the first parse) -/
def join (s0 : Nat) (ra : DRes) (rb : Option DRes) : DRes :=
  match ra with
  | .oof => .oof
  | .raised s => .raised (s0 + s)
  | .done s1 =>
    match rb with
    | none => .raised (s0 + s1)
    | some .oof => .oof
    | some (.raised s) => .raised (s0 + s1 + s)
    | some (.done s2) => .done (s0 + s1 + s2)

/-- what one `parse` call does at a cell before it recurses: it ends there (`leaf`), or it goes on into the first two references
with the remaining key length `m` (`fork`) -/
inductive View
  | leaf (r : DRes)
  | fork (s0 a : Nat) (b : Option Nat) (m : Int)

/-- `w it` = what the `it` iterations of the unary loop count for: `id` in `dictParse`, nothing in `dictCalls` -/
def view (g : DDag) (w : Nat → Nat) (v : Nat) (k : Int) : View :=
  match g[v]? with
  | none => .leaf (.raised 0)
  | some nd =>
    match readLabel nd.bits k with
    | (none, it) => .leaf (.raised (1 + w it))
    | (some l, it) =>
      if !nd.ordinary then .leaf (.done (2 + w it)) else
      if k - l == 0 then .leaf (.done (2 + w it)) else
      match nd.kids with
      | [] => .leaf (.raised (2 + w it))
      | a :: rest => .fork (2 + w it) a rest.head? (k - l - 1)

def View.run (rec : Nat → Int → DRes) : View → DRes
  | .leaf r => r
  | .fork s0 a b m => join s0 (rec a m) (b.map (rec · m))

theorem dictParse_succ (g : DDag) (f v : Nat) (k : Int) : dictParse g (f + 1) v k = (view g id v k).run (dictParse g f) := by
  unfold dictParse view
  rcases g[v]? with _ | nd
  · rfl
  dsimp only
  rcases readLabel nd.bits k with ⟨_ | l, it⟩
  · rfl
  dsimp only
  split
  · rfl
  split
  · rfl
  rcases nd.kids with _ | ⟨a, _ | ⟨b, _⟩⟩
  · rfl
  · dsimp only [View.run, join, List.head?, Option.map]
    cases dictParse g f a (k - l - 1) <;> rfl
  · dsimp only [View.run, join, List.head?, Option.map]
    cases dictParse g f a (k - l - 1) <;> cases dictParse g f b (k - l - 1) <;> rfl

theorem dictCalls_succ (g : DDag) (f v : Nat) (k : Int) : dictCalls g (f + 1) v k = (view g (fun _ => 0) v k).run (dictCalls g f) := by
  unfold dictCalls view
  rcases g[v]? with _ | nd
  · rfl
  dsimp only
  rcases readLabel nd.bits k with ⟨_ | l, it⟩
  · rfl
  dsimp only
  split
  · rfl
  split
  · rfl
  rcases nd.kids with _ | ⟨a, _ | ⟨b, _⟩⟩
  · rfl
  · dsimp only [View.run, join, List.head?, Option.map]
    cases dictCalls g f a (k - l - 1) <;> rfl
  · dsimp only [View.run, join, List.head?, Option.map]
    cases dictCalls g f a (k - l - 1) <;> cases dictCalls g f b (k - l - 1) <;> rfl

/-- the recursion that `dictParse` (`w = id`) and `dictCalls` (`w = 0`) both are -/
def walk (g : DDag) (w : Nat → Nat) : Nat → Nat → Int → DRes
  | 0, _, _ => .oof
  | f+1, v, k => (view g w v k).run (walk g w f)

theorem dictParse_eq_walk (g : DDag) : dictParse g = walk g id := by
  funext f
  induction f with
  | zero => rfl
  | succ f ih => funext v k; rw [dictParse_succ, ih]; rfl

theorem dictCalls_eq_walk (g : DDag) : dictCalls g = walk g (fun _ => 0) := by
  funext f
  induction f with
  | zero => rfl
  | succ f ih => funext v k; rw [dictCalls_succ, ih]; rfl

theorem view_inv (g : DDag) (w : Nat → Nat) (v : Nat) (k : Int) :
    match view g w v k with
    | .leaf r => r ≠ .oof ∧ ((∀ i, w i = 0) → r.steps ≤ 2)
    | .fork s0 a b m => 0 ≤ m ∧ m < k ∧ ((∀ i, w i = 0) → s0 = 2) ∧ ∃ rest, dkids g v = a :: rest ∧ b = rest.head? := by
  unfold view dkids
  cases g[v]? with
  | none => exact ⟨DRes.noConfusion, fun _ => Nat.zero_le 2⟩
  | some nd =>
    dsimp only
    rcases hl : readLabel nd.bits k with ⟨_ | l, it⟩
    · exact ⟨DRes.noConfusion, fun h => by simp only [DRes.steps, h]; omega⟩
    · have hle := readLabel_le hl
      have hdone : (DRes.done (2 + w it) ≠ .oof) ∧ ((∀ i, w i = 0) → (DRes.done (2 + w it)).steps ≤ 2) :=
        ⟨DRes.noConfusion, fun h => by simp only [DRes.steps, h]; omega⟩
      dsimp only
      by_cases ho : (!nd.ordinary) = true
      · rw [if_pos ho]; exact hdone
      rw [if_neg ho]
      by_cases hm : (k - (l : Int) == 0) = true
      · rw [if_pos hm]; exact hdone
      rw [if_neg hm]
      have hm' : k - (l : Int) ≠ 0 := by simpa using hm
      cases nd.kids with
      | nil => exact ⟨DRes.noConfusion, fun h => by simp only [DRes.steps, h]; omega⟩
      | cons a rest => exact ⟨by omega, by omega, fun h => by rw [h], rest, rfl, rfl⟩

theorem join_ne_oof {s0 : Nat} {ra : DRes} {rb : Option DRes} (ha : ra ≠ .oof) (hb : rb ≠ some .oof) : join s0 ra rb ≠ .oof := by
  unfold join
  cases ra with
  | oof => exact absurd rfl ha
  | raised s => exact DRes.noConfusion
  | done s1 =>
    rcases rb with _ | _ | _ | _
    · exact DRes.noConfusion
    · exact DRes.noConfusion
    · exact DRes.noConfusion
    · exact absurd rfl hb

theorem map_ne_oof {rec : Nat → DRes} (b : Option Nat) (h : ∀ x, rec x ≠ .oof) : b.map rec ≠ some .oof := by
  cases b with
  | none => exact fun e => nomatch e
  | some x => exact fun e => h x (Option.some.inj e)

/-- **depth bound.** The remaining key length is never negative inside a parse, and every level of the recursion consumes at
least the fork bit: fuel (= recursion depth) `k + 1` is enough for key length `k`, on ANY cell graph (shared, even cyclic). -/
theorem walk_no_oof (g : DDag) (w : Nat → Nat) : ∀ (f v : Nat) (k : Int), 1 ≤ f → k < (f : Int) → walk g w f v k ≠ .oof := by
  intro f
  induction f with
  | zero => intro v k h; omega
  | succ n ih =>
    intro v k _ hk
    have hv := view_inv g w v k
    unfold walk
    generalize view g w v k = vw at hv
    cases vw with
    | leaf r => exact hv.1
    | fork s0 a b m => exact join_ne_oof (ih a m (by omega) (by omega)) (map_ne_oof b fun x => ih x m (by omega) (by omega))

theorem join_fuel {s0 : Nat} {ra ra' : DRes} {rb rb' : Option DRes} (h : join s0 ra rb ≠ .oof)
    (ha : ra ≠ .oof → ra' = ra) (hb : rb ≠ some .oof → rb' = rb) : join s0 ra' rb' = join s0 ra rb := by
  cases ra with
  | oof => exact absurd rfl h
  | raised s => rw [ha DRes.noConfusion]; rfl
  | done s1 =>
    rw [ha DRes.noConfusion]
    rcases rb with _ | _ | _ | _
    · rw [hb (fun e => nomatch e)]
    · rw [hb (fun e => nomatch e)]
    · rw [hb (fun e => nomatch e)]
    · exact absurd rfl h

theorem walk_fuel_succ (g : DDag) (w : Nat → Nat) : ∀ (f v : Nat) (k : Int), walk g w f v k ≠ .oof →
    walk g w (f + 1) v k = walk g w f v k := by
  intro f
  induction f with
  | zero => intro v k h; exact absurd rfl h
  | succ n ih =>
    intro v k h
    change (view g w v k).run (walk g w n) ≠ .oof at h
    change (view g w v k).run (walk g w (n + 1)) = (view g w v k).run (walk g w n)
    generalize view g w v k = vw at h ⊢
    cases vw with
    | leaf r => rfl
    | fork s0 a b m =>
      refine join_fuel h (ih a m) fun hb => ?_
      cases b with
      | none => rfl
      | some x => exact congrArg some (ih x m fun e => hb (congrArg some e))

/-- more fuel changes nothing once the parse did not run out of it -/
theorem walk_fuel_le (g : DDag) (w : Nat → Nat) (f v : Nat) (k : Int) (h : walk g w f v k ≠ .oof) :
    ∀ d, walk g w (f + d) v k = walk g w f v k
  | 0 => rfl
  | d+1 => by rw [← Nat.add_assoc, walk_fuel_succ g w (f + d) v k (by rw [walk_fuel_le g w f v k h d]; exact h), walk_fuel_le g w f v k h d]

theorem join_steps_le (s0 : Nat) (ra : DRes) (rb : Option DRes) :
    (join s0 ra rb).steps ≤ s0 + ra.steps + (rb.map DRes.steps).getD 0 := by
  rcases ra with _ | _ | _
  · rcases rb with _ | _ | _ | _ <;> simp only [join, DRes.steps, Option.map, Option.getD] <;> omega
  · simp only [join, DRes.steps]; omega
  · exact Nat.zero_le _

/-- the number of calls is bounded by the key length alone: the call tree is binary and at most `k + 1` levels deep -/
theorem calls_le_keylen (g : DDag) : ∀ (f v : Nat) (k : Int), (walk g (fun _ => 0) f v k).steps + 2 ≤ 2 ^ (k.toNat + 2) := by
  intro f
  induction f with
  | zero =>
    intro v k
    have : 2 ^ 2 ≤ 2 ^ (k.toNat + 2) := Nat.pow_le_pow_right (by decide) (by omega)
    simp only [walk, DRes.steps]; omega
  | succ n ih =>
    intro v k
    have h4 : 2 ^ 2 ≤ 2 ^ (k.toNat + 2) := Nat.pow_le_pow_right (by decide) (by omega)
    have hv := view_inv g (fun _ => 0) v k
    unfold walk
    generalize view g (fun _ => 0) v k = vw at hv
    cases vw with
    | leaf r => have := hv.2 fun _ => rfl; simp only [View.run]; omega
    | fork s0 a b m =>
      obtain ⟨h0, hlt, hs0, _⟩ := hv
      have hsub : 2 ^ (m.toNat + 2) ≤ 2 ^ (k.toNat + 1) := Nat.pow_le_pow_right (by decide) (by omega)
      obtain rfl := hs0 fun _ => rfl
      have h := join_steps_le 2 (walk g (fun _ => 0) n a m) (b.map (walk g (fun _ => 0) n · m))
      have ha := ih a m
      rw [Nat.pow_succ]
      cases b with
      | none => simp only [View.run, Option.map, Option.getD] at h ⊢; omega
      | some x =>
        have hb := ih x m
        simp only [View.run, Option.map, Option.getD] at h ⊢; omega

/-- `dictParse` (calls + unary-loop iterations) against `dictCalls` (calls only): same outcome, at most `1 + B` times the steps
when no cell has more than `B` bits -/
def DRel (B : Nat) (p c : DRes) : Prop :=
  match p, c with
  | .done a, .done b => a ≤ b * (1 + B)
  | .raised a, .raised b => a ≤ b * (1 + B)
  | .oof, .oof => True
  | _, _ => False

/-- `dictParse` against `dictCalls` at one cell: the same decision, own steps `2 + it ≤ 2 + B` against `2` -/
theorem view_rel (g : DDag) (B : Nat) (hB : ∀ nd ∈ g, nd.bits.length ≤ B) (v : Nat) (k : Int) :
    match view g id v k, view g (fun _ => 0) v k with
    | .leaf p, .leaf c => DRel B p c
    | .fork s0 a b m, .fork s0' a' b' m' => s0 ≤ 2 + B ∧ s0' = 2 ∧ a' = a ∧ b' = b ∧ m' = m
    | _, _ => False := by
  unfold view
  cases hv : g[v]? with
  | none => exact Nat.zero_le _
  | some nd =>
    have hit := Nat.le_trans (readLabel_iters nd.bits k) (hB nd (List.mem_of_getElem? hv))
    dsimp only
    generalize readLabel nd.bits k = rl at hit ⊢
    rcases rl with ⟨_ | l, it⟩
    · simp only [DRel, id]; omega
    · have hdone : DRel B (.done (2 + id it)) (.done (2 + (fun _ => 0) it)) := by simp only [DRel, id]; omega
      dsimp only at hit ⊢
      by_cases ho : (!nd.ordinary) = true
      · rw [if_pos ho, if_pos ho]; exact hdone
      rw [if_neg ho, if_neg ho]
      by_cases hm : (k - (l : Int) == 0) = true
      · rw [if_pos hm, if_pos hm]; exact hdone
      rw [if_neg hm, if_neg hm]
      cases nd.kids with
      | nil => simp only [DRel, id]; omega
      | cons a rest => exact ⟨by simp only [id]; omega, rfl, rfl, rfl, rfl⟩

theorem join_rel {B s0 : Nat} {pa ca : DRes} {pb cb : Option DRes} (hs : s0 ≤ 2 + B) (ha : DRel B pa ca)
    (hb : match pb, cb with | none, none => True | some p, some c => DRel B p c | _, _ => False) :
    DRel B (join s0 pa pb) (join 2 ca cb) := by
  have e2 : 2 * (1 + B) = 2 + 2 * B := by omega
  rcases pa with a | a | _ <;> rcases ca with c | c | _ <;> simp only [DRel] at ha
  · rcases pb with _ | p | p | _ <;> rcases cb with _ | c' | c' | _ <;> simp only [DRel] at hb <;>
      simp only [join, DRel, Nat.add_mul] <;> omega
  · simp only [join, DRel, Nat.add_mul]; omega
  · trivial

theorem walk_rel (g : DDag) (B : Nat) (hB : ∀ nd ∈ g, nd.bits.length ≤ B) :
    ∀ (f v : Nat) (k : Int), DRel B (walk g id f v k) (walk g (fun _ => 0) f v k) := by
  intro f
  induction f with
  | zero => intro v k; trivial
  | succ n ih =>
    intro v k
    have hv := view_rel g B hB v k
    unfold walk
    generalize view g id v k = vp at hv
    generalize view g (fun _ => 0) v k = vc at hv
    cases vp <;> cases vc <;> try exact hv.elim
    · exact hv
    · obtain ⟨hs, rfl, rfl, rfl, rfl⟩ := hv
      refine join_rel hs (ih _ _) ?_
      rename_i b _
      cases b with
      | none => trivial
      | some x => exact ih x _

theorem calls_le_tree (g : DDag) : ∀ (f v : Nat) (k : Int), (walk g (fun _ => 0) f v k).steps ≤ 2 * treeSize g f v := by
  intro f
  induction f with
  | zero => intro v k; exact Nat.zero_le _
  | succ n ih =>
    intro v k
    have hv := view_inv g (fun _ => 0) v k
    unfold walk treeSize
    generalize view g (fun _ => 0) v k = vw at hv
    cases vw with
    | leaf r =>
      have := hv.2 fun _ => rfl
      cases dkids g v <;> simp only [View.run] <;> omega
    | fork s0 a b m =>
      obtain ⟨_, _, hs0, rest, hd, rfl⟩ := hv
      obtain rfl := hs0 fun _ => rfl
      have h := join_steps_le 2 (walk g (fun _ => 0) n a m) (rest.head?.map (walk g (fun _ => 0) n · m))
      have ha := ih a m
      rw [hd]
      cases rest with
      | nil => simp only [View.run, List.head?, Option.map, Option.getD] at h ⊢; omega
      | cons b _ =>
        have hb := ih b m
        simp only [View.run, List.head?, Option.map, Option.getD] at h ⊢; omega

/-- a completed parse made exactly `4·(entries + stops) − 2` calls: the call tree is a full binary tree whose leaves are
the result entries and the pruned edges -/
theorem dictCalls_out (g : DDag) : ∀ (f v : Nat) (k : Int) (s : Nat), dictCalls g f v k = .done s →
    s + 2 = 4 * ((dictOut g f v k).1 + (dictOut g f v k).2) := by
  intro f
  induction f with
  | zero => intro v k s h; simp [dictCalls] at h
  | succ n ih =>
    intro v k s
    unfold dictCalls dictOut
    rcases g[v]? with _ | nd
    · simp
    dsimp only
    rcases readLabel nd.bits k with ⟨_ | l, it⟩
    · simp
    dsimp only
    split
    · intro h; cases h; rfl
    split
    · intro h; cases h; rfl
    rcases nd.kids with _ | ⟨a, _ | ⟨b, _⟩⟩
    · simp
    · dsimp only
      cases dictCalls g n a (k - l - 1) <;> simp
    · dsimp only
      cases ha : dictCalls g n a (k - l - 1) with
      | oof => simp
      | raised => simp
      | done s1 =>
        cases hb : dictCalls g n b (k - l - 1) with
        | oof => simp
        | raised => simp
        | done s2 =>
          have := ih a _ s1 ha
          have := ih b _ s2 hb
          intro h
          cases h
          omega

/-- with a negative key length the very first label is refused: one `parse` call (+ its unary loop), no recursion -/
theorem dictParse_neg (g : DDag) (f v : Nat) (k : Int) (hk : k < 0) :
    ∃ s, dictParse g (f + 1) v k = .raised s ∧ dictCalls g (f + 1) v k = .raised (min s 1) := by
  unfold dictParse dictCalls
  cases hv : g[v]? with
  | none => exact ⟨0, rfl, rfl⟩
  | some nd =>
    simp only []
    rcases hl : readLabel nd.bits k with ⟨l, it⟩
    cases l with
    | none => exact ⟨1 + it, rfl, by simp⟩
    | some l => have := readLabel_le hl; omega

/-! ## TL parser: the loops never exhaust their own fuel -/
open TonVerif.Model.Cost.Tl

theorem vecLoop_no_oof (r : Bytes → Res) (hr : ∀ b, r b ≠ .oof) (data : Bytes) :
    ∀ (k i s : Nat), vecLoop r data k i s ≠ .oof := by
  intro k
  induction k with
  | zero => intro i s; simp [vecLoop]
  | succ n ih =>
    intro i s
    simp only [vecLoop]
    cases h : r (data.drop i) with
    | oof => exact absurd h (hr _)
    | raised a g => simp
    | ok j a => exact ih _ _

/-- the `while j < byte_len` loop: with loop fuel `len(content) - j + 1` it never runs out, for ANY inner parser that
returns advance 0 on empty input (each iteration either advances `j` by ≥ 1 or breaks; past the end the slice is empty) -/
theorem reparse_no_oof (r : Bytes → Res) (hr : ∀ b, r b ≠ .oof) (h0 : ∀ adv s, r [] = .ok adv s → adv = 0)
    (c : Bytes) (bl : Nat) : ∀ (lf j s : Nat), c.length - j + 1 ≤ lf → reparseLoop r c bl lf j s ≠ .oof := by
  intro lf
  induction lf with
  | zero => intro j s h; omega
  | succ n ih =>
    intro j s h
    simp only [reparseLoop]
    split
    · cases hc : r (c.drop j) with
      | oof => exact absurd hc (hr _)
      | raised a g => simp
      | ok jj a =>
        simp only []
        split
        · simp
        · rename_i hjj
          apply ih
          have hjj' : jj ≠ 0 := by simpa using hjj
          by_cases hlen : c.length ≤ j
          · have : c.drop j = [] := List.drop_eq_nil_of_le hlen
            rw [this] at hc
            exact absurd (h0 _ _ hc) hjj'
          · omega
    · simp

def NoOof (rec : Bytes → Option Nat → Res) : Prop := ∀ b m, rec b m ≠ .oof
def EmptyZero (rec : Bytes → Option Nat → Res) : Prop := ∀ adv s, rec [] none = .ok adv s → adv = 0

theorem bytesContent_no_oof (r : Bytes → Res) (hr : ∀ b, r b ≠ .oof) (h0 : ∀ adv s, r [] = .ok adv s → adv = 0)
    (c : Bytes) (bl iEnd : Nat) : bytesContent r c bl iEnd ≠ .oof := by
  unfold bytesContent
  cases hc : r c with
  | oof => exact absurd hc (hr _)
  | raised a g => simp
  | ok j a =>
    simp only []
    split
    · have := reparse_no_oof r hr h0 c bl (c.length + 1) j a (by omega)
      cases hx : reparseLoop r c bl (c.length + 1) j a with
      | oof => exact absurd hx this
      | raised a g => simp
      | ok x y => simp
    · simp

theorem fieldStep_no_oof (rec : Bytes → Option Nat → Res) (hr : NoOof rec) (h0 : EmptyZero rec) (data : Bytes) (i : Nat) (ty : Ty) :
    fieldStep rec data i ty ≠ .oof := by
  cases ty with
  | fixed k fl => simp [fieldStep]
  | bytes auto =>
    simp only [fieldStep]
    split
    · simp
    · exact bytesContent_no_oof (fun b => rec b none) (fun b => hr b none) h0 _ _ _
  | vec elem =>
    simp only [fieldStep]
    split
    · simp
    · exact vecLoop_no_oof _ (fun b => hr b elem) _ _ _ _
  | sub sm =>
    simp only [fieldStep]
    cases hc : rec (data.drop i) sm with
    | oof => exact absurd hc (hr _ _)
    | raised a g => simp
    | ok j a => simp

theorem fieldsLoop_no_oof (rec : Bytes → Option Nat → Res) (hr : NoOof rec) (h0 : EmptyZero rec) (data : Bytes) :
    ∀ (fs : List Field) (i : Nat) (fl : Option Int) (s : Nat), fieldsLoop rec data fs i fl s ≠ .oof := by
  intro fs
  induction fs with
  | nil => intro i fl s; simp [fieldsLoop]
  | cons fld rest ih =>
    intro i fl s
    simp only [fieldsLoop]
    split
    · simp
    · exact ih _ _ _
    · cases hc : fieldStep rec data i fld.ty with
      | oof => exact absurd hc (fieldStep_no_oof rec hr h0 data i fld.ty)
      | raised a g => simp
      | ok i' a => exact ih _ _ _

theorem deserLevel_no_oof (tbl : Table) (rec : Bytes → Option Nat → Res) (hr : NoOof rec) (h0 : EmptyZero rec) (data : Bytes) (mode : Option Nat) :
    deserLevel tbl rec data mode ≠ .oof := by
  unfold deserLevel
  split
  · split
    · simp
    · exact fieldsLoop_no_oof rec hr h0 data _ _ _ _
  · exact fieldsLoop_no_oof rec hr h0 data _ _ _ _

/-- every constructor id of the table is non-empty (they are 4 bytes) -/
def IdsNonempty (tbl : Table) : Prop := ∀ s ∈ tbl, s.id ≠ []

theorem byId_nil (tbl : Table) (h : IdsNonempty tbl) : byId tbl [] = none := by
  unfold byId
  rw [List.findIdx?_eq_none_iff]
  intro s hs
  have := h s hs
  cases hid : s.id with
  | nil => exact absurd hid this
  | cons a r => simp [hid]

theorem emptyZero_deser (tbl : Table) (h : IdsNonempty tbl) : ∀ f, EmptyZero (deser tbl f) := by
  intro f
  cases f with
  | zero => intro adv s hh; simp [deser] at hh
  | succ n =>
    intro adv s hh
    simp only [deser, deserLevel, List.take_nil, byId_nil tbl h, List.length_nil] at hh
    cases hh; rfl

/-- an `oof` of `deser` at depth `f+1` comes from an `oof` at depth `f`: the loop fuels never run out -/
theorem oof_from_depth (tbl : Table) (h : IdsNonempty tbl) (f : Nat) (data : Bytes) (mode : Option Nat)
    (ho : deser tbl (f + 1) data mode = .oof) : ∃ b m, deser tbl f b m = .oof := by
  apply Classical.byContradiction
  intro hne
  have hr : NoOof (deser tbl f) := by
    intro b m hbm
    exact hne ⟨b, m, hbm⟩
  exact deserLevel_no_oof tbl (deser tbl f) hr (emptyZero_deser tbl h f) data mode ho

end TonVerif.Proofs.Cost
