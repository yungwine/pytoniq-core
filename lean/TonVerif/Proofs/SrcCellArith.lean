/-
The two descriptor bytes as the source computes them (`Generated/CellArith.lean`: `get_refs_descriptor`,
`get_bits_descriptor`) against the spec's `d1`, `d2` and the hand model's `descriptors`. Shared by C01 and C02.
Generation dependent.
-/
import TonVerif.Generated.CellArith
import TonVerif.Model.Cell
import TonVerif.Spec.Cell
import TonVerif.Proofs.SrcArith
import TonVerif.Proofs.CellSpec

namespace TonVerif.Proofs.SrcCellArith
open TonVerif TonVerif.Model TonVerif.Proofs.SrcArith

set_option linter.unusedSimpArgs false

/-- `get_refs_descriptor` computes d1 = r + 8·exotic + 32·mask (tvm.pdf 3.1.4) -/
theorem refsDescriptor_eq (r : Nat) (exotic : Bool) (mask : Nat) :
    Generated.refsDescriptor_sideOk r exotic mask ∧ Generated.refsDescriptor r exotic mask = Spec.d1 r exotic mask := by
  simp only [Generated.refsDescriptor_sideOk, Generated.refsDescriptor, Spec.d1] <;>
    (cases exotic <;> src_arith)

/-- `get_bits_descriptor` computes d2 = ⌊b/8⌋ + ⌈b/8⌉ (tvm.pdf 3.1.4) -/
theorem bitsDescriptor_eq (b : Nat) : Generated.bitsDescriptor_sideOk b ∧ Generated.bitsDescriptor b = Spec.d2 b := by
  simp only [Generated.bitsDescriptor_sideOk, Generated.bitsDescriptor, Spec.d2]
  src_arith

/-- the model's `descriptors` writes exactly these two numbers, each at the width read from the source -/
theorem descriptors_src (r : Nat) (exotic : Bool) (b mask : Nat) :
    descriptors r exotic b mask =
      (do let d1 ← toBytesBE? Generated.refsDescriptor_width (Generated.refsDescriptor r exotic mask)
          let d2 ← toBytesBE? Generated.bitsDescriptor_width (Generated.bitsDescriptor b)
          pure (d1 ++ d2)) := by
  rw [(refsDescriptor_eq r exotic mask).2, (bitsDescriptor_eq b).2, Proofs.CellSpec.descriptors_spec]
  rfl

end TonVerif.Proofs.SrcCellArith
