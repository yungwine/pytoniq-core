/-
The ITERATION-COUNTING copy of the regenerated emitter (Generated/BocEmitCnt.lean, translator harness/translate/emitcnt.py): erasure and the
per-loop iteration bounds behind `c19_src_serialize_poly`.
-/
import TonVerif.Generated.BocEmitCnt
import TonVerif.Proofs.SrcW
import TonVerif.Proofs.SrcBocAny

set_option linter.unusedSimpArgs false
namespace TonVerif.Proofs.SrcEmitCnt
open TonVerif TonVerif.Py TonVerif.Model TonVerif.Generated.BocEmitSrc TonVerif.Generated.BocEmitCnt
open TonVerif.Proofs.SrcW TonVerif.Proofs.SrcBocEmit TonVerif.Proofs.BocOrder TonVerif.Proofs.SrcOrderAny

theorem serialize_cnt_erase (c : PCell) (idx : Py.KDict PCell Nat) (w : Nat) : (serialize_cnt c idx w).1 = serialize c idx w := by
  unfold serialize_cnt serialize
  simp only [bnd_opt_fst, bnd_w_fst, ite_fst, ret_fst, raise_fst, lift_fst, foldW_fst, whileW_fst]

theorem order_cnt_erase (fuel : Nat) (p : PCell) (d : Py.KDict PCell Unit) : (order_cnt fuel p d).1 = order fuel p d := by
  unfold order_cnt order
  simp only [bnd_opt_fst, bnd_w_fst, ite_fst, ret_fst, raise_fst, lift_fst, foldW_fst, whileW_fst]

theorem to_boc_cnt_erase (fuel : Nat) (p : PCell) (hi hc hcb : Bool) (fl : Nat) :
    (to_boc_cnt fuel p hi hc hcb fl).1 = to_boc fuel p hi hc hcb fl := by
  unfold to_boc_cnt to_boc
  simp only [bnd_opt_fst, bnd_w_fst, ite_fst, ret_fst, raise_fst, lift_fst, foldW_fst, whileW_fst, serialize_cnt_erase, order_cnt_erase]

/-! ## ticks of `serialize` and `order` -/

theorem serialize_covers {p : Nat → Prop} (c : PCell) (idx : Py.KDict PCell Nat) (w : Nat) :
    Covers False p (serialize_cnt c idx w) (fun j => if j = 0 then c.refs.length else 0) fun _ => True := by
  unfold serialize_cnt
  dsimp only
  refine Covers.opt _ fun dsc _ => (Covers.fold_len 0 _ (fun _ _ => True) (fun i s x _ => ?_) _ 0 _ trivial).bind_ret fun _ _ => trivial
  exact Covers.opt _ fun _ _ => Covers.opt _ fun _ _ => Covers.ret trivial

/-- the `while stack:` loop (counter 1) with its push loop (2), followed by a continuation that ticks only counter 3, at most once per
element of `post_order`: every counter ≤ the iteration budget when the whole returns -/
theorem while_then {β : Type} (cond : OState → Bool) (B : OState → W OState) (F : OState → W β) (fuel : Nat) (p : PCell) (d : β)
    (hcond : ∀ s, cond s = false → s.2.1 = [])
    (hB : ∀ s s', cond s = true → (B s).1 = some s' →
      (B s).2 2 + s.2.1.length ≤ s'.2.1.length + 1 ∧ s'.1.length ≤ s.1.length + 1)
    (hBo : ∀ s, Covers False (· ≠ 2) (B s) (fun _ => 0) fun _ => True)
    (hF : ∀ s, Covers False (fun _ => True) (F s) (fun j => if j = 3 then s.1.length else 0) fun _ => True)
    (h : ((whileW? 1 cond B fuel ([], [(p, false)], [])) >>== F).1 = some d) (j : Nat) :
    ((whileW? 1 cond B fuel ([], [(p, false)], [])) >>== F).2 j ≤ if j = 1 ∨ j = 2 ∨ j = 3 then fuel else 0 := by
  rw [bnd_w_fst] at h
  rw [bnd_w_snd]
  cases hW : (whileW? 1 cond B fuel ([], [(p, false)], [])).1 with
  | none => rw [hW] at h; cases h
  | some e =>
    simp only
    obtain ⟨p2, p1, pc⟩ := whileW_potential 1 2 1 (by decide) cond B (fun s => s.2.1.length)
      (fun s s' hc hs => (hB s s' hc hs).1) (fun s => Nat.le_zero.1 ((hBo s).le (by decide))) fuel _ e hW
    have pm := whileW_measure 1 cond B (fun s => s.1.length) (fun s s' hc hs => (hB s s' hc hs).2) fuel _ e hW
    have he := hcond e pc
    simp only [he, List.length_nil, List.length_cons, Nat.one_mul] at p2 pm
    have hf := (hF e).le (j := j) trivial
    by_cases j1 : j = 1
    · subst j1; simp only [if_false, Nat.reduceEqDiff] at hf; simp; omega
    by_cases j2 : j = 2
    · subst j2; simp only [if_false, Nat.reduceEqDiff] at hf; simp; omega
    have hwo : (whileW? 1 cond B fuel ([], [(p, false)], [])).2 j = 0 := by
      exact whileW_other 1 j j1 cond B (fun s => Nat.le_zero.1 ((hBo s).le j2)) fuel _
    by_cases j3 : j = 3
    · subst j3; simp only [if_true] at hf; simp; omega
    · simp only [j3, if_false] at hf; simp [j1, j2, j3]; omega

theorem pop_len {α : Type} (xs r : List α) (x : α) (h : Py.listPop? xs = some (r, x)) : r.length + 1 = xs.length := by
  unfold Py.listPop? at h
  cases hg : xs.getLast? with
  | none => simp [hg] at h
  | some y =>
    simp only [hg, Option.some.injEq, Prod.mk.injEq] at h
    obtain ⟨h1, _⟩ := h
    subst h1
    have : xs ≠ [] := by intro e; subst e; simp at hg
    have hp := List.length_pos_iff.2 this
    simp [List.length_dropLast]; omega

theorem order_ticks (fuel : Nat) (p : PCell) (d0 d : Py.KDict PCell Unit) (h : (order_cnt fuel p d0).1 = some d) (j : Nat) :
    (order_cnt fuel p d0).2 j ≤ if j = 1 ∨ j = 2 ∨ j = 3 then fuel else 0 := by
  unfold order_cnt at h ⊢
  dsimp only at h ⊢
  refine while_then _ _ _ fuel p d ?hcond ?hB ?hBo ?hF h j
  case hcond => intro s hs; simpa using hs
  case hF =>
    intro s
    refine Covers.cast (Covers.bind_ret (Covers.fold_len 3 _ (fun _ _ => True) (fun _ _ _ _ => ?_) s.1.reverse 0 _ trivial) fun _ _ => trivial)
      fun j _ => by rw [List.length_reverse]
    exact Covers.bind_ret (Covers.ite (fun _ => Covers.opt _ fun _ _ => Covers.ret trivial) fun _ => Covers.ret (Q := fun _ => True) trivial)
      fun _ _ => trivial
  case hBo =>
    intro s
    refine Covers.opt _ fun x1 _ => Covers.ite (fun _ => Covers.ret trivial) fun _ => Covers.ite (fun _ => Covers.ret trivial) fun _ => ?_
    exact Covers.cast (Covers.bind_ret (Covers.fold_len 2 _ (fun _ _ => True) (fun _ _ _ _ => Covers.ret trivial) _ 0 _ trivial)
      fun _ _ => trivial) fun j hj => if_neg hj
  case hB =>
    intro s s' hc hs
    simp only [bnd_opt_fst, bnd_w_fst, ite_fst, ret_fst, bnd_opt_snd, bnd_w_snd, ite_snd, ret_snd] at hs ⊢
    cases hp : Py.listPop? s.2.1 with
    | none => simp [hp] at hs
    | some x1 =>
      have hl := pop_len s.2.1 x1.1 x1.2 hp
      simp only [hp, Option.bind_some] at hs ⊢
      split at hs
      · simp only [Option.some.injEq] at hs; subst hs; rename_i h1
        exact ⟨by simp only [h1, if_true]; omega, by simp⟩
      · rename_i h1
        simp only [h1, Bool.false_eq_true, if_false]
        split at hs
        · simp only [Option.some.injEq] at hs; subst hs; rename_i h2
          exact ⟨by simp only [h2, if_true]; omega, by simp⟩
        · rename_i h2
          simp only [h2, Bool.false_eq_true, if_false]
          -- the push loop ticks once per reference and pushes one entry per reference
          have push := Covers.fold_len (e := False) (p := fun _ => True) 2
            (fun (x : List (PCell × Bool)) (ref : PCell) => W.ret (x ++ [(ref, false)])) (fun i x => x.length = x1.1.length + 1 + i)
            (fun i x _ hi => Covers.ret (by simp only [List.length_append, List.length_singleton, hi]; omega))
            x1.2.1.refs 0 (x1.1 ++ [(x1.2.1, true)]) (by simp)
          obtain ⟨x2, hf, hs⟩ := Option.bind_eq_some_iff.1 hs
          have ht := push.le (j := 2) trivial
          have hlen := push.post hf
          simp only [Option.some.injEq] at hs
          subst hs
          simp only [if_true, match_zero, Nat.add_zero] at ht ⊢
          exact ⟨by omega, by simp⟩

/-! ## ticks of `to_boc` -/

theorem to_boc_covers (fuel : Nat) (p : PCell) (nc : NoCollision p) (hi hc hcb : Bool) (fl : Nat) (d : Py.KDict PCell Unit)
    (hd : order fuel p [] = some d) :
    Covers False (fun _ => True) (to_boc_cnt fuel p hi hc hcb fl) (fun j => (if j = 1 ∨ j = 2 ∨ j = 3 then fuel else 0) +
      ((if j = 4 then (Py.dictKeys d).length else 0) + ((Py.dictKeys d).map fun c => if j = 0 then c.refs.length else 0).sum +
       (if j = 5 then (Py.dictKeys d).length else 0))) fun _ => True := by
  obtain ⟨vo, hdd⟩ := src_order_valid_any fuel p d nc hd
  have hkeys : Py.dictKeys (List.foldl (fun (d : Py.KDict PCell Nat) (x : PCell × Nat) => Py.dictSet PCell.key d x.1 x.2) [] (Py.dictKeys d).zipIdx) = Py.dictKeys d := by
    rw [dictcomp_nodup' PCell.key _ (fun _ _ => rfl) (Py.dictKeys d) 0 [] (by simpa using vo.nodup)]
    simp [Py.dictKeys]
  unfold to_boc_cnt
  dsimp only
  -- the traversal returns `d` within its budget; everything behind it is the layout of the keys of `d`
  refine (Covers.of_le fun j _ => order_ticks fuel p [] d (by rw [order_cnt_erase]; exact hd) j).bind fun a ha => ?_
  rw [order_cnt_erase, hd] at ha
  cases ha
  rw [hkeys]
  refine Covers.opt _ fun flags _ => ?_
  -- loop 4 with `serialize` inside appends one length per cell; loop 5 runs over these lengths; nothing ticks behind it
  refine (Covers.fold 4 _ (fun i (s : Bytes × List Nat) => s.2.length ≤ i) (fun (c : PCell) j => if j = 0 then c.refs.length else 0)
    (fun i s c hi => (serialize_covers c _ _).bind_ret fun r _ => by simp; omega) (Py.dictKeys d) 0 _ (by exact Nat.le_refl 0)).bind fun st hst => ?_
  rw [Nat.zero_add] at hst
  refine Covers.opt _ fun b3 _ => Covers.opt _ fun b4 _ => Covers.opt _ fun b5 _ => Covers.opt _ fun b6 _ => ?_
  refine Covers.weaken (Covers.bind (Q1 := fun _ => True) (T1 := fun j => if j = 5 then st.2.length else 0)
    (Covers.ite (fun _ => ?_) fun _ => (Covers.ret trivial).weaken fun _ _ => Nat.zero_le _) fun r _ =>
    Covers.bind_ret (Covers.ite (fun _ => Covers.opt _ fun _ _ => Covers.ret trivial) fun _ => Covers.ret (Q := fun _ => True) trivial)
      fun _ _ => trivial) fun j _ => ?_
  · exact Covers.bind_ret (Covers.fold_len 5 _ (fun _ _ => True) (fun i s l _ => Covers.opt _ fun _ _ => Covers.ret trivial) st.2 0 _ trivial)
      fun _ _ => trivial
  · rw [Nat.add_zero]
    split
    · exact hst
    · exact Nat.le_refl 0

end TonVerif.Proofs.SrcEmitCnt
