/-
Input forms of `Boc.__init__`: hex text and base64 text of a serialised bag of cells
are decoded to the same bytes as the raw `bytes` input.
-/
import TonVerif.Model.BocForms
import TonVerif.Proofs.BocParse
import TonVerif.Proofs.Base64

namespace TonVerif.Proofs.BocForms
open TonVerif TonVerif.Model.BocForms

/-! ### sanity checks of the encoders / decoders against known values -/

example : hexEnc [181, 238] = ['b', '5', 'e', 'e'] := by decide
example : hexEncUpper [181, 238] = ['B', '5', 'E', 'E'] := by decide
example : hexEnc [181, 238, 156, 114] = ['b', '5', 'e', 'e', '9', 'c', '7', '2'] := by decide
example : fromHex [' ', 'b', '5', ' ', 'E', 'E', '\n', '9', 'c', '7', '2', ' '] = some [181, 238, 156, 114] := by decide
example : fromHex ['b', '5', 'e'] = none := by decide
example : fromHex ['b', ' ', '5'] = none := by decide
example : b64Enc (['f', 'o', 'o', 'b', 'a', 'r'].map Char.toNat) = ['Z', 'm', '9', 'v', 'Y', 'm', 'F', 'y'] := by decide
example : b64Enc [102] = ['Z', 'g', '=', '='] := by decide
example : b64Enc [102, 111] = ['Z', 'm', '8', '='] := by decide
example : b64Enc [102, 111, 111] = ['Z', 'm', '9', 'v'] := by decide
example : b64Enc [251, 255, 254] = ['+', '/', '/', '+'] := by decide
example : b64Enc [181, 238, 156, 114, 1, 2, 3] = ['t', 'e', '6', 'c', 'c', 'g', 'E', 'C', 'A', 'w', '=', '='] := by decide
example : b64Dec ['Z', 'm', '9', 'v', '\n', 'Y', 'm', 'F', 'y'] = some [102, 111, 111, 98, 97, 114] := by decide
example : b64Dec ['Z', 'g', '=', '='] = some [102] := by decide
example : b64Dec ['Z', 'g', '='] = none := by decide
example : b64Dec ['Z', 'm', '9', 'v', 'Y'] = none := by decide
example : b64Dec ['Z', 'm', '9', 'v', '=', 'Z', 'm', '9', 'v'] = some [102, 111, 111, 102, 111, 111] := by decide
example : b64Dec ['Z', 'g', '=', '=', 'Z', 'm', '9', 'v'] = some [102] := by decide
example : b64Dec ['Z', 'g', '=', 'a', '='] = some [102, 6] := by decide
example : b64Dec ['Z', '=', 'g', '=', '='] = some [102] := by decide
example : b64Dec ['Z', 'g', '=', '=', 'é'] = none := by decide
example : Bytes.WF [181, 238, 156, 114, 1, 2, 3] := by decide
example : inputBytes (.inr ['t', 'e', '6', 'c', 'c', 'g', 'E', 'C', 'A', 'w', '=', '=']) = some [181, 238, 156, 114, 1, 2, 3] := by decide
example : inputBytes (.inr ['b', '5', 'e', 'e', '9', 'c', '7', '2', '0', '1', '0', '2', '0', '3']) = some [181, 238, 156, 114, 1, 2, 3] := by decide

/-! ### characters -/

theorem hexVal_hexDigit : ∀ n, n < 16 → hexVal? (hexDigit n) = some n := by decide
theorem hexVal_hexDigitUpper : ∀ n, n < 16 → hexVal? (hexDigitUpper n) = some n := by decide
theorem space_hexDigit : ∀ n, n < 16 → isAsciiSpace (hexDigit n) = false := by decide
theorem space_hexDigitUpper : ∀ n, n < 16 → isAsciiSpace (hexDigitUpper n) = false := by decide

/-! ### hex round trip -/

theorem fromHex_nil : fromHex [] = some [] := rfl

/-- ASCII whitespace before a byte pair is skipped. -/
theorem fromHex_space (c : Char) (rest : List Char) (hs : isAsciiSpace c = true) :
    fromHex (c :: rest) = fromHex rest := by
  simp [fromHex, fromHexGo, hs]

theorem fromHex_pair (c d : Char) (x y : Nat) (rest : List Char)
    (hs : isAsciiSpace c = false) (hc : hexVal? c = some x) (hd : hexVal? d = some y) :
    fromHex (c :: d :: rest) = (fromHex rest).map (fun r => (x * 16 + y) :: r) := by
  simp [fromHex, fromHexGo, hs, hc, hd]

/-- a lone digit at the end of the input is an error. -/
theorem fromHex_single (c : Char) (hs : isAsciiSpace c = false) : fromHex [c] = none := by
  cases h : hexVal? c <;> simp [fromHex, fromHexGo, hs, h]

/-- `fromhex` inverts any encoder that writes two digits per byte, whatever the digit characters -/
theorem fromHex_digits (dig : Nat → Char) (hv : ∀ n, n < 16 → hexVal? (dig n) = some n)
    (hs : ∀ n, n < 16 → isAsciiSpace (dig n) = false) (b : Bytes) (h : Bytes.WF b) :
    fromHex (b.flatMap (fun a => [dig (a / 16), dig (a % 16)])) = some b := by
  induction b with
  | nil => rfl
  | cons a rest ih =>
    have ha : a < 256 := h a (by simp)
    rw [List.flatMap_cons, List.cons_append, List.cons_append, List.nil_append,
      fromHex_pair _ _ (a / 16) (a % 16) _ (hs _ (by omega)) (hv _ (by omega)) (hv _ (by omega)),
      ih (fun x hx => h x (by simp [hx]))]
    simp only [Option.map_some]
    congr 2
    omega

theorem fromHex_hexEnc (b : Bytes) (h : Bytes.WF b) : fromHex (hexEnc b) = some b :=
  fromHex_digits hexDigit hexVal_hexDigit space_hexDigit b h

theorem fromHex_hexEncUpper (b : Bytes) (h : Bytes.WF b) : fromHex (hexEncUpper b) = some b :=
  fromHex_digits hexDigitUpper hexVal_hexDigitUpper space_hexDigitUpper b h

/-! ### base64: the functions here are those of Model/Base64.lean (standard alphabet) written differently, so their
facts are those of Proofs/Base64.lean -/

theorem b64Char_eq (n : Nat) : b64Char n = Model.Base64.encChar false n := rfl

theorem b64Char_ne_pad (n : Nat) (h : n < 64) : b64Char n ≠ '=' := (Base64.decVal_encChar_std n h).2

theorem b64Val_eq (c : Char) : b64Val? c = Model.Base64.decVal? c := by
  simp only [b64Val?, Model.Base64.decVal?, Char.le_def, Char.ext_iff, ← UInt32.toNat_inj, UInt32.le_iff_toNat_le]
  rfl

theorem b64Enc_eq : ∀ bs : Bytes, b64Enc bs = Model.Base64.encode false bs
  | [] | [_] | [_, _] => rfl
  | _ :: _ :: _ :: rest => by rw [b64Enc, Model.Base64.encode, b64Enc_eq rest]; rfl

theorem map_map_cons (acc : Bytes) (x : Nat) (o : Option Bytes) :
    (o.map (x :: ·)).map (acc.reverse ++ ·) = o.map ((x :: acc).reverse ++ ·) := by
  cases o <;> simp

/-- the decoder that passes an accumulator is the one that builds the list on the way back, from every state. -/
theorem decGo_eq_b64Go : ∀ (s : List Char) (q l p : Nat) (acc : Bytes),
    Model.Base64.decGo s q l p acc = (b64Go s q l p).map (acc.reverse ++ ·)
  | [], q, _, _, acc => by
    rw [Model.Base64.decGo, b64Go]; split <;> simp
  | c :: s, q, l, p, acc => by
    have ih := decGo_eq_b64Go s
    rw [Model.Base64.decGo, b64Go, ← b64Val_eq]
    by_cases hc : c = '='
    · rw [if_pos hc, if_pos hc]
      by_cases h2 : 2 ≤ q
      · by_cases h4 : 4 ≤ q + (p + 1)
        · rw [if_pos ⟨h2, h4⟩, if_pos h2, if_pos h4]; simp
        · rw [if_neg (fun h => h4 h.2), if_pos h2, if_pos h2, if_neg h4, ih]
      · rw [if_neg (fun h => h2 h.1), if_neg h2, if_neg h2, ih]
    · rw [if_neg hc, if_neg hc]
      cases b64Val? c with
      | none => exact ih ..
      | some v => simp only [ih, apply_ite (Option.map (acc.reverse ++ ·)), map_map_cons]

theorem b64Dec_eq (s : List Char) : b64Dec s = Model.Base64.decode s := by
  simp only [b64Dec, Model.Base64.decode, decGo_eq_b64Go, List.all_eq_not_any_not, isAscii, ← Nat.not_lt, decide_not]
  cases s.any _ <;> simp

theorem b64Dec_b64Enc (b : Bytes) (h : Bytes.WF b) : b64Dec (b64Enc b) = some b := by
  rw [b64Dec_eq, b64Enc_eq, Base64.decode_encode b h]

/-! ### the magic bytes fix the first five base64 characters -/

/-- the first base64 character only depends on the first byte. -/
theorem b64Enc_cons (a : Nat) (rest : Bytes) :
    ∃ t, b64Enc (a :: rest) = b64Char (a / 4) :: t := by
  match rest with
  | [] => exact ⟨_, by rw [b64Enc]⟩
  | [b] => exact ⟨_, by rw [b64Enc]⟩
  | b :: c :: r => exact ⟨_, by rw [b64Enc]⟩

/-- four leading bytes fix the first five base64 characters -/
theorem b64Enc_four (a b c d : Nat) (rest : Bytes) :
    ∃ t, b64Enc (a :: b :: c :: d :: rest) = b64Char (a / 4) :: b64Char (a % 4 * 16 + b / 16) ::
      b64Char (b % 16 * 4 + c / 64) :: b64Char (c % 64) :: b64Char (d / 4) :: t := by
  obtain ⟨t, ht⟩ := b64Enc_cons d rest
  exact ⟨t, by rw [b64Enc, ht]⟩

theorem b64Enc_magicBoc (rest : Bytes) :
    ∃ t, b64Enc ([181, 238, 156, 114] ++ rest) = 't' :: 'e' :: '6' :: 'c' :: 'c' :: t :=
  b64Enc_four 181 238 156 114 rest

theorem b64Enc_magicLeanBoc (rest : Bytes) :
    ∃ t, b64Enc ([104, 255, 101, 243] ++ rest) = 'a' :: 'P' :: '9' :: 'l' :: '8' :: t :=
  b64Enc_four 104 255 101 243 rest

theorem b64Enc_magicLeanBocCrc (rest : Bytes) :
    ∃ t, b64Enc ([172, 195, 167, 40] ++ rest) = 'r' :: 'M' :: 'O' :: 'n' :: 'K' :: t :=
  b64Enc_four 172 195 167 40 rest

theorem b64_magic_prefix (rest : Bytes) :
    (b64Enc ([181, 238, 156, 114] ++ rest)).take 5 = ['t', 'e', '6', 'c', 'c'] := by
  obtain ⟨t, ht⟩ := b64Enc_magicBoc rest
  rw [ht]; rfl

theorem b64_magic_prefix_leanBoc (rest : Bytes) :
    (b64Enc ([104, 255, 101, 243] ++ rest)).take 5 = ['a', 'P', '9', 'l', '8'] := by
  obtain ⟨t, ht⟩ := b64Enc_magicLeanBoc rest
  rw [ht]; rfl

theorem b64_magic_prefix_leanBocCrc (rest : Bytes) :
    (b64Enc ([172, 195, 167, 40] ++ rest)).take 5 = ['r', 'M', 'O', 'n', 'K'] := by
  obtain ⟨t, ht⟩ := b64Enc_magicLeanBocCrc rest
  rw [ht]; rfl

/-! ### base64 text of a bag of cells is never accepted by `fromhex` -/

/-- first character is neither whitespace nor a hex digit. -/
theorem fromHex_none_of_nonhex_head (c : Char) (s : List Char)
    (hs : isAsciiSpace c = false) (hh : hexVal? c = none) : fromHex (c :: s) = none := by
  simp [fromHex, fromHexGo, hs, hh]

/-- first character is not whitespace and the second one is not a hex digit
(whitespace is not allowed inside a byte pair either). -/
theorem fromHex_none_of_nonhex_second (c d : Char) (s : List Char)
    (hs : isAsciiSpace c = false) (hd : hexVal? d = none) : fromHex (c :: d :: s) = none := by
  cases h : hexVal? c <;> simp [fromHex, fromHexGo, hs, hd, h]

/-- a character that is neither whitespace nor a hex digit within the first byte pair. -/
theorem fromHex_none_of_nonhex_first_pair (c d : Char) (s : List Char)
    (hs : isAsciiSpace c = false) (h : hexVal? c = none ∨ hexVal? d = none) :
    fromHex (c :: d :: s) = none := by
  rcases h with h | h
  · exact fromHex_none_of_nonhex_head c _ hs h
  · exact fromHex_none_of_nonhex_second c d s hs h

theorem fromHex_b64_magic (rest : Bytes) :
    fromHex (b64Enc ([181, 238, 156, 114] ++ rest)) = none := by
  obtain ⟨t, ht⟩ := b64Enc_magicBoc rest
  rw [ht]
  exact fromHex_none_of_nonhex_head 't' _ (by decide) (by decide)

theorem fromHex_b64_magic_leanBoc (rest : Bytes) :
    fromHex (b64Enc ([104, 255, 101, 243] ++ rest)) = none := by
  obtain ⟨t, ht⟩ := b64Enc_magicLeanBoc rest
  rw [ht]
  exact fromHex_none_of_nonhex_second 'a' 'P' _ (by decide) (by decide)

theorem fromHex_b64_magic_leanBocCrc (rest : Bytes) :
    fromHex (b64Enc ([172, 195, 167, 40] ++ rest)) = none := by
  obtain ⟨t, ht⟩ := b64Enc_magicLeanBocCrc rest
  rw [ht]
  exact fromHex_none_of_nonhex_head 'r' _ (by decide) (by decide)

/-! ### all three input forms give the same bytes -/

theorem inputBytes_hex (b : Bytes) (h : Bytes.WF b) :
    inputBytes (.inr (hexEnc b)) = inputBytes (.inl b) := by
  simp [inputBytes, fromHex_hexEnc b h]

theorem inputBytes_hexUpper (b : Bytes) (h : Bytes.WF b) :
    inputBytes (.inr (hexEncUpper b)) = inputBytes (.inl b) := by
  simp [inputBytes, fromHex_hexEncUpper b h]

/-- base64 text is decoded correctly whenever `fromhex` rejects it. -/
theorem inputBytes_b64_of_fromHex_none (b : Bytes) (h : Bytes.WF b)
    (hn : fromHex (b64Enc b) = none) :
    inputBytes (.inr (b64Enc b)) = inputBytes (.inl b) := by
  simp [inputBytes, hn, b64Dec_b64Enc b h]

theorem inputBytes_b64 (rest : Bytes) (h : Bytes.WF rest) :
    inputBytes (.inr (b64Enc ([181, 238, 156, 114] ++ rest)))
      = inputBytes (.inl ([181, 238, 156, 114] ++ rest)) :=
  inputBytes_b64_of_fromHex_none _ (BocParse.wf_append (by decide) h) (fromHex_b64_magic rest)

theorem inputBytes_b64_magic (magic : Bytes)
    (hm : magic ∈ [[181, 238, 156, 114], [104, 255, 101, 243], [172, 195, 167, 40]])
    (rest : Bytes) (h : Bytes.WF rest) :
    inputBytes (.inr (b64Enc (magic ++ rest))) = inputBytes (.inl (magic ++ rest)) := by
  simp only [List.mem_cons, List.not_mem_nil, or_false] at hm
  rcases hm with rfl | rfl | rfl
  · exact inputBytes_b64 rest h
  · exact inputBytes_b64_of_fromHex_none _ (BocParse.wf_append (by decide) h) (fromHex_b64_magic_leanBoc rest)
  · exact inputBytes_b64_of_fromHex_none _ (BocParse.wf_append (by decide) h) (fromHex_b64_magic_leanBocCrc rest)

theorem inputBytes_b64_magic_eq (magic : Bytes)
    (hm : magic ∈ [[181, 238, 156, 114], [104, 255, 101, 243], [172, 195, 167, 40]])
    (rest : Bytes) (h : Bytes.WF rest) :
    inputBytes (.inr (b64Enc (magic ++ rest))) = some (magic ++ rest) :=
  inputBytes_b64_magic magic hm rest h

end TonVerif.Proofs.BocForms
