/-
C16: the hand model `Rd.loadAddress` of `Slice.load_address()` (Model/TlbRdTx.lean - what the regenerated TL-B parsers of
tlb/transaction.py call for an address) equals the REGENERATED `load_address` of boc/slice.py (Generated/SliceOps.lean) as a
value function on the remaining bits: the same decision to raise, the same Python value (`None` / `ExternalAddress` / `Address`
with its `Anycast`), the same bits left.  Route: regenerated = `SOp.loadAddress` (Proofs/SrcSlice.lean `src_load_address_eq`, all
states), then the two hand models are compared case by case (`rd_eq_sop`).
-/
import TonVerif.Model.TlbRdTx
import TonVerif.Proofs.SrcSlice
import TonVerif.Proofs.Hashmap
import TonVerif.Proofs.Pad

namespace TonVerif.Proofs.SrcLoadAddress
open TonVerif TonVerif.Model TonVerif.Tlb TonVerif.Proofs.Slice TonVerif.Proofs.SrcSlice
set_option linter.unusedSimpArgs false
set_option linter.unusedVariables false

/-- the Python value `load_address` returns, as the TL-B readers see it (attributes of `Address` / `ExternalAddress` / `Anycast`;
`hash_part` as its bits) -/
def valOfAddr : Addr → Val
  | .none => .unit
  | .ext len v => Rd.obj "ExternalAddress" [("external_address", .int v), ("len", .int len)]
  | .std ac wc h => Rd.obj "Address" [("wc", .int wc), ("hash_part", .bits (bytesToBits h)),
      ("anycast", match ac with
        | none => .unit
        | some (d, p) => Rd.obj "Anycast" [("depth", .int d), ("rewrite_pfx", .int p)])]

/-- a model result read as a result of the TL-B reader monad: the value, the remaining bits, the (untouched) references -/
def asRd {R : Type} (refs : List Tlb.Cell) (r : Slice R × Option Addr) : Rd.R :=
  match r.2 with
  | some a => some (valOfAddr a, ⟨r.1.bits, refs⟩)
  | none => none

theorem ba2intS_sint (b : Bits) (h : b ≠ []) : SOp.ba2intS b = some (Rd.sintOfBits b) := by
  cases b with
  | nil => exact absurd rfl h
  | cons sign rest =>
    simp only [SOp.ba2intS, Rd.sintOfBits, Option.some.injEq, List.length_cons, Nat.add_sub_cancel]
    have hc := TonVerif.Proofs.Hashmap.natOfBits_cons sign rest
    have hlt := TonVerif.Proofs.Hashmap.natOfBits_lt rest
    have hp : (2 : Nat) ^ (rest.length + 1) = 2 * 2 ^ rest.length := by rw [Nat.pow_succ]; omega
    cases sign with
    | true =>
      simp only [if_true] at hc ⊢
      rw [if_neg (by omega)]
    | false =>
      simp only [Bool.false_eq_true, if_false] at hc ⊢
      rw [if_pos (by omega)]

variable {R : Type} {α : Type}

/-! ### the primitives of both models in closed form -/

theorem bind_loadUint (n : Nat) (bits : Bits) (mrefs : List R) (g : Int → SOp R α) :
    SOp.bind (SOp.loadUint n) g ⟨bits, mrefs⟩ =
      if n = 0 ∨ bits.length < n then (⟨bits, mrefs⟩, none) else g (natOfBits (bits.take n) : Int) ⟨bits.drop n, mrefs⟩ := by
  by_cases h : n = 0 ∨ bits.length < n <;> simp [SOp.bind, loadUint_eq, h]

theorem bind_loadInt (n : Nat) (bits : Bits) (mrefs : List R) (g : Int → SOp R α) :
    SOp.bind (SOp.loadInt n) g ⟨bits, mrefs⟩ =
      if n = 0 ∨ bits.length < n then (⟨bits, mrefs⟩, none) else g (Rd.sintOfBits (bits.take n)) ⟨bits.drop n, mrefs⟩ := by
  by_cases h : n = 0 ∨ bits.length < n
  · simp [SOp.bind, loadInt_eq, h]
  · have h1 : n ≠ 0 := fun e => h (Or.inl e)
    have h2 : ¬ bits.length < n := fun e => h (Or.inr e)
    have hne : bits.take n ≠ [] := by
      intro e; have := congrArg List.length e
      rw [List.length_take, List.length_nil] at this; omega
    simp [SOp.bind, loadInt_eq, h, ba2intS_sint _ hne]

theorem bind_loadBytes (n : Nat) (bits : Bits) (mrefs : List R) (g : Bytes → SOp R α) :
    SOp.bind (SOp.loadBytes n) g ⟨bits, mrefs⟩ =
      if bits.length < n * 8 then (⟨bits, mrefs⟩, none) else g (bitsToBytes (bits.take (n * 8))) ⟨bits.drop (n * 8), mrefs⟩ := by
  by_cases h : bits.length < n * 8 <;> simp [SOp.bind, loadBytes_eq, h]

theorem bind_loadBit (bits : Bits) (mrefs : List R) (g : Bool → SOp R α) :
    SOp.bind SOp.loadBit g ⟨bits, mrefs⟩ =
      match bits with
      | [] => (⟨[], mrefs⟩, none)
      | b :: rest => g b ⟨rest, mrefs⟩ := by
  cases bits <;> rfl

theorem rd_loadUint (n : Nat) (bits : Bits) (refs : List Tlb.Cell) :
    Rd.loadUint n ⟨bits, refs⟩ =
      if n = 0 ∨ bits.length < n then none else some (.int (natOfBits (bits.take n)), ⟨bits.drop n, refs⟩) := by
  unfold Rd.loadUint Rd.takeBits
  by_cases h0 : n = 0
  · simp [h0]
  · by_cases h : bits.length < n <;> simp [h0, h]

theorem rd_loadInt (n : Nat) (bits : Bits) (refs : List Tlb.Cell) :
    Rd.loadInt n ⟨bits, refs⟩ =
      if n = 0 ∨ bits.length < n then none else some (.int (Rd.sintOfBits (bits.take n)), ⟨bits.drop n, refs⟩) := by
  unfold Rd.loadInt Rd.takeBits
  by_cases h0 : n = 0
  · simp [h0]
  · by_cases h : bits.length < n <;> simp [h0, h]

theorem rd_loadBytes (k : Nat) (bits : Bits) (refs : List Tlb.Cell) :
    Rd.loadBytes k ⟨bits, refs⟩ =
      if bits.length < 8 * k then none else some (.bits (bits.take (8 * k)), ⟨bits.drop (8 * k), refs⟩) := by
  unfold Rd.loadBytes Rd.loadBits Rd.takeBits
  by_cases h : bits.length < 8 * k <;> simp [h]

theorem asRd_none (refs : List Tlb.Cell) (s : Slice R) : asRd refs (s, none) = none := rfl
theorem asRd_some (refs : List Tlb.Cell) (s : Slice R) (a : Addr) : asRd refs (s, some a) = some (valOfAddr a, ⟨s.bits, refs⟩) := rfl

theorem asRd_of_none (refs : List Tlb.Cell) (r : Slice R × Option Addr) (h : r.2 = none) : asRd refs r = none := by
  unfold asRd; rw [h]

theorem bind_fail_snd {β : Type} (f : SOp R β) (s : Slice R) : ((f.bind fun _ => (SOp.fail : SOp R α)) s).2 = none := by
  simp only [SOp.bind]
  rcases f s with ⟨s1, _ | a⟩ <;> rfl

/-- the Python value of the `anycast` attribute -/
def valOfAnycast : Option (Nat × Int) → Val
  | none => .unit
  | some (d, p) => Rd.obj "Anycast" [("depth", .int d), ("rewrite_pfx", .int p)]

/-- `wc:int8`, `hash_part:bits256` and the `Address` object, after the anycast prefix -/
theorem std_tail (ac : Option (Nat × Int)) (b : Bits) (refs : List Tlb.Cell) (mrefs : List R) :
    (match Rd.loadInt 8 ⟨b, refs⟩ with
      | some (wc, s3) =>
        match Rd.loadBytes 32 s3 with
        | some (h, s4) => some (Rd.obj "Address" [("wc", wc), ("hash_part", h), ("anycast", valOfAnycast ac)], s4)
        | none => none
      | none => none) =
    asRd refs (((SOp.loadInt 8).bind fun wc => (SOp.loadBytes 32).bind fun h => SOp.pure (Addr.std ac wc h)) ⟨b, mrefs⟩) := by
  rw [bind_loadInt, rd_loadInt]
  by_cases h8 : (8 = 0 ∨ b.length < 8)
  · rw [if_pos h8, if_pos h8]; rfl
  · rw [if_neg h8, if_neg h8]
    generalize Rd.sintOfBits (b.take 8) = wc
    generalize b.drop 8 = b3
    simp only [bind_loadBytes, rd_loadBytes]
    by_cases h256 : b3.length < 256
    · simp [h256, asRd]
    · have hl : (b3.take 256).length = 8 * 32 := by rw [List.length_take]; omega
      have hb := TonVerif.Proofs.Pad.bytesToBits_bitsToBytes 32 _ hl
      cases ac with
      | none => simp [h256, asRd, SOp.pure, valOfAddr, valOfAnycast, hb]
      | some p => obtain ⟨d, px⟩ := p; simp [h256, asRd, SOp.pure, valOfAddr, valOfAnycast, hb]

theorem tag_cases (b : Bits) (h : b.length = 2) : natOfBits b = 0 ∨ natOfBits b = 1 ∨ natOfBits b = 2 ∨ natOfBits b = 3 := by
  have := TonVerif.Proofs.Hashmap.natOfBits_lt b
  rw [h] at this
  omega

/-- the two hand models agree: `Rd.loadAddress` (TL-B reader monad) is `SOp.loadAddress` (C06's model) read through `asRd` -/
theorem rd_eq_sop (bits : Bits) (refs : List Tlb.Cell) (mrefs : List R) :
    Rd.loadAddress ⟨bits, refs⟩ = asRd refs (SOp.loadAddress (⟨bits, mrefs⟩ : Slice R)) := by
  unfold Rd.loadAddress SOp.loadAddress
  simp only [bind_eq, pure_eq]
  rw [bind_loadUint, rd_loadUint]
  by_cases h2 : (2 = 0 ∨ bits.length < 2)
  · rw [if_pos h2, if_pos h2]; rfl
  · rw [if_neg h2, if_neg h2]
    have hl2 : (bits.take 2).length = 2 := by rw [List.length_take]; omega
    have htag := tag_cases _ hl2
    generalize natOfBits (bits.take 2) = tag at htag ⊢
    generalize bits.drop 2 = b1
    rcases htag with rfl | rfl | rfl | rfl
    · simp [asRd, SOp.pure, valOfAddr]
    · -- addr_extern
      simp only [Nat.cast_one, one_ne_zero, if_false, if_true]
      rw [bind_loadUint, rd_loadUint]
      by_cases h9 : (9 = 0 ∨ b1.length < 9)
      · rw [if_pos h9, if_pos h9]; rfl
      · rw [if_neg h9, if_neg h9]
        generalize natOfBits (b1.take 9) = len
        generalize b1.drop 9 = b2
        simp only [Rd.natOfVal, Int.toNat_natCast]
        by_cases hl0 : len = 0
        · subst hl0; simp [asRd, SOp.pure, valOfAddr]
        · have hl0' : ((len : Nat) : Int) ≠ 0 := by omega
          simp only [hl0, hl0', if_false, bind_loadUint, rd_loadUint, false_or]
          by_cases hv : b2.length < len <;> simp [hv, asRd, SOp.pure, valOfAddr]
    · -- addr_std
      simp only [Nat.cast_ofNat, OfNat.ofNat_ne_zero, OfNat.ofNat_ne_one, if_false, if_true]
      rw [bind_loadBit]
      unfold Rd.loadAnycast Rd.loadBool
      cases b1 with
      | nil => rfl
      | cons any r =>
        cases any with
        | false =>
          simp only [Bool.false_eq_true, if_false]
          exact std_tail none r refs mrefs
        | true =>
          simp only [if_true]
          rw [SrcSOp.sop_bind_assoc, bind_loadUint, rd_loadUint]
          by_cases h5 : (5 = 0 ∨ r.length < 5)
          · rw [if_pos h5, if_pos h5]; rfl
          · rw [if_neg h5, if_neg h5]
            generalize natOfBits (r.take 5) = depth
            generalize r.drop 5 = r2
            simp only [Rd.natOfVal, Int.toNat_natCast]
            by_cases hd : depth < 1
            · have hd' : ((depth : Nat) : Int) < 1 := by omega
              simp only [hd, hd', if_true]
              exact (asRd_of_none refs _ (by simp [SOp.bind, SOp.fail])).symm
            · have hd' : ¬ ((depth : Nat) : Int) < 1 := by omega
              simp only [hd, hd', if_false, SrcSOp.sop_bind_assoc, bind_loadUint, rd_loadUint, Int.toNat_natCast]
              by_cases hp : (depth = 0 ∨ r2.length < depth)
              · simp only [hp, if_true]; rfl
              · simp only [hp, if_false, SrcSOp.sop_pure_bind]
                exact std_tail (some (depth, _)) _ refs mrefs
    · -- addr_var: the anycast prefix is read, then the code raises
      refine (asRd_of_none refs _ ?_).symm
      simp only [show ((3 : Nat) : Int) ≠ 0 by omega, show ((3 : Nat) : Int) ≠ 1 by omega, show ((3 : Nat) : Int) ≠ 2 by omega,
        if_false]
      rw [bind_loadBit]
      cases b1 with
      | nil => rfl
      | cons any r => exact bind_fail_snd _ _

/-- the Python value of what the REGENERATED `load_address` returns (`Py.AddrR`: `None` / `ExternalAddress` / `Address`) -/
def valOfAddrR (a : Py.AddrR) : Val := valOfAddr (addrM a)

/-- `Rd.loadAddress` on the remaining bits / references of a slice IS the regenerated `Slice.load_address` on that slice: it
raises exactly when the method raises, otherwise returns the method's value and the method's remaining bits; the references are
not touched. -/
theorem rd_loadAddress_src (st : Py.SliceSt Tlb.Cell) :
    Rd.loadAddress ⟨st.bits, st.refs.drop st.ref_offset⟩ =
      match Generated.SliceOps.load_address st with
      | (st', some a) => some (valOfAddrR a, ⟨st'.bits, st.refs.drop st.ref_offset⟩)
      | (_, none) => none := by
  rw [rd_eq_sop st.bits (st.refs.drop st.ref_offset) (st.refs.drop st.ref_offset)]
  have h := src_load_address_eq st
  rw [show view st = ⟨st.bits, st.refs.drop st.ref_offset⟩ from rfl] at h
  rw [← h]
  unfold asRd viewR valOfAddrR
  rcases Generated.SliceOps.load_address st with ⟨st', _ | a⟩ <;> rfl

end TonVerif.Proofs.SrcLoadAddress
