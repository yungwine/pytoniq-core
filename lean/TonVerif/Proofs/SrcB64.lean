/-
Base64 decoding (Model/Base64.lean) yields byte values, so `decoded[0] < 256` (needed by `c13_src_model_b64`).  Kept apart from Proofs/SrcArith2.lean because that file imports the builder model, whose `Model.Addr`
would clash with `Model.Address.Addr` in Properties/C13.lean.
-/
import TonVerif.Model.Base64

namespace TonVerif.Proofs.SrcB64
open TonVerif TonVerif.Model.Base64

theorem decVal_lt (c : Char) (v : Nat) (h : decVal? c = some v) : v < 64 := by
  unfold decVal? at h
  simp only at h
  repeat' split at h
  all_goals first | (cases h; omega) | (cases h)

theorem decGo_wf : ∀ (s : List Char) (quad left pads : Nat) (acc out : Bytes),
    Bytes.WF acc → quad ≤ 3 → (quad = 1 → left < 64) → (quad = 2 → left < 16) → (quad = 3 → left < 4) →
    decGo s quad left pads acc = some out → Bytes.WF out := by
  intro s
  induction s with
  | nil =>
    intro quad left pads acc out hacc _ _ _ _ h
    simp only [decGo] at h
    split at h
    · cases h; intro b hb; exact hacc b (by simpa using hb)
    · cases h
  | cons c rest ih =>
    intro quad left pads acc out hacc hq h1 h2 h3 h
    simp only [decGo] at h
    split at h
    · split at h
      · cases h; intro b hb; exact hacc b (by simpa using hb)
      · exact ih _ _ _ _ _ hacc hq h1 h2 h3 h
    · split at h
      · exact ih _ _ _ _ _ hacc hq h1 h2 h3 h
      · rename_i v hv
        have hv64 := decVal_lt c v hv
        split at h
        · exact ih _ _ _ _ _ hacc (by omega) (fun _ => hv64) (by omega) (by omega) h
        · split at h
          · have := h1 (by assumption)
            exact ih _ _ _ _ _ (List.forall_mem_cons.mpr ⟨by omega, hacc⟩) (by omega) (by omega) (fun _ => by omega)
              (by omega) h
          · split at h
            · have := h2 (by assumption)
              exact ih _ _ _ _ _ (List.forall_mem_cons.mpr ⟨by omega, hacc⟩) (by omega) (by omega) (by omega)
                (fun _ => by omega) h
            · have := h3 (by omega)
              exact ih _ _ _ _ _ (List.forall_mem_cons.mpr ⟨by omega, hacc⟩) (by omega) (by omega) (by omega)
                (by omega) h

theorem decodeUrlsafe_wf (s : List Char) (out : Bytes) (h : decodeUrlsafe s = some out) : Bytes.WF out := by
  unfold decodeUrlsafe at h
  split at h
  · cases h
  · exact decGo_wf _ 0 0 0 [] out (by intro b hb; cases hb) (by omega) (by omega) (by omega) (by omega) h

end TonVerif.Proofs.SrcB64
