/-
Helper lemmas and the HYPOTHESES (algebraic laws of the primitives) for C20.
Nothing here is an axiom: the laws are structures of propositions that the property theorems take as
arguments, and `Properties/C20.lean` exhibits toy primitives satisfying all of them.
-/
import TonVerif.Model.Adnl

namespace TonVerif.Proofs.Adnl
open TonVerif TonVerif.Model.Adnl

/-- what the channel theorems assume about X25519 / the Ed25519→Curve25519 maps / AES-CTR / SHA-256. -/
structure ChannelLaws {W : Type} (P : Prims W) : Prop where
  /-- Diffie–Hellman: `scalar_mult(a, pub(b)) = scalar_mult(b, pub(a))`. -/
  dh_comm : ∀ a b, P.dh a (P.xPub b) = P.dh b (P.xPub a)
  /-- converting an Ed25519 public key to Curve25519 gives the public key of the converted private key
  (the peer is known by its Ed25519 public key only). -/
  conv : ∀ seed, P.edToXPub (P.edPub seed) = P.xPub (P.edToXPriv seed)
  /-- CTR mode with the same key and initial counter is an involution … -/
  ctr_invol : ∀ k iv m, P.ctr k iv (P.ctr k iv m) = m
  /-- … that preserves length. -/
  ctr_len : ∀ k iv m, (P.ctr k iv m).length = m.length
  /-- SHA-256 digests have 32 bytes. -/
  H_len : ∀ x, (P.H x).length = 32
  /-- X25519 shared secrets have 32 bytes. -/
  dh_len : ∀ a b, (P.dh a b).length = 32

/-- what the signing theorem assumes about libsodium's `crypto_sign_seed_keypair` / `crypto_sign` /
verification: the signed message is a 64-byte signature followed by the message, and that signature
verifies under the public half of the key pair (CORRECTNESS of Ed25519; unforgeability is not assumed and
no rejection statement is proved). -/
structure SignLaw {W : Type} (P : Prims W) : Prop where
  sign_ok : ∀ seed m, ∃ sig, sig.length = 64 ∧ P.cryptoSign m (P.keypair seed).2 = sig ++ m ∧
    P.verify (P.keypair seed).1 m sig = true
  /-- `SigningKey(seed).verify_key` is the public half of `crypto_sign_seed_keypair(seed)`. -/
  pub_ok : ∀ seed, P.edPub seed = (P.keypair seed).1

/-! ## CTR mode as "xor with a key stream": the involution law follows -/

def xorBytes (m s : Bytes) : Bytes := List.zipWith (· ^^^ ·) m s

theorem xorBytes_length (m s : Bytes) (h : m.length ≤ s.length) : (xorBytes m s).length = m.length := by
  simp [xorBytes]; omega

theorem xorBytes_invol : ∀ (m s : Bytes), m.length ≤ s.length → xorBytes (xorBytes m s) s = m
  | [], _, _ => by simp [xorBytes]
  | _ :: _, [], h => by simp at h
  | a :: as, b :: bs, h => by
    have ih := xorBytes_invol as bs (by simpa using h)
    unfold xorBytes at ih ⊢
    simp only [List.zipWith_cons_cons, ih, Nat.xor_assoc, Nat.xor_self, Nat.xor_zero]

/-- the DEFINITION of counter mode, as a weaker-looking hypothesis: the output is the input xor the first
`len` bytes of a key stream determined by key and initial counter. -/
def CtrIsStream {W : Type} (P : Prims W) : Prop :=
  ∃ ks : Bytes → Bytes → Nat → Bytes, (∀ k iv n, (ks k iv n).length = n) ∧
    ∀ k iv m, P.ctr k iv m = xorBytes m (ks k iv m.length)

theorem ctr_laws_of_stream {W : Type} (P : Prims W) (h : CtrIsStream P) :
    (∀ k iv m, P.ctr k iv (P.ctr k iv m) = m) ∧ (∀ k iv m, (P.ctr k iv m).length = m.length) := by
  obtain ⟨ks, hl, hc⟩ := h
  have hlen : ∀ k iv m, (P.ctr k iv m).length = m.length := fun k iv m => by
    rw [hc]; exact xorBytes_length _ _ (by rw [hl]; exact Nat.le_refl _)
  refine ⟨fun k iv m => ?_, hlen⟩
  rw [hc k iv (P.ctr k iv m), hlen, hc k iv m]
  exact xorBytes_invol _ _ (by rw [hl]; exact Nat.le_refl _)

/-- `ChannelLaws` from DH commutativity, the conversion law, digest lengths and "CTR is a stream cipher". -/
theorem channelLaws_of_stream {W : Type} (P : Prims W)
    (dh_comm : ∀ a b, P.dh a (P.xPub b) = P.dh b (P.xPub a))
    (conv : ∀ seed, P.edToXPub (P.edPub seed) = P.xPub (P.edToXPriv seed))
    (H_len : ∀ x, (P.H x).length = 32) (dh_len : ∀ a b, (P.dh a b).length = 32)
    (hs : CtrIsStream P) : ChannelLaws P :=
  { dh_comm := dh_comm, conv := conv, ctr_invol := (ctr_laws_of_stream P hs).1,
    ctr_len := (ctr_laws_of_stream P hs).2, H_len := H_len, dh_len := dh_len }

/-! ## bytes comparison -/

theorem bytesLt_asymm : ∀ (a b : Bytes), bytesLt a b = true → bytesLt b a = false
  | [], [], h => by simp [bytesLt] at h
  | [], _ :: _, _ => by simp [bytesLt]
  | _ :: _, [], h => by simp [bytesLt] at h
  | x :: xs, y :: ys, h => by
    unfold bytesLt at h ⊢
    by_cases h1 : x < y
    · have : ¬ y < x := by omega
      simp [this, h1]
    · by_cases h2 : y < x
      · simp [h1, h2] at h
      · simp only [h1, h2, if_false] at h ⊢
        exact bytesLt_asymm xs ys h

theorem bytesLt_irrefl : ∀ a : Bytes, bytesLt a a = false
  | [] => by simp [bytesLt]
  | x :: xs => by
    unfold bytesLt
    simp [bytesLt_irrefl xs]

/-- neither smaller nor greater means equal: the `else` branch of `AdnlChannel.__init__` is exactly `local_id == peer_id`. -/
theorem bytesLt_total : ∀ (a b : Bytes), bytesLt a b = false → bytesLt b a = false → a = b
  | [], [], _, _ => rfl
  | [], _ :: _, h, _ => by simp [bytesLt] at h
  | _ :: _, [], _, h => by simp [bytesLt] at h
  | x :: xs, y :: ys, h1, h2 => by
    unfold bytesLt at h1 h2
    by_cases c1 : x < y
    · simp [c1] at h1
    · by_cases c2 : y < x
      · simp [c2] at h2
      · simp only [c1, c2, if_false] at h1 h2
        have hxy : x = y := by omega
        rw [hxy, bytesLt_total xs ys h1 h2]

/-! ## cipher parameters -/

theorem slice_length (b : Bytes) (i j : Nat) : (slice b i j).length = min (j - i) (b.length - i) := by
  simp [slice]

theorem cipherParams_some (key data : Bytes) (hk : 32 ≤ key.length) (hd : 32 ≤ data.length) :
    cipherParams key data = some (slice key 0 16 ++ slice data 16 32, slice data 0 4 ++ slice key 20 32) := by
  unfold cipherParams
  have h1 : (slice key 0 16 ++ slice data 16 32).length = 32 := by
    simp only [List.length_append, slice_length]; omega
  have h2 : (slice data 0 4 ++ slice key 20 32).length = 16 := by
    simp only [List.length_append, slice_length]; omega
  simp [h1, h2]

/-- the cipher can be created exactly when key and data have at least 32 bytes. -/
theorem cipherParams_isSome_iff (key data : Bytes) :
    (cipherParams key data).isSome ↔ 32 ≤ key.length ∧ 32 ≤ data.length := by
  constructor
  · intro h
    unfold cipherParams at h
    simp only [List.length_append, slice_length] at h
    by_cases h1 : min 16 key.length + min 16 (data.length - 16) = 32
    · by_cases h2 : min 4 data.length + min 12 (key.length - 20) = 16
      · omega
      · simp [h1, h2] at h
    · simp [h1] at h
  · rintro ⟨hk, hd⟩
    simp [cipherParams_some key data hk hd]

/-! ## the two ends of a channel -/

/-- end A: opened by the holder of `a` towards the peer known by `edPub b`. -/
def chanOf {W} (P : Prims W) (a b localId peerId : Bytes) : Channel :=
  Channel.new P (Client.new P a) (Server.new P (P.edPub b)) localId peerId

theorem shared_eq {W} (P : Prims W) (L : ChannelLaws P) (a b ida idb : Bytes) :
    (chanOf P a b ida idb).shared = (chanOf P b a idb ida).shared := by
  simp only [chanOf, Channel.new, Client.new, Server.new]
  rw [L.conv b, L.conv a, L.dh_comm]

theorem chan_keys {W} (P : Prims W) (a b ida idb : Bytes) :
    let s := P.dh (P.edToXPriv a) (P.edToXPub (P.edPub b))
    (chanOf P a b ida idb).shared = s ∧
    (chanOf P a b ida idb).clientAesKeyId = keyAesId P (chanOf P a b ida idb).encKey ∧
    (chanOf P a b ida idb).serverAesKeyId = keyAesId P (chanOf P a b ida idb).decKey ∧
    ((chanOf P a b ida idb).encKey, (chanOf P a b ida idb).decKey) =
      if bytesLt idb ida then (s, s.reverse) else if bytesLt ida idb then (s.reverse, s) else (s, s) := by
  simp only [chanOf, Channel.new, Client.new, Server.new]
  exact ⟨trivial, trivial, trivial, trivial⟩

/-- what one side encrypts with is what the other side decrypts with — in all three id orderings. -/
theorem enc_eq_dec {W} (P : Prims W) (L : ChannelLaws P) (a b ida idb : Bytes) :
    (chanOf P a b ida idb).encKey = (chanOf P b a idb ida).decKey := by
  have hs := shared_eq P L a b ida idb
  obtain ⟨h1, _, _, h4⟩ := chan_keys P a b ida idb
  obtain ⟨g1, _, _, g4⟩ := chan_keys P b a idb ida
  rw [h1, g1] at hs
  rw [hs] at h4
  generalize P.dh (P.edToXPriv b) (P.edToXPub (P.edPub a)) = s at *
  cases c1 : bytesLt idb ida <;> cases c2 : bytesLt ida idb
  · simp only [c1, c2, Bool.false_eq_true, if_false, Prod.mk.injEq] at h4 g4
    rw [h4.1, g4.2]
  · simp only [c1, c2, Bool.false_eq_true, if_false, if_true, Prod.mk.injEq] at h4 g4
    rw [h4.1, g4.2]
  · simp only [c1, c2, Bool.false_eq_true, if_false, if_true, Prod.mk.injEq] at h4 g4
    rw [h4.1, g4.2]
  · rw [bytesLt_asymm _ _ c1] at c2; cases c2

theorem encKey_len {W} (P : Prims W) (L : ChannelLaws P) (a b ida idb : Bytes) :
    (chanOf P a b ida idb).encKey.length = 32 := by
  obtain ⟨_, _, _, h4⟩ := chan_keys P a b ida idb
  have hl := L.dh_len (P.edToXPriv a) (P.edToXPub (P.edPub b))
  cases c1 : bytesLt idb ida <;> cases c2 : bytesLt ida idb <;>
    simp only [c1, c2, Bool.false_eq_true, if_false, if_true, Prod.mk.injEq] at h4 <;>
    rw [h4.1] <;> simpa using hl

/-- one direction of the channel: A's packet is (B's expected key id) ‖ H m ‖ body, and B decrypts body to m. -/
theorem one_way {W} (P : Prims W) (L : ChannelLaws P) (a b ida idb m : Bytes) :
    ∃ body, (chanOf P a b ida idb).encrypt P m =
        some ((chanOf P b a idb ida).serverAesKeyId ++ P.H m ++ body) ∧
      body.length = m.length ∧
      (chanOf P b a idb ida).decrypt P body (P.H m) = some m := by
  have hk := enc_eq_dec P L a b ida idb
  have hl := encKey_len P L a b ida idb
  have hid : (chanOf P a b ida idb).clientAesKeyId = (chanOf P b a idb ida).serverAesKeyId := by
    rw [(chan_keys P a b ida idb).2.1, (chan_keys P b a idb ida).2.2.1, hk]
  have hc := cipherParams_some (chanOf P a b ida idb).encKey (P.H m) (by omega) (by rw [L.H_len]; omega)
  refine ⟨P.ctr (slice (chanOf P a b ida idb).encKey 0 16 ++ slice (P.H m) 16 32)
      (slice (P.H m) 0 4 ++ slice (chanOf P a b ida idb).encKey 20 32) m, ?_, L.ctr_len _ _ _, ?_⟩
  · simp only [Channel.encrypt, hc, hid]
  · simp only [Channel.decrypt, ← hk, hc, L.ctr_invol]

/-! ## signing -/

theorem slice_append_left (s m : Bytes) (n : Nat) (h : s.length = n) : slice (s ++ m) 0 n = s := by
  simp [slice, ← h]

/-! ## mnemonic generator -/

theorem secureRandomNumber_range (rnd : Nat → Bytes) (minV maxV : Nat) :
    ∀ (fuel k r k' : Nat), secureRandomNumber rnd minV maxV fuel k = some (r, k') → minV ≤ r ∧ r < maxV
  | 0, _, _, _, h => nomatch h
  | fuel + 1, k, r, k', h => by
    rw [secureRandomNumber] at h
    -- the three guards return `none`
    by_cases h1 : maxV ≤ minV
    · rw [if_pos h1] at h; cases h
    by_cases h2 : clog2 (maxV - minV) > 53
    · rw [if_neg h1, if_pos h2] at h; cases h
    by_cases h3 : (rnd k).length < (clog2 (maxV - minV) + 7) / 8
    · rw [if_neg h1, if_neg h2, if_pos h3] at h; cases h
    rw [if_neg h1, if_neg h2, if_neg h3] at h
    -- the rejection test `number ≥ range` is what bounds the result
    dsimp only at h
    split at h
    · exact secureRandomNumber_range rnd minV maxV fuel _ r k' h
    · cases h
      omega

theorem drawWords_spec {W} (words : List W) (rnd : Nat → Bytes) (fuel : Nat) :
    ∀ (n k : Nat) (ws : List W) (k' : Nat), drawWords words rnd fuel n k = some (ws, k') →
      ws.length = n ∧ ∀ w ∈ ws, w ∈ words
  | 0, k, ws, k', h => by
    simp only [drawWords, Option.some.injEq, Prod.mk.injEq] at h
    simp [← h.1]
  | n + 1, k, ws, k', h => by
    unfold drawWords at h
    split at h
    · cases h
    · rename_i idx k1 _
      split at h
      · cases h
      · rename_i w hw
        split at h
        · cases h
        · rename_i ws' k2 hrec
          simp only [Option.some.injEq, Prod.mk.injEq] at h
          obtain ⟨ih1, ih2⟩ := drawWords_spec words rnd fuel n k1 ws' k2 hrec
          rw [← h.1]
          refine ⟨by simp [ih1], ?_⟩
          intro x hx
          simp only [List.mem_cons] at hx
          rcases hx with rfl | hx
          · exact List.mem_of_getElem? hw
          · exact ih2 x hx

theorem mnemonicNew_spec {W} (P : Prims W) (words : List W) (rnd : Nat → Bytes) (wc inner : Nat) :
    ∀ (fuel k : Nat) (arr : List W) (k' : Nat), mnemonicNew P words rnd wc inner fuel k = some (arr, k') →
      arr.length = wc ∧ (∀ w ∈ arr, w ∈ words) ∧ isBasicSeed P (mnemonicToEntropy P arr) = true
  | 0, _, _, _, h => by simp [mnemonicNew] at h
  | fuel + 1, k, arr, k', h => by
    unfold mnemonicNew at h
    split at h
    · cases h
    · rename_i arr0 k1 hd
      by_cases hb : isBasicSeed P (mnemonicToEntropy P arr0) = true
      · simp only [hb, Bool.not_true, Bool.false_eq_true, if_false, Option.some.injEq, Prod.mk.injEq] at h
        obtain ⟨h1, h2⟩ := drawWords_spec words rnd inner wc k arr0 k1 hd
        rw [← h.1]
        exact ⟨h1, h2, hb⟩
      · have hb' : isBasicSeed P (mnemonicToEntropy P arr0) = false := by simpa using hb
        simp only [hb', Bool.not_false, if_true] at h
        exact mnemonicNew_spec P words rnd wc inner fuel k1 arr k' h

end TonVerif.Proofs.Adnl
