/-
`store_snake_bytes` in closed form: the bytes that fit, then a reference to the chain (`Snake.chainOf`) of the 127-byte chunks
of the rest (`storeSnake_eq`); every fact about what it built is then an induction over the list of chunks.
For any cell constructor: the round trip (`snake_rt`), the produced tree is the TL-B `SnakeData` chain of the chunks
(`chain_shape`).  With the depth-checking cell constructor of C01 (`Cell.info`): the chain for `n` bytes into a builder that
already holds `p` bits has exactly `snakeDepth p n` tail cells, which is the depth of the root; tail cells are constructed (by
`end_cell`) while their depth is at most 1023 (`chain_any`).
-/
import TonVerif.Proofs.Snake
import TonVerif.Proofs.OrdCell

namespace TonVerif.Proofs.SnakeDepth
open TonVerif TonVerif.Model TonVerif.Spec.Tlb TonVerif.Proofs.Bits TonVerif.Proofs.Builder
  TonVerif.Proofs.Slice TonVerif.Proofs.Snake TonVerif.Proofs.OrdCell

/-- `Builder.end_cell()` on cell trees: an ordinary cell, produced iff C01's constructor (`Cell.info`: level mask,
hashes, depths, the check `depth >= 1024 -> raise`) does not raise. -/
def mkC (H : Bytes → Bytes) (bits : Bits) (refs : List Cell) : Option Cell :=
  if (Cell.info H (.mk (-1) bits refs)).isSome then some (.mk (-1) bits refs) else none

/-- `Cell.begin_parse()`: the data bits and the references. -/
def viewC : Cell → Bits × List Cell
  | .mk _ bits refs => (bits, refs)

/-- closed form of the chain depth: the first builder has room for `(1023 - p) / 8` bytes, every tail cell holds 127. -/
def snakeDepth (p n : Nat) : Nat :=
  if n ≤ (1023 - p) / 8 then 0 else (n - (1023 - p) / 8 + 126) / 127

theorem mkC_some {H : Bytes → Bytes} {bits : Bits} {refs : List Cell} {c : Cell} (h : mkC H bits refs = some c) :
    c = .mk (-1) bits refs := by
  unfold mkC at h
  split at h
  · exact (Option.some.inj h).symm
  · cases h

theorem viewC_mkC (H : Bytes → Bytes) (bits : Bits) (refs : List Cell) (c : Cell) (h : mkC H bits refs = some c) :
    viewC c = (bits, refs) := by
  rw [mkC_some h]; rfl

theorem mkC_ok (H : Bytes → Bytes) (bits : Bits) (refs : List Cell) (hb : bits.length ≤ 1023) (hr : refs.length ≤ 4)
    (hw : OrdWFs refs) (hd : ordDepth (.mk (-1) bits refs) ≤ 1023) : mkC H bits refs = some (.mk (-1) bits refs) := by
  have wf : OrdWF (.mk (-1) bits refs) := by unfold OrdWF; exact ⟨rfl, hb, hr, hw⟩
  obtain ⟨i, hi, _⟩ := ord_info H _ wf hd
  simp [mkC, hi]

theorem mkC_deep (H : Bytes → Bytes) (bits : Bits) (refs : List Cell) (hb : bits.length ≤ 1023) (hr : refs.length ≤ 4)
    (hw : OrdWFs refs) (hd : 1023 < ordDepth (.mk (-1) bits refs)) : mkC H bits refs = none := by
  have wf : OrdWF (.mk (-1) bits refs) := by unfold OrdWF; exact ⟨rfl, hb, hr, hw⟩
  simp [mkC, ord_too_deep H _ wf hd]

theorem mkC_isSome_iff (H : Bytes → Bytes) (bits : Bits) (refs : List Cell) (hb : bits.length ≤ 1023)
    (hr : refs.length ≤ 4) (hw : OrdWFs refs) :
    (mkC H bits refs).isSome ↔ ordDepth (.mk (-1) bits refs) ≤ 1023 := by
  by_cases hd : ordDepth (.mk (-1) bits refs) ≤ 1023
  · simp [mkC_ok H bits refs hb hr hw hd, hd]
  · simp [mkC_deep H bits refs hb hr hw (by omega), hd]

theorem ordDepth_leaf (k : Int) (bits : Bits) : ordDepth (.mk k bits []) = 0 := by
  simp [ordDepth]

theorem ordDepth_one (k : Int) (bits : Bits) (c : Cell) : ordDepth (.mk k bits [c]) = 1 + ordDepth c := by
  simp [ordDepth, ordDepthMax]

/-! ### the 127-byte chunks -/

/-- consecutive chunks of `k` bytes (`fuel` ≥ number of chunks; `bs.length` always suffices for `k ≥ 1`). -/
def chunksF (k : Nat) : Nat → Bytes → List Bytes
  | 0, _ => []
  | f+1, bs => if bs.isEmpty then [] else bs.take k :: chunksF k f (bs.drop k)

/-- the 127-byte chunks of a byte string -/
def chunks127 (bs : Bytes) : List Bytes := chunksF 127 bs.length bs

/-- any two sufficient budgets give the same chunks -/
theorem chunksF_stable (k : Nat) (hk : 0 < k) : ∀ (f g : Nat) (bs : Bytes), bs.length ≤ f → bs.length ≤ g →
    chunksF k f bs = chunksF k g bs := by
  intro f
  induction f with
  | zero =>
    intro g bs hf _
    obtain rfl : bs = [] := List.eq_nil_of_length_eq_zero (by omega)
    cases g <;> rfl
  | succ f ih =>
    intro g bs hf hg
    cases bs with
    | nil => cases g <;> rfl
    | cons x xs =>
      rw [List.length_cons] at hf hg
      obtain ⟨g, rfl⟩ : ∃ g', g = g' + 1 := ⟨g - 1, by omega⟩
      rw [chunksF, chunksF, ih g _ (by rw [List.length_drop, List.length_cons]; omega)
        (by rw [List.length_drop, List.length_cons]; omega)]

theorem chunksF_flatten (k : Nat) (hk : 0 < k) : ∀ (f : Nat) (bs : Bytes), bs.length ≤ f → (chunksF k f bs).flatten = bs := by
  intro f
  induction f with
  | zero =>
    intro bs hf
    have : bs = [] := List.eq_nil_of_length_eq_zero (by omega)
    subst this; rfl
  | succ f ih =>
    intro bs hf
    cases bs with
    | nil => rfl
    | cons x xs =>
      rw [List.length_cons] at hf
      rw [chunksF, if_neg (by simp), List.flatten_cons, ih _ (by rw [List.length_drop, List.length_cons]; omega),
        List.take_append_drop]

theorem bytesToBits_append (a b : Bytes) : bytesToBits (a ++ b) = bytesToBits a ++ bytesToBits b := by
  simp [bytesToBits]

theorem bytesToBits_flatten (l : List Bytes) : (l.map bytesToBits).flatten = bytesToBits l.flatten := by
  induction l with
  | nil => rfl
  | cons x l ih => simp [ih, bytesToBits_append]

theorem chunks127_cons (bs : Bytes) (h : bs ≠ []) : chunks127 bs = bs.take 127 :: chunks127 (bs.drop 127) := by
  obtain ⟨m, hm⟩ : ∃ m, bs.length = m + 1 := ⟨bs.length - 1, by have := List.length_pos_iff.mpr h; omega⟩
  have he : bs.isEmpty = false := by simpa using h
  unfold chunks127
  rw [hm]
  simp only [chunksF, he, Bool.false_eq_true, if_false]
  rw [chunksF_stable 127 (by decide) m _ _ (by rw [List.length_drop]; omega) (Nat.le_refl _)]

theorem chunks127_nil : chunks127 [] = [] := rfl

/-- induction along the chunks of a byte string -/
theorem chunks127_ind {P : Bytes → List Bytes → Prop} (nil : P [] [])
    (cons : ∀ bs, bs ≠ [] → P (bs.drop 127) (chunks127 (bs.drop 127)) → P bs (bs.take 127 :: chunks127 (bs.drop 127)))
    (bs : Bytes) : P bs (chunks127 bs) := by
  induction h : bs.length using Nat.strongRecOn generalizing bs with
  | _ n ih =>
    by_cases he : bs = []
    · subst he; exact nil
    · have hp := List.length_pos_iff.mpr he
      rw [chunks127_cons bs he]
      exact cons bs he (ih _ (by rw [List.length_drop]; omega) _ rfl)

theorem chunks127_le (bs : Bytes) : ∀ c ∈ chunks127 bs, c.length ≤ 127 :=
  chunks127_ind (P := fun _ cs => ∀ c ∈ cs, c.length ≤ 127) (fun _ h => nomatch h)
    (fun _ _ ih => List.forall_mem_cons.mpr ⟨by rw [List.length_take]; omega, ih⟩) bs

theorem chunks127_wf {bs : Bytes} (hw : Bytes.WF bs) : ∀ c ∈ chunks127 bs, Bytes.WF c :=
  chunks127_ind (P := fun bs cs => Bytes.WF bs → ∀ c ∈ cs, Bytes.WF c) (fun _ _ h => nomatch h)
    (fun _ _ ih hw => List.forall_mem_cons.mpr ⟨wf_take hw 127, ih (wf_drop hw 127)⟩) bs hw

theorem chunks127_flatten (bs : Bytes) : (chunks127 bs).flatten = bs := chunksF_flatten 127 (by decide) _ _ (Nat.le_refl _)

theorem chunks127_count (bs : Bytes) : (chunks127 bs).length = (bs.length + 126) / 127 :=
  chunks127_ind (P := fun bs cs => cs.length = (bs.length + 126) / 127) rfl
    (fun bs he ih => by
      have hp := List.length_pos_iff.mpr he
      rw [List.length_cons, ih, List.length_drop]; omega) bs

theorem snakeDepth_eq (bs : Bytes) (p : Nat) : snakeDepth p bs.length = (chunks127 (bs.drop ((1023 - p) / 8))).length := by
  rw [chunks127_count, List.length_drop]; unfold snakeDepth; split <;> omega

/-! ### the closed form -/

/-- for every recursion budget above the number of chunks; the one place where the budget is disposed of -/
theorem storeSnakeFuel_eq {R : Type} (mk : Bits → List R → Option R) (fuel : Nat) : ∀ (bs : Bytes) (b : Builder R),
    b.bits.length ≤ 1023 → (chunks127 (bs.drop ((1023 - b.bits.length) / 8))).length < fuel →
    BOp.storeSnakeFuel mk fuel bs b =
      hang b (bs.take ((1023 - b.bits.length) / 8)) (chainOf mk (chunks127 (bs.drop ((1023 - b.bits.length) / 8)))) := by
  induction fuel with
  | zero => intro bs b _ h; omega
  | succ fuel ih =>
    intro bs b hb hf
    rw [storeSnakeFuel_succ]
    generalize hi : (1023 - b.bits.length) / 8 = i at hf ⊢
    by_cases hfit : bs.length ≤ i
    · rw [List.drop_eq_nil_of_le hfit, List.take_of_length_le hfit, if_pos hfit]
      by_cases he : bs.isEmpty = true
      · obtain rfl : bs = [] := List.isEmpty_iff.mp he
        simp [chunks127_nil, chainOf, hang, bytesToBits]
      · rw [if_neg he, storeBytes_fits bs b (by omega)]; rfl
    · have hne : bs.drop i ≠ [] := fun e => hfit (List.drop_eq_nil_iff.mp e)
      have he : ¬ bs.isEmpty = true := fun e => hfit (by rw [List.isEmpty_iff.mp e]; exact Nat.zero_le _)
      have e127 : (1023 - (Builder.empty : Builder R).bits.length) / 8 = 127 := by show 1023 / 8 = 127; rfl
      rw [chunks127_cons _ hne] at hf ⊢
      rw [if_neg he, if_neg hfit, storeBytes_fits (bs.take i) b (by rw [List.length_take]; omega),
        ih (bs.drop i) Builder.empty (Nat.zero_le _) (by rw [e127]; exact Nat.lt_of_succ_lt_succ hf), e127, chainOf]
      -- the rest went into an empty builder: its cell is the first chunk over the chain of the others
      cases chainOf mk (chunks127 ((bs.drop i).drop 127)) with
      | none => rfl
      | some t => rw [hang_empty, Option.bind_some]; cases mk (bytesToBits ((bs.drop i).take 127)) t.toList <;> rfl

/-- `storeSnake` supplies the budget `len + 2` -/
theorem storeSnake_eq {R : Type} (mk : Bits → List R → Option R) (bs : Bytes) (b : Builder R) (hb : b.bits.length ≤ 1023) :
    BOp.storeSnake mk bs b =
      hang b (bs.take ((1023 - b.bits.length) / 8)) (chainOf mk (chunks127 (bs.drop ((1023 - b.bits.length) / 8)))) :=
  storeSnakeFuel_eq mk _ bs b hb (by rw [chunks127_count, List.length_drop]; omega)

/-- outside the builder invariant the first `store_bytes` refuses: nothing is written, whatever the cell constructor -/
theorem storeSnake_over {R : Type} (mk : Bits → List R → Option R) (bs : Bytes) (b : Builder R) (hb : 1023 < b.bits.length) :
    BOp.storeSnake mk bs b = (b, bs.isEmpty) := by
  rw [BOp.storeSnake, storeSnakeFuel_succ]
  cases bs with
  | nil => rfl
  | cons x bs =>
    have hov : BOp.storeBytes ((x :: bs).take 0) b = (b, false) := by rw [BOp.storeBytes, BOp.extend, if_pos (by omega)]
    rw [if_neg (by simp), show (1023 - b.bits.length) / 8 = 0 by omega, if_neg (by simp), hov]
    rfl

/-- the builder stays within capacity, whether the store returns or raises -/
theorem safe_storeSnake {R : Type} (mk : Bits → List R → Option R) (bs : Bytes) : Safe (BOp.storeSnake mk bs) := by
  intro b hb
  rw [storeSnake_eq mk bs b hb.1]
  have h1 : Inv (⟨b.bits ++ bytesToBits (bs.take ((1023 - b.bits.length) / 8)), b.refs⟩ : Builder R) :=
    ⟨by have := hb.1; simp only [List.length_append, bytesToBits_length, List.length_take]; omega, hb.2⟩
  match chainOf mk (chunks127 (bs.drop ((1023 - b.bits.length) / 8))) with
  | none => exact h1
  | some none => exact h1
  | some (some c) => exact safe_storeRef c _ h1

/-! ### what the store built -/

/-- a cell constructor that never fails: `store_snake_bytes` returns normally on every builder within capacity that
has a free reference slot -/
theorem snake_ok {R : Type} (mk : Bits → List R → Option R) (hmk : ∀ bits refs, (mk bits refs).isSome)
    (bs : Bytes) (b : Builder R) (hb : b.bits.length ≤ 1023) (hr : b.refs.length < 4) :
    (BOp.storeSnake mk bs b).2 = true := by
  obtain ⟨t, ht⟩ := chainOf_total mk hmk (chunks127 (bs.drop ((1023 - b.bits.length) / 8)))
  rw [storeSnake_eq mk bs b hb, ht]
  exact hang_some b _ t hr

/-- the snake round trip: whatever `store_snake_bytes` wrote after the content of a reference-free `b` (of any bit
length) is byte-aligned and reads back as the stored bytes -/
theorem snake_rt {R : Type} (mk : Bits → List R → Option R) (view : R → Bits × List R)
    (hv : ∀ bits refs c, mk bits refs = some c → view c = (bits, refs))
    (bs : Bytes) (hw : Bytes.WF bs) (b b' : Builder R) (hb : b.bits.length ≤ 1023) (hr : b.refs = [])
    (h : BOp.storeSnake mk bs b = (b', true)) :
    ∃ tail, b'.bits = b.bits ++ tail ∧ tail.length % 8 = 0 ∧
      ∀ fuel, bs.length + 2 ≤ fuel → (SOp.loadSnakeFuel view fuel ⟨tail, b'.refs⟩).2 = some bs := by
  rw [storeSnake_eq mk bs b hb] at h
  generalize (1023 - b.bits.length) / 8 = i at h
  obtain ⟨t, ht, rfl⟩ := hang_ok h
  refine ⟨_, rfl, bytesToBits_aligned _, fun fuel hf => ?_⟩
  have := load_chain mk view hv _ (bs.take i) t (wf_take hw i) (chunks127_wf (wf_drop hw i)) ht fuel
    (by rw [chunks127_count, List.length_drop]; omega)
  rwa [chunks127_flatten, List.take_append_drop, ← List.nil_append t.toList, ← hr] at this

/-- what a chain started in some builder looks like when it was stored -/
structure ChainOK (b' : Builder Cell) (D : Nat) : Prop where
  bits : b'.bits.length ≤ 1023
  refs : b'.refs.length ≤ 1
  wf : OrdWFs b'.refs
  depth : ordDepth (.mk (-1) b'.bits b'.refs) = D


/-- the chain with C01's depth-checking constructor: it exists iff there are at most 1024 chunks, i.e. every cell handed to
`end_cell` has depth ≤ 1023; a cell over it has depth = number of chunks -/
theorem chainOf_mkC (H : Bytes → Bytes) : ∀ (cs : List Bytes), (∀ c ∈ cs, c.length ≤ 127) →
    ((chainOf (mkC H) cs).isSome ↔ cs.length ≤ 1024) ∧
    ∀ t, chainOf (mkC H) cs = some t → OrdWFs t.toList ∧ ∀ bits, ordDepth (.mk (-1) bits t.toList) = cs.length := by
  intro cs
  induction cs with
  | nil =>
    intro _
    refine ⟨by simp [chainOf], fun t h => ?_⟩
    obtain rfl : none = t := Option.some.inj h
    exact ⟨trivial, fun _ => ordDepth_leaf _ _⟩
  | cons c cs ih =>
    intro hl
    obtain ⟨hiff, hch⟩ := ih fun d hd => hl d (by simp [hd])
    have hc : (bytesToBits c).length ≤ 1023 := by rw [bytesToBits_length]; have := hl c (by simp); omega
    -- the cell of `c` over a chain `t` of the others is well formed, of depth `|cs|`, so `end_cell` builds it iff `|cs| ≤ 1023`
    have key : ∀ t, chainOf (mkC H) cs = some t →
        ((mkC H (bytesToBits c) t.toList).isSome ↔ cs.length ≤ 1023) ∧ OrdWF (.mk (-1) (bytesToBits c) t.toList) ∧
        ordDepth (.mk (-1) (bytesToBits c) t.toList) = cs.length := fun t ht => by
      obtain ⟨hwf, hd⟩ := hch t ht
      have h4 : t.toList.length ≤ 4 := by cases t <;> simp
      exact ⟨by rw [mkC_isSome_iff H _ _ hc h4 hwf, hd], ⟨rfl, hc, h4, hwf⟩, hd _⟩
    refine ⟨⟨fun h => ?_, fun h => ?_⟩, fun t h => ?_⟩
    · obtain ⟨t, ht⟩ := Option.isSome_iff_exists.mp h
      obtain ⟨t', x, ht', hx, _⟩ := chainOf_cons_some ht
      have := (key t' ht').1.mp (by rw [hx]; rfl)
      simp only [List.length_cons]; omega
    · obtain ⟨t', ht'⟩ := Option.isSome_iff_exists.mp (hiff.mpr (by simp only [List.length_cons] at h; omega))
      obtain ⟨x, hx⟩ := Option.isSome_iff_exists.mp ((key t' ht').1.mpr (by simp only [List.length_cons] at h; omega))
      simp [chainOf, ht', hx]
    · obtain ⟨t', x, ht', hx, rfl⟩ := chainOf_cons_some h
      obtain ⟨_, hwf, hd⟩ := key t' ht'
      obtain rfl := mkC_some hx
      exact ⟨⟨hwf, trivial⟩, fun bits => by rw [Option.toList, ordDepth_one, hd, List.length_cons]; omega⟩

/-- the chain `store_snake_bytes` starts in a within-capacity builder `b` with a free reference slot: it returns iff
`snakeDepth |b.bits| n ≤ 1024` (the deepest cell handed to `end_cell` has depth one less); if `b` holds no references
the root then has exactly that depth. -/
theorem chain_any (H : Bytes → Bytes) (bs : Bytes) (b : Builder Cell) (hb : b.bits.length ≤ 1023) (hr : b.refs.length < 4) :
    ((BOp.storeSnake (mkC H) bs b).2 = true ↔ snakeDepth b.bits.length bs.length ≤ 1024) ∧
    ∀ b', BOp.storeSnake (mkC H) bs b = (b', true) → b.refs = [] → ChainOK b' (snakeDepth b.bits.length bs.length) := by
  rw [storeSnake_eq _ bs b hb, snakeDepth_eq]
  generalize hi : (1023 - b.bits.length) / 8 = i
  obtain ⟨hiff, hch⟩ := chainOf_mkC H _ (chunks127_le (bs.drop i))
  refine ⟨⟨fun h => ?_, fun h => ?_⟩, fun b' h hr0 => ?_⟩
  · obtain ⟨c, hc, _⟩ := hang_ok (Prod.ext rfl h)
    exact hiff.mp (by rw [hc]; rfl)
  · obtain ⟨t, ht⟩ := Option.isSome_iff_exists.mp (hiff.mpr h)
    rw [ht]; exact hang_some b _ t hr
  · obtain ⟨t, ht, rfl⟩ := hang_ok h
    obtain ⟨hwf, hd⟩ := hch t ht
    have h4 : t.toList.length ≤ 1 := by cases t <;> simp
    refine ⟨?_, by simp [hr0, h4], by simpa [hr0] using hwf, by simpa [hr0] using hd _⟩
    simp only [List.length_append, bytesToBits_length, List.length_take]; omega

/-- any cell constructor `mk` whose cells are read as trees by `toS`, a chain started in any builder without
references: the root is `snakeCell` of (what the builder held ++ the bytes that fit) and the 127-byte chunks of the
rest; and the data of that chain is what the builder held followed by all the bytes. -/
theorem chain_shape {R : Type} (mk : Bits → List R → Option R) (toS : R → SCell)
    (hmk : ∀ bits refs c, mk bits refs = some c → toS c = .mk bits (refs.map toS))
    (bs : Bytes) (b b' : Builder R) (hb : b.bits.length ≤ 1023) (hr : b.refs = [])
    (h : BOp.storeSnake mk bs b = (b', true)) :
    SCell.mk b'.bits (b'.refs.map toS) =
      snakeCell (b.bits ++ bytesToBits (bs.take ((1023 - b.bits.length) / 8)))
        ((chunks127 (bs.drop ((1023 - b.bits.length) / 8))).map bytesToBits) ∧
    snakeData (b.bits ++ bytesToBits (bs.take ((1023 - b.bits.length) / 8)))
        ((chunks127 (bs.drop ((1023 - b.bits.length) / 8))).map bytesToBits) = b.bits ++ bytesToBits bs := by
  refine ⟨?_, ?_⟩
  · rw [storeSnake_eq mk bs b hb] at h
    obtain ⟨t, ht, rfl⟩ := hang_ok h
    rw [hr]; exact chainOf_toS mk toS hmk _ t _ ht
  · rw [snakeData, bytesToBits_flatten, chunks127_flatten, List.append_assoc, ← bytesToBits_append, List.take_append_drop]

mutual
  /-- a cell tree without its cell kinds -/
  def cellToS : Cell → SCell
    | .mk _ bits refs => .mk bits (cellsToS refs)
  def cellsToS : List Cell → List SCell
    | [] => []
    | c :: cs => cellToS c :: cellsToS cs
end

theorem cellsToS_eq_map (cs : List Cell) : cellsToS cs = cs.map cellToS := by
  induction cs with
  | nil => rfl
  | cons c cs ih => simp [cellsToS, ih]

theorem cellToS_mkC (H : Bytes → Bytes) (bits : Bits) (refs : List Cell) (c : Cell) (h : mkC H bits refs = some c) :
    cellToS c = .mk bits (refs.map cellToS) := by
  rw [mkC_some h, cellToS, cellsToS_eq_map]

end TonVerif.Proofs.SnakeDepth
