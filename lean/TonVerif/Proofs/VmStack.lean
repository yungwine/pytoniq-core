/-
Helper lemmas for C17: what a successful run of a Builder program appends (`Eff`), `ser_*` (a cell returned by the model
serialiser is a schema encoding), what a Slice program reads back from an encoding (`Reads`), `post*_id`.
-/
import TonVerif.Model.VmStack
import TonVerif.Spec.Tlb.VmStack
import TonVerif.Proofs.Bits
import TonVerif.Proofs.Slice
import Mathlib.Tactic.Ring

namespace TonVerif.Proofs.Vm
open TonVerif TonVerif.Model TonVerif.Model.Vm TonVerif.Spec.Vm

export TonVerif.Proofs.Bits (natToBits_length natOfBits_natToBits)

/-! ### builder operations: effect of a successful run, from the closed forms of `Proofs/Builder.lean` -/

variable {R : Type}

theorem uintBits_eq (n : Nat) (v : Int) : uintBits n v = Spec.Tlb.uintBits n v.toNat := Bits.natToBits_eq_uintBits _ _
theorem intBits_eq (n : Nat) (v : Int) : intBits n v = Spec.Tlb.intBits n v := Bits.natToBits_eq_uintBits _ _

theorem intOk_iff {n : Nat} (hn : 0 < n) (v : Int) : IntOk n v ↔ Spec.Tlb.FitsInt n v := by
  obtain ⟨m, rfl⟩ : ∃ m, n = m + 1 := ⟨n - 1, by omega⟩
  exact (Builder.fitsInt_succ m v).symm

/-- a successful run of `op` on a builder within capacity appends `xs` / `rs` (and `P` holds), and stays within capacity -/
def Eff (op : BOp R) (xs : Bits) (rs : List R) (P : Prop) : Prop :=
  ∀ b, Builder.Inv b → ∀ b', run op b = some b' → (b' = ⟨b.bits ++ xs, b.refs ++ rs⟩ ∧ P) ∧ Builder.Inv b'

theorem run_some {op : BOp R} {b b' : Builder R} (h : run op b = some b') : (op b).2 = true ∧ (op b).1 = b' := by
  simp only [run] at h; split at h
  · exact ⟨‹_›, Option.some.inj h⟩
  · cases h

theorem Eff.of_opSpec {op : BOp R} {C : Prop} {xs : Bits} {rs : List R} (h : Builder.OpSpec op C xs rs) : Eff op xs rs C := by
  intro b ib b' hr
  obtain ⟨hok, rfl⟩ := run_some hr
  exact ⟨⟨(h.1 b ib).2 hok, (((h.1 b ib).1).mp hok).1⟩, h.2 b ib⟩

theorem Eff.imp {op : BOp R} {xs xs' : Bits} {rs : List R} {P Q : Prop} (h : Eff op xs rs P) (e : xs = xs') (pq : P → Q) :
    Eff op xs' rs Q := fun b ib b' hr => e ▸ ⟨⟨(h b ib b' hr).1.1, pq (h b ib b' hr).1.2⟩, (h b ib b' hr).2⟩

theorem run_andThen (f g : BOp R) (b : Builder R) : run (f ⊳ g) b = (run f b).bind (run g) := by
  by_cases h : (f b).2 = true <;> simp [run, BOp.andThen, h]

theorem Eff.andThen {f g : BOp R} {x1 x2 r1 r2 P1 P2} (h1 : Eff f x1 r1 P1) (h2 : Eff g x2 r2 P2) :
    Eff (f ⊳ g) (x1 ++ x2) (r1 ++ r2) (P1 ∧ P2) := by
  intro b ib b' h
  rw [run_andThen] at h
  obtain ⟨b1, hb1, hb2⟩ := Option.bind_eq_some_iff.mp h
  obtain ⟨⟨e1, p1⟩, i1⟩ := h1 _ ib _ hb1
  obtain ⟨⟨e2, p2⟩, i2⟩ := h2 _ i1 _ hb2
  subst e1
  exact ⟨⟨by simp [e2, List.append_assoc], p1, p2⟩, i2⟩

theorem eff_skip : Eff (BOp.skip : BOp R) [] [] True := .of_opSpec Builder.opSpec_skip
theorem eff_storeBits (xs : Bits) : Eff (BOp.storeBits xs : BOp R) xs [] True := .of_opSpec (Builder.opSpec_extend xs)
theorem eff_storeBit (x : Bool) : Eff (BOp.storeBit x : BOp R) [x] [] True := eff_storeBits [x]

theorem eff_storeByte (k : Nat) : Eff (BOp.storeBytes [k] : BOp R) (tagByte k) [] True :=
  (eff_storeBits _).imp (by simp [bytesToBits, byteToBits, tagByte]) id

theorem eff_storeRef (c : R) : Eff (BOp.storeRef c) [] [c] True := .of_opSpec (Builder.opSpec_storeRef c)

theorem eff_storeUint (v : Int) (n : Nat) : Eff (BOp.storeUint v n : BOp R) (uintBits n v) [] (0 < n ∧ UintOk n v) :=
  (Eff.of_opSpec (Builder.opSpec_storeUint v n)).imp (uintBits_eq n v).symm id

theorem eff_storeInt (v : Int) (n : Nat) : Eff (BOp.storeInt v n : BOp R) (intBits n v) [] (0 < n ∧ IntOk n v) :=
  (Eff.of_opSpec (Builder.opSpec_storeInt v n)).imp (intBits_eq n v).symm fun p => ⟨p.1, (intOk_iff p.1 v).mpr p.2⟩

/-! the two integer stores on ANY builder, also one beyond capacity, where `OpSpec` says nothing (`c17_roundtrip_fields`) -/

theorem run_extend {xs : Bits} {b b1 : Builder R} (h : run (BOp.extend xs) b = some b1) : b1.bits = b.bits ++ xs := by
  simp only [run, BOp.extend] at h
  split at h <;> simp at h
  simp [← h]

theorem run_storeUint {v : Int} {n : Nat} {b b1 : Builder R} (h : run (BOp.storeUint v n) b = some b1) :
    (0 < n ∧ UintOk n v) ∧ b1.bits = b.bits ++ uintBits n v := by
  by_cases hc : 0 < n ∧ UintOk n v
  · rw [BOp.storeUint, Builder.int2baU_some v n hc.1 hc.2] at h
    exact ⟨hc, uintBits_eq n v ▸ run_extend h⟩
  · rw [BOp.storeUint, Builder.int2baU_none v n hc] at h; simp [run, BOp.fail] at h

theorem run_storeInt {v : Int} {n : Nat} {b b1 : Builder R} (h : run (BOp.storeInt v n) b = some b1) :
    (0 < n ∧ IntOk n v) ∧ b1.bits = b.bits ++ intBits n v := by
  by_cases hc : 0 < n ∧ Spec.Tlb.FitsInt n v
  · rw [BOp.storeInt, Builder.int2baS_some v n hc.1 hc.2] at h
    exact ⟨⟨hc.1, (intOk_iff hc.1 v).mpr hc.2⟩, intBits_eq n v ▸ run_extend h⟩
  · rw [BOp.storeInt, Builder.int2baS_none v n hc] at h; simp [run, BOp.fail] at h

theorem eff_storeCell (cb : Bits) (cr : List R) : Eff (BOp.storeCell cb cr) cb cr True :=
  .of_opSpec (Builder.opSpec_storeCell cb cr)

theorem eff_storeSlice (sb : Bits) (sr : List R) : Eff (BOp.storeSlice sb sr) sb sr True :=
  .of_opSpec (Builder.opSpec_storeSlice sb sr)

theorem eff_storeMaybeRef (o : Option R) : Eff (BOp.storeMaybeRef o) [o.isSome] o.toList True := by
  cases o <;> exact .of_opSpec (Builder.opSpec_storeMaybeRef _)

/-- `build`: the finished cell was made from exactly what the operations appended -/
theorem eff_build {mk : Bits → List R → Option R} {op : BOp R} {xs rs P} {bt : Built R}
    (h : Eff op xs rs P) (hb : build mk op = some bt) :
    bt.bits = xs ∧ bt.refs = rs ∧ mk xs rs = some bt.cell ∧ P := by
  unfold build at hb
  obtain ⟨b, hb1, hb2⟩ := Option.bind_eq_some_iff.mp hb
  obtain ⟨⟨e, p⟩, _⟩ := h _ Builder.inv_empty _ hb1
  simp only [Builder.empty, List.nil_append] at e
  subst e
  simp only [finish, Option.map_eq_some_iff] at hb2
  obtain ⟨c, hc, rfl⟩ := hb2
  exact ⟨rfl, rfl, hc, p⟩


/-! ### the model serialiser emits schema encodings -/

/-- what the theorems assume about cell construction: a constructed cell shows the data it was made of, and
    `Builder.end_cell` makes ordinary cells -/
structure Laws (mk : Bits → List R → Option R) (view : R → Bits × List R) (ord : R → Bool) : Prop where
  view_mk : ∀ b r c, mk b r = some c → view c = (b, r)
  ord_mk : ∀ b r c, mk b r = some c → ord c = true

variable {mk : Bits → List R → Option R} {view : R → Bits × List R} {ord : R → Bool}

theorem storeSlice_refs {sb : Bits} {sr : List R} {b' : Builder R}
    (h : run (BOp.storeSlice sb sr) Builder.empty = some b') : sr.length ≤ 4 := by
  by_cases hc : sr.length > 4
  · simp [run, BOp.storeSlice, Builder.empty, hc] at h
  · omega

theorem window_all (xs : List α) : window xs 0 xs.length = xs := by simp [window]

theorem ser_cellSlice (L : Laws mk view ord) {bits : Bits} {refs : List R} {bt : Built R}
    (h : serCellSlice mk bits refs = some bt) :
    IsCellSlice view bits refs bt.bits bt.refs ∧ mk bt.bits bt.refs = some bt.cell := by
  unfold serCellSlice at h
  obtain ⟨inner, hi, h2⟩ := Option.bind_eq_some_iff.mp h
  have hlen : refs.length ≤ 4 := by
    unfold build at hi
    obtain ⟨b, hb1, _⟩ := Option.bind_eq_some_iff.mp hi
    exact storeSlice_refs hb1
  obtain ⟨e1, e2, hmk, _⟩ := eff_build (eff_storeSlice bits refs) hi
  have hv := L.view_mk _ _ _ hmk
  obtain ⟨f1, f2, hmk2, p⟩ := eff_build
    (Eff.andThen (Eff.andThen (Eff.andThen (Eff.andThen (eff_storeRef inner.cell) (eff_storeUint 0 10))
      (eff_storeUint bits.length 10)) (eff_storeUint 0 3)) (eff_storeUint refs.length 3)) h2
  have hen : bits.length < 1024 := by
    have := p.1.1.2.2.2; simp [UintOk] at this; omega
  have key := IsCellSlice.mk (view := view) inner.cell 0 bits.length 0 refs.length (Nat.zero_le _)
    (by simp [hv]) hen (Nat.zero_le _) (by simp [hv]) hlen
  simp only [hv, window_all] at key
  refine ⟨?_, by rw [f1, f2]; exact hmk2⟩
  rw [f1, f2]
  simpa [List.append_assoc] using key

theorem tagInt257_eq : tagInt257 = tag0201 := by decide

theorem eff_storeMaybe {store : Int → BOp R} {enc : Int → Bits} {P : Int → Prop}
    (h : ∀ v, Eff (store v) (enc v) [] (P v)) (o : Option Int) :
    Eff (storeMaybe store o) (maybeBits enc o) [] (MaybeOk P o) := by
  cases o with
  | none => simpa [storeMaybe, maybeBits, MaybeOk] using eff_storeBit (R := R) false
  | some v => exact ((eff_storeBit (R := R) true).andThen (h v)).imp rfl And.right

theorem maybeOk_mono {P Q : Int → Prop} (h : ∀ v, P v → Q v) {o : Option Int} (ho : MaybeOk P o) : MaybeOk Q o := by
  cases o with
  | none => trivial
  | some v => exact h v ho

/-- the `nargs` and `cp` fields of `VmControlData` -/
theorem eff_nargs (o : Option Int) : Eff (storeMaybe (fun n => BOp.storeUint n 13) o : BOp R) (maybeBits (uintBits 13) o) []
    (MaybeOk (fun v => 0 < 13 ∧ UintOk 13 v) o) := eff_storeMaybe (fun v => eff_storeUint v 13) o

theorem eff_cp (o : Option Int) : Eff (storeMaybe (fun c => BOp.storeInt c 16) o : BOp R) (maybeBits (intBits 16) o) []
    (MaybeOk (fun v => 0 < 16 ∧ IntOk 16 v) o) := eff_storeMaybe (fun v => eff_storeInt v 16) o

/-- a finished `build` satisfies what the appended content satisfies -/
theorem built {op : BOp R} {xs rs P} {bt : Built R} {Q : Bits → List R → Prop} (h : Eff op xs rs P)
    (hb : build mk op = some bt) (hq : P → Q xs rs) : Q bt.bits bt.refs ∧ mk bt.bits bt.refs = some bt.cell := by
  obtain ⟨e1, e2, hmk, p⟩ := eff_build h hb
  rw [e1, e2]; exact ⟨hq p, hmk⟩

/-- what holds of the content a cell was built from holds of what the cell shows -/
theorem Laws.at_cell (L : Laws mk view ord) {Q : Bits → List R → Prop} {bt : Built R}
    (h : Q bt.bits bt.refs ∧ mk bt.bits bt.refs = some bt.cell) : Q (view bt.cell).1 (view bt.cell).2 := by
  rw [L.view_mk _ _ _ h.2]; exact h.1

mutual
theorem ser_val (L : Laws mk view ord) : ∀ (v : Val R) (bt : Built R), serVal mk v = some bt →
    IsValue view ord v bt.bits bt.refs ∧ mk bt.bits bt.refs = some bt.cell
  | .null, bt, h => by
    simp only [serVal] at h
    exact built (eff_storeByte 0) h fun _ => IsValue.null
  | .int v, bt, h => by
    simp only [serVal] at h
    split at h
    · exact built (Eff.andThen (eff_storeByte 1) (eff_storeInt v 64)) h fun p => by simpa using IsValue.tinyint v p.2.2
    · rename_i hn
      exact built (Eff.andThen (eff_storeBits tagInt257) (eff_storeInt v 257)) h fun p => by
        simpa [tagInt257_eq] using IsValue.int257 (view := view) (ord := ord) v (by simpa [IntOk] using hn) p.2.2
  | .cell c, bt, h => by
    simp only [serVal] at h
    exact built (Eff.andThen (eff_storeByte 3) (eff_storeRef c)) h fun _ => by simpa using IsValue.cell c
  | .slice bits refs, bt, h => by
    simp only [serVal] at h
    obtain ⟨cs, hcs, h2⟩ := Option.bind_eq_some_iff.mp h
    exact built (Eff.andThen (eff_storeByte 4) (eff_storeCell cs.bits cs.refs)) h2 fun _ => by
      simpa using IsValue.slice (ser_cellSlice L hcs).1
  | .builder bits refs, bt, h => by
    simp only [serVal] at h
    obtain ⟨c, hc, h2⟩ := Option.bind_eq_some_iff.mp h
    exact built (Eff.andThen (eff_storeByte 5) (eff_storeRef c)) h2 fun _ => by
      simpa using IsValue.builder c (L.ord_mk _ _ _ hc) (L.view_mk _ _ _ hc)
  | .cont k, bt, h => by
    simp only [serVal] at h
    obtain ⟨kc, hkc, h2⟩ := Option.bind_eq_some_iff.mp h
    exact built (Eff.andThen (eff_storeByte 6) (eff_storeCell kc.bits kc.refs)) h2 fun _ => by
      simpa using IsValue.cont (ser_cont L k kc hkc).1
  | .tuple vs, bt, h => by
    simp only [serVal] at h
    obtain ⟨t, ht, h2⟩ := Option.bind_eq_some_iff.mp h
    exact built (Eff.andThen (Eff.andThen (eff_storeByte 7) (eff_storeUint vs.length 16)) (eff_storeCell t.bits t.refs)) h2 fun p => by
      have hl : vs.length < 2 ^ 16 := by have := p.1.2.2.2; exact_mod_cast this
      simpa [List.append_assoc] using IsValue.tuple hl (ser_tuple L vs t ht).1
theorem ser_tuple (L : Laws mk view ord) : ∀ (vs : List (Val R)) (bt : Built R), serTuple mk vs = some bt →
    IsTuple view ord vs.length vs bt.bits bt.refs ∧ mk bt.bits bt.refs = some bt.cell
  | [], bt, h => by
    simp only [serTuple] at h
    exact built eff_skip h fun _ => IsTuple.nil
  | v :: rest, bt, h => by
    simp only [serTuple] at h
    obtain ⟨hd, hhd, h1⟩ := Option.bind_eq_some_iff.mp h
    obtain ⟨vc, hvc, h2⟩ := Option.bind_eq_some_iff.mp h1
    exact built (Eff.andThen (eff_storeCell hd.bits hd.refs) (eff_storeRef vc.cell)) h2 fun _ => by
      simpa using IsTuple.tcons (view := view) (ord := ord) vc.cell (ser_tupleRef L rest hd hhd).1 (L.at_cell (ser_val L v vc hvc))
theorem ser_tupleRef (L : Laws mk view ord) : ∀ (vs : List (Val R)) (bt : Built R), serTupleRef mk vs = some bt →
    IsTupleRef view ord vs.length vs bt.bits bt.refs ∧ mk bt.bits bt.refs = some bt.cell
  | [], bt, h => by
    simp only [serTupleRef] at h
    exact built eff_skip h fun _ => IsTupleRef.nil
  | [v], bt, h => by
    simp only [serTupleRef] at h
    obtain ⟨vc, hvc, h2⟩ := Option.bind_eq_some_iff.mp h
    exact built (eff_storeRef vc.cell) h2 fun _ => by
      simpa using IsTupleRef.single (view := view) (ord := ord) vc.cell (L.at_cell (ser_val L v vc hvc))
  | v :: w :: rest, bt, h => by
    simp only [serTupleRef] at h
    obtain ⟨hd, hhd, h1⟩ := Option.bind_eq_some_iff.mp h
    obtain ⟨vc, hvc, h2⟩ := Option.bind_eq_some_iff.mp h1
    obtain ⟨t, ht, h3⟩ := Option.bind_eq_some_iff.mp h2
    have htup : IsTuple view ord (v :: w :: rest).length (v :: w :: rest) t.bits t.refs ∧ mk t.bits t.refs = some t.cell :=
      built (Eff.andThen (eff_storeCell hd.bits hd.refs) (eff_storeRef vc.cell)) ht fun _ => by
        simpa using IsTuple.tcons (view := view) (ord := ord) vc.cell (ser_tupleRef L (w :: rest) hd hhd).1
          (L.at_cell (ser_val L v vc hvc))
    exact built (eff_storeRef t.cell) h3 fun _ => by
      simpa using IsTupleRef.any (view := view) (ord := ord) (n := rest.length) (vs := v :: w :: rest) t.cell
        (by simpa using L.at_cell htup)
theorem ser_stackList (L : Laws mk view ord) : ∀ (vs : List (Val R)) (bt : Built R), serStackList mk vs = some bt →
    IsStackList view ord vs.length vs bt.bits bt.refs ∧ mk bt.bits bt.refs = some bt.cell
  | [], bt, h => by
    simp only [serStackList] at h
    exact built eff_skip h fun _ => IsStackList.nil
  | v :: rest, bt, h => by
    simp only [serStackList] at h
    obtain ⟨rc, hrc, h1⟩ := Option.bind_eq_some_iff.mp h
    obtain ⟨vc, hvc, h2⟩ := Option.bind_eq_some_iff.mp h1
    exact built (Eff.andThen (eff_storeRef rc.cell) (eff_storeCell vc.bits vc.refs)) h2 fun _ => by
      simpa using IsStackList.cons (view := view) (ord := ord) rc.cell (L.at_cell (ser_stackList L rest rc hrc)) (ser_val L v vc hvc).1
theorem ser_cont (L : Laws mk view ord) : ∀ (k : Cont R) (bt : Built R), serCont mk k = some bt →
    IsCont view ord k bt.bits bt.refs ∧ mk bt.bits bt.refs = some bt.cell
  | .quit code, bt, h => by
    simp only [serCont] at h
    exact built (Eff.andThen (eff_storeBits _) (eff_storeInt code 32)) h fun p => by simpa using IsCont.quit code p.2.2
  | .quitExc, bt, h => by
    simp only [serCont] at h
    exact built (eff_storeBits _) h fun _ => IsCont.quitExc
  | .std cd cb cr, bt, h => by
    simp only [serCont] at h
    obtain ⟨c, hc, h1⟩ := Option.bind_eq_some_iff.mp h
    obtain ⟨cs, hcs, h2⟩ := Option.bind_eq_some_iff.mp h1
    exact built (Eff.andThen (Eff.andThen (eff_storeBits _) (eff_storeCell c.bits c.refs)) (eff_storeCell cs.bits cs.refs)) h2 fun _ => by
      simpa [List.append_assoc] using IsCont.std (ser_ctl L cd c hc).1 (ser_cellSlice L hcs).1
  | .envelope cd next, bt, h => by
    simp only [serCont] at h
    obtain ⟨c, hc, h1⟩ := Option.bind_eq_some_iff.mp h
    obtain ⟨n, hn, h2⟩ := Option.bind_eq_some_iff.mp h1
    exact built (Eff.andThen (Eff.andThen (eff_storeBits _) (eff_storeCell c.bits c.refs)) (eff_storeRef n.cell)) h2 fun _ => by
      simpa [List.append_assoc] using IsCont.envelope (view := view) (ord := ord) n.cell (ser_ctl L cd c hc).1
        (L.at_cell (ser_cont L next n hn))
  | .repeat_ count body after, bt, h => by
    simp only [serCont] at h
    obtain ⟨b, hb, h1⟩ := Option.bind_eq_some_iff.mp h
    obtain ⟨a, ha, h2⟩ := Option.bind_eq_some_iff.mp h1
    exact built (Eff.andThen (Eff.andThen (Eff.andThen (eff_storeBits _) (eff_storeUint count 63)) (eff_storeRef b.cell))
        (eff_storeRef a.cell)) h2 fun p => by
      simpa [List.append_assoc] using IsCont.repeat_ (view := view) (ord := ord) count b.cell a.cell p.1.1.2.2
        (L.at_cell (ser_cont L body b hb)) (L.at_cell (ser_cont L after a ha))
  | .until_ body after, bt, h => by
    simp only [serCont] at h
    obtain ⟨b, hb, h1⟩ := Option.bind_eq_some_iff.mp h
    obtain ⟨a, ha, h2⟩ := Option.bind_eq_some_iff.mp h1
    exact built (Eff.andThen (Eff.andThen (eff_storeBits _) (eff_storeRef b.cell)) (eff_storeRef a.cell)) h2 fun _ => by
      simpa using IsCont.until_ (view := view) (ord := ord) b.cell a.cell
        (L.at_cell (ser_cont L body b hb)) (L.at_cell (ser_cont L after a ha))
  | .again body, bt, h => by
    simp only [serCont] at h
    obtain ⟨b, hb, h2⟩ := Option.bind_eq_some_iff.mp h
    exact built (Eff.andThen (eff_storeBits _) (eff_storeRef b.cell)) h2 fun _ => by
      simpa using IsCont.again (view := view) (ord := ord) b.cell (L.at_cell (ser_cont L body b hb))
  | .whileCond cnd body after, bt, h => by
    simp only [serCont] at h
    obtain ⟨c, hc, h0⟩ := Option.bind_eq_some_iff.mp h
    obtain ⟨b, hb, h1⟩ := Option.bind_eq_some_iff.mp h0
    obtain ⟨a, ha, h2⟩ := Option.bind_eq_some_iff.mp h1
    exact built (Eff.andThen (Eff.andThen (Eff.andThen (eff_storeBits _) (eff_storeRef c.cell)) (eff_storeRef b.cell))
        (eff_storeRef a.cell)) h2 fun _ => by
      simpa using IsCont.whileCond (view := view) (ord := ord) c.cell b.cell a.cell (L.at_cell (ser_cont L cnd c hc))
        (L.at_cell (ser_cont L body b hb)) (L.at_cell (ser_cont L after a ha))
  | .whileBody cnd body after, bt, h => by
    simp only [serCont] at h
    obtain ⟨c, hc, h0⟩ := Option.bind_eq_some_iff.mp h
    obtain ⟨b, hb, h1⟩ := Option.bind_eq_some_iff.mp h0
    obtain ⟨a, ha, h2⟩ := Option.bind_eq_some_iff.mp h1
    exact built (Eff.andThen (Eff.andThen (Eff.andThen (eff_storeBits _) (eff_storeRef c.cell)) (eff_storeRef b.cell))
        (eff_storeRef a.cell)) h2 fun _ => by
      simpa using IsCont.whileBody (view := view) (ord := ord) c.cell b.cell a.cell (L.at_cell (ser_cont L cnd c hc))
        (L.at_cell (ser_cont L body b hb)) (L.at_cell (ser_cont L after a ha))
  | .pushint value next, bt, h => by
    simp only [serCont] at h
    obtain ⟨n, hn, h2⟩ := Option.bind_eq_some_iff.mp h
    exact built (Eff.andThen (Eff.andThen (eff_storeBits _) (eff_storeInt value 32)) (eff_storeRef n.cell)) h2 fun p => by
      simpa using IsCont.pushint (view := view) (ord := ord) value n.cell p.1.2.2 (L.at_cell (ser_cont L next n hn))
theorem ser_ctl (L : Laws mk view ord) : ∀ (cd : Ctl R) (bt : Built R), serCtl mk cd = some bt →
    IsCtl view ord cd bt.bits bt.refs ∧ mk bt.bits bt.refs = some bt.cell
  | .mk nargs none save cp, bt, h => by
    simp only [serCtl] at h
    obtain ⟨sl, hsl, h2⟩ := Option.bind_eq_some_iff.mp h
    obtain ⟨s1, s2, _, _⟩ := eff_build (eff_storeMaybeRef save) hsl
    rw [s1, s2] at h2
    exact built (Eff.andThen (Eff.andThen (Eff.andThen (eff_nargs nargs) (eff_storeBit false)) (eff_storeCell _ _)) (eff_cp cp)) h2
      fun p => by
        simpa [List.append_assoc] using IsCtl.noStack (view := view) (ord := ord) (save := save) (nargs := nargs) (cp := cp)
          (maybeOk_mono (fun _ h => h.2) p.1.1.1) (maybeOk_mono (fun _ h => h.2) p.2)
  | .mk nargs (some st) save cp, bt, h => by
    simp only [serCtl] at h
    obtain ⟨l, hl, h0⟩ := Option.bind_eq_some_iff.mp h
    obtain ⟨sc, hsc, h1⟩ := Option.bind_eq_some_iff.mp h0
    obtain ⟨sl, hsl, h2⟩ := Option.bind_eq_some_iff.mp h1
    obtain ⟨c1, c2, _, pc⟩ := eff_build (Eff.andThen (eff_storeUint st.length 24) (eff_storeCell l.bits l.refs)) hsc
    obtain ⟨s1, s2, _, _⟩ := eff_build (eff_storeMaybeRef save) hsl
    rw [s1, s2, c1, c2] at h2
    exact built (Eff.andThen (Eff.andThen (Eff.andThen (Eff.andThen (eff_nargs nargs) (eff_storeBit true)) (eff_storeCell _ _))
        (eff_storeCell _ _)) (eff_cp cp)) h2 fun p => by
      have hlen : st.length < 2 ^ 24 := by have := pc.1.2.2; exact_mod_cast this
      simpa [List.append_assoc] using IsCtl.withStack (view := view) (ord := ord) (save := save) (nargs := nargs) (cp := cp)
        (maybeOk_mono (fun _ h => h.2) p.1.1.1.1) (maybeOk_mono (fun _ h => h.2) p.2) hlen (ser_stackList L st l hl).1
end


theorem ser_stack (L : Laws mk view ord) (vs : List (Val R)) (bt : Built R) (h : serStack mk vs = some bt) :
    IsStack view ord vs bt.bits bt.refs ∧ mk bt.bits bt.refs = some bt.cell := by
  unfold serStack at h
  obtain ⟨l, hl, h2⟩ := Option.bind_eq_some_iff.mp h
  exact built (Eff.andThen (eff_storeUint vs.length 24) (eff_storeCell l.bits l.refs)) h2 fun p => by
    have hlen : vs.length < 2 ^ 24 := by have := p.1.2.2; exact_mod_cast this
    simpa using IsStack.mk hlen (ser_stackList L vs l hl).1


/-! ### slice operations: reading back what the schema prescribes -/

/-- `p` consumes exactly `xs` / `rs` from the front of any slice and returns `a` -/
def Reads {α : Type} (p : SOp R α) (xs : Bits) (rs : List R) (a : α) : Prop :=
  ∀ b' r', p ⟨xs ++ b', rs ++ r'⟩ = (⟨b', r'⟩, some a)

theorem Reads.bind {α β : Type} {p : SOp R α} {f : α → SOp R β} {x1 x2 r1 r2 a c}
    (h1 : Reads p x1 r1 a) (h2 : Reads (f a) x2 r2 c) : Reads (p >>= f) (x1 ++ x2) (r1 ++ r2) c :=
  (Slice.Reads.bind ⟨h1⟩ ⟨h2⟩).run

theorem reads_pure {α : Type} (a : α) : Reads (Pure.pure a : SOp R α) [] [] a := (Slice.Reads.pure a).run

theorem Reads.cast {α : Type} {p : SOp R α} {xs xs' rs rs' a} (h : Reads p xs rs a) (e1 : xs' = xs) (e2 : rs' = rs) :
    Reads p xs' rs' a := by subst e1 e2; exact h

theorem Reads.ite_pos {α : Type} {c : Prop} [Decidable c] {p q : SOp R α} {xs rs a} (hc : c)
    (h : Reads p xs rs a) : Reads (if c then p else q) xs rs a := by rw [if_pos hc]; exact h

theorem Reads.ite_neg {α : Type} {c : Prop} [Decidable c] {p q : SOp R α} {xs rs a} (hc : ¬ c)
    (h : Reads q xs rs a) : Reads (if c then p else q) xs rs a := by rw [if_neg hc]; exact h

theorem reads_loadBits (xs : Bits) (n : Nat) (h : xs.length = n) : Reads (SOp.loadBits n : SOp R Bits) xs [] xs :=
  fun b' r' => h ▸ (Slice.reads_loadBits xs).run b' r'

theorem reads_skipBits (xs : Bits) (n : Nat) (h : xs.length = n) : Reads (SOp.skipBits n : SOp R Unit) xs [] () := by
  intro b' r'
  rw [Slice.skipBits_eq, if_neg (by simp [h]), List.drop_left' h]
  rfl

theorem reads_loadUint {n : Nat} {v : Int} (hn : 0 < n) (hv : UintOk n v) :
    Reads (SOp.loadUint n : SOp R Int) (uintBits n v) [] v :=
  fun b' r' => uintBits_eq n v ▸ (Slice.reads_loadUint n v hn hv).run b' r'

theorem reads_loadInt {n : Nat} {v : Int} (hn : 0 < n) (hv : IntOk n v) :
    Reads (SOp.loadInt n : SOp R Int) (intBits n v) [] v :=
  fun b' r' => intBits_eq n v ▸ (Slice.reads_loadInt n v hn ((intOk_iff hn v).mp hv)).run b' r'

theorem reads_loadRef (c : R) : Reads (SOp.loadRef : SOp R R) [] [c] c := (Slice.reads_loadRef c).run

theorem reads_loadBit (x : Bool) : Reads (SOp.loadBit : SOp R Bool) [x] [] x := (Slice.reads_loadBit x).run

theorem reads_loadMaybeRef (o : Option R) : Reads (SOp.loadMaybeRef : SOp R (Option R)) [o.isSome] o.toList o := by
  cases o with
  | none => exact (Slice.reads_loadMaybeRef none).run
  | some c => exact (Slice.reads_loadMaybeRef (some c)).run

theorem reads_loadByte (k : Nat) : Reads (SOp.loadBytes 1 : SOp R Bytes) (tagByte k) [] (bitsToBytes (tagByte k)) := by
  intro b' r'
  have hl : (tagByte k).length = 1 * 8 := natToBits_length _ _
  rw [Slice.loadBytes_eq, if_neg (by simp [hl]), List.drop_left' hl, List.take_left' hl]
  rfl


theorem uintOk_nat {n k : Nat} (h : k < 2 ^ n) : UintOk n (k : Int) := (Builder.fitsUint_nat n k).mpr h

theorem reads_cellSlice {bits : Bits} {refs : List R} {b : Bits} {r : List R}
    (h : IsCellSlice view bits refs b r) : Reads (De.cellSlice view) b r (bits, refs) := by
  obtain ⟨c, st, en, sr, er, h1, h2, h3, h4, h5, h6⟩ := h
  unfold De.cellSlice
  have fin : Reads (Pure.pure (pySlice (view c).1 (st : Int).toNat (en : Int).toNat,
      pySlice (view c).2 (sr : Int).toNat (er : Int).toNat) : SOp R (Bits × List R)) [] []
      (window (view c).1 st en, window (view c).2 sr er) := by
    simpa [pySlice, window] using reads_pure (R := R) (window (view c).1 st en, window (view c).2 sr er)
  exact Reads.cast (Reads.bind (reads_loadRef c)
    (Reads.bind (reads_loadUint (by decide) (uintOk_nat (by omega)))
      (Reads.bind (reads_loadUint (by decide) (uintOk_nat (by omega)))
        (Reads.ite_neg (by simpa using h1)
          (Reads.bind (reads_loadUint (by decide) (uintOk_nat (by omega)))
            (Reads.bind (reads_loadUint (by decide) (uintOk_nat (by omega)))
              (Reads.ite_neg (by simpa using h4) fin)))))))
    (by simp) (by simp)

theorem reads_sub {α : Type} {p : SOp R α} {c : R} {a : α} (h : Reads p (view c).1 (view c).2 a) :
    Reads (De.sub view p c) [] [] a := by
  intro b' r'
  have := h [] []
  simp only [List.append_nil] at this
  simp [De.sub, this]

/-- fuel: if `p` works from `n` on, it works for any larger fuel -/
def From {α : Type} (p : Nat → SOp R α) (xs : Bits) (rs : List R) (a : α) : Prop :=
  ∃ n, ∀ fuel, n ≤ fuel → Reads (p fuel) xs rs a


/-! ### the current code leaves the caller's values as they were -/

mutual
theorem postVal_id : ∀ v : Val R, postVal false v = v
  | .null => by simp [postVal]
  | .int _ => by simp [postVal]
  | .cell _ => by simp [postVal]
  | .slice _ _ => by simp [postVal]
  | .builder _ _ => by simp [postVal]
  | .cont k => by simp [postVal, postCont_id k]
  | .tuple vs => by simp [postVal, postTuple_id vs]
theorem postTuple_id : ∀ vs : List (Val R), postTuple false vs = vs
  | [] => by simp [postTuple]
  | v :: rest => by simp [postTuple, postVal_id v, postTupleRef_id rest]
theorem postTupleRef_id : ∀ vs : List (Val R), postTupleRef false vs = vs
  | [] => by simp [postTupleRef]
  | [v] => by simp [postTupleRef, postVal_id v]
  | v :: w :: rest => by simp [postTupleRef, postVal_id v, postTupleRef_id (w :: rest)]
theorem postList_id : ∀ vs : List (Val R), postList false vs = vs
  | [] => by simp [postList]
  | v :: rest => by simp [postList, postVal_id v, postList_id rest]
theorem postCont_id : ∀ k : Cont R, postCont false k = k
  | .std cd _ _ => by simp [postCont, postCtl_id cd]
  | .envelope cd n => by simp [postCont, postCtl_id cd, postCont_id n]
  | .quit _ => by simp [postCont]
  | .quitExc => by simp [postCont]
  | .repeat_ _ b a => by simp [postCont, postCont_id b, postCont_id a]
  | .until_ b a => by simp [postCont, postCont_id b, postCont_id a]
  | .again b => by simp [postCont, postCont_id b]
  | .whileCond c b a => by simp [postCont, postCont_id c, postCont_id b, postCont_id a]
  | .whileBody c b a => by simp [postCont, postCont_id c, postCont_id b, postCont_id a]
  | .pushint _ n => by simp [postCont, postCont_id n]
theorem postCtl_id : ∀ cd : Ctl R, postCtl false cd = cd
  | .mk _ none _ _ => by simp [postCtl]
  | .mk _ (some st) _ _ => by simp [postCtl, postList_id st]
end

end TonVerif.Proofs.Vm
