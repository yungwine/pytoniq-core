/-
C11: the regenerated TL-B walk (`srcLocate`, Model/LocateSrc.lean over Generated/LocateSrc.lean) against the hand model
`locateAccount srcOpaque` (Model/Locate.lean).  `WalkAgreeAt st addr` is the equation for one state cell and address - a CLOSED
statement about regenerated definitions (no external, no parameter), which the driver op `srcloc` decides by evaluation.  Proved here for
every address: the cells on which `ShardStateUnsplit.deserialize` returns None (special) or raises at its tag.
-/
import TonVerif.Model.LocateSrc
namespace TonVerif.Proofs.SrcLocate
open TonVerif TonVerif.Model TonVerif.Tlb

/-- the regenerated walk and the hand model (sub-parsers read from the source) agree on this state cell and address: same "raises"
verdict, and the located account cell has the same `is_special()` flag, data bits and subtree -/
def WalkAgreeAt (st : PCell) (addr : Bytes) : Prop :=
  srcLocate (tcell st) addr = (locateAccount srcOpaque st addr).map tcell

theorem tcell_mk (i : CellInfo) (refs : List PCell) : tcell (.mk i refs) = .mk (i.kind != -1) i.bits (tcells refs) := by
  rw [tcell]

/-- a special state cell: `deserialize` returns `None`, `None.accounts` raises; the model refuses a non-ordinary cell -/
theorem walk_special (st : PCell) (addr : Bytes) (h : st.info.kind ≠ -1) : WalkAgreeAt st addr := by
  obtain ⟨i, refs⟩ := st
  have hk : i.kind ≠ -1 := h
  have hb : (i.kind != -1) = true := by simpa using hk
  simp [WalkAgreeAt, srcLocate, tcell_mk, Rd.special, Rd.beginParse, Tlb.Cell.exotic, hb, SrcLoc.ShardStateUnsplit, pyAttr,
    locateAccount, PCell.info, hk]

theorem tag_lit : Rd.bytesLit [144, 35, 175, 226] = .bits shardStateTag := by
  simp [Rd.bytesLit, shardStateTag]; decide

/-- an ordinary state cell without the `shard_state#9023afe2` tag: the parser raises, the model refuses -/
theorem walk_badtag (st : PCell) (addr : Bytes) (hk : st.info.kind = -1)
    (ht : st.info.bits.length < 32 ∨ st.info.bits.take 32 ≠ shardStateTag) : WalkAgreeAt st addr := by
  obtain ⟨i, refs⟩ := st
  have hk' : i.kind = -1 := hk
  have ht' : i.bits.length < 32 ∨ i.bits.take 32 ≠ shardStateTag := ht
  have hm : locateAccount srcOpaque (.mk i refs) addr = none := by
    unfold locateAccount
    show (if i.kind ≠ -1 then none else if i.bits.length < 361 then none else if i.bits.take 32 ≠ shardStateTag then none else _) = none
    rw [if_neg (fun h => h hk')]
    by_cases hl : i.bits.length < 361
    · rw [if_pos hl]
    · rw [if_neg hl, if_pos (ht'.resolve_left (by omega))]
  -- the parser stops at its first two steps: `load_bytes(4)`, then the comparison with the tag
  have hs : SrcLoc.ShardStateUnsplit false ⟨i.bits, tcells refs⟩ = none := by
    unfold SrcLoc.ShardStateUnsplit
    simp only [Bool.false_eq_true, if_false, Rd.loadBytes, Rd.loadBits, Rd.takeBits, tag_lit]
    by_cases hl : i.bits.length < 8 * 4
    · rw [if_pos hl]; rfl
    · have hne : (i.bits.take (8 * 4) == shardStateTag) = false := by simpa using ht'.resolve_left hl
      rw [if_neg hl]
      simp only [Option.map_some, Option.bind_eq_bind, Option.bind_some, Rd.veq, hne, Bool.not_false, if_true]
  rw [WalkAgreeAt, hm, srcLocate, tcell_mk]
  simp only [Rd.special, Rd.beginParse, Tlb.Cell.exotic, Tlb.Cell.bits, Tlb.Cell.refs, hk', bne_self_eq_false, hs, Option.map_none]

end TonVerif.Proofs.SrcLocate
