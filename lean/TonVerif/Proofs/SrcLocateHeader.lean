/-
C11 / locsrc (c): the straight-line part of the regenerated `ShardStateUnsplit.deserialize` - the `^[ overload_history … master_ref ]`
group against `stateRefGroup`, and the header tests at which `locateAccount` stops.
-/
import TonVerif.Proofs.SrcLocateAccounts
namespace TonVerif.Proofs.SrcLocate
open TonVerif TonVerif.Model TonVerif.Tlb TonVerif.Model.Hashmap TonVerif.Proofs.Hashmap TonVerif.Proofs.Locate

theorem loadUint_eq (n : Nat) (hn : n ≠ 0) (b : Bits) (r : List Tlb.Cell) :
    Rd.loadUint n ⟨b, r⟩ = if b.length < n then none else some (.int (natOfBits (b.take n)), ⟨b.drop n, r⟩) := by
  simp only [Rd.loadUint, hn, if_false, Rd.takeBits]
  split <;> rfl

theorem loadInt_eq (n : Nat) (hn : n ≠ 0) (b : Bits) (r : List Tlb.Cell) :
    Rd.loadInt n ⟨b, r⟩ = if b.length < n then none else some (.int (Rd.sintOfBits (b.take n)), ⟨b.drop n, r⟩) := by
  simp only [Rd.loadInt, hn, if_false, Rd.takeBits]
  split <;> rfl

theorem loadBits_eq (n : Nat) (b : Bits) (r : List Tlb.Cell) :
    Rd.loadBits n ⟨b, r⟩ = if b.length < n then none else some (.bits (b.take n), ⟨b.drop n, r⟩) := by
  simp only [Rd.loadBits, Rd.takeBits]
  split <;> rfl

/-- `f` reads exactly `w` bits: it fails on a shorter slice and otherwise leaves the slice `w` bits shorter. -/
def ReadsBits (f : Frag → Rd.R) (w : Nat) : Prop :=
  ∀ b r, b.length < w ∧ f ⟨b, r⟩ = none ∨ w ≤ b.length ∧ ∃ v, f ⟨b, r⟩ = some (v, ⟨b.drop w, r⟩)

theorem ReadsBits.isSome {f : Frag → Rd.R} {w : Nat} (h : ReadsBits f w) (b : Bits) (r : List Tlb.Cell) :
    (f ⟨b, r⟩).isSome = decide (w ≤ b.length) := by
  rcases h b r with ⟨hl, e⟩ | ⟨hl, v, e⟩
  · rw [e, decide_eq_false (by omega)]; rfl
  · rw [e, decide_eq_true hl]; rfl

theorem ReadsBits.bind {f : Frag → Rd.R} {k : Val × Frag → Rd.R} {w m : Nat} (hf : ReadsBits f w)
    (hk : ∀ v, ReadsBits (fun s => k (v, s)) m) : ReadsBits (fun s => f s >>= k) (w + m) := by
  intro b r
  rcases hf b r with ⟨hl, e⟩ | ⟨hl, v, e⟩
  · exact .inl ⟨by omega, by simp only [e]; rfl⟩
  · simp only [e]
    rcases hk v (b.drop w) r with ⟨hl', e'⟩ | ⟨hl', v', e'⟩ <;> rw [List.length_drop] at hl'
    · exact .inl ⟨by omega, e'⟩
    · exact .inr ⟨by omega, v', by rw [← List.drop_drop]; exact e'⟩

theorem readsBits_pure (v : Val) : ReadsBits (fun s => pure (v, s)) 0 := fun _ _ => .inr ⟨Nat.zero_le _, v, rfl⟩

theorem readsBits_of_eq {f : Frag → Rd.R} {n : Nat} {g : Bits → Val}
    (h : ∀ b r, f ⟨b, r⟩ = if b.length < n then none else some (g b, ⟨b.drop n, r⟩)) : ReadsBits f n := by
  intro b r
  by_cases hl : b.length < n
  · exact .inl ⟨hl, by rw [h, if_pos hl]⟩
  · exact .inr ⟨by omega, g b, by rw [h, if_neg hl]⟩

/-- `ExtBlkRef`: four straight reads, 608 bits.  (`by exact` lets the continuation be read off the goal first.) -/
theorem extBlkRef_reads (sp : Bool) : ReadsBits (Src.ExtBlkRef sp) 608 := by
  unfold Src.ExtBlkRef
  exact (readsBits_of_eq (loadUint_eq 64 (by decide))).bind (m := 544) fun _ =>
    (readsBits_of_eq (loadUint_eq 32 (by decide))).bind (m := 512) fun _ =>
    (readsBits_of_eq (loadBits_eq 256)).bind (m := 256) fun _ =>
    (readsBits_of_eq (loadBits_eq 256)).bind (m := 0) fun _ => by exact readsBits_pure _

theorem blkMasterInfo_isSome (sp : Bool) (b : Bits) (r : List Tlb.Cell) :
    (Src.BlkMasterInfo sp ⟨b, r⟩).isSome = decide (608 ≤ b.length) :=
  ReadsBits.isSome (f := Src.BlkMasterInfo sp) ((extBlkRef_reads sp).bind (m := 0) fun _ => by exact readsBits_pure _) b r

/-- the `^[…]` group of the regenerated `ShardStateUnsplit` as the translator emits it (its own definition `SrcLoc.ShardStateUnsplit_group`),
called as the parser calls it: on `ref = cell_slice.load_ref().begin_parse()` with the six `None` defaults -/
def groupExpr (c12 : Tlb.Cell) : Option (Val × Val × Val × Val × Val × Val × Frag) :=
  SrcLoc.ShardStateUnsplit_group c12 (Rd.beginParse c12) .unit .unit .unit .unit .unit .unit

theorem optional_master_isSome (sp : Bool) (s : PSlice) :
    (Rd.optional (psliceFrag s) (Src.BlkMasterInfo sp)).isSome =
      (match s.1 with
       | [] => false
       | false :: _ => true
       | true :: r => decide (608 ≤ r.length)) := by
  obtain ⟨b, refs⟩ := s
  match b with
  | [] => simp [Rd.optional, Rd.loadBit, psliceFrag]
  | false :: r => simp [Rd.optional, Rd.loadBit, psliceFrag, Rd.truthy]
  | true :: r => simp [Rd.optional, Rd.loadBit, psliceFrag, Rd.truthy, blkMasterInfo_isSome]

theorem group_isSome (grp : PCell) : (groupExpr (tcell grp)).isSome = stateRefGroup grp := by
  obtain ⟨gi, gr⟩ := grp
  simp only [groupExpr, SrcLoc.ShardStateUnsplit_group, tcell_mk, Rd.special, Rd.beginParse, Tlb.Cell.exotic, Tlb.Cell.bits, Tlb.Cell.refs, stateRefGroup, PCell.info,
    PCell.refs]
  by_cases hk : gi.kind = -1
  · simp only [hk, bne_self_eq_false, Bool.not_false, if_true, ne_eq, not_true_eq_false, if_false, loadUint_eq 64 (by decide)]
    by_cases hl : gi.bits.length < 128
    · have h2 : gi.bits.length < 64 ∨ ¬ gi.bits.length < 64 ∧ gi.bits.length - 64 < 64 := by omega
      rcases h2 with h1 | ⟨h1, h2⟩
      · simp only [h1, hl, if_true]; rfl
      · simp only [h1, h2, hl, if_true, if_false, Option.bind_eq_bind, Option.bind_some, List.length_drop]; rfl
    · have h1 : ¬ gi.bits.length < 64 := by omega
      have h2 : ¬ gi.bits.length - 64 < 64 := by omega
      simp only [hl, h1, h2, if_false, List.length_drop, List.drop_drop, Option.bind_eq_bind, Option.bind_some, Nat.reduceAdd]
      have c1 := currencyCollection_rest false (gi.bits.drop 128, gr)
      simp only [psliceFrag] at c1
      rcases map_eq_map_cases c1 with ⟨hs1, hm1⟩ | ⟨⟨v1, f1⟩, p1, hs1, hm1, e1⟩
      · simp [hs1, hm1]
      simp only at e1
      subst e1
      have c2 := currencyCollection_rest false p1
      rcases map_eq_map_cases c2 with ⟨hs2, hm2⟩ | ⟨⟨v2, f2⟩, p2, hs2, hm2, e2⟩
      · simp [hs1, hm1, hs2, hm2]
      simp only at e2
      subst e2
      have c3 := dictRaw_rest 256 (by omega) p2
      rcases map_eq_map_cases c3 with ⟨hs3, hm3⟩ | ⟨⟨v3, f3⟩, p3, hs3, hm3, e3⟩
      · simp [hs1, hm1, hs2, hm2, hs3, hm3]
      simp only at e3
      subst e3
      simp only [hs1, hm1, hs2, hm2, hs3, hm3, Option.bind_some]
      refine Eq.trans ?_ (optional_master_isSome false p3)
      cases Rd.optional (psliceFrag p3) (Src.BlkMasterInfo false) <;> rfl
  · have hb : (gi.kind != -1) = true := by simpa using hk
    simp [hb, hk]

theorem bind_ite_none {α β : Type} (c : Prop) [Decidable c] (y : Option α) (k : α → Option β) :
    Option.bind (if c then none else y) k = if c then none else Option.bind y k := by
  split <;> rfl

theorem bp_mk (e : Bool) (b : Bits) (r : List Tlb.Cell) : Rd.beginParse (Tlb.Cell.mk e b r) = ⟨b, r⟩ := rfl
theorem sp_mk (e : Bool) (b : Bits) (r : List Tlb.Cell) : Rd.special (Tlb.Cell.mk e b r) = e := rfl

/-- the value `load_bit()` returns -/
def bitVal (b : Bits) : Val := .int (if b.headD false then 1 else 0)

theorem loadBit_eq (b : Bits) (r : List Tlb.Cell) :
    Rd.loadBit ⟨b, r⟩ = if b.length < 1 then none else some (bitVal b, ⟨b.drop 1, r⟩) := by
  cases b <;> simp [Rd.loadBit, bitVal]

theorem locate_short (st : PCell) (addr : Bytes) (h : st.info.bits.length < 361) : locateAccount srcOpaque st addr = none := by
  simp only [locateAccount, if_pos h, ite_self]

theorem locate_badident (st : PCell) (addr : Bytes) (h : (st.info.bits.drop 64).take 2 ≠ [false, false]) :
    locateAccount srcOpaque st addr = none := by
  simp only [locateAccount, if_pos h, ite_self]

end TonVerif.Proofs.SrcLocate
