/-
Helper lemmas for `c01_twins_unequal` (Properties/C01.lean): the first byte of every cell representation is the descriptor
d1 = refs + 8·exotic + 32·mask, so two cells of different level mask (a tree and its pruned twin) have different representations.
-/
import TonVerif.Proofs.OrdCell

namespace TonVerif.Proofs.CellTwins
open TonVerif TonVerif.Model TonVerif.Proofs.OrdCell

theorem toBytesBE1 (v : Nat) (d : Bytes) (h : toBytesBE? 1 v = some d) : d = [v] ∧ v < 256 := by
  by_cases hv : v < 256
  · rw [TonVerif.Proofs.CellSpec.toBytesBE_one v hv] at h
    exact ⟨(Option.some.inj h).symm, hv⟩
  · simp [toBytesBE?, hv] at h

/-- the first byte of every representation (`get_representation`) is d1 = refs + 8·exotic + 32·mask -/
theorem representation_head (c : CellInfo) (ks : List CellInfo) (r : Bytes) (h : representation c ks = some r) :
    r.head? = some (c.nrefs + 8 * (if c.kind != kOrdinary then 1 else 0) + 32 * c.mask) := by
  unfold representation descriptors at h
  simp only [Option.bind_eq_bind, Option.pure_def, Option.bind_eq_some_iff] at h
  obtain ⟨d, ⟨d1, h1, d2, h2, hd⟩, _, _, _, _, _, _, hr⟩ := h
  obtain ⟨e1, _⟩ := toBytesBE1 _ _ h1
  simp only [Option.some.injEq] at hd hr
  subst hd hr e1
  simp

/-- representations of cells with different level masks (fewer than 8 references) differ -/
theorem representation_ne_of_mask_ne (a b : CellInfo) (ka kb : List CellInfo) (ra rb : Bytes)
    (ha : representation a ka = some ra) (hb : representation b kb = some rb) (hna : a.nrefs < 8) (hnb : b.nrefs < 8)
    (hm : a.mask ≠ b.mask) : ra ≠ rb := by
  intro he
  subst he
  have h1 := representation_head a ka _ ha
  have h2 := representation_head b kb _ hb
  rw [h1] at h2
  simp at h2
  apply hm
  split at h2 <;> split at h2 <;> omega

end TonVerif.Proofs.CellTwins
