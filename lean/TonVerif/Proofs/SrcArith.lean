/-
Generation-independent helper lemmas for the source-regenerated arithmetic (`c0x_src_*` theorems in
Properties/C01, C02, C06, C07 and Proofs/SrcBocWidths.lean).

* the translator's reading of the Python built-ins (`TonVerif/PyInt.lean`: `Py.bitLength` via `Nat.log2`,
  `Py.popcount` via `testBit`, `Py.ceilDiv`) equals the recursive helpers of the hand models
  (`Model.bitLength`, `Model.popcount`, `Model.BOp.bitLen`);
* characterisations: `bitLength n ≤ k ↔ n < 2^k`, `byteWidth n ≤ w ↔ n < 256^w`, `(bitLength n + 7) / 8 = byteWidth n`;
* the simp set `src_norm` + tactic `src_arith` used by the `c0x_src_*` proofs: they normalise shifts / masks by
  literals to `/`, `*`, `%` and finish with `omega`, so that a semantically equal rewrite of the Python source
  (`x // 8 * 2` ↦ `(x >> 3) << 1`, reordered operands, `a if c else b` ↦ `if/else`) still proves.

Nothing here mentions a `Generated.*` definition: a source change can never break this file.
-/
import TonVerif.PyInt
import TonVerif.Model.Cell
import TonVerif.Model.Builder
import TonVerif.Spec.TlbPrim
import TonVerif.Proofs.Bits
import TonVerif.Proofs.CellSpec

namespace TonVerif.Proofs.SrcArith
open TonVerif

/-! ### `int.bit_length()` -/

/-- `x.bit_length()` is the least `k` with `x < 2^k`. -/
theorem bitLength_le_iff (n k : Nat) : Py.bitLength n ≤ k ↔ n < 2 ^ k := by
  unfold Py.bitLength
  by_cases h : n = 0
  · simp [h, Nat.pow_pos]
  · simp only [h, if_false]
    have := @Nat.log2_lt n k h
    omega

theorem lt_two_pow_bitLength (n : Nat) : n < 2 ^ Py.bitLength n := (bitLength_le_iff n _).mp (Nat.le_refl _)

/-- both are the least `k` with `n < 2^k` -/
theorem py_bitLength_eq (n : Nat) : Py.bitLength n = Model.bitLength n :=
  Nat.le_antisymm ((bitLength_le_iff n _).mpr (CellSpec.lt_two_pow_bitLength n))
    ((CellSpec.bitLength_le_iff n _).mpr (lt_two_pow_bitLength n))

theorem model_bitLen_eq (n : Nat) : Model.BOp.bitLen n = Model.bitLength n := by
  induction n using Nat.strongRecOn with
  | _ n ih =>
    cases n with
    | zero => simp [Model.BOp.bitLen, Model.bitLength]
    | succ n => rw [Model.BOp.bitLen, Model.bitLength, ih ((n+1)/2) (by omega)]

theorem py_bitLength_eq_bitLen (n : Nat) : Py.bitLength n = Model.BOp.bitLen n := by
  rw [py_bitLength_eq, model_bitLen_eq]

theorem bitLength_zero : Py.bitLength 0 = 0 := by simp [Py.bitLength]

/-! ### `bin(x).count('1')` -/

theorem py_popcount_eq (n : Nat) : Py.popcount n = Model.popcount n := by
  induction n using Nat.strongRecOn with
  | _ n ih =>
    cases n with
    | zero => simp [Py.popcount, Py.bitLength, Model.popcount]
    | succ n =>
      rw [Model.popcount, ← ih ((n+1)/2) (by omega)]
      unfold Py.popcount
      rw [py_bitLength_eq (n+1), Model.bitLength, py_bitLength_eq, Nat.add_comm 1, List.range_succ_eq_map,
        List.filter_cons, List.filter_map]
      have h2 : ((fun i => (n + 1).testBit i) ∘ Nat.succ) = (fun i => ((n+1)/2).testBit i) := by
        funext i; simp [Nat.testBit_succ]
      rw [h2, Nat.testBit_zero]
      rcases Nat.mod_two_eq_zero_or_one (n+1) with h | h <;> simp [h] <;> omega

/-! ### byte widths -/

theorem byteWidth_eq_byteLenU (n : Nat) : Py.byteWidth n = Spec.Tlb.byteLenU n := by
  induction n using Nat.strongRecOn with
  | _ n ih =>
    cases n with
    | zero => simp [Py.byteWidth, Spec.Tlb.byteLenU]
    | succ n => rw [Py.byteWidth, Spec.Tlb.byteLenU, ih ((n+1)/256) (by omega)]

/-- `byteWidth n` is the least `w` with `n < 256^w`. -/
theorem byteWidth_le_iff (n w : Nat) : Py.byteWidth n ≤ w ↔ n < 256 ^ w := by
  rw [byteWidth_eq_byteLenU]; exact Proofs.Bits.byteLenU_le_iff n w

theorem lt_pow_byteWidth (n : Nat) : n < 256 ^ Py.byteWidth n := (byteWidth_le_iff n _).mp (Nat.le_refl _)

theorem pow256 (l : Nat) : 256 ^ l = 2 ^ (8 * l) := by rw [Nat.pow_mul]

/-- `(x.bit_length() + 7) // 8` = `math.ceil(x.bit_length() / 8)` = number of base-256 digits. -/
theorem bitLength_bytes (n : Nat) : (Py.bitLength n + 7) / 8 = Py.byteWidth n := by
  apply Nat.le_antisymm
  · have h := lt_pow_byteWidth n
    rw [pow256] at h
    have := (bitLength_le_iff n _).mpr h
    omega
  · rw [byteWidth_le_iff, pow256]
    apply (bitLength_le_iff n _).mp
    omega

theorem ceilDiv8 (a : Nat) : Py.ceilDiv a 8 = (a + 7) / 8 := by unfold Py.ceilDiv; omega

theorem bitLength_double_succ (m : Nat) : Py.bitLength (2 * m + 1) = Py.bitLength m + 1 := by
  rw [py_bitLength_eq, py_bitLength_eq, Model.bitLength]
  have : (2 * m + 1) / 2 = m := by omega
  rw [this]; omega

/-! ### normal form for generated arithmetic -/

theorem shiftLeft_lit (a k : Nat) : a <<< k = a * 2 ^ k := Nat.shiftLeft_eq a k
theorem shiftRight_lit (a k : Nat) : a >>> k = a / 2 ^ k := Nat.shiftRight_eq_div_pow a k
theorem and_one (a : Nat) : a &&& 1 = a % 2 := Nat.and_one_is_mod a
theorem and_mask (a k : Nat) : a &&& (2 ^ k - 1) = a % 2 ^ k := Nat.and_two_pow_sub_one_eq_mod a k

/-- closes linear goals about generated arithmetic after unfolding: shifts by literals become `* 2^k`, `/ 2^k`. -/
macro "src_fin" : tactic =>
  `(tactic| first
      | done
      | omega
      | (constructor <;> omega)
      | (split <;> first | omega | (constructor <;> omega) | (split <;> first | omega | (constructor <;> omega))))

macro "src_arith" : tactic =>
  `(tactic| all_goals
      ((try simp only [shiftLeft_lit, shiftRight_lit, and_one, Py.ceilDiv, Nat.reducePow, Nat.one_mul, ge_iff_le, gt_iff_lt,
          true_and, and_true, Bool.true_eq_false, Bool.false_eq_true, if_true, if_false, decide_eq_decide]) <;> src_fin))

end TonVerif.Proofs.SrcArith
