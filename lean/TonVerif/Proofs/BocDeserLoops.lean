/-
Generation-independent lemmas about the three loops of `Boc.deserialize` as the translator harness/translate/pyloops.py
renders them (`Py.loop?` over a range with the loop-carried variables as state) against the hand model's recursions
`readCells`, `rebuildFrom` and the root `mapM` (Model/BocParse.lean).  Every lemma takes the loop BODY as a parameter together
with a hypothesis saying what the body computes, so nothing here mentions a `Generated.*` function (only the generated record
type `CellOut`): the generation-dependent file Proofs/SrcBocDeser.lean has to show just that the regenerated bodies compute that.

* `cells_loop`    first loop = `readCells` (state `(i, cells_array)`; the position is not used afterwards)
* `refs_loop`     inner loop of the second loop = `mapM` over the reference list
* `rebuild_loop`  second loop over `reversed(range(n))` with the in-place update `cells_array[ci]['result'] = ..` = `rebuildFrom`:
                  after the iterations `n-1 … k` the array is the records below `k` unchanged followed by the records from `k` on
                  with their results set (`setRes`); a reference `r < k` raises, `r = k` picks up `None` (the callback raises on
                  it: `liftMk`), `r > k` picks up the result of cell `r`, `r ≥ n` is an IndexError
* `roots_loop`    third loop = `mapM` over the root list
-/
import TonVerif.Model.BocCellsView
import TonVerif.Proofs.SrcLoops
import TonVerif.Proofs.BocParse
set_option linter.unusedSimpArgs false

namespace TonVerif.Proofs.BocDeserLoops
open TonVerif TonVerif.Model TonVerif.Model.BocParse TonVerif.Generated.BocHeader TonVerif.Generated.BocCells
open TonVerif.Proofs.SrcBytes TonVerif.Proofs.SrcLoops

theorem mapM_cons' {α β : Type} (f : α → Option β) (x : α) (xs : List α) :
    (x :: xs).mapM f = (f x).bind fun y => (xs.mapM f).bind fun ys => some (y :: ys) := by
  rw [List.mapM_cons]; rfl

theorem mapM_nil' {α β : Type} (f : α → Option β) : ([] : List α).mapM f = some [] := rfl

/-- a loop whose body never breaks runs through a concatenation part by part. -/
theorem loop?_append {ι σ : Type} (f : ι → σ → Option (σ × Bool)) (hf : ∀ x s r, f x s = some r → r.2 = false) :
    ∀ (xs ys : List ι) (s : σ), Py.loop? (xs ++ ys) s f = (Py.loop? xs s f).bind fun s' => Py.loop? ys s' f := by
  intro xs
  induction xs with
  | nil => intro ys s; rfl
  | cons x xs ih =>
    intro ys s
    rw [List.cons_append, loop?_cons, loop?_cons]
    cases h : f x s with
    | none => rfl
    | some r =>
      have := hf x s r h
      simp only [Option.bind_some, this, Bool.false_eq_true, if_false]
      exact ih ys r.1

theorem cells_loop {R β : Type} (cd : Bytes) (sz : Nat)
    (body : Nat → Nat × List (CellOut R) → Option ((Nat × List (CellOut R)) × Bool))
    (hbody : ∀ x i acc, body x (i, acc) =
      (deserializeCell (cd.drop i) sz).bind fun cj => some ((i + cj.2, acc ++ [CellOut.ofModel cj.1]), false))
    (F : Nat × List (CellOut R) → Option β) (hF : ∀ a b l, F (a, l) = F (b, l)) :
    ∀ (xs : List Nat) (i0 : Nat) (acc : List (CellOut R)),
      (Py.loop? xs (i0, acc) body).bind F =
        (readCells xs.length (cd.drop i0) sz).bind fun recs => F (0, acc ++ recs.map CellOut.ofModel) := by
  intro xs
  induction xs with
  | nil => intro i0 acc; simp [readCells, hF i0 0]
  | cons x xs ih =>
    intro i0 acc
    rw [loop?_cons, hbody, List.length_cons, readCells]
    cases h : deserializeCell (cd.drop i0) sz with
    | none => rfl
    | some cj =>
      simp only [Option.bind_some, Bool.false_eq_true, if_false]
      rw [ih, List.drop_drop]
      cases readCells xs.length (List.drop (i0 + cj.2) cd) sz with
      | none => rfl
      | some recs => simp

theorem roots_loop {R : Type} (arr : List (CellOut R)) (body : Nat → List (Option R) → Option (List (Option R) × Bool))
    (hbody : ∀ ri acc, body ri acc = (arr[ri]?).bind fun e => some (acc ++ [e.result], false)) :
    ∀ (rl : List Nat) (acc : List (Option R)),
      Py.loop? rl acc body = (rl.mapM fun ri => (arr[ri]?).map (·.result)).map (acc ++ ·) := by
  intro rl
  induction rl with
  | nil => intro acc; simp [mapM_nil']
  | cons r rl ih =>
    intro acc
    rw [loop?_cons, hbody, mapM_cons']
    cases h : arr[r]? with
    | none => rfl
    | some e =>
      simp only [Option.bind_some, Bool.false_eq_true, if_false, Option.map_some, ih]
      cases List.mapM (fun ri => Option.map (fun x => x.result) arr[ri]?) rl with
      | none => rfl
      | some l => simp

theorem refs_loop_aux {R : Type} (g : Nat → Option (Option R)) (body : Nat → List (Option R) → Option (List (Option R) × Bool)) :
    ∀ (suf pre : List Nat),
      (∀ ri acc, body ri acc = ((pre ++ suf)[ri]?).bind fun r => (g r).bind fun e => some (acc ++ [e], false)) →
      ∀ acc, Py.loop? (List.range' pre.length suf.length) acc body = (suf.mapM g).map (acc ++ ·) := by
  intro suf
  induction suf with
  | nil => intro pre _ acc; simp [mapM_nil']
  | cons r suf ih =>
    intro pre hbody acc
    rw [List.length_cons, List.range'_succ, loop?_cons, hbody, mapM_cons']
    have hr : (pre ++ r :: suf)[pre.length]? = some r := by simp
    rw [hr]
    simp only [Option.bind_some]
    cases h : g r with
    | none => rfl
    | some e =>
      simp only [Option.bind_some, Bool.false_eq_true, if_false]
      have := ih (pre ++ [r]) (by simpa using hbody) (acc ++ [e])
      rw [List.length_append, List.length_singleton] at this
      rw [this]
      cases List.mapM g suf with
      | none => rfl
      | some l => simp

/-- the inner loop of the rebuild loop: `for ri in range(len(rs)): r = rs[ri]; ...; refs.append(g r)`. -/
theorem refs_loop {R : Type} (g : Nat → Option (Option R)) (rs : List Nat)
    (body : Nat → List (Option R) → Option (List (Option R) × Bool))
    (hbody : ∀ ri acc, body ri acc = (rs[ri]?).bind fun r => (g r).bind fun e => some (acc ++ [e], false)) :
    Py.loop? (List.range rs.length) [] body = rs.mapM g := by
  have := refs_loop_aux g body rs [] (by simpa using hbody) []
  simp only [List.length_nil, List.nil_append] at this
  rw [List.range_eq_range', this]
  cases List.mapM g rs <;> simp

theorem mapM_bind_id {α β γ : Type} (g : α → Option (Option β)) :
    ∀ (xs : List α) (F : List β → Option γ),
      (xs.mapM g).bind (fun l => (l.mapM id).bind F) = (xs.mapM (fun x => (g x).bind id)).bind F := by
  intro xs
  induction xs with
  | nil => intro F; simp [mapM_nil']
  | cons x xs ih =>
    intro F
    rw [mapM_cons', mapM_cons']
    cases h : g x with
    | none => rfl
    | some o =>
      cases o with
      | none =>
        simp only [Option.bind_some, Option.bind_none]
        cases List.mapM g xs with
        | none => rfl
        | some ys => simp [mapM_cons']
      | some b =>
        simp only [Option.bind_some, id]
        have := ih (fun l => F (b :: l))
        rw [Option.bind_assoc, Option.bind_assoc]
        simp only [Option.bind_some, mapM_cons', id, Option.bind_assoc]
        exact this

/-- what one iteration of the rebuild loop does to the array (the inner loop already summarised as a `mapM`). -/
def rebuildStep {R : Type} (mk : Bits → List R → Int → Option R) (ci : Nat) (arr : List (CellOut R)) :
    Option (List (CellOut R) × Bool) :=
  (arr[ci]?).bind fun c =>
  (c.refs.mapM (fun r => if r < ci then none else (arr[r]?).map (·.result))).bind fun refs =>
  (arr[ci]?).bind fun e =>
  (liftMk mk e.bits refs e.type).bind fun v =>
  (Py.setAt? arr ci fun c => { c with result := some v }).bind fun arr' => some (arr', false)

theorem rebuildStep_nobreak {R : Type} (mk : Bits → List R → Int → Option R) (ci : Nat) (arr : List (CellOut R)) (r) 
    (h : rebuildStep mk ci arr = some r) : r.2 = false := by
  simp only [rebuildStep, Option.bind_eq_some_iff, Option.some.injEq] at h
  obtain ⟨c, -, refs, -, e, -, v, -, arr', -, rfl⟩ := h
  rfl

theorem rebuild_step_eq {R : Type} (mk : Bits → List R → Int → Option R) (pre : List RawCell) (c : RawCell) (cs : List RawCell)
    (later : List R) (hl : later.length = cs.length) :
    rebuildStep mk pre.length ((pre ++ [c]).map CellOut.ofModel ++ List.zipWith setRes cs later) =
      ((c.refs.mapM (fun r => if r < pre.length then none else if r = pre.length then none else later[r - pre.length - 1]?)).bind fun refs =>
        (mk c.bits refs c.type).map (· :: later)).map fun l => (pre.map CellOut.ofModel ++ List.zipWith setRes (c :: cs) l, false) := by
  have harr : ((pre ++ [c]).map (CellOut.ofModel (R := R)) ++ List.zipWith setRes cs later) =
      pre.map CellOut.ofModel ++ (CellOut.ofModel c :: List.zipWith setRes cs later) := by simp
  have hk : ((pre ++ [c]).map (CellOut.ofModel (R := R)) ++ List.zipWith setRes cs later)[pre.length]? = some (CellOut.ofModel c) := by
    rw [harr, List.getElem?_append_right (by simp)]; simp
  -- what a reference picks up
  have hg : ∀ r, (if r < pre.length then none
        else (((pre ++ [c]).map (CellOut.ofModel (R := R)) ++ List.zipWith setRes cs later)[r]?).map (·.result)).bind id =
      (if r < pre.length then none else if r = pre.length then none else later[r - pre.length - 1]?) := by
    intro r
    by_cases h1 : r < pre.length
    · simp [h1]
    · by_cases h2 : r = pre.length
      · subst h2; simp [hk, CellOut.ofModel]
      · rw [if_neg h1, if_neg h1, if_neg h2, harr, List.getElem?_append_right (by simp; omega)]
        have e : r - (pre.map (CellOut.ofModel (R := R))).length = (r - pre.length - 1) + 1 := by simp; omega
        rw [e, List.getElem?_cons_succ, List.getElem?_zipWith]
        by_cases h3 : r - pre.length - 1 < later.length
        · have h4 : r - pre.length - 1 < cs.length := by omega
          simp [List.getElem?_eq_getElem h3, List.getElem?_eq_getElem h4, setRes]
        · have h4 : ¬ r - pre.length - 1 < cs.length := by omega
          simp [List.getElem?_eq_none (Nat.le_of_not_lt h3), List.getElem?_eq_none (Nat.le_of_not_lt h4)]
  unfold rebuildStep
  rw [hk]
  simp only [Option.bind_some]
  have hrefs : (CellOut.ofModel (R := R) c).refs = c.refs := rfl
  have hbits : (CellOut.ofModel (R := R) c).bits = c.bits := rfl
  have hty : (CellOut.ofModel (R := R) c).type = c.type := rfl
  rw [hrefs, hbits, hty]
  unfold liftMk
  simp only [Option.bind_assoc]
  rw [mapM_bind_id]
  simp only [hg]
  cases (c.refs.mapM (fun r => if r < pre.length then none else if r = pre.length then none else later[r - pre.length - 1]?)) with
  | none => rfl
  | some refs =>
    simp only [Option.bind_some]
    cases mk c.bits refs c.type with
    | none => rfl
    | some v =>
      simp only [Option.bind_some, Option.map_some, Py.setAt?, hk]
      rw [harr, List.set_append_right _ _ (by simp)]
      simp [setRes, CellOut.ofModel]

theorem rebuild_loop {R : Type} (mk : Bits → List R → Int → Option R)
    (body : Nat → List (CellOut R) → Option (List (CellOut R) × Bool)) (hbody : ∀ ci arr, body ci arr = rebuildStep mk ci arr) :
    ∀ (suf pre : List RawCell),
      Py.loop? (List.range' pre.length suf.length).reverse ((pre ++ suf).map CellOut.ofModel) body =
        (rebuildFrom mk suf pre.length).map fun later => pre.map CellOut.ofModel ++ List.zipWith setRes suf later := by
  have hnb : ∀ x s r, body x s = some r → r.2 = false := by
    intro x s r h; rw [hbody] at h; exact rebuildStep_nobreak mk x s r h
  intro suf
  induction suf with
  | nil => intro pre; simp [rebuildFrom]
  | cons c cs ih =>
    intro pre
    rw [List.length_cons, List.range'_succ, List.reverse_cons, loop?_append body hnb]
    have e1 : pre ++ c :: cs = (pre ++ [c]) ++ cs := by simp
    have := ih (pre ++ [c])
    rw [List.length_append, List.length_singleton] at this
    rw [e1, this, rebuildFrom]
    cases h : rebuildFrom mk cs (pre.length + 1) with
    | none => rfl
    | some later =>
      have hl := TonVerif.Proofs.BocParse.rebuildFrom_length mk cs (pre.length + 1) later h
      simp only [Option.map_some, Option.bind_some, loop?_cons, loop?_nil, hbody]
      rw [rebuild_step_eq mk pre c cs later hl]
      cases (c.refs.mapM (fun r => if r < pre.length then none else if r = pre.length then none else later[r - pre.length - 1]?)) with
      | none => rfl
      | some refs =>
        simp only [Option.bind_some]
        cases mk c.bits refs c.type with
        | none => rfl
        | some v => simp

theorem mapM_map {α β γ : Type} (f : α → Option β) (g : β → γ) :
    ∀ xs : List α, (xs.mapM fun x => (f x).map g) = (xs.mapM f).map (·.map g) := by
  intro xs
  induction xs with
  | nil => rfl
  | cons x xs ih =>
    rw [mapM_cons', mapM_cons', ih]
    cases f x with
    | none => rfl
    | some y => cases List.mapM f xs <;> simp

/-- reading a result out of the fully rebuilt array. -/
theorem result_of_rebuilt {R : Type} (recs : List RawCell) (all : List R) (hl : all.length = recs.length) (ri : Nat) :
    ((List.zipWith (setRes (R := R)) recs all)[ri]?).map (·.result) = (all[ri]?).map some := by
  rw [List.getElem?_zipWith]
  by_cases h : ri < all.length
  · have h' : ri < recs.length := by omega
    simp [List.getElem?_eq_getElem h, List.getElem?_eq_getElem h', setRes]
  · have h' : ¬ ri < recs.length := by omega
    simp [List.getElem?_eq_none (Nat.le_of_not_lt h), List.getElem?_eq_none (Nat.le_of_not_lt h')]

/-- `rebuild_loop` for the whole array, in the form in which it is applied to a goal `(loop ..).bind G = _`. -/
theorem rebuild_loop_bind {R β : Type} (mk : Bits → List R → Int → Option R)
    (body : Nat → List (CellOut R) → Option (List (CellOut R) × Bool)) (hbody : ∀ ci arr, body ci arr = rebuildStep mk ci arr)
    (recs : List RawCell) (G : List (CellOut R) → Option β) :
    (Py.loop? (List.range' 0 recs.length).reverse (recs.map CellOut.ofModel) body).bind G =
      (rebuildFrom mk recs 0).bind fun later => G (List.zipWith setRes recs later) := by
  have := rebuild_loop mk body hbody recs []
  simp only [List.length_nil, List.nil_append, List.map_nil] at this
  rw [this]
  cases rebuildFrom mk recs 0 <;> rfl

end TonVerif.Proofs.BocDeserLoops
