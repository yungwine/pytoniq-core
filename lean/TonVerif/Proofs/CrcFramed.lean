/-
Helper lemmas for the "framed record" theorems of C18: feeding a CRC register its own value (in register byte
order) clears it, and zero bytes keep a clear register clear.  Spec level only (`Spec/Crc.lean`).
-/
import TonVerif.Basic
import TonVerif.Proofs.Crc

namespace TonVerif.Proofs.CrcFramed
open TonVerif TonVerif.Spec TonVerif.Proofs.Crc

/-! ### CRC-16 -/

/-- two bytes clear the register exactly when they are its big-endian bytes: the test that every reader of a record
ending in its CRC-16 makes. -/
theorem byte16_pair_eq_zero_iff (c : BitVec 16) (a b : BitVec 8) : byte16 (byte16 c a) b = 0#16 ↔ [a, b] = be16 c := by
  have hc : byte16 (byte16 c ((c >>> 8).truncate 8)) (c.truncate 8) = 0#16 := by
    rw [byte16_byte16, BitVec.xor_assoc, ← decomp16 c, BitVec.xor_self]
    exact (iter_eq_zero_iff _ step16_eq_zero_iff 16 _).mpr rfl
  refine ⟨fun h => byte16_pair_inj (h.trans hc.symm), fun h => ?_⟩
  obtain ⟨rfl, rfl⟩ : a = _ ∧ b = _ := by simpa [be16] using h
  exact hc

/-- a register that one byte leaves unchanged is left unchanged by any number of copies of that byte. -/
theorem foldl_replicate_fixed {α β} {f : α → β → α} {c : α} {b : β} (h : f c b = c) (k : Nat) :
    (List.replicate k b).foldl f c = c := by
  induction k with
  | zero => rfl
  | succ k ih => rw [List.replicate_succ, List.foldl_cons, h, ih]

/-! ### CRC-32C -/

/-- feeding the register its own low byte is a plain shift by one byte. -/
theorem byte32_self (c : BitVec 32) : byte32 c (c.truncate 8) = c >>> 8 := by
  unfold byte32
  rw [iter_step32_lowzero, shr8_low]
  intro i hi
  have : i < 32 := by omega
  simp [hi, this]

/-- the little-endian bytes of the inverted value are the inverted bytes. -/
theorem le32_inv (v : BitVec 32) : le32 (v ^^^ 0xFFFFFFFF#32) = (le32 v).map (fun b => b ^^^ 0xFF#8) := by
  simp only [le32, List.map_cons, List.map_nil]
  have e : ∀ (w : BitVec 32), (w ^^^ 0xFFFFFFFF#32).truncate 8 = w.truncate 8 ^^^ 0xFF#8 := by
    intro w; ext i hi; simp
  have s : ∀ (n : Nat), (v ^^^ 0xFFFFFFFF#32) >>> n = (v >>> n) ^^^ (0xFFFFFFFF#32 >>> n) := by
    intro n; exact ushiftRight_xor_distrib _ _ _
  have t : ∀ (w M : BitVec 32), M.truncate 8 = 0xFF#8 → (w ^^^ M).truncate 8 = w.truncate 8 ^^^ 0xFF#8 := by
    intro w M hM; rw [← hM]; ext i hi; simp
  rw [e, s, s, s, t _ _ (by decide), t _ _ (by decide), t _ _ (by decide)]

/-! ### byte lists as `Nat` lists -/

theorem map_ofNat_toNat (l : List (BitVec 8)) : (l.map BitVec.toNat).map (BitVec.ofNat 8) = l := by
  induction l with
  | nil => rfl
  | cons x t ih => simp [ih]

theorem wf_map_toNat (l : List (BitVec 8)) : Bytes.WF (l.map BitVec.toNat) := by
  intro b hb
  simp only [List.mem_map] at hb
  obtain ⟨x, _, rfl⟩ := hb
  exact x.isLt

theorem map_xor255 (l : List (BitVec 8)) :
    (l.map BitVec.toNat).map (fun b => b ^^^ 255) = (l.map (fun b => b ^^^ 0xFF#8)).map BitVec.toNat := by
  induction l with
  | nil => rfl
  | cons x t ih => simp [ih]

theorem wf_framed (data c : Bytes) (k : Nat) (h : Bytes.WF data) (hc : Bytes.WF c) :
    Bytes.WF (data ++ c ++ List.replicate k 0) := by
  intro b hb
  simp only [List.mem_append, List.mem_replicate] at hb
  rcases hb with (hb | hb) | hb
  · exact h b hb
  · exact hc b hb
  · omega

end TonVerif.Proofs.CrcFramed
