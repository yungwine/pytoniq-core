/-
The serialisers of pytoniq_core/tlb/vm_stack.py as regenerated from the source (Generated/VmStackSrc.lean, translator
harness/translate/pytlb.py) equal the hand model `Model/VmStack.lean`, for ALL inputs: same decision to raise, same cell, and
the state of the caller's argument after the call is the argument itself (VmStackList.serialize, which is only ever given a
copy, leaves its list empty).  Generation dependent (re-checked whenever the generated text changes).
-/
import TonVerif.Generated.VmStackSrc
import TonVerif.Model.VmStack
namespace TonVerif.Proofs.SrcVm
open TonVerif TonVerif.Model TonVerif.Model.Vm TonVerif.Spec.Vm TonVerif.Generated.VmStackSrc

variable {R : Type} {mk : Bits → List R → Option R}

/-! ### generation independent -/

theorem run_andThen (a b : BOp R) (x : Builder R) : run (a ⊳ b) x = (run a x).bind (run b) := by
  unfold run BOp.andThen
  cases h : (a x).2 <;> simp [h]

theorem run_skip (x : Builder R) : run (BOp.skip : BOp R) x = some x := rfl

mutual
/-- recursion budget that suffices for the regenerated `VmStackValue.serialize` (one unit per nested call) -/
def sV : Val R → Nat
  | .cont k => sK k + 1
  | .tuple vs => sT vs + 1
  | _ => 1
/-- … `VmTuple.serialize` (`VmTupleRef.serialize` needs one more) -/
def sT : List (Val R) → Nat
  | [] => 1
  | v :: rest => sV v + sT rest + 2
/-- … `VmStackList.serialize` (`VmStack.serialize` needs one more) -/
def sL : List (Val R) → Nat
  | [] => 1
  | v :: rest => sV v + sL rest + 1
def sK : Cont R → Nat
  | .std cd _ _ => sC cd + 1
  | .envelope cd next => sC cd + sK next + 1
  | .quit _ => 1
  | .quitExc => 1
  | .repeat_ _ b a => sK b + sK a + 1
  | .until_ b a => sK b + sK a + 1
  | .again b => sK b + 1
  | .whileCond c b a => sK c + sK b + sK a + 1
  | .whileBody c b a => sK c + sK b + sK a + 1
  | .pushint _ n => sK n + 1
def sC : Ctl R → Nat
  | .mk _ none _ _ => 1
  | .mk _ (some st) _ _ => sL st + 2
end

theorem cellSlice_eq (bits : Bits) (refs : List R) :
    VmCellSlice_serialize mk (bits, refs) = serCellSlice mk bits refs := by
  simp [VmCellSlice_serialize, serCellSlice, build, run_andThen, Option.bind_assoc]

theorem map_as_bind {α β : Type} (f : α → β) (x : Option α) : Option.map f x = x.bind (fun a => some (f a)) := by
  cases x <;> rfl

theorem ite_bind {α β : Type} (c : Prop) [Decidable c] (a b : Option α) (g : α → Option β) :
    (if c then a else b).bind g = if c then a.bind g else b.bind g := by
  split <;> rfl

theorem bind_const_none {α β : Type} (x : Option α) : (x.bind fun _ => (none : Option β)) = none := by
  cases x <;> rfl

/-- a computation that does not look at the builder (a nested `serialize`) moves in front of a store -/
theorem run_bind_comm {α β : Type} (op : BOp R) (b : Builder R) (y : Option α) (f : Builder R → α → Option β) :
    ((run op b).bind fun b' => y.bind (f b')) = y.bind fun a => (run op b).bind fun b' => f b' a := by
  cases y <;> cases run op b <;> rfl

/-- normal form of both sides: right-nested `Option.bind` chains, the nested `serialize` calls first (the regenerated code
    stores the tag before it calls them, the model after), then the stores, then `finish` -/
macro "ser_norm" " [" ls:Lean.Parser.Tactic.simpLemma,* "]" : tactic =>
  `(tactic| simp only [build, run_andThen, Option.bind_eq_bind, Option.pure_def, Option.bind_some, Option.bind_assoc,
      map_as_bind, ite_bind, run_bind_comm, $ls,*])

/-! ### generation dependent -/

theorem saveList_eq (save : Option R) : VmSaveList_serialize mk save = build mk (BOp.storeMaybeRef save) := by
  ser_norm [VmSaveList_serialize, BOp.storeDict]

/-- `serCtl` with the stack cell as the one piece `VmStack.serialize` returns -/
theorem serCtl_some (nargs cp : Option Int) (st : List (Val R)) (save : Option R) :
    serCtl mk (.mk nargs (some st) save cp) = (serStack mk st).bind fun sc =>
      (build mk (BOp.storeMaybeRef save)).bind fun sl =>
        build mk (storeMaybe (fun n => BOp.storeUint n 13) nargs ⊳ BOp.storeBit true ⊳ BOp.storeCell sc.bits sc.refs
          ⊳ BOp.storeCell sl.bits sl.refs ⊳ storeMaybe (fun c => BOp.storeInt c 16) cp) := by
  rw [serCtl, serStack]
  cases serStackList mk st <;> rfl

/-- the regenerated serialisers at budget `f` are the model's on every object whose budget is within `f`, and hand the
    caller's argument back as it was (`VmStackList.serialize`, which only ever gets a copy, hands back the empty list) -/
structure Agrees (mk : Bits → List R → Option R) (f : Nat) : Prop where
  val : ∀ v, sV v ≤ f → VmStackValue_serialize mk f v = (serVal mk v).map (fun b => (b, v))
  tuple : ∀ vs, sT vs ≤ f → VmTuple_serialize mk f vs = (serTuple mk vs).map (fun b => (b, vs))
  tupleRef : ∀ vs, sT vs + 1 ≤ f → VmTupleRef_serialize mk f vs = (serTupleRef mk vs).map (fun b => (b, vs))
  stackList : ∀ vs, sL vs ≤ f → VmStackList_serialize mk f vs = (serStackList mk vs).map (fun b => (b, []))
  stack : ∀ vs, sL vs + 1 ≤ f → VmStack_serialize mk f vs = (serStack mk vs).map (fun b => (b, vs))
  cont : ∀ k, sK k ≤ f → VmCont_serialize mk f k = serCont mk k
  ctl : ∀ cd, sC cd ≤ f → VmControlData_serialize mk f cd = serCtl mk cd

/-! ### one level of the recursion: each method at budget `f + 1`, given all methods at budget `f` -/

section Step
variable {f : Nat} (I : Agrees mk f)
include I

theorem val_step (v : Val R) (hf : sV v ≤ f + 1) :
    VmStackValue_serialize mk (f + 1) v = (serVal mk v).map (fun b => (b, v)) := by
  cases v with
  | null => ser_norm [VmStackValue_serialize, serVal]
  | int v => ser_norm [VmStackValue_serialize, serVal, tagInt257]; simp
  | cell c => ser_norm [VmStackValue_serialize, serVal]
  | slice b r => ser_norm [VmStackValue_serialize, serVal, cellSlice_eq]
  | builder b r => ser_norm [VmStackValue_serialize, serVal]
  | cont k => ser_norm [VmStackValue_serialize, serVal, I.cont k (Nat.le_of_succ_le_succ hf)]
  | tuple vs => ser_norm [VmStackValue_serialize, serVal, I.tuple vs (Nat.le_of_succ_le_succ hf)]

theorem tuple_step (vs : List (Val R)) (hf : sT vs ≤ f + 1) :
    VmTuple_serialize mk (f + 1) vs = (serTuple mk vs).map (fun b => (b, vs)) := by
  cases vs with
  | nil => ser_norm [VmTuple_serialize, serTuple, run_skip]; simp
  | cons v rest =>
    simp only [sT] at hf
    ser_norm [VmTuple_serialize, serTuple, I.tupleRef rest (by omega), I.val v (by omega), Py.RL.init, Py.RL.last?, Py.RL.setLast]
    simp

theorem tupleRef_step (vs : List (Val R)) (hf : sT vs + 1 ≤ f + 1) :
    VmTupleRef_serialize mk (f + 1) vs = (serTupleRef mk vs).map (fun b => (b, vs)) := by
  match vs with
  | [] => ser_norm [VmTupleRef_serialize, serTupleRef, run_skip]; simp
  | [v] =>
    simp only [sT] at hf
    ser_norm [VmTupleRef_serialize, serTupleRef, I.val v (by omega), Py.RL.first?, Py.RL.setFirst]
    simp [I.val v (by omega), map_as_bind, Option.bind_assoc]
  | v :: w :: rest =>
    -- `VmTupleRef.serialize` hands the SAME list on to `VmTuple.serialize`
    ser_norm [VmTupleRef_serialize, serTupleRef, I.tuple (v :: w :: rest) (Nat.le_of_succ_le_succ hf), serTuple]
    simp

theorem stackList_step (vs : List (Val R)) (hf : sL vs ≤ f + 1) :
    VmStackList_serialize mk (f + 1) vs = (serStackList mk vs).map (fun b => (b, [])) := by
  cases vs with
  | nil => ser_norm [VmStackList_serialize, serStackList, run_skip]; simp
  | cons v rest =>
    simp only [sL] at hf
    ser_norm [VmStackList_serialize, serStackList, I.stackList rest (by omega), I.val v (by omega), Py.RL.pop?]
    simp

theorem stack_step (vs : List (Val R)) (hf : sL vs + 1 ≤ f + 1) :
    VmStack_serialize mk (f + 1) vs = (serStack mk vs).map (fun b => (b, vs)) := by
  ser_norm [VmStack_serialize, serStack, I.stackList vs (Nat.le_of_succ_le_succ hf)]

theorem cont_step (k : Cont R) (hf : sK k ≤ f + 1) : VmCont_serialize mk (f + 1) k = serCont mk k := by
  cases k <;> simp only [sK] at hf
  case std cd cb cr => ser_norm [VmCont_serialize, serCont, I.ctl cd (by omega), cellSlice_eq]
  case envelope cd next => ser_norm [VmCont_serialize, serCont, I.ctl cd (by omega), I.cont next (by omega)]
  case quit c => ser_norm [VmCont_serialize, serCont]
  case quitExc => ser_norm [VmCont_serialize, serCont]
  case repeat_ c b a => ser_norm [VmCont_serialize, serCont, I.cont b (by omega), I.cont a (by omega)]
  case until_ b a => ser_norm [VmCont_serialize, serCont, I.cont b (by omega), I.cont a (by omega)]
  case again b => ser_norm [VmCont_serialize, serCont, I.cont b (by omega)]
  case whileCond c b a => ser_norm [VmCont_serialize, serCont, I.cont c (by omega), I.cont b (by omega), I.cont a (by omega)]
  case whileBody c b a => ser_norm [VmCont_serialize, serCont, I.cont c (by omega), I.cont b (by omega), I.cont a (by omega)]
  case pushint v n => ser_norm [VmCont_serialize, serCont, I.cont n (by omega)]

theorem ctl_step (cd : Ctl R) (hf : sC cd ≤ f + 1) : VmControlData_serialize mk (f + 1) cd = serCtl mk cd := by
  match cd with
  | .mk nargs none save cp =>
    cases nargs <;> cases cp <;> ser_norm [VmControlData_serialize, serCtl, storeMaybe, saveList_eq]
  | .mk nargs (some st) save cp =>
    have hs := I.stack st (Nat.le_of_succ_le_succ hf)
    cases nargs <;> cases cp <;> ser_norm [VmControlData_serialize, serCtl_some, storeMaybe, saveList_eq, hs]

end Step

/-- by recursion on the budget, as the regenerated serialisers are defined; no object is within budget 0 -/
theorem agrees : ∀ f, Agrees mk f
  | 0 => ⟨fun v hf => by cases v <;> exact absurd hf (Nat.not_succ_le_zero _),
          fun vs hf => by cases vs <;> exact absurd hf (Nat.not_succ_le_zero _),
          fun _ hf => absurd hf (Nat.not_succ_le_zero _),
          fun vs hf => by cases vs <;> exact absurd hf (Nat.not_succ_le_zero _),
          fun _ hf => absurd hf (Nat.not_succ_le_zero _),
          fun k hf => by cases k <;> exact absurd hf (Nat.not_succ_le_zero _),
          fun cd hf => by rcases cd with ⟨_, _ | _, _, _⟩ <;> exact absurd hf (Nat.not_succ_le_zero _)⟩
  | f + 1 => ⟨val_step (agrees f), tuple_step (agrees f), tupleRef_step (agrees f), stackList_step (agrees f),
              stack_step (agrees f), cont_step (agrees f), ctl_step (agrees f)⟩

theorem src_serVal (v : Val R) (fuel : Nat) (hf : sV v ≤ fuel) :
    VmStackValue_serialize mk fuel v = (serVal mk v).map (fun b => (b, v)) := (agrees fuel).val v hf
theorem src_serTuple (vs : List (Val R)) (fuel : Nat) (hf : sT vs ≤ fuel) :
    VmTuple_serialize mk fuel vs = (serTuple mk vs).map (fun b => (b, vs)) := (agrees fuel).tuple vs hf
theorem src_serTupleRef (vs : List (Val R)) (fuel : Nat) (hf : sT vs + 1 ≤ fuel) :
    VmTupleRef_serialize mk fuel vs = (serTupleRef mk vs).map (fun b => (b, vs)) := (agrees fuel).tupleRef vs hf
theorem src_serStackList (vs : List (Val R)) (fuel : Nat) (hf : sL vs ≤ fuel) :
    VmStackList_serialize mk fuel vs = (serStackList mk vs).map (fun b => (b, [])) := (agrees fuel).stackList vs hf
theorem src_serStack (vs : List (Val R)) (fuel : Nat) (hf : sL vs + 1 ≤ fuel) :
    VmStack_serialize mk fuel vs = (serStack mk vs).map (fun b => (b, vs)) := (agrees fuel).stack vs hf
theorem src_serCont (k : Cont R) (fuel : Nat) (hf : sK k ≤ fuel) : VmCont_serialize mk fuel k = serCont mk k :=
  (agrees fuel).cont k hf
theorem src_serCtl (cd : Ctl R) (fuel : Nat) (hf : sC cd ≤ fuel) : VmControlData_serialize mk fuel cd = serCtl mk cd :=
  (agrees fuel).ctl cd hf

end TonVerif.Proofs.SrcVm
