/-
The EMITTER regenerated from the source (Generated/BocEmitSrc.lean: `Cell.serialize`, `Cell.order`, `Cell.to_boc` of
pytoniq_core/boc/cell.py and `Boc.__init__` of deserialize.py, regenerated on every run by harness/translate/bocemit.py) equals
the hand model (Model/BocEmit.lean, Model/BocForms.lean) for ALL cell objects, dicts, option sets, iteration budgets and texts.
Generation dependent; the generation-independent lemmas are in Proofs/SrcDict.lean.

THIS FILE: everything that does NOT depend on the order in which `Cell.order` visits the references — `Cell.serialize`
(`src_serialize_eq`), `Cell.to_boc` given what `Cell.order` returned (`to_boc_given`), `Boc.__init__` (`src_boc_init_eq`).  The
equality of `Cell.order` / `Cell.to_boc` with the hand model's traversal is in Proofs/SrcBocOrderEq.lean (`src_order_eq`,
`src_toBoc_eq`); the order-independent validity of the regenerated `Cell.order` and the distinct keys of the dict it returns
(`order_nodup`) in Proofs/SrcOrderAny.lean.
-/
import TonVerif.Generated.BocEmitSrc
import TonVerif.Proofs.SrcDict
import TonVerif.Proofs.SrcArith
import TonVerif.Proofs.SrcArith2

namespace TonVerif.Proofs.SrcBocEmit
open TonVerif TonVerif.Model TonVerif.Generated.BocEmitSrc TonVerif.Proofs.SrcDict

/-! ### `Cell.serialize` -/

/-- what `flattenCells` does for one cell: the descriptors and the `indexes[ref]` lookups -/
def flattenOne (idx : Std.HashMap Nat Nat) (c : PCell) : Option Rec := do
  let d ← c.desc
  let refs ← c.refs.mapM (fun r => idx[r.key]?)
  pure { desc := d, data := c.data, refs := refs }

theorem flattenCells_eq (idx : Std.HashMap Nat Nat) (cells : List PCell) :
    flattenCells idx cells = cells.mapM (flattenOne idx) := rfl

/-- the loop over the references: look the index up, write it with the chosen width, append -/
theorem refLoop (m : Std.HashMap Nat Nat) (w : Nat) (refs : List PCell) (r0 : Bytes) :
    List.foldlM (m := Option) (fun r (ref : PCell) => (m[ref.key]?).bind fun i => (toBytesBE? w i).bind fun b => some (r ++ b)) r0 refs =
      (refs.mapM (fun r => m[r.key]?)).bind fun is => (is.mapM (toBytesBE? w)).bind fun bs => some (r0 ++ bs.flatten) := by
  simp only [← foldl_append_flatten, ← Option.bind_assoc, ← mapM_bind_mapM]
  exact foldlM_bind_some _ (· ++ ·) refs r0

/-- **`Cell.serialize` regenerated = the hand model**: for every cell object, every dict `indexes` (seen by the model as the
hash map `m`) and every width: descriptors ++ data bytes ++ the looked-up indices of the references as `byte_len`-byte big-endian
numbers; raises (KeyError / OverflowError) exactly when the model does. -/
theorem src_serialize_eq (c : PCell) (idx : Py.KDict PCell Nat) (m : Std.HashMap Nat Nat) (w : Nat)
    (h : MapSim PCell.key idx m) : serialize c idx w = (flattenOne m c).bind (Rec.ser w) := by
  unfold serialize flattenOne Rec.ser
  simp only [mapSim_get h, refLoop, Option.bind_eq_bind, Option.pure_def]
  cases c.desc with
  | none => simp
  | some d =>
    simp only [Option.bind_some]
    cases List.mapM (fun r : PCell => m[r.key]?) c.refs with
    | none => simp
    | some is =>
      simp only [Option.bind_some]
      cases List.mapM (toBytesBE? w) is <;> simp

/-! ### `Cell.to_boc`, given what `Cell.order` returned -/

/-- the loop `for cell in ordered_cells: ser_result = …; payload += ser_result; serialized_cells_len.append(len(ser_result))` -/
theorem serLoop (f : Bytes × List Nat → PCell → Option (Bytes × List Nat)) (ser : PCell → Option Bytes)
    (hf : ∀ s c, f s c = (ser c).bind fun r => some (s.1 ++ r, s.2 ++ [r.length])) :
    ∀ (cells : List PCell) (s : Bytes × List Nat),
      List.foldlM f s cells = (cells.mapM ser).bind fun sers => some (s.1 ++ sers.flatten, s.2 ++ sers.map List.length)
  | [], s => by simp
  | c :: cells, s => by
    rw [List.foldlM_cons, hf]
    simp only [List.mapM_cons, Option.bind_eq_bind, Option.pure_def]
    cases ser c with
    | none => simp
    | some r =>
      simp only [Option.bind_some]
      rw [serLoop f ser hf cells]
      cases List.mapM ser cells <;> simp [List.append_assoc]

/-- the index loop `for l in serialized_cells_len: end_offset += l; result += (…end_offset…).to_bytes(payload_len, 'big')` -/
theorem idxLoop (f : Nat × Bytes → Nat → Option (Nat × Bytes)) (w : Nat) (dbl : Nat → Nat)
    (hf : ∀ s l, f s l = (toBytesBE? w (dbl (s.1 + l))).bind fun b => some (s.1 + l, s.2 ++ b)) :
    ∀ (lens : List Nat) (s : Nat × Bytes),
      ((List.foldlM f s lens).bind fun x => some x.2) =
        ((cumulativeFrom s.1 lens).mapM (fun e => toBytesBE? w (dbl e))).bind fun bs => some (s.2 ++ bs.flatten)
  | [], s => by simp [cumulativeFrom]
  | l :: lens, s => by
    rw [List.foldlM_cons, hf]
    simp only [cumulativeFrom, List.mapM_cons, Option.bind_eq_bind, Option.pure_def]
    cases toBytesBE? w (dbl (s.1 + l)) with
    | none => simp
    | some b =>
      simp only [Option.bind_some]
      rw [idxLoop f w dbl hf lens]
      cases List.mapM (fun e => toBytesBE? w (dbl e)) (cumulativeFrom (s.1 + l) lens) <;> simp [List.append_assoc]

/-- `n * (2 if c else 1)` is `n * 2 if c else n` (a respelling of `max_offset`) -/
theorem mul_ite_two (n : Nat) (c : Prop) [Decidable c] : n * (if c then 2 else 1) = if c then n * 2 else n := by
  split <;> simp

theorem repeat_zero (n : Nat) : Py.repeatBytes [0] n = List.replicate n 0 := by
  induction n with
  | zero => rfl
  | succ n ih => simp [Py.repeatBytes, List.replicate_succ] at ih ⊢

/-- the dict `Cell.order` leaves behind when the model returns the key list `cells` -/
def dictOf (cells : List PCell) : Py.KDict PCell Unit := cells.map (fun c => (c, ()))

theorem dictKeys_dictOf (cells : List PCell) : Py.dictKeys (dictOf cells) = cells := by
  simp [Py.dictKeys, dictOf, Function.comp_def]

theorem dictcomp_nodup' (key : PCell → Nat) (f : Py.KDict PCell Nat → PCell × Nat → Py.KDict PCell Nat)
    (hf : ∀ d ji, f d ji = Py.dictSet key d ji.1 ji.2) (xs : List PCell) (k : Nat) (d : Py.KDict PCell Nat)
    (h : ((d.map (fun e => key e.1)) ++ xs.map key).Nodup) : (xs.zipIdx k).foldl f d = d ++ xs.zipIdx k := by
  have : f = fun d ji => Py.dictSet key d ji.1 ji.2 := by funext d ji; exact hf d ji
  rw [this]; exact dictcomp_nodup key xs k d h

theorem to_boc_given (fuel : Nat) (p : PCell) (hi hc hcb : Bool) (fl : Nat) (cells : List PCell)
    (hord : order fuel p [] = some (dictOf cells)) (hnd : (cells.map PCell.key).Nodup) :
    to_boc fuel p hi hc hcb fl = (flattenCells (indexMap cells) cells).bind (emit · ⟨hi, hc, hcb, fl⟩) := by
  unfold to_boc
  simp only [hord, Option.bind_some, dictKeys_dictOf]
  rw [dictcomp_nodup' PCell.key _ ?hf cells 0 [] (by simpa using hnd)]
  case hf => intro d ji; rfl
  have hsim : MapSim PCell.key (cells.zipIdx) (indexMap cells) := by
    have h := mapSim_foldl (key := PCell.key) (fun (x : PCell × Nat) => x.1) (fun x => x.2) cells.zipIdx [] ∅ (mapSim_empty _)
    rw [dictcomp_nodup PCell.key cells 0 [] (by simpa using hnd)] at h
    exact h
  have hkeys : Py.dictKeys (cells.zipIdx) = cells := by
    simp [Py.dictKeys]
  simp only [List.nil_append, hkeys, List.length_zipIdx, src_serialize_eq _ _ _ _ hsim]
  rw [serLoop _ (fun c => (flattenOne (indexMap cells) c).bind (Rec.ser ((Py.bitLength cells.length + 7) / 8))) ?hf]
  case hf => intro s c; rfl
  rw [mapM_bind_mapM, flattenCells_eq]
  cases hrecs : List.mapM (flattenOne (indexMap cells)) cells with
  | none =>
    simp only [Option.bind_none, Option.bind_eq_none_iff]
    intros; trivial
  | some recs =>
    have hlen := mapM_length _ _ _ hrecs
    simp only [Option.bind_some, emit, hlen, byteWidth, ← SrcArith.py_bitLength_eq, b2n, Option.bind_eq_bind, Option.pure_def,
      mul_ite_two]
    refine congrArg (Option.bind _) (funext fun flags => ?_)
    cases hs : List.mapM (Rec.ser ((Py.bitLength cells.length + 7) / 8)) recs with
    | none => rfl
    | some sers =>
      simp only [Option.bind_some, List.nil_append]
      refine congrArg (Option.bind _) (funext fun fOff => congrArg (Option.bind _) (funext fun fCells =>
        congrArg (Option.bind _) (funext fun fRoots => congrArg (Option.bind _) (funext fun fTot => ?_))))
      rw [idxLoop _ ((Py.bitLength (if hcb = true then sers.flatten.length * 2 else sers.flatten.length) + 7) / 8)
        (fun e => if hcb = true then e * 2 else e) ?hf]
      case hf => intro s l; rfl
      simp only [cumulative, repeat_zero, bocMagic]
      generalize [181, 238, 156, 114] ++ flags ++ fOff ++ fCells ++ fRoots ++ List.replicate ((Py.bitLength cells.length + 7) / 8) 0 ++ fTot ++
        List.replicate ((Py.bitLength cells.length + 7) / 8) 0 = hdr
      cases hi <;> cases hc <;> simp [Option.bind_assoc, Option.bind_map, Function.comp_def]

/-! ### `Boc.__init__` -/

/-- **`Boc.__init__` regenerated = the hand model** `BocForms.inputBytes`: bytes are taken as they are; a str goes through
`bytes.fromhex`, and only if that raises through `base64.b64decode`; raises iff both do. -/
theorem src_boc_init_eq (data : Sum Bytes (List Char)) : boc_init data = BocForms.inputBytes data := by
  cases data <;> rfl

end TonVerif.Proofs.SrcBocEmit
