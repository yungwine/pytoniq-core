/-
The composite SERIALISERS of the message classes (tlb/transaction.py, account.py, block.py) as regenerated from the source
(Generated/MsgSrc.lean) equal the hand model `Model/Message.lean`, for ALL inputs, under `Total` (every cell with at most
1023 bits and 4 references exists: `end_cell()` of an intermediate piece does not fail for depth).

The difference to bridge: the code calls `end_cell()` on every piece (`x.serialize()`) and then `store_cell`s it; the hand model
appends the piece's bits and refs without building the cell object (`Message.sub`).  `Safe op` is the builder size invariant
(`≤ 1023` bits, `≤ 4` refs after every store that returned normally); under it and `Total` the intermediate `end_cell()` always
succeeds (`sub_bridge`).
-/
import TonVerif.Proofs.SrcMsg
import TonVerif.Proofs.Message
import TonVerif.Proofs.SrcSim
set_option linter.unusedSimpArgs false
namespace TonVerif.Proofs.SrcMsgSer
open TonVerif TonVerif.Model TonVerif.Model.Vm TonVerif.Spec.Tlb TonVerif.Generated.MsgSrc TonVerif.Proofs.SrcVm
open TonVerif.Model.Message TonVerif.Model.BOp TonVerif.Proofs.Message TonVerif.Proofs.SrcMsg

variable {R : Type} {mk : Bits → List R → Option R}

/-! ### generation independent: the builder size invariant -/

/-- `end_cell()` never fails on a builder in its valid range (no depth overflow) -/
def MkTotal (mk : Bits → List R → Option R) : Prop := ∀ b r, b.length ≤ 1023 → r.length ≤ 4 → (mk b r).isSome

/-- a store operation that returned normally leaves the builder in its valid range -/
def Safe (op : BOp R) : Prop := ∀ b, WFB b → (op b).2 = true → WFB (op b).1

/-- the capacity invariant of C07 (`Builder.Safe`: within capacity whether or not the store returns) is the stronger one; every
    leaf below is read off the closed form of its store (`Builder.store_spec`) -/
theorem Safe.of_builder {f : BOp R} (h : Builder.Safe f) : Safe f := fun b hb _ => h b hb

theorem safe_skip : Safe (BOp.skip : BOp R) := .of_builder Builder.safe_skip
theorem safe_storeRef (r : R) : Safe (storeRef r) := .of_builder (Builder.safe_storeRef r)

theorem Safe.andThen {f g : BOp R} (hf : Safe f) (hg : Safe g) : Safe (f ⊳ g) := by
  intro b hb h
  unfold BOp.andThen at *
  cases hfb : (f b).2
  · simp [hfb] at h
  · simp only [hfb, if_true] at h ⊢
    exact hg _ (hf b hb hfb) h

theorem safe_storeUint (v : Int) (n : Nat) : Safe (storeUint v n : BOp R) := .of_builder (Builder.store_spec (.uint n v)).2
theorem safe_storeInt (v : Int) (n : Nat) : Safe (storeInt v n : BOp R) := .of_builder (Builder.store_spec (.int n v)).2
theorem safe_storeBit (x : Bool) : Safe (storeBit x : BOp R) := .of_builder (Builder.store_spec (.bit x)).2
theorem safe_storeBits (xs : Bits) : Safe (storeBits xs : BOp R) := .of_builder (Builder.store_spec (.bits xs)).2
theorem safe_storeBytes (xs : Bytes) : Safe (storeBytes xs : BOp R) := .of_builder (Builder.store_spec (.bytes xs)).2
theorem safe_storeCoins (v : Int) : Safe (storeCoins v : BOp R) := .of_builder (Builder.store_spec (.coins v)).2
theorem safe_storeMaybeRef (o : Option R) : Safe (storeMaybeRef o) := .of_builder (Builder.store_spec (.maybeRef o)).2
theorem safe_storeDict (o : Option R) : Safe (storeDict o) := safe_storeMaybeRef o
theorem safe_storeCell (cb : Bits) (cr : List R) : Safe (storeCell cb cr) := .of_builder (Builder.safe_storeCell cb cr)
theorem safe_storeAddress (a : Addr) : Safe (storeAddress a : BOp R) := .of_builder (Builder.store_spec (.addr a)).2

theorem safe_sub (op : BOp R) : Safe (Message.sub op) := by
  intro b hb h
  unfold Message.sub at *
  cases ho : (op Builder.empty).2
  · simp [ho] at h
  · simp only [ho, if_true] at h ⊢
    exact safe_storeCell _ _ b hb h

theorem safe_tickTockB (t : TickTock) : Safe (tickTockB t : BOp R) := (safe_storeBit _).andThen (safe_storeBit _)

theorem safe_currencyB (c : Currency R) : Safe (currencyB c) := (safe_storeCoins _).andThen (safe_sub _)

theorem safe_stateInitB (s : StateInit R) : Safe (stateInitB s) := by
  unfold stateInitB
  refine Safe.andThen (Safe.andThen (Safe.andThen (Safe.andThen ?_ ?_) (safe_storeMaybeRef _)) (safe_storeMaybeRef _)) (safe_storeMaybeRef _)
  · cases s.splitDepth with
    | none => exact safe_storeBit _
    | some d => exact (safe_storeBit _).andThen (safe_storeUint _ _)
  · cases s.special with
    | none => exact safe_storeBit _
    | some t => exact (safe_storeBit _).andThen (safe_sub _)

theorem safe_infoB (i : Info R) : Safe (infoB i) := by
  cases i with
  | int a b c src dest value ihr fwd lt at_ =>
    exact ((((((((((safe_storeUint 0 1).andThen (safe_storeBit a)).andThen (safe_storeBit b)).andThen (safe_storeBit c)).andThen
      (safe_storeAddress src)).andThen (safe_storeAddress dest)).andThen (safe_sub _)).andThen (safe_storeCoins ihr)).andThen
      (safe_storeCoins fwd)).andThen (safe_storeUint lt 64)).andThen (safe_storeUint at_ 32)
  | extIn src dest fee =>
    exact (((safe_storeUint 2 2).andThen (safe_storeAddress src)).andThen (safe_storeAddress dest)).andThen (safe_storeCoins fee)
  | extOut src dest lt at_ =>
    exact ((((safe_storeUint 3 2).andThen (safe_storeAddress src)).andThen (safe_storeAddress dest)).andThen
      (safe_storeUint lt 64)).andThen (safe_storeUint at_ 32)

/-- a store that returned normally, as `run` sees it -/
theorem Safe.run {op : BOp R} (hs : Safe op) {b b' : Builder R} (hb : WFB b) (h : run op b = some b') : WFB b' := by
  unfold Vm.run at h
  cases hr : (op b).2
  · simp [hr] at h
  · simp only [hr, if_true, Option.some.injEq] at h
    rw [← h]; exact hs b hb hr

/-- `end_cell()` on a builder in range -/
theorem finish_of_wfb (ht : MkTotal mk) {b : Builder R} (hb : WFB b) : ∃ c, mk b.bits b.refs = some c ∧ finish mk b = some ⟨b.bits, b.refs, c⟩ := by
  obtain ⟨c, hc⟩ := Option.isSome_iff_exists.mp (ht b.bits b.refs hb.1 hb.2)
  exact ⟨c, hc, by simp [finish, hc]⟩

/-- **the bridge**: `builder.store_cell(<piece>.serialize())` where the piece is built by `op` in its own builder and finished by
    `end_cell()` is the hand model's `Message.sub op` (append the piece's bits and refs) -/
theorem sub_bridge {α : Type} (ht : MkTotal mk) {op : BOp R} (hs : Safe op) (b : Builder R) (k : Builder R → Option α) :
    (build mk op).bind (fun r => (run (BOp.storeCell r.bits r.refs) b).bind k) = (run (Message.sub op) b).bind k := by
  rw [run_sub]
  unfold build
  cases h : run op Builder.empty with
  | none => rfl
  | some p =>
    obtain ⟨c, _, hf⟩ := finish_of_wfb ht (hs.run wfb_empty h)
    simp [hf]

/-- what the content of a finished piece is -/
theorem build_some {op : BOp R} {p : Built R} (h : build mk op = some p) :
    ∃ b, run op Builder.empty = some b ∧ p.bits = b.bits ∧ p.refs = b.refs ∧ mk b.bits b.refs = some p.cell := by
  simp only [build, finish, Option.bind_eq_some_iff, Option.map_eq_some_iff] at h
  obtain ⟨b, hr, c, hm, rfl⟩ := h
  exact ⟨b, hr, rfl, rfl, hm⟩

/-- `cellOf` (hand model: run from the empty builder, then `make`) and `build` (regenerated code: `finish`) -/
theorem cellOf_eq_build (ops : CellOps R) (op : BOp R) : cellOf ops op = (build ops.make op).map (·.cell) := by
  unfold cellOf runB build Vm.run finish
  cases h : (op Builder.empty).2 <;> simp [h]
  cases ops.make (op Builder.empty).1.bits (op Builder.empty).1.refs <;> rfl

/-! ### generation dependent: the composite serialisers -/

theorem currency_ser_eq (ht : MkTotal mk) (c : Currency R) : CurrencyCollection_serialize mk c = build mk (currencyB c) := by
  cases c with
  | mk g o =>
    simp only [CurrencyCollection_serialize, extra_ser_eq, bind_pure, Option.bind_eq_bind, Option.pure_def, Option.bind_some]
    simp only [sub_bridge ht (safe_storeMaybeRef o)]
    simp [build, currencyB, run_andThen, Option.bind_assoc]

theorem stateInit_ser_eq (ht : MkTotal mk) (s : StateInit R) : StateInit_serialize mk s = build mk (stateInitB s) := by
  rcases s with ⟨sd, sp, code, data, lib⟩
  cases sd <;> cases sp <;>
    simp only [StateInit_serialize, tickTock_ser_eq, bind_pure, Option.bind_eq_bind, Option.pure_def, Option.bind_some,
      sub_bridge ht (safe_tickTockB _)] <;>
    simp [build, stateInitB, run_andThen, Option.bind_assoc]

theorem infoInt_ser_eq (ht : MkTotal mk) (a b c : Bool) (src dest : Addr) (value : Currency R) (ihr fwd lt at_ : Int) :
    InternalMsgInfo_serialize mk (Info.int a b c src dest value ihr fwd lt at_) =
      build mk (infoB (Info.int a b c src dest value ihr fwd lt at_)) := by
  simp only [InternalMsgInfo_serialize, currency_ser_eq ht, bind_pure, Option.bind_eq_bind, Option.pure_def, Option.bind_some,
    sub_bridge ht (safe_currencyB _)]
  simp [build, infoB, run_andThen, Option.bind_assoc]

theorem infoExtIn_ser_eq (src dest : Addr) (fee : Int) :
    ExternalMsgInfo_serialize mk (Info.extIn src dest fee : Info R) = build mk (infoB (Info.extIn src dest fee)) := by
  simp [ExternalMsgInfo_serialize, build, infoB, run_andThen, Option.bind_assoc]

theorem infoExtOut_ser_eq (src dest : Addr) (lt at_ : Int) :
    ExternalOutMsgInfo_serialize mk (Info.extOut src dest lt at_ : Info R) = build mk (infoB (Info.extOut src dest lt at_)) := by
  simp [ExternalOutMsgInfo_serialize, build, infoB, run_andThen, Option.bind_assoc]

/-- `self.info.serialize()` whatever the class of `info` -/
theorem info_ser_eq (ht : MkTotal mk) (i : Info R) : Info_serialize mk i = build mk (infoB i) := by
  cases i with
  | int a b c src dest value ihr fwd lt at_ => exact infoInt_ser_eq ht ..
  | extIn src dest fee => exact infoExtIn_ser_eq ..
  | extOut src dest lt at_ => exact infoExtOut_ser_eq ..

/-! ### `MessageAny.serialize` -/

/-- "returned normally" of a model step that reports (state, flag) -/
def okB (r : Builder R × Bool) : Option (Builder R) := if r.2 then some r.1 else none

theorem okB_run (op : BOp R) (b : Builder R) : okB (op b) = run op b := rfl

/-- the body part of `MessageAny.serialize` in `run` form -/
def bodyR (ops : CellOps R) (body : Chunk R) (b : Builder R) : Option (Builder R) :=
  if (body.1.length : Int) ≤ (1023 - (b.bits.length : Int)) - 1 ∧ body.2.length + b.refs.length ≤ 4 then
    run (storeBit false ⊳ storeCell body.1 body.2) b
  else (ops.make body.1 body.2).bind fun bc => run (storeBit true ⊳ storeRef bc) b

theorem bodyB_run (ops : CellOps R) (body : Chunk R) (b : Builder R) :
    (bodyB ops body b).bind okB = bodyR ops body b := by
  unfold bodyB bodyR
  rw [apply_ite (fun o : Option (Builder R × Bool) => o.bind okB)]
  refine ite_congr (by simp) (fun _ => rfl) (fun _ => ?_)
  cases ops.make body.1 body.2 <;> rfl

/-- the init part in `run` form; the init cell is given with its content (`Built`) -/
def initR (ops : CellOps R) (init : Option (StateInit R)) (body : Chunk R) (b : Builder R) : Option (Builder R) :=
  match init with
  | none => run (storeBit false) b
  | some s =>
    (run (storeBit true) b).bind fun b1 =>
    (build ops.make (stateInitB s)).bind fun ic =>
      if (1023 - (b1.bits.length : Int)) - 2 - (ic.bits.length : Int) ≥ 0 ∧
          (4 - (b1.refs.length : Int) - (ic.refs.length : Int) ≥ 1 ∨
            (4 - (b1.refs.length : Int) - (ic.refs.length : Int) = 0 ∧ body.2 = [] ∧
              (body.1.length : Int) ≤ (1023 - (b1.bits.length : Int)) - 2 - (ic.bits.length : Int))) then
        run (storeBit false ⊳ storeCell ic.bits ic.refs) b1
      else run (storeBit true ⊳ storeRef ic.cell) b1

theorem view_built (ops : CellOps R) (hl : ops.Lawful) {op : BOp R} {p : Built R} (h : build ops.make op = some p) :
    ops.view p.cell = (p.bits, p.refs) := by
  obtain ⟨b, _, h1, h2, h3⟩ := build_some h
  rw [h1, h2]; exact hl _ _ _ h3

theorem initB_run (ops : CellOps R) (hl : ops.Lawful) (init : Option (StateInit R)) (body : Chunk R) (b : Builder R) :
    (initB ops init body b).bind okB = initR ops init body b := by
  cases init with
  | none => rfl
  | some s =>
    simp only [initB, initR, cellOf_eq_build]
    cases h1 : (storeBit true b).2
    · simp [okB, Vm.run, h1]
    · have hr : run (storeBit true) b = some (storeBit true b).1 := by simp [Vm.run, h1]
      simp only [Bool.not_true, Bool.false_eq_true, if_false, hr, Option.bind_some]
      cases h2 : build ops.make (stateInitB s) with
      | none => rfl
      | some ic =>
        simp only [Option.map_some, Option.bind_some, view_built ops hl h2]
        rw [apply_ite (fun o : Option (Builder R × Bool) => o.bind okB)]
        exact ite_congr (by simp [and_assoc]) (fun _ => rfl) (fun _ => rfl)

/-- the hand model's `MessageAny.serialize` as one chain of `run` steps -/
def serializeR (ops : CellOps R) (m : Msg R) : Option (Built R) :=
  (build ops.make (infoB m.info)).bind fun p =>
  (run (storeCell p.bits p.refs) Builder.empty).bind fun b0 =>
  (initR ops m.init m.body b0).bind fun b1 =>
  (bodyR ops m.body b1).bind fun b2 => finish ops.make b2

theorem serialize_run (ops : CellOps R) (hl : ops.Lawful) (m : Msg R) :
    Message.serialize ops m = (serializeR ops m).map (·.cell) := by
  unfold Message.serialize serializeR
  rw [cellOf_eq_build]
  cases h1 : build ops.make (infoB m.info) with
  | none => rfl
  | some p =>
    simp only [Option.map_some, Option.bind_some, view_built ops hl h1, ← initB_run ops hl, ← bodyB_run ops]
    simp only [Vm.run]
    generalize storeCell p.bits p.refs Builder.empty = r0
    rcases r0 with ⟨b0, f0⟩
    cases f0
    · rfl
    · simp only [Bool.not_true, Bool.false_eq_true, if_false, if_true, Option.bind_some]
      cases h3 : initB ops m.init m.body b0 with
      | none => rfl
      | some r1 =>
        rcases r1 with ⟨b1, f1⟩
        cases f1
        · rfl
        · simp only [Bool.not_true, Bool.false_eq_true, if_false, if_true, Option.bind_some, okB]
          cases h5 : bodyB ops m.body b1 with
          | none => rfl
          | some r2 =>
            rcases r2 with ⟨b2, f2⟩
            cases f2
            · rfl
            · simp only [Bool.not_true, Bool.false_eq_true, if_false, if_true, Option.bind_some, finish, okB]
              cases ops.make b2.bits b2.refs <;> rfl

/-- the body part of the regenerated `MessageAny.serialize` (whatever builder it starts on) is the hand model's; `c` is the test as
    spelled in the source, equivalent to the model's -/
theorem body_frag (ops : CellOps R) (body : Chunk R) (b : Builder R) (c : Prop) [Decidable c]
    (hc : c ↔ ((body.1.length : Int) ≤ (1023 - (b.bits.length : Int)) - 1 ∧ body.2.length + b.refs.length ≤ 4)) :
    (if c then
        (run (storeBit false) b).bind fun b7 => (run (storeCell body.1 body.2) b7).bind fun b8 => finish ops.make b8
      else (run (storeBit true) b).bind fun b10 => (Py.Tlb.storeRefOf ops.make body b10).bind fun b8 => finish ops.make b8) =
    (bodyR ops body b).bind fun b8 => finish ops.make b8 := by
  unfold bodyR Py.Tlb.storeRefOf
  split <;> rename_i h1 <;> split <;> rename_i h2
  · simp [run_andThen, Option.bind_assoc]
  · exact absurd (hc.mp h1) h2
  · exact absurd (hc.mpr h2) h1
  · simp only [run_andThen, Option.bind_assoc, run_bind_comm]

theorem message_ser_eq (ops : CellOps R) (ht : ops.Total) (m : Msg R) :
    MessageAny_serialize ops.make m = serializeR ops m := by
  rcases m with ⟨info, init, body⟩
  simp only [MessageAny_serialize, serializeR, info_ser_eq ht, stateInit_ser_eq ht, bind_pure, Option.bind_eq_bind, Option.pure_def, Option.bind_some]
  refine SrcBytes.Sim.eq (.bind_same fun p _ => .bind_same fun b0 _ => ?_)
  cases init with
  | none =>
    simp (disch := (simp only [Py.Tlb.availableBits, Py.Tlb.availableRefs]; omega)) only [initR, body_frag, Option.bind_some]
    exact .rfl'
  | some s =>
    simp (disch := (simp only [Py.Tlb.availableBits, Py.Tlb.availableRefs]; omega)) only [initR, body_frag, Option.bind_assoc]
    refine .bind_same fun b1 _ => .bind_same fun ic _ => .of_eq ?_
    simp only [Option.bind_some, Py.Tlb.availableBits, Py.Tlb.availableRefs, decide_eq_true_eq, ne_eq, Decidable.not_not]
    split <;> simp only [run_andThen, Option.bind_assoc]

/-- **`MessageAny.serialize` as regenerated from the source returns the hand model's cell** (or raises where the model does) -/
theorem src_message_ser_eq (ops : CellOps R) (hl : ops.Lawful) (ht : ops.Total) (m : Msg R) :
    (MessageAny_serialize ops.make m).map (·.cell) = Message.serialize ops m := by
  rw [message_ser_eq ops ht, serialize_run ops hl]

/-- the cell object a regenerated serialiser returns shows the content it was built from (`Lawful`) -/
theorem finish_view (ops : CellOps R) (hl : ops.Lawful) {b : Builder R} {p : Built R} (h : finish ops.make b = some p) :
    ops.view p.cell = (p.bits, p.refs) := by
  obtain ⟨c, hm, rfl⟩ := Option.map_eq_some_iff.1 h
  exact hl _ _ _ hm

theorem message_built_view (ops : CellOps R) (hl : ops.Lawful) (ht : ops.Total) (m : Msg R) {p : Built R}
    (h : MessageAny_serialize ops.make m = some p) : ops.view p.cell = (p.bits, p.refs) := by
  simp only [message_ser_eq ops ht, serializeR, Option.bind_eq_some_iff] at h
  obtain ⟨_, -, _, -, _, -, _, -, h⟩ := h
  exact finish_view ops hl h

/-- a piece serialised into the empty builder: `sub op` and `op` leave the same content -/
theorem run_sub_empty {op : BOp R} (hs : Safe op) : run (Message.sub op) Builder.empty = run op Builder.empty := by
  rw [run_sub]
  cases h : run op Builder.empty with
  | none => rfl
  | some p =>
    have hw := hs.run wfb_empty h
    have h0 := ((appends_storeCell p.bits p.refs).run rfl).1 ⟨hw.1, hw.2⟩
    dsimp only at h0
    simp [Vm.run, h0]

theorem src_stateInit_ser_eq (ops : CellOps R) (ht : ops.Total) (s : StateInit R) :
    (StateInit_serialize ops.make s).map (·.cell) = Message.serializeStateInit ops s := by
  rw [stateInit_ser_eq ht, Message.serializeStateInit, cellOf_eq_build]

theorem src_currency_ser_eq (ops : CellOps R) (ht : ops.Total) (c : Currency R) :
    (CurrencyCollection_serialize ops.make c).map (·.cell) = Message.serializeCurrency ops c := by
  rw [currency_ser_eq ht, Message.serializeCurrency, cellOf_eq_build]
  unfold build
  rw [run_sub_empty (safe_currencyB c)]

theorem src_info_ser_eq (ops : CellOps R) (ht : ops.Total) (i : Info R) :
    (Info_serialize ops.make i).map (·.cell) = cellOf ops (infoB i) := by
  rw [info_ser_eq ht, cellOf_eq_build]

end TonVerif.Proofs.SrcMsgSer
