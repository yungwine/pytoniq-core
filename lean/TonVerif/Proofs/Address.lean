/-
Helper lemmas for C13 (address text forms).

* replacing one sextet of a text changes two adjacent bytes of what it decodes to (`Base64.unsextets_set`), a
  difference CRC-16 cannot miss (`CrcFlip.crc16_adjacent_ne`), so of the two texts at most one has CRC 0
  (`crcV_subst_ne_zero`);
* the parsers on texts produced by `to_str`.
-/
import TonVerif.Model.Address
import TonVerif.Proofs.Base64
import TonVerif.Proofs.CrcFlip
import TonVerif.Properties.C18

namespace TonVerif.Proofs.Address
open TonVerif TonVerif.Spec TonVerif.Proofs.Crc TonVerif.Proofs.Base64
open TonVerif.Model TonVerif.Model.Base64 TonVerif.Model.Address

/-! ### CRC-16 of Nat byte lists -/

/-- the bitwise CRC-16/XMODEM (Spec/Crc.lean) of a Nat byte list. -/
def crcV (data : Bytes) : BitVec 16 := Spec.crc16 (data.map (BitVec.ofNat 8))

/-- big-endian bytes of a 16-bit value. -/
def be16N (V : BitVec 16) : Bytes := [V.toNat / 256, V.toNat % 256]

theorem be16N_eq (V : BitVec 16) : be16N V = (be16 V).map BitVec.toNat := by
  have hV : V.toNat < 65536 := V.isLt
  simp only [be16, be16N, List.map_cons, List.map_nil, BitVec.toNat_setWidth, BitVec.toNat_ushiftRight,
    Nat.shiftRight_eq_div_pow]
  congr 2
  omega

/-- the library's `crc16` (translated code, C18) in terms of the spec. -/
theorem model_crc16 (data : Bytes) (h : Bytes.WF data) : Model.crc16 data = some (be16N (crcV data)) := by
  rw [TonVerif.Properties.C18.c18_crc16 data h, be16N_eq]
  rfl

theorem codeword_wf (body : Bytes) (hb : Bytes.WF body) : Bytes.WF (body ++ be16N (crcV body)) := by
  intro x hx
  rw [List.mem_append, be16N_eq] at hx
  exact hx.elim (hb x) (CrcFramed.wf_map_toNat _ x)

/-- a message followed by its own CRC has CRC 0. -/
theorem crcV_codeword (body : Bytes) : crcV (body ++ be16N (crcV body)) = 0#16 := by
  have := TonVerif.Properties.C18.c18_crc16_framed (body.map (BitVec.ofNat 8)) 0
  rwa [List.replicate_zero, List.append_nil, ← CrcFramed.map_ofNat_toNat (be16 _), ← be16N_eq, ← List.map_append] at this

/-! ### errors that CRC-16 detects -/

theorem crcV_adjacent_ne (P T : Bytes) (a b a' b' : Nat) (ha : a < 256) (hb : b < 256) (ha' : a' < 256) (hb' : b' < 256)
    (h : a ≠ a' ∨ b ≠ b') : crcV (P ++ a :: b :: T) ≠ crcV (P ++ a' :: b' :: T) := by
  unfold crcV
  simp only [List.map_append, List.map_cons]
  exact CrcFlip.crc16_adjacent_ne _ _ _ _ _ _
    (h.imp (fun h e => h (CrcFlip.ofNat8_inj ha ha' e)) (fun h e => h (CrcFlip.ofNat8_inj hb hb' e)))

theorem unsextets_wf : ∀ (S : List Nat), (∀ s ∈ S, s < 64) → Bytes.WF (unsextets S)
  | [], _ | [_], _ | [_, _], _ | [_, _, _], _ => nofun
  | s0 :: s1 :: s2 :: s3 :: rest, h => by
    simp only [List.forall_mem_cons] at h
    simp only [unsextets, Bytes.WF, List.forall_mem_cons]
    exact ⟨by omega, by omega, by omega, unsextets_wf rest h.2.2.2.2⟩

theorem set_lt {S : List Nat} {j : Nat} (hS : ∀ s ∈ S, s < 64) (hj : j < 64) (i : Nat) :
    ∀ s ∈ S.set i j, s < 64 := by
  intro s hs
  rcases List.mem_or_eq_of_mem_set hs with h | rfl
  · exact hS s h
  · exact hj

/-- replacing one sextet of a text whose bytes have CRC-16 0 by a different one leaves bytes whose CRC-16 is not 0:
the two byte strings differ in two adjacent bytes only. -/
theorem crcV_subst_ne_zero (S : List Nat) (hS : ∀ s ∈ S, s < 64) (q : Nat) (hlen : S.length = 4 * q)
    (h0 : crcV (unsextets S) = 0#16) (i j : Nat) (hi : i < S.length) (hj : j < 64) (hne : S[i] ≠ j) :
    crcV (unsextets (S.set i j)) ≠ 0#16 := by
  obtain ⟨P, a, b, a', b', T, e1, e2, hd⟩ := unsextets_set j hj S hS (by omega) i hi hne
  have w1 := unsextets_wf S hS
  have w2 := unsextets_wf _ (set_lt hS hj i)
  rw [e1] at w1 h0
  rw [e2] at w2 ⊢
  rw [← h0]
  exact (crcV_adjacent_ne P T a b a' b' (w1 a (by simp)) (w1 b (by simp)) (w2 a' (by simp)) (w2 b' (by simp)) hd).symm

/-! ### `is_b64` / `is_hex` -/

/-- a text that decodes to bytes whose CRC-16 is not 0 is rejected: an accepted word ends in the CRC of its first
34 bytes. -/
theorem isB64_none_of {s : List Char} {d : Bytes} (h : decodeUrlsafe s = some d) (hw : Bytes.WF d)
    (hc : crcV d ≠ 0#16) : isB64 s = none := by
  unfold isB64
  rw [h]
  cases d with
  | nil => rfl
  | cons t r =>
    simp only []
    rw [model_crc16 _ (fun x hx => hw x (List.mem_of_mem_take hx))]
    simp only []
    rw [if_pos]
    rw [bne_iff_ne]
    intro hacc
    have := crcV_codeword ((t :: r).take 34)
    rw [← hacc, List.take_append_drop] at this
    exact hc this

theorem splitColon_no_colon : ∀ (s : List Char), (∀ c ∈ s, c ≠ ':') → splitColon s = [s] := by
  intro s
  induction s with
  | nil => intro _; rfl
  | cons c s ih =>
    intro h
    have hc : c ≠ ':' := h c (by simp)
    simp [splitColon, hc, ih (fun x hx => h x (by simp [hx]))]

theorem isHex_no_colon (s : List Char) (h : ∀ c ∈ s, c ≠ ':') : isHex s = none := by
  unfold isHex
  rw [splitColon_no_colon s h]

theorem map_encChar_no_colon (url : Bool) (S : List Nat) (h : ∀ s ∈ S, s < 64) :
    ∀ c ∈ S.map (encChar url), c ≠ ':' := by
  intro c hc
  rw [List.mem_map] at hc
  obtain ⟨s, hs, rfl⟩ := hc
  exact encChar_ne_colon url s (h s hs)

/-- CORE of the substitution theorem: take any 34-byte body followed by its CRC, look at the 48 sextets of
these 36 bytes, replace sextet `i` by a different value `j`: `is_b64` rejects the resulting text. -/
theorem isB64_subst_none (body : Bytes) (hb : Bytes.WF body) (hlen : body.length = 34) (url : Bool)
    (i j : Nat) (hi : i < 48) (hj : j < 64)
    (hne : (sextets (body ++ be16N (crcV body)))[i]? ≠ some j) :
    isB64 (((sextets (body ++ be16N (crcV body))).set i j).map (encChar url)) = none := by
  have hDw := codeword_wf body hb
  have hDlen : (body ++ be16N (crcV body)).length = 36 := by simp [be16N, hlen]
  have hD0 := crcV_codeword body
  generalize body ++ be16N (crcV body) = D at *
  have hSlt := sextets_lt D hDw
  have hSlen : (sextets D).length = 48 := by
    have := sextets_length D (by omega); omega
  rw [← unsextets_sextets D hDw (by omega)] at hD0
  generalize sextets D = S at *
  have hi' : i < S.length := by omega
  have hS'lt := set_lt hSlt hj i
  exact isB64_none_of (decodeUrlsafe_map_sextets url _ hS'lt (by rw [List.length_set]; omega)) (unsextets_wf _ hS'lt)
    (crcV_subst_ne_zero S hSlt 12 (by omega) hD0 i j hi' hj fun h => hne (by rw [List.getElem?_eq_getElem hi', h]))

/-! ### the friendly form produced by `to_str` -/

/-- the tag byte written by `to_str`. -/
def tagOf (bounceable testOnly : Bool) : Nat :=
  let tag := if bounceable then 0x11 else 0x51
  if testOnly then tag ||| 0x80 else tag

/-- tag, workchain byte, hash: the 34 bytes covered by the checksum. -/
def bodyOf (a : Addr) (bounceable testOnly : Bool) : Bytes :=
  tagOf bounceable testOnly :: (a.wc % 256).toNat :: a.hash

theorem tagOf_lt (b t : Bool) : tagOf b t < 256 := by cases b <;> cases t <;> decide

theorem bodyOf_wf (a : Addr) (b t : Bool) (hw : Bytes.WF a.hash) : Bytes.WF (bodyOf a b t) := by
  intro x hx
  simp only [bodyOf, List.mem_cons] at hx
  rcases hx with rfl | rfl | hx
  · exact tagOf_lt b t
  · omega
  · exact hw x hx

theorem codeword_length (a : Addr) (b t : Bool) (hlen : a.hash.length = 32) :
    (bodyOf a b t ++ be16N (crcV (bodyOf a b t))).length = 36 := by
  simp [bodyOf, be16N, hlen]

/-- `is_hex` declines every friendly text: no alphabet character is a colon. -/
theorem isHex_friendly (a : Addr) (url b t : Bool) (hw : Bytes.WF a.hash) (hlen : a.hash.length = 32) :
    isHex (encode url (bodyOf a b t ++ be16N (crcV (bodyOf a b t)))) = none := by
  rw [encode_eq_map_sextets _ _ (by rw [codeword_length a b t hlen])]
  exact isHex_no_colon _ (map_encChar_no_colon url _ (sextets_lt _ (codeword_wf _ (bodyOf_wf a b t hw))))

/-- `to_str(user-friendly)` of an address with a workchain in -128..127: base64 of body ++ crc16(body). -/
theorem toStr_friendly (a : Addr) (url b t : Bool) (hw : Bytes.WF a.hash) (hwc : -128 ≤ a.wc ∧ a.wc ≤ 127) :
    toStr a true url b t = some (encode url (bodyOf a b t ++ be16N (crcV (bodyOf a b t)))) := by
  have hcrc := model_crc16 (bodyOf a b t) (bodyOf_wf a b t hw)
  unfold bodyOf tagOf at hcrc
  simp only [toStr, wcByte?, hwc, and_self, if_true, Bool.not_true, Bool.false_eq_true, if_false]
  simp only [hcrc]
  rfl

/-- conversely `to_str(user-friendly)` raises for any other workchain. -/
theorem toStr_friendly_none (a : Addr) (url b t : Bool) (hwc : ¬ (-128 ≤ a.wc ∧ a.wc ≤ 127)) :
    toStr a true url b t = none := by
  simp [toStr, wcByte?, hwc]

theorem signedByte_wc (wc : Int) (hwc : -128 ≤ wc ∧ wc ≤ 127) : signedByte [(wc % 256).toNat] = wc := by
  unfold signedByte
  simp only
  split <;> omega

/-- `is_b64` on the text of a codeword whose body is `tagOf b t :: wc byte :: 32-byte hash`. -/
theorem isB64_friendly (a : Addr) (url b t : Bool) (hw : Bytes.WF a.hash) (hlen : a.hash.length = 32)
    (hwc : -128 ≤ a.wc ∧ a.wc ≤ 127) :
    isB64 (encode url (bodyOf a b t ++ be16N (crcV (bodyOf a b t))))
      = some { wc := a.wc, hash := a.hash, bounceable := b, testOnly := t } := by
  have hbw := bodyOf_wf a b t hw
  have hblen : (bodyOf a b t).length = 34 := by simp [bodyOf, hlen]
  have hdec := decodeUrlsafe_encode url _ (codeword_wf _ hbw)
  have ht : (bodyOf a b t ++ be16N (crcV (bodyOf a b t))).take 34 = bodyOf a b t := List.take_left' hblen
  have hd : (bodyOf a b t ++ be16N (crcV (bodyOf a b t))).drop 34 = be16N (crcV (bodyOf a b t)) :=
    List.drop_left' hblen
  have hcrc := model_crc16 _ hbw
  generalize hC : be16N (crcV (bodyOf a b t)) = C at *
  unfold isB64
  rw [hdec]
  have hsplit : bodyOf a b t ++ C = tagOf b t :: ((a.wc % 256).toNat :: a.hash ++ C) := rfl
  rw [hsplit] at ht hd ⊢
  simp only [ht, hd, hcrc, bne_self_eq_false, Bool.false_eq_true, if_false]
  have h1 : ((tagOf b t :: ((a.wc % 256).toNat :: a.hash ++ C)).drop 1).take 1 = [(a.wc % 256).toNat] := by
    simp
  have h2 : ((tagOf b t :: ((a.wc % 256).toNat :: a.hash ++ C)).drop 2).take 32 = a.hash := by
    simp only [List.drop_succ_cons, List.cons_append, List.drop_zero]
    exact List.take_left' hlen
  rw [h1, h2, signedByte_wc a.wc hwc]
  cases b <;> cases t <;> rfl

/-! ### the raw form `"{wc}:{hash.hex()}"` -/

/-- a character that `int(.., base)` reads as a plain digit: no white space, sign, underscore, prefix letter
or colon. -/
def PlainDigit (base : Nat) (c : Char) : Prop :=
  isPySpace c = false ∧ c ≠ ':' ∧ c ≠ '_' ∧ c ≠ '-' ∧ c ≠ '+' ∧ c ≠ 'x' ∧ c ≠ 'X' ∧
    (digitVal? base c).isSome = true

theorem hexDigit_plain : ∀ n, n < 16 → PlainDigit 16 (hexDigit n) ∧ hexVal? (hexDigit n) = some n := by
  unfold PlainDigit; decide +kernel

theorem decDigit_plain : ∀ n, n < 10 →
    PlainDigit 10 (Char.ofNat (48 + n)) ∧ digitVal? 10 (Char.ofNat (48 + n)) = some n := by
  unfold PlainDigit; decide +kernel

/-- value of a digit string, most significant first. -/
def valOf (base : Nat) (s : List Char) : Nat :=
  s.foldl (fun a c => a * base + (digitVal? base c).getD 0) 0

theorem dropWhile_none {p : Char → Bool} : ∀ (s : List Char), (∀ c ∈ s, p c = false) → s.dropWhile p = s := by
  intro s h
  cases s with
  | nil => rfl
  | cons c r => simp [List.dropWhile, h c (by simp)]

theorem stripSpace_id (s : List Char) (h : ∀ c ∈ s, isPySpace c = false) : stripSpace s = s := by
  unfold stripSpace
  rw [dropWhile_none s h, dropWhile_none s.reverse (by simpa using h), List.reverse_reverse]

theorem digitsGo_plain (base : Nat) : ∀ (s : List Char), (∀ c ∈ s, PlainDigit base c) → ∀ (acc cnt : Nat),
    digitsGo base s acc cnt =
      some (s.foldl (fun a c => a * base + (digitVal? base c).getD 0) acc, cnt + s.length) := by
  intro s
  induction s with
  | nil => intro _ acc cnt; simp [digitsGo]
  | cons c r ih =>
    intro h acc cnt
    have hc := h c (by simp)
    obtain ⟨v, hv⟩ := Option.isSome_iff_exists.mp hc.2.2.2.2.2.2.2
    rw [digitsGo.eq_def]
    simp only [hc.2.2.1, if_false, hv]
    rw [ih (fun x hx => h x (by simp [hx]))]
    simp [hv]; omega

theorem stripHexPrefix_plain (base : Nat) (s : List Char) (h : ∀ c ∈ s, PlainDigit base c) :
    stripHexPrefix s = s := by
  match s, h with
  | [], _ => rfl
  | [_], _ => rfl
  | c :: x :: r, h =>
    have hx := h x (by simp)
    simp [stripHexPrefix, hx.2.2.2.2.2.1, hx.2.2.2.2.2.2.1]

/-- `int()` on an optional minus sign followed by plain digits. -/
theorem pyInt_plain (base : Nat) (neg : Bool) (ds : List Char) (hne : ds ≠ [])
    (hp : ∀ c ∈ ds, PlainDigit base c) (hlim : ¬ (base = 10 ∧ maxStrDigits < ds.length)) :
    pyInt base (if neg then '-' :: ds else ds)
      = some (if neg then -(valOf base ds : Int) else (valOf base ds : Int)) := by
  obtain ⟨c, r, rfl⟩ := List.exists_cons_of_ne_nil hne
  have hc := hp c (by simp)
  have hsp : ∀ x ∈ (if neg then '-' :: c :: r else c :: r), isPySpace x = false := by
    cases neg
    · exact fun x hx => (hp x hx).1
    · exact List.forall_mem_cons.mpr ⟨by decide, fun x hx => (hp x hx).1⟩
  have hsign : stripSign (if neg then '-' :: c :: r else c :: r) = (neg, c :: r) := by
    cases neg
    · simp [stripSign, hc.2.2.2.1, hc.2.2.2.2.1]
    · simp [stripSign]
  have hpre : (if base = 16 then stripHexPrefix (c :: r) else c :: r) = c :: r := by
    split
    · exact stripHexPrefix_plain base _ hp
    · rfl
  unfold pyInt
  simp only [stripSpace_id _ hsp, hsign, hpre, hc.2.2.1, if_false, digitsGo_plain base (c :: r) hp 0 0,
    Nat.zero_add, hlim, valOf]

theorem decDigits_ne_nil (n : Nat) : decDigits n ≠ [] := by
  rw [decDigits]; split <;> simp

theorem decDigits_plain : ∀ (n : Nat), ∀ c ∈ decDigits n, PlainDigit 10 c := by
  intro n
  induction n using decDigits.induct with
  | case1 n h =>
    intro c hc
    rw [decDigits, if_pos h] at hc
    simp only [List.mem_cons, List.not_mem_nil, or_false] at hc
    rw [hc]; exact (decDigit_plain n h).1
  | case2 n h ih =>
    intro c hc
    rw [decDigits, if_neg h, List.mem_append] at hc
    rcases hc with hc | hc
    · exact ih c hc
    · simp only [List.mem_cons, List.not_mem_nil, or_false] at hc
      rw [hc]; exact (decDigit_plain (n % 10) (by omega)).1

theorem decDigits_val : ∀ (n : Nat), valOf 10 (decDigits n) = n := by
  intro n
  induction n using decDigits.induct with
  | case1 n h =>
    rw [decDigits, if_pos h]
    simp [valOf, (decDigit_plain n h).2]
  | case2 n h ih =>
    rw [decDigits, if_neg h]
    unfold valOf at ih ⊢
    rw [List.foldl_append, ih]
    simp only [List.foldl_cons, List.foldl_nil, (decDigit_plain (n % 10) (by omega)).2, Option.getD_some]
    omega

/-- `int(str(z)) == z` whenever `str(z)` exists. -/
theorem pyInt_pyStrInt (z : Int) (w : List Char) (h : pyStrInt z = some w) : pyInt 10 w = some z := by
  unfold pyStrInt at h
  simp only at h
  split at h
  · cases h
  · rename_i hlim
    injection h with h
    have := pyInt_plain 10 (decide (z < 0)) (decDigits z.natAbs) (decDigits_ne_nil _) (decDigits_plain _)
      (by intro hh; exact hlim hh.2)
    rw [decDigits_val] at this
    by_cases hz : z < 0
    · simp only [hz, decide_true, if_true] at this h
      rw [← h, this]; congr 1; omega
    · simp only [hz, decide_false, Bool.false_eq_true, if_false] at this h
      rw [← h, this]; congr 1; omega

theorem pyStrInt_no_colon (z : Int) (w : List Char) (h : pyStrInt z = some w) : ∀ c ∈ w, c ≠ ':' := by
  unfold pyStrInt at h
  simp only at h
  split at h
  · cases h
  · injection h with h
    intro c hc
    rw [← h] at hc
    split at hc
    · simp only [List.mem_cons] at hc
      rcases hc with rfl | hc
      · decide
      · exact (decDigits_plain _ c hc).2.1
    · exact (decDigits_plain _ c hc).2.1

theorem hexChars_plain : ∀ (bs : Bytes), Bytes.WF bs → ∀ c ∈ hexChars bs, PlainDigit 16 c := by
  intro bs hw c hc
  unfold hexChars at hc
  rw [List.mem_flatMap] at hc
  obtain ⟨b, hb, hc⟩ := hc
  have := hw b hb
  simp only [List.mem_cons, List.not_mem_nil, or_false] at hc
  rcases hc with rfl | rfl
  · exact (hexDigit_plain _ (by omega)).1
  · exact (hexDigit_plain _ (by omega)).1

theorem pyFromHex_hexChars : ∀ (bs : Bytes), Bytes.WF bs → pyFromHex (hexChars bs) = some bs := by
  intro bs
  induction bs with
  | nil => intro _; rfl
  | cons b bs ih =>
    intro hw
    have hb : b < 256 := hw b (by simp)
    have h1 := hexDigit_plain (b / 16) (by omega)
    have h2 := hexDigit_plain (b % 16) (by omega)
    have e : hexChars (b :: bs) = hexDigit (b / 16) :: hexDigit (b % 16) :: hexChars bs := rfl
    rw [e, pyFromHex]
    simp only [h1.1.1, Bool.false_eq_true, if_false, h1.2, h2.2, ih (fun x hx => hw x (by simp [hx]))]
    congr 2; omega

theorem splitColon_two : ∀ (w h : List Char), (∀ c ∈ w, c ≠ ':') → (∀ c ∈ h, c ≠ ':') →
    splitColon (w ++ ':' :: h) = [w, h] := by
  intro w
  induction w with
  | nil => intro h _ hh; simp [splitColon, splitColon_no_colon h hh]
  | cons c w ih =>
    intro h hw hh
    have hc : c ≠ ':' := hw c (by simp)
    simp [splitColon, hc, ih h (fun x hx => hw x (by simp [hx])) hh]

/-- `is_hex` on the raw text of an address with a non-empty hash. -/
theorem isHex_raw (z : Int) (w : List Char) (hash : Bytes) (hz : pyStrInt z = some w) (hw : Bytes.WF hash)
    (hne : hash ≠ []) : isHex (w ++ ':' :: hexChars hash) = some { wc := z, hash := hash } := by
  have hp := hexChars_plain hash hw
  unfold isHex
  rw [splitColon_two w _ (pyStrInt_no_colon z w hz) (fun c hc => (hp c hc).2.1)]
  have hhne : hexChars hash ≠ [] := by
    obtain ⟨b, r, rfl⟩ := List.exists_cons_of_ne_nil hne
    simp [hexChars]
  have h16 := pyInt_plain 16 false (hexChars hash) hhne hp (by simp)
  simp only [Bool.false_eq_true, if_false] at h16
  simp only [h16, pyInt_pyStrInt z w hz, pyFromHex_hexChars hash hw]

theorem decDigits_length_le : ∀ (k n : Nat), n < 10 ^ (k + 1) → (decDigits n).length ≤ k + 1 := by
  intro k
  induction k with
  | zero =>
    intro n h
    rw [decDigits, if_pos (by simpa using h)]; simp
  | succ k ih =>
    intro n h
    rw [decDigits]
    split
    · simp
    · have h2 : n / 10 < 10 ^ (k + 1) := by
        apply Nat.div_lt_of_lt_mul
        rw [Nat.pow_succ] at h; omega
      have := ih (n / 10) h2
      simp only [List.length_append, List.length_cons, List.length_nil]; omega

/-- `str(z)` exists for every integer of at most 4300 digits. -/
theorem pyStrInt_isSome (z : Int) (h : z.natAbs < 10 ^ (4299 + 1)) : (pyStrInt z).isSome = true := by
  have := decDigits_length_le 4299 z.natAbs h
  unfold pyStrInt maxStrDigits
  simp only
  rw [if_neg (by omega)]
  rfl

end TonVerif.Proofs.Address
