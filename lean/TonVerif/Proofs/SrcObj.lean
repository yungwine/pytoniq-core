/-
Generation-independent lemmas for the object-program translator (harness/translate/pyobj.py):
the built-ins of PyObj.lean, loops (`List.foldlM` in `Option`) against the `mapM` / `foldl` forms the hand models use,
and the canonical loop steps of the cell constructor.  Nothing here mentions a `Generated.*` definition: a source change can
never break this file.
-/
import TonVerif.PyObj
import TonVerif.PyBytes
import TonVerif.Model.Cell
import TonVerif.Proofs.CellSpec
import TonVerif.Proofs.SrcSim

namespace TonVerif.Proofs.SrcObj
open TonVerif TonVerif.Model

/-! ### built-ins -/

/-- `result.fill(); result.tobytes()` = `tobytes()` (which pads the last byte itself) -/
theorem bitsToBytes_fill (b : Bits) : bitsToBytes (Py.bitsFill b) = bitsToBytes b := by
  unfold Py.bitsFill
  apply Proofs.CellSpec.bitsToBytes_pad _ _ _ rfl
  · intro h; omega
  · intro h; omega

/-- `xs[-1]` -/
theorem getI_neg_one {α : Type} (xs : List α) : Py.getI? xs (-1) = xs.getLast? := by
  unfold Py.getI?
  cases xs with
  | nil => simp
  | cons a as => simp [List.getLast?_eq_getElem?]

/-- `xs[len(xs) - 1]` -/
theorem getI_length_sub_one {α : Type} (xs : List α) : Py.getI? xs ((xs.length : Int) - 1) = xs.getLast? := by
  cases xs with
  | nil => simp [Py.getI?]
  | cons a as =>
    have h : (((a :: as).length : Nat) : Int) - 1 = ((as.length : Nat) : Int) := by simp
    rw [h]
    simp [Py.getI?, List.getLast?_eq_getElem?]

/-- `xs[i]` for a non-negative `i` -/
theorem getI_nonneg {α : Type} (xs : List α) (i : Int) (n : Nat) (h : i = (n : Int)) : Py.getI? xs i = xs[n]? := by
  subst h; simp [Py.getI?]

theorem intOfBits_eq (s : Bits) : Py.intOfBits? s = if s.isEmpty then none else some (natOfBits s) := by
  unfold Py.intOfBits?; cases s <;> simp

/-- the spellings of "the list is not empty" (`if xs:`, `len(xs) != 0`, `len(xs) >= 1`, `len(xs) > 0`) -/
theorem ne_nil_eq_pos {α : Type} (xs : List α) : (xs ≠ []) = (xs.length > 0) := by cases xs <;> simp
theorem length_ne_zero_eq_pos {α : Type} (xs : List α) : (xs.length ≠ 0) = (xs.length > 0) := by cases xs <;> simp
theorem length_ge_one_eq_pos {α : Type} (xs : List α) : (xs.length ≥ 1) = (xs.length > 0) := by cases xs <;> simp

/-! ### loops -/

/-- a loop over an encoded state: if every step commutes with the encoding, so does the loop -/
theorem foldlM_sim {σ τ α : Type} (enc : τ → σ) (f : σ → α → Option σ) (g : τ → α → Option τ)
    (h : ∀ t x, f (enc t) x = (g t x).map enc) (xs : List α) (t : τ) :
    List.foldlM f (enc t) xs = (List.foldlM g t xs).map enc :=
  (SrcBytes.Sim.foldlM (R := fun s t => s = enc t) xs rfl fun x _ _ t e => by subst e; exact .of_map_eq (h t x)).to_eq

/-- a raising computation followed by a continuation, on an encoded state: compare the first parts, then the continuations -/
theorem bind_sim {α β σ τ : Type} (enc : τ → σ) (e : α → β) {pG : Option β} {pM : Option α}
    {F : β → Option σ} {G : α → Option τ} (hp : pG = pM.map e) (hF : ∀ p, F (e p) = (G p).map enc) :
    pG.bind F = (pM.bind G).map enc :=
  (SrcBytes.Sim.bind (.of_map_eq hp) fun _ p e => by subst e; exact .of_map_eq (hF p)).to_eq

/-- a loop whose body never raises is a `foldl` -/
theorem foldlM_pure {σ α : Type} (f : σ → α → σ) (xs : List α) (s : σ) :
    List.foldlM (m := Option) (fun s x => some (f s x)) s xs = some (xs.foldl f s) :=
  List.foldlM_pure

/-! ### the canonical steps of the three loops over the references in `calculate_hashes` / `resolve_mask` -/

/-- `for r in self.refs:` of the depth loop (state = (depth, bytes fed to the hash)): feed the two depth bytes, keep the maximum -/
def depthStep (gd : CellInfo → Option Nat) (s : Nat × Bytes) (r : CellInfo) : Option (Nat × Bytes) :=
  (gd r).bind fun d => (toBytesBE? 2 d).bind fun db => some (if d > s.1 then d else s.1, s.2 ++ db)

/-- `for r in self.refs:` of the hash loop -/
def hashFeed (gh : CellInfo → Option Bytes) (s : Bytes) (r : CellInfo) : Option Bytes :=
  (gh r).bind fun h => some (s ++ h)

theorem depthLoop (gd : CellInfo → Option Nat) (refs : List CellInfo) (d0 : Nat) (h0 : Bytes) :
    List.foldlM (depthStep gd) (d0, h0) refs =
      (refs.mapM gd).bind fun ds => (ds.mapM (toBytesBE? 2)).bind fun bs =>
        some (ds.foldl (fun d x => if x > d then x else d) d0, h0 ++ bs.flatten) := by
  induction refs generalizing h0 d0 with
  | nil => simp
  | cons r rs ih =>
    simp only [List.foldlM_cons, List.mapM_cons, depthStep]
    cases hd : gd r with
    | none => simp
    | some d =>
      simp only [Option.bind_some, Option.pure_def, Option.bind_eq_bind]
      cases hb : toBytesBE? 2 d with
      | none =>
        simp only [Option.bind_none]
        cases List.mapM gd rs with
        | none => simp
        | some ds => simp [hb]
      | some db =>
        simp only [Option.bind_some, ih]
        cases List.mapM gd rs with
        | none => simp
        | some ds =>
          simp only [Option.bind_some, List.mapM_cons, hb, Option.pure_def, Option.bind_eq_bind, List.foldl_cons]
          cases List.mapM (toBytesBE? 2) ds with
          | none => simp
          | some bs => simp [List.append_assoc]

theorem hashLoop (gh : CellInfo → Option Bytes) (refs : List CellInfo) (h0 : Bytes) :
    List.foldlM (hashFeed gh) h0 refs = (refs.mapM gh).bind fun hs => some (h0 ++ hs.flatten) := by
  simp only [← foldl_append_flatten]
  exact foldlM_bind_some gh (· ++ ·) refs h0

/-! ### the level loop: simulation with an invariant -/

/-- a loop over `range n` on an encoded state, with an invariant `P i st` on (position, state): the steps only have to commute with
the encoding on states the loop can reach -/
theorem foldlM_sim_range {σ τ : Type} (enc : τ → σ) (f : σ → Nat → Option σ) (g : τ → Nat → Option τ) (P : Nat → τ → Prop)
    (hpres : ∀ i t t', P i t → g t i = some t' → P (i + 1) t')
    (h : ∀ i t, P i t → f (enc t) i = (g t i).map enc) (n : Nat) (t : τ) (h0 : P 0 t) :
    List.foldlM f (enc t) (List.range n) = (List.foldlM g t (List.range n)).map enc := by
  refine ((SrcBytes.Sim.foldlM_idx (R := fun i s t => s = enc t ∧ P i t) (List.range n) 0 ⟨rfl, h0⟩ ?_).mono fun _ _ h => h.1).to_eq
  intro i x _ t hx ⟨e, hp⟩
  obtain rfl : i = x := by simpa using (List.getElem?_eq_some_iff.1 hx).2
  subst e
  rw [Nat.zero_add] at hp ⊢
  rw [h i t hp]
  cases hg : g t i with
  | none => exact .fail
  | some t' => exact .ret ⟨rfl, hpres i t t' hp hg⟩

/-- the invariant of the level loop of `calculate_hashes`: `hash_index` is 0 exactly before level 0 is processed -/
def levelInv (li : Nat) (st : HashState) : Prop := (li = 0 ∧ st.hashIndex = 0) ∨ (0 < li ∧ 0 < st.hashIndex)

theorem levelTail_hashIndex (H : Bytes → Bytes) (refs : List CellInfo) (lvl : Nat) (st st' : HashState) (x : Bytes)
    (h : CellSpec.levelTail H refs lvl st x = some st') : st'.hashIndex = st.hashIndex + 1 := by
  simp only [CellSpec.levelTail, Option.bind_eq_some_iff, Option.some.injEq] at h
  obtain ⟨_, _, _, _, _, _, _, _, rfl⟩ := h
  rfl

theorem hashStep_hashIndex (H : Bytes → Bytes) (kind : Int) (bits : Bits) (refs : List CellInfo) (mask offset : Nat)
    (st st' : HashState) (li : Nat) (h : hashStep H kind bits refs mask offset st li = some st') :
    (st'.hashIndex = st.hashIndex + 1) ∨ (st'.hashIndex = st.hashIndex ∧ isSignificant mask li = false) := by
  rw [CellSpec.hashStep_eq] at h
  cases hs : isSignificant mask li with
  | false =>
    rw [hs, Bool.not_false, if_pos rfl] at h
    cases h
    exact Or.inr ⟨rfl, rfl⟩
  | true =>
    left
    rw [hs, Bool.not_true, if_neg Bool.false_ne_true] at h
    by_cases hl : st.hashIndex < offset
    · rw [if_pos hl] at h
      cases h
      rfl
    · rw [if_neg hl] at h
      obtain ⟨_, _, h⟩ := Option.bind_eq_some_iff.mp h
      obtain ⟨_, _, h⟩ := Option.bind_eq_some_iff.mp h
      exact levelTail_hashIndex _ _ _ _ _ _ h

theorem levelInv_step (H : Bytes → Bytes) (kind : Int) (bits : Bits) (refs : List CellInfo) (mask offset : Nat)
    (li : Nat) (st st' : HashState) (hP : levelInv li st) (h : hashStep H kind bits refs mask offset st li = some st') :
    levelInv (li + 1) st' := by
  have := hashStep_hashIndex H kind bits refs mask offset st st' li h
  have h0 : isSignificant mask 0 = true := by simp [isSignificant]
  unfold levelInv at *
  right
  refine ⟨by omega, ?_⟩
  rcases hP with ⟨rfl, _⟩ | ⟨_, hp⟩
  · rcases this with h1 | ⟨_, h2⟩
    · omega
    · rw [h0] at h2; cases h2
  · rcases this with h1 | ⟨h1, _⟩ <;> omega

end TonVerif.Proofs.SrcObj
