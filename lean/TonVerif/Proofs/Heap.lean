/-
The abstract heap of `Model/Heap.lean` (C08).  The invariant `Inv` = `WF` (ids allocated, lists hold cells) ∧ `Sep` (what a slice or
builder mutates is pointed to by nothing else) ∧ `Coh` (a cell's cached value and hashes are what the heap holds); `Frame`, the
footprint of a transition: outside it nothing moves (`frame_other`), so cells never change (`cell_frame`).  The value-level
semantics `sem` ("every object is an independent immutable value") and the abstraction function `valOf`.  `step_spec` goes through
the paths of `step` once and shows of each that it keeps `Inv`, stays within its `Frame` and computes `sem` of the argument VALUES
(`Spec`); `step_ok`, `step_sem`, `cell_step` are read off it, and from them isolation (`valOf_frame`, `step_isolated`) and history
independence (`hist_indep`).
-/
import TonVerif.Model.Heap
namespace TonVerif.Proofs.Heap
open TonVerif TonVerif.Model TonVerif.Model.Heap

/-! ### Projections of the primitive state updates -/
section proj
variable (σ : State) (bs : Bits) (rs : List Nat) (o : ObjRec) (k : Nat)
@[simp] theorem allocB_bitBuf : (σ.allocB bs).bitBuf = fun j => if j = σ.nBit then bs else σ.bitBuf j := rfl
@[simp] theorem allocB_nBit : (σ.allocB bs).nBit = σ.nBit + 1 := rfl
@[simp] theorem allocB_refBuf : (σ.allocB bs).refBuf = σ.refBuf := rfl
@[simp] theorem allocB_nRef : (σ.allocB bs).nRef = σ.nRef := rfl
@[simp] theorem allocB_obj : (σ.allocB bs).obj = σ.obj := rfl
@[simp] theorem allocB_nObj : (σ.allocB bs).nObj = σ.nObj := rfl
@[simp] theorem allocR_bitBuf : (σ.allocR rs).bitBuf = σ.bitBuf := rfl
@[simp] theorem allocR_nBit : (σ.allocR rs).nBit = σ.nBit := rfl
@[simp] theorem allocR_refBuf : (σ.allocR rs).refBuf = fun j => if j = σ.nRef then rs else σ.refBuf j := rfl
@[simp] theorem allocR_nRef : (σ.allocR rs).nRef = σ.nRef + 1 := rfl
@[simp] theorem allocR_obj : (σ.allocR rs).obj = σ.obj := rfl
@[simp] theorem allocR_nObj : (σ.allocR rs).nObj = σ.nObj := rfl
@[simp] theorem setB_bitBuf : (σ.setB k bs).bitBuf = fun j => if j = k then bs else σ.bitBuf j := rfl
@[simp] theorem setB_nBit : (σ.setB k bs).nBit = σ.nBit := rfl
@[simp] theorem setB_refBuf : (σ.setB k bs).refBuf = σ.refBuf := rfl
@[simp] theorem setB_nRef : (σ.setB k bs).nRef = σ.nRef := rfl
@[simp] theorem setB_obj : (σ.setB k bs).obj = σ.obj := rfl
@[simp] theorem setB_nObj : (σ.setB k bs).nObj = σ.nObj := rfl
@[simp] theorem setR_bitBuf : (σ.setR k rs).bitBuf = σ.bitBuf := rfl
@[simp] theorem setR_nBit : (σ.setR k rs).nBit = σ.nBit := rfl
@[simp] theorem setR_refBuf : (σ.setR k rs).refBuf = fun j => if j = k then rs else σ.refBuf j := rfl
@[simp] theorem setR_nRef : (σ.setR k rs).nRef = σ.nRef := rfl
@[simp] theorem setR_obj : (σ.setR k rs).obj = σ.obj := rfl
@[simp] theorem setR_nObj : (σ.setR k rs).nObj = σ.nObj := rfl
@[simp] theorem push_bitBuf : (σ.push o).bitBuf = σ.bitBuf := rfl
@[simp] theorem push_nBit : (σ.push o).nBit = σ.nBit := rfl
@[simp] theorem push_refBuf : (σ.push o).refBuf = σ.refBuf := rfl
@[simp] theorem push_nRef : (σ.push o).nRef = σ.nRef := rfl
@[simp] theorem push_obj : (σ.push o).obj = fun j => if j = σ.nObj then o else σ.obj j := rfl
@[simp] theorem push_nObj : (σ.push o).nObj = σ.nObj + 1 := rfl
@[simp] theorem setObj_bitBuf : (σ.setObj k o).bitBuf = σ.bitBuf := rfl
@[simp] theorem setObj_nBit : (σ.setObj k o).nBit = σ.nBit := rfl
@[simp] theorem setObj_refBuf : (σ.setObj k o).refBuf = σ.refBuf := rfl
@[simp] theorem setObj_nRef : (σ.setObj k o).nRef = σ.nRef := rfl
@[simp] theorem setObj_obj : (σ.setObj k o).obj = fun j => if j = k then o else σ.obj j := rfl
@[simp] theorem setObj_nObj : (σ.setObj k o).nObj = σ.nObj := rfl
end proj

/-! ### Laws of the primitive updates: a second write replaces the first, writing what is there changes nothing, a write to the
container just allocated is the allocation, a write to an older container commutes with an allocation.  (Updates of different
components commute by `rfl`.) -/

theorem state_ext {a b : State} (h1 : a.bitBuf = b.bitBuf) (h2 : a.nBit = b.nBit) (h3 : a.refBuf = b.refBuf) (h4 : a.nRef = b.nRef)
    (h5 : a.obj = b.obj) (h6 : a.nObj = b.nObj) : a = b := by
  cases a; cases b; simp_all

theorem upd_upd {α : Type} (f : Nat → α) (k : Nat) (x y : α) :
    (fun j => if j = k then y else (fun j => if j = k then x else f j) j) = fun j => if j = k then y else f j := by
  funext j; by_cases h : j = k <;> simp [h]

theorem upd_self {α : Type} (f : Nat → α) (k : Nat) : (fun j => if j = k then f k else f j) = f := by
  funext j; by_cases h : j = k <;> simp [h]

section laws
variable (σ : State) (k : Nat) (a b : Bits) (r s : List Nat)
theorem setB_setB : (σ.setB k a).setB k b = σ.setB k b := state_ext (upd_upd ..) rfl rfl rfl rfl rfl
theorem setR_setR : (σ.setR k r).setR k s = σ.setR k s := state_ext rfl rfl (upd_upd ..) rfl rfl rfl
theorem setB_self : σ.setB k (σ.bitBuf k) = σ := state_ext (upd_self ..) rfl rfl rfl rfl rfl
theorem setR_self : σ.setR k (σ.refBuf k) = σ := state_ext rfl rfl (upd_self ..) rfl rfl rfl
theorem allocB_setB : (σ.allocB a).setB σ.nBit b = σ.allocB b := state_ext (upd_upd ..) rfl rfl rfl rfl rfl
theorem allocR_setR : (σ.allocR r).setR σ.nRef s = σ.allocR s := state_ext rfl rfl (upd_upd ..) rfl rfl rfl
theorem setB_allocB (hk : k ≠ σ.nBit) : (σ.setB k a).allocB b = (σ.allocB b).setB k a := by
  refine state_ext (funext fun j => ?_) rfl rfl rfl rfl rfl
  by_cases h : j = σ.nBit
  · subst h; simp [hk.symm]
  · simp [h]
end laws

theorem owner_hasBits {t : Tag} (h : t.owner = true) : t.hasBits = true := by cases t <;> simp_all [Tag.owner, Tag.hasBits]
theorem owner_hasRefs {t : Tag} (h : t.owner = true) : t.hasRefs = true := by cases t <;> simp_all [Tag.owner, Tag.hasRefs]

/-! ### Invariants -/

/-- well-formedness: every container id an object names is allocated; lists hold live cells only -/
structure WF (σ : State) : Prop where
  idB : ∀ i, i < σ.nObj → (σ.obj i).tag.hasBits = true → (σ.obj i).bitsId < σ.nBit
  idR : ∀ i, i < σ.nObj → (σ.obj i).tag.hasRefs = true → (σ.obj i).refsId < σ.nRef
  refsCells : ∀ r, r < σ.nRef → ∀ j ∈ σ.refBuf r, j < σ.nObj ∧ (σ.obj j).tag = .cell
  off0 : ∀ i, i < σ.nObj → (σ.obj i).tag ≠ .slice → (σ.obj i).off = 0
  bk : ∀ i, i < σ.nObj → (σ.obj i).tag = .builder → (σ.obj i).kind = -1
  /-- `ref_offset ≤ len(refs)`: `load_ref` raises at the end of the list instead of moving past it; lists only grow -/
  offLe : ∀ i, i < σ.nObj → (σ.obj i).off ≤ (σ.refBuf (σ.obj i).refsId).length

/-- SEPARATION: a container a Slice or Builder points to (and mutates) is pointed to by no other object -
not by a Cell, not by another Slice/Builder, not by an array/list the caller holds. -/
structure Sep (σ : State) : Prop where
  sepB : ∀ i j, i < σ.nObj → j < σ.nObj → i ≠ j → (σ.obj i).tag.owner = true → (σ.obj j).tag.hasBits = true →
    (σ.obj i).bitsId ≠ (σ.obj j).bitsId
  sepR : ∀ i j, i < σ.nObj → j < σ.nObj → i ≠ j → (σ.obj i).tag.owner = true → (σ.obj j).tag.hasRefs = true →
    (σ.obj i).refsId ≠ (σ.obj j).refsId

def vals (σ : State) (l : List Nat) : List Tree := l.map fun j => (σ.obj j).val

/-- COHERENCE: what a Cell object cached at construction (its value, its hashes) is what one reads off the heap now -/
structure Coh (H : Bytes → Bytes) (σ : State) : Prop where
  coh : ∀ i, i < σ.nObj → (σ.obj i).tag = .cell →
    (σ.obj i).val = .mk (σ.obj i).kind (σ.bitBuf (σ.obj i).bitsId) (vals σ (σ.refBuf (σ.obj i).refsId))
  cohInfo : ∀ i, i < σ.nObj → (σ.obj i).tag = .cell → Cell.info H (σ.obj i).val = some (σ.obj i).info

structure Inv (H : Bytes → Bytes) (σ : State) : Prop where
  wf : WF σ
  sep : Sep σ
  coh : Coh H σ

theorem inv_init (H) : Inv H init := by
  refine ⟨⟨?_, ?_, ?_, ?_, ?_, ?_⟩, ⟨?_, ?_⟩, ⟨?_, ?_⟩⟩ <;> simp [init, ObjRec.blank]

theorem vals_congr {σ σ' : State} {l : List Nat} (h : ∀ j ∈ l, (σ'.obj j).val = (σ.obj j).val) :
    vals σ' l = vals σ l := by
  unfold vals; exact List.map_congr_left h

theorem inv_allocB {H σ} (h : Inv H σ) (bs : Bits) : Inv H (σ.allocB bs) := by
  obtain ⟨⟨a1, a2, a3, a4, a5, a6⟩, ⟨s1, s2⟩, ⟨c1, c2⟩⟩ := h
  refine ⟨⟨?_, a2, a3, a4, a5, a6⟩, ⟨s1, s2⟩, ⟨?_, c2⟩⟩
  · intro i hi ht; have := a1 i hi ht; simp; omega
  · intro i hi ht
    simp only [allocB_obj, allocB_nObj] at hi ht
    have hb := a1 i hi (by simp [ht, Tag.hasBits])
    have : (σ.obj i).bitsId ≠ σ.nBit := by omega
    simpa [this, vals] using c1 i hi ht

theorem inv_allocR {H σ} (h : Inv H σ) (rs : List Nat) (hrs : ∀ j ∈ rs, j < σ.nObj ∧ (σ.obj j).tag = .cell) :
    Inv H (σ.allocR rs) := by
  obtain ⟨⟨a1, a2, a3, a4, a5, a6⟩, ⟨s1, s2⟩, ⟨c1, c2⟩⟩ := h
  refine ⟨⟨a1, ?_, ?_, a4, a5, ?_⟩, ⟨s1, s2⟩, ⟨?_, c2⟩⟩
  · intro i hi ht; have := a2 i hi ht; simp; omega
  · intro r hr j hj
    simp only [allocR_refBuf, allocR_nRef, allocR_obj, allocR_nObj] at hr hj ⊢
    by_cases e : r = σ.nRef
    · simp [e] at hj; exact hrs j hj
    · simp [e] at hj; exact a3 r (by omega) j hj
  · intro i hi
    simp only [allocR_refBuf, allocR_obj, allocR_nObj] at hi ⊢
    by_cases hs : (σ.obj i).tag = .slice
    · have := a2 i hi (by simp [hs, Tag.hasRefs])
      have e : (σ.obj i).refsId ≠ σ.nRef := by omega
      simpa [e] using a6 i hi
    · rw [a4 i hi hs]; exact Nat.zero_le _
  · intro i hi ht
    simp only [allocR_obj, allocR_nObj] at hi ht
    have hb := a2 i hi (by simp [ht, Tag.hasRefs])
    have : (σ.obj i).refsId ≠ σ.nRef := by omega
    simpa [this, vals] using c1 i hi ht

theorem vals_push {σ : State} (o : ObjRec) {l : List Nat} (h : ∀ j ∈ l, j < σ.nObj) : vals (σ.push o) l = vals σ l := by
  apply vals_congr; intro j hj; have := h j hj
  have e : j ≠ σ.nObj := by omega
  simp [e]

theorem inv_push {H σ} (h : Inv H σ) (o : ObjRec)
    (hB : o.tag.hasBits = true → o.bitsId < σ.nBit)
    (hR : o.tag.hasRefs = true → o.refsId < σ.nRef)
    (hoff : o.tag ≠ .slice → o.off = 0)
    (hbk : o.tag = .builder → o.kind = -1)
    (hsB : o.tag.hasBits = true → ∀ j, j < σ.nObj → (σ.obj j).tag.hasBits = true →
      (σ.obj j).tag.owner = true ∨ o.tag.owner = true → (σ.obj j).bitsId ≠ o.bitsId)
    (hsR : o.tag.hasRefs = true → ∀ j, j < σ.nObj → (σ.obj j).tag.hasRefs = true →
      (σ.obj j).tag.owner = true ∨ o.tag.owner = true → (σ.obj j).refsId ≠ o.refsId)
    (hc : o.tag = .cell → o.val = .mk o.kind (σ.bitBuf o.bitsId) (vals σ (σ.refBuf o.refsId)) ∧ Cell.info H o.val = some o.info)
    (hle : o.off ≤ (σ.refBuf o.refsId).length) :
    Inv H (σ.push o) := by
  obtain ⟨⟨a1, a2, a3, a4, a5, a6⟩, ⟨s1, s2⟩, ⟨c1, c2⟩⟩ := h
  have obj_old : ∀ j, j < σ.nObj → (σ.push o).obj j = σ.obj j := by
    intro j hj; have e : j ≠ σ.nObj := by omega
    simp [e]
  have obj_new : (σ.push o).obj σ.nObj = o := by simp
  have lt_cases : ∀ i, i < (σ.push o).nObj → i < σ.nObj ∨ i = σ.nObj := by intro i hi; simp at hi; omega
  -- a property of single records holds of all records after the push if it held before and holds of `o`
  have all : ∀ P : ObjRec → Prop, (∀ i, i < σ.nObj → P (σ.obj i)) → P o → ∀ i, i < (σ.push o).nObj → P ((σ.push o).obj i) := by
    intro P hold hnew i hi
    rcases lt_cases i hi with h1 | rfl
    · rw [obj_old i h1]; exact hold i h1
    · rw [obj_new]; exact hnew
  refine ⟨⟨all (fun r => r.tag.hasBits = true → r.bitsId < σ.nBit) a1 hB, all (fun r => r.tag.hasRefs = true → r.refsId < σ.nRef) a2 hR,
      ?_, all (fun r => r.tag ≠ .slice → r.off = 0) a4 hoff, all (fun r => r.tag = .builder → r.kind = -1) a5 hbk,
      all (fun r => r.off ≤ (σ.refBuf r.refsId).length) a6 hle⟩, ⟨?_, ?_⟩,
    ⟨?_, all (fun r => r.tag = .cell → Cell.info H r.val = some r.info) c2 fun ht => (hc ht).2⟩⟩
  · intro r hr j hj
    have := a3 r hr j hj
    rw [obj_old j this.1]; simp; exact ⟨by omega, this.2⟩
  · intro i j hi hj hne ho hb
    rcases lt_cases i hi with h1 | rfl <;> rcases lt_cases j hj with h2 | rfl
    · rw [obj_old i h1] at ho ⊢; rw [obj_old j h2] at hb ⊢; exact s1 i j h1 h2 hne ho hb
    · rw [obj_old i h1] at ho ⊢; rw [obj_new] at hb ⊢; exact hsB hb i h1 (owner_hasBits ho) (.inl ho)
    · rw [obj_new] at ho ⊢; rw [obj_old j h2] at hb ⊢; exact fun e => hsB (owner_hasBits ho) j h2 hb (.inr ho) e.symm
    · exact absurd rfl hne
  · intro i j hi hj hne ho hb
    rcases lt_cases i hi with h1 | rfl <;> rcases lt_cases j hj with h2 | rfl
    · rw [obj_old i h1] at ho ⊢; rw [obj_old j h2] at hb ⊢; exact s2 i j h1 h2 hne ho hb
    · rw [obj_old i h1] at ho ⊢; rw [obj_new] at hb ⊢; exact hsR hb i h1 (owner_hasRefs ho) (.inl ho)
    · rw [obj_new] at ho ⊢; rw [obj_old j h2] at hb ⊢; exact fun e => hsR (owner_hasRefs ho) j h2 hb (.inr ho) e.symm
    · exact absurd rfl hne
  · intro i hi ht
    rcases lt_cases i hi with h1 | rfl
    · rw [obj_old i h1] at ht ⊢
      have hr := a2 i h1 (by simp [ht, Tag.hasRefs])
      rw [push_bitBuf, push_refBuf, vals_push o (fun j hj => (a3 _ hr j hj).1)]
      exact c1 i h1 ht
    · rw [obj_new] at ht ⊢
      have hr := hR (by simp [ht, Tag.hasRefs])
      rw [push_bitBuf, push_refBuf, vals_push o (fun j hj => (a3 _ hr j hj).1)]
      exact (hc ht).1

/-- an owner's bit buffer may be overwritten: no cell (nor anything else) points to it -/
theorem inv_setB {H σ} (h : Inv H σ) (i : Nat) (hi : i < σ.nObj) (ho : (σ.obj i).tag.owner = true) (bs : Bits) :
    Inv H (σ.setB (σ.obj i).bitsId bs) := by
  obtain ⟨⟨a1, a2, a3, a4, a5, a6⟩, ⟨s1, s2⟩, ⟨c1, c2⟩⟩ := h
  refine ⟨⟨a1, a2, a3, a4, a5, a6⟩, ⟨s1, s2⟩, ⟨?_, c2⟩⟩
  intro c hc ht
  simp only [setB_obj, setB_nObj] at hc ht
  have hne : i ≠ c := by intro e; subst e; rw [ht] at ho; simp [Tag.owner] at ho
  have := s1 i c hi hc hne ho (by simp [ht, Tag.hasBits])
  have e : (σ.obj c).bitsId ≠ (σ.obj i).bitsId := fun e => this e.symm
  simpa [e, vals] using c1 c hc ht

theorem inv_setR {H σ} (h : Inv H σ) (i : Nat) (hi : i < σ.nObj) (ho : (σ.obj i).tag.owner = true) (rs : List Nat)
    (hrs : ∀ j ∈ rs, j < σ.nObj ∧ (σ.obj j).tag = .cell) (hle : (σ.obj i).off ≤ rs.length) :
    Inv H (σ.setR (σ.obj i).refsId rs) := by
  obtain ⟨⟨a1, a2, a3, a4, a5, a6⟩, ⟨s1, s2⟩, ⟨c1, c2⟩⟩ := h
  refine ⟨⟨a1, a2, ?_, a4, a5, ?_⟩, ⟨s1, s2⟩, ⟨?_, c2⟩⟩
  · intro r hr j hj
    simp only [setR_refBuf, setR_nRef, setR_obj, setR_nObj] at hr hj ⊢
    by_cases e : r = (σ.obj i).refsId
    · simp [e] at hj; exact hrs j hj
    · simp [e] at hj; exact a3 r hr j hj
  · intro j hj
    simp only [setR_refBuf, setR_obj, setR_nObj] at hj ⊢
    by_cases e : j = i
    · subst e; simpa using hle
    · by_cases hs : (σ.obj j).tag = .slice
      · have := s2 j i hj hi e (by simp [hs, Tag.owner]) (owner_hasRefs ho)
        simpa [this] using a6 j hj
      · rw [a4 j hj hs]; exact Nat.zero_le _
  · intro c hc ht
    simp only [setR_obj, setR_nObj] at hc ht
    have hne : i ≠ c := by intro e; subst e; rw [ht] at ho; simp [Tag.owner] at ho
    have := s2 i c hi hc hne ho (by simp [ht, Tag.hasRefs])
    have e : (σ.obj c).refsId ≠ (σ.obj i).refsId := fun e => this e.symm
    simpa [e, vals] using c1 c hc ht

theorem inv_setOff {H σ} (h : Inv H σ) (i : Nat) (ht : (σ.obj i).tag = .slice) (n : Nat)
    (hle : n ≤ (σ.refBuf (σ.obj i).refsId).length) :
    Inv H (σ.setObj i { σ.obj i with off := n }) := by
  obtain ⟨⟨a1, a2, a3, a4, a5, a6⟩, ⟨s1, s2⟩, ⟨c1, c2⟩⟩ := h
  -- every record keeps all its fields but `off`, and only record `i` changes that
  have ob : ∀ j, (σ.setObj i { σ.obj i with off := n }).obj j =
      { σ.obj j with off := ((σ.setObj i { σ.obj i with off := n }).obj j).off } := by
    intro j; by_cases e : j = i <;> simp [e]
  have tg := fun j => congrArg ObjRec.tag (ob j)
  have bI := fun j => congrArg ObjRec.bitsId (ob j)
  have rI := fun j => congrArg ObjRec.refsId (ob j)
  have kd := fun j => congrArg ObjRec.kind (ob j)
  have vl := fun j => congrArg ObjRec.val (ob j)
  have inf := fun j => congrArg ObjRec.info (ob j)
  simp only at tg bI rI kd vl inf
  have vs : ∀ l, vals (σ.setObj i { σ.obj i with off := n }) l = vals σ l := fun l => vals_congr (fun j _ => vl j)
  refine ⟨⟨?_, ?_, ?_, ?_, ?_, ?_⟩, ⟨?_, ?_⟩, ⟨?_, ?_⟩⟩
  · intro j hj; rw [tg, bI]; exact a1 j hj
  · intro j hj; rw [tg, rI]; exact a2 j hj
  · intro r hr j hj; rw [tg]; exact a3 r hr j hj
  · intro j hj hs; rw [tg] at hs
    have e : j ≠ i := by intro e; subst e; exact hs ht
    simpa [e] using a4 j hj hs
  · intro j hj; rw [tg, kd]; exact a5 j hj
  · intro j hj
    rw [rI]
    by_cases e : j = i
    · subst e; simpa using hle
    · simpa [e] using a6 j hj
  · intro a b ha hb; rw [tg, tg, bI, bI]; exact s1 a b ha hb
  · intro a b ha hb; rw [tg, tg, rI, rI]; exact s2 a b ha hb
  · intro j hj; rw [tg, vl, kd, bI, rI, vs]; exact c1 j hj
  · intro j hj; rw [tg, vl, inf]; exact c2 j hj

/-! ### Cell construction: the cached info of a new cell is the info of its tree value -/

def CellsAt (σ : State) (l : List Nat) : Prop := ∀ j ∈ l, j < σ.nObj ∧ (σ.obj j).tag = .cell

theorem infos_vals {H σ} (h : Coh H σ) {l : List Nat} (hl : CellsAt σ l) :
    Cell.infos H (vals σ l) = some (l.map fun j => (σ.obj j).info) := by
  induction l with
  | nil => simp [vals, Cell.infos]
  | cons a l ih =>
    have ha := hl a (by simp)
    have := ih (fun j hj => hl j (by simp [hj]))
    simp only [vals, List.map_cons] at this ⊢
    simp [Cell.infos, h.cohInfo a ha.1 ha.2, this]

theorem info_mk {H} (k : Int) (b : Bits) (ts : List Tree) :
    Cell.info H (.mk k b ts) = (Cell.infos H ts).bind (construct H k b) := by
  rw [Cell.info]; cases Cell.infos H ts <;> rfl

theorem mkCellRec_some {H σ} (h : Coh H σ) {bI rI : Nat} {kind : Int} {bits : Bits} {refs : List Nat} {c : ObjRec}
    (hl : CellsAt σ refs) (e : mkCellRec H σ bI rI kind bits refs = some c) :
    c.tag = .cell ∧ c.bitsId = bI ∧ c.refsId = rI ∧ c.off = 0 ∧ c.kind = kind ∧
    c.val = .mk kind bits (vals σ refs) ∧ Cell.info H c.val = some c.info := by
  unfold mkCellRec at e
  cases hc : construct H kind bits (refs.map fun j => (σ.obj j).info) with
  | none => simp [hc] at e
  | some info =>
    simp [hc] at e; subst e
    refine ⟨rfl, rfl, rfl, rfl, rfl, rfl, ?_⟩
    show Cell.info H (.mk kind bits (vals σ refs)) = some info
    rw [info_mk, infos_vals h hl]; exact hc

theorem mkCellRec_none {H σ} (h : Coh H σ) {bI rI : Nat} {kind : Int} {bits : Bits} {refs : List Nat}
    (hl : CellsAt σ refs) (e : mkCellRec H σ bI rI kind bits refs = none) :
    Cell.info H (.mk kind bits (vals σ refs)) = none := by
  unfold mkCellRec at e
  rw [info_mk, infos_vals h hl]
  cases hc : construct H kind bits (refs.map fun j => (σ.obj j).info) with
  | none => simpa using hc
  | some info => simp [hc] at e

theorem allCells_iff {σ : State} {cs : List Nat} : allCells σ cs = true ↔ CellsAt σ cs := by
  simp [allCells, CellsAt, State.has]

theorem has_iff {σ : State} {i : Nat} {t : Tag} : σ.has i t = true ↔ i < σ.nObj ∧ (σ.obj i).tag = t := by
  simp [State.has]

/-- a new object on containers allocated since `σ`: nothing older names them -/
theorem inv_pushNew {H σ σ'} (h : Inv H σ) (h' : Inv H σ') (eo : σ'.obj = σ.obj) (en : σ'.nObj = σ.nObj) (o : ObjRec)
    (hB : o.tag.hasBits = true → σ.nBit ≤ o.bitsId ∧ o.bitsId < σ'.nBit)
    (hR : o.tag.hasRefs = true → σ.nRef ≤ o.refsId ∧ o.refsId < σ'.nRef)
    (hoff : o.off = 0) (hbk : o.tag = .builder → o.kind = -1)
    (hc : o.tag = .cell → o.val = .mk o.kind (σ'.bitBuf o.bitsId) (vals σ' (σ'.refBuf o.refsId)) ∧ Cell.info H o.val = some o.info) :
    Inv H (σ'.push o) := by
  refine inv_push h' o (fun t => (hB t).2) (fun t => (hR t).2) (fun _ => hoff) hbk ?_ ?_ hc (by rw [hoff]; exact Nat.zero_le _)
  · rw [eo, en]; intro ho j hj hb _; have := h.wf.idB j hj hb; have := hB ho; omega
  · rw [eo, en]; intro ho j hj hb _; have := h.wf.idR j hj hb; have := hR ho; omega

theorem inv_freshObj {H σ} (h : Inv H σ) (o : ObjRec) (bits : Bits) (refs : List Nat) (hrs : CellsAt σ refs)
    (hbk : o.tag = .builder → o.kind = -1)
    (hc : o.tag = .cell → o.val = .mk o.kind bits (vals σ refs) ∧ Cell.info H o.val = some o.info)
    (hle : o.off = 0) :
    Inv H (freshObj σ o bits refs).1 :=
  inv_pushNew h (inv_allocR (inv_allocB h bits) refs hrs) rfl rfl _ (fun _ => by simp) (fun _ => by simp) hle hbk
    (by simpa [vals] using hc)

theorem cellsAt_refBuf {H σ} (h : Inv H σ) {i : Nat} (hi : i < σ.nObj) (ht : (σ.obj i).tag.hasRefs = true) :
    CellsAt σ (σ.refBuf (σ.obj i).refsId) :=
  h.wf.refsCells _ (h.wf.idR i hi ht)

theorem cellsAt_refsOf {H σ} (h : Inv H σ) {i : Nat} (hi : i < σ.nObj) (ht : (σ.obj i).tag.hasRefs = true) :
    CellsAt σ (σ.refsOf i) := fun j hj => cellsAt_refBuf h hi ht j (List.mem_of_mem_drop hj)

theorem cellsAt_append {σ : State} {l l' : List Nat} (h : CellsAt σ l) (h' : CellsAt σ l') : CellsAt σ (l ++ l') := by
  intro j hj; rcases List.mem_append.mp hj with e | e
  · exact h j e
  · exact h' j e

theorem inv_pushUBits {H σ} (h : Inv H σ) (bs : Bits) :
    Inv H ((σ.allocB bs).push { ObjRec.blank with tag := .ubits, bitsId := σ.nBit }) :=
  inv_pushNew h (inv_allocB h bs) rfl rfl _ (fun _ => by simp) nofun rfl nofun nofun

theorem inv_pushURefs {H σ} (h : Inv H σ) (cs : List Nat) (hcs : CellsAt σ cs) :
    Inv H ((σ.allocR cs).push { ObjRec.blank with tag := .urefs, refsId := σ.nRef }) :=
  inv_pushNew h (inv_allocR h cs hcs) rfl rfl _ nofun (fun _ => by simp) rfl nofun nofun

/-- the object a call mutates (its `self`), if any -/
def recvOf : Op → Option Nat
  | .dropBits s _ _ => some s
  | .loadRef s => some s
  | .storeBits b _ => some b
  | .storeFrom b _ => some b
  | .storeRef b _ => some b
  | _ => none

structure Frame (σ σ' : State) (recv : Option Nat) : Prop where
  nObj : σ.nObj ≤ σ'.nObj
  nBit : σ.nBit ≤ σ'.nBit
  nRef : σ.nRef ≤ σ'.nRef
  obj : ∀ j, j < σ.nObj → recv ≠ some j → σ'.obj j = σ.obj j
  robj : ∀ r, recv = some r → σ'.obj r = { σ.obj r with off := (σ'.obj r).off }
  bits : ∀ k, k < σ.nBit → (∀ r, recv = some r → k ≠ (σ.obj r).bitsId) → σ'.bitBuf k = σ.bitBuf k
  refs : ∀ k, k < σ.nRef → (∀ r, recv = some r → k ≠ (σ.obj r).refsId) → σ'.refBuf k = σ.refBuf k
  owner : σ' = σ ∨ ∀ r, recv = some r → r < σ.nObj ∧ (σ.obj r).tag.owner = true

theorem frame_refl (σ : State) (r : Option Nat) : Frame σ σ r :=
  ⟨Nat.le_refl _, Nat.le_refl _, Nat.le_refl _, fun _ _ _ => rfl, fun _ _ => rfl, fun _ _ _ => rfl, fun _ _ _ => rfl, .inl rfl⟩

theorem frame_allocB (σ : State) (bs : Bits) : Frame σ (σ.allocB bs) none :=
  ⟨by simp, by simp, by simp, fun _ _ _ => rfl, nofun, fun k hk _ => by simp [Nat.ne_of_lt hk], fun _ _ _ => rfl, .inr nofun⟩

theorem frame_allocR (σ : State) (rs : List Nat) : Frame σ (σ.allocR rs) none :=
  ⟨by simp, by simp, by simp, fun _ _ _ => rfl, nofun, fun _ _ _ => rfl, fun k hk _ => by simp [Nat.ne_of_lt hk], .inr nofun⟩

theorem frame_push (σ : State) (o : ObjRec) : Frame σ (σ.push o) none :=
  ⟨by simp, by simp, by simp, fun j hj _ => by simp [Nat.ne_of_lt hj], nofun, fun _ _ _ => rfl, fun _ _ _ => rfl, .inr nofun⟩

theorem Frame.alloc {σ σ' σ'' : State} {recv : Option Nat} (f : Frame σ σ' recv)
    (ho : ∀ r, recv = some r → r < σ.nObj ∧ (σ.obj r).tag.owner = true) (g : Frame σ' σ'' none) : Frame σ σ'' recv := by
  refine ⟨Nat.le_trans f.nObj g.nObj, Nat.le_trans f.nBit g.nBit, Nat.le_trans f.nRef g.nRef, ?_, ?_, ?_, ?_, .inr ho⟩
  · exact fun j hj hne => (g.obj j (Nat.lt_of_lt_of_le hj f.nObj) nofun).trans (f.obj j hj hne)
  · intro r e; rw [g.obj r (Nat.lt_of_lt_of_le (ho r e).1 f.nObj) nofun]; exact f.robj r e
  · exact fun k hk hne => (g.bits k (Nat.lt_of_lt_of_le hk f.nBit) nofun).trans (f.bits k hk hne)
  · exact fun k hk hne => (g.refs k (Nat.lt_of_lt_of_le hk f.nRef) nofun).trans (f.refs k hk hne)

theorem frame_freshObj (σ : State) (o : ObjRec) (bits : Bits) (refs : List Nat) : Frame σ (freshObj σ o bits refs).1 none :=
  ((frame_allocB σ bits).alloc nofun (frame_allocR _ refs)).alloc nofun (frame_push _ _)

theorem frame_pushUBits (σ : State) (bs : Bits) (o : ObjRec) : Frame σ ((σ.allocB bs).push o) none :=
  (frame_allocB σ bs).alloc nofun (frame_push _ o)

theorem frame_setB (σ : State) (r : Nat) (hr : r < σ.nObj) (ho : (σ.obj r).tag.owner = true) (bs : Bits) :
    Frame σ (σ.setB (σ.obj r).bitsId bs) (some r) := by
  refine ⟨by simp, by simp, by simp, by simp, by simp, ?_, by simp, .inr ?_⟩
  · intro k _ hk; have := hk r rfl; simp [this]
  · intro r' e; cases e; exact ⟨hr, ho⟩

theorem frame_setR (σ : State) (r : Nat) (hr : r < σ.nObj) (ho : (σ.obj r).tag.owner = true) (rs : List Nat) :
    Frame σ (σ.setR (σ.obj r).refsId rs) (some r) := by
  refine ⟨by simp, by simp, by simp, by simp, by simp, by simp, ?_, .inr ?_⟩
  · intro k _ hk; have := hk r rfl; simp [this]
  · intro r' e; cases e; exact ⟨hr, ho⟩

theorem frame_setBR (σ : State) (r : Nat) (hr : r < σ.nObj) (ho : (σ.obj r).tag.owner = true) (bs : Bits) (rs : List Nat) :
    Frame σ ((σ.setB (σ.obj r).bitsId bs).setR (σ.obj r).refsId rs) (some r) := by
  refine ⟨by simp, by simp, by simp, by simp, by simp, ?_, ?_, .inr ?_⟩
  · intro k _ hk; have := hk r rfl; simp [this]
  · intro k _ hk; have := hk r rfl; simp [this]
  · intro r' e; cases e; exact ⟨hr, ho⟩

theorem frame_setOff (σ : State) (r : Nat) (hr : r < σ.nObj) (ho : (σ.obj r).tag.owner = true) (n : Nat) :
    Frame σ (σ.setObj r { σ.obj r with off := n }) (some r) := by
  refine ⟨by simp, by simp, by simp, ?_, ?_, by simp, by simp, .inr ?_⟩
  · intro j _ hj; have : j ≠ r := fun e => hj (by rw [e])
    simp [this]
  · intro r' e; cases e; simp
  · intro r' e; cases e; exact ⟨hr, ho⟩

theorem src_hasRefs {σ : State} {src : Nat}
    (hv : (σ.has src .cell || σ.has src .slice || σ.has src .builder) = true) :
    src < σ.nObj ∧ (σ.obj src).tag.hasRefs = true ∧ (σ.obj src).tag.hasBits = true := by
  simp only [Bool.or_eq_true, has_iff] at hv
  rcases hv with (⟨a, b⟩ | ⟨a, b⟩) | ⟨a, b⟩ <;> simp [a, b, Tag.hasRefs, Tag.hasBits]

theorem slice_owner {σ : State} {s : Nat} (h : (σ.obj s).tag = .slice) : (σ.obj s).tag.owner = true := by simp [h, Tag.owner]
theorem builder_owner {σ : State} {s : Nat} (h : (σ.obj s).tag = .builder) : (σ.obj s).tag.owner = true := by simp [h, Tag.owner]

/-- `Cell(bits, refs)` on the caller's array `ub` and list `ur`: the new cell ALIASES both containers, which no owner points to -/
theorem inv_pushCell {H σ} (h : Inv H σ) {ub ur : Nat} {kind : Int} {c : ObjRec}
    (hub : ub < σ.nObj) (tub : (σ.obj ub).tag = .ubits) (hur : ur < σ.nObj) (tur : (σ.obj ur).tag = .urefs)
    (e : mkCellRec H σ (σ.obj ub).bitsId (σ.obj ur).refsId kind (σ.bitBuf (σ.obj ub).bitsId) (σ.refBuf (σ.obj ur).refsId) = some c) :
    Inv H (σ.push c) := by
  have hl : CellsAt σ (σ.refBuf (σ.obj ur).refsId) := cellsAt_refBuf h hur (by simp [tur, Tag.hasRefs])
  obtain ⟨e1, e2, e3, e4, e5, e6, e7⟩ := mkCellRec_some h.coh hl e
  have nc : ¬ c.tag.owner = true := by rw [e1]; nofun
  apply inv_push h
  · intro _; rw [e2]; exact h.wf.idB ub hub (by simp [tub, Tag.hasBits])
  · intro _; rw [e3]; exact h.wf.idR ur hur (by simp [tur, Tag.hasRefs])
  · intro _; exact e4
  · intro e; rw [e1] at e; cases e
  · intro _ j hj _ ho; have ho := ho.resolve_right nc; rw [e2]
    exact h.sep.sepB j ub hj hub (by intro e; subst e; rw [tub] at ho; simp [Tag.owner] at ho) ho (by simp [tub, Tag.hasBits])
  · intro _ j hj _ ho; have ho := ho.resolve_right nc; rw [e3]
    exact h.sep.sepR j ur hj hur (by intro e; subst e; rw [tur] at ho; simp [Tag.owner] at ho) ho (by simp [tur, Tag.hasRefs])
  · intro _; rw [e2, e3, e5]; exact ⟨e6, e7⟩
  · rw [e4]; exact Nat.zero_le _

/-! ### Cells are outside every footprint -/

/-- what can be observed of a Cell object on the heap: the record (attribute pointers, type, cached hashes) and the
content of the two containers its attributes point to -/
def cellObs (σ : State) (i : Nat) : ObjRec × Bits × List Nat :=
  (σ.obj i, σ.bitBuf (σ.obj i).bitsId, σ.refBuf (σ.obj i).refsId)

theorem frame_other {H σ σ'} {recv : Option Nat} (h : Inv H σ) (f : Frame σ σ' recv) (i : Nat) (hi : i < σ.nObj)
    (hne : recv ≠ some i) :
    σ'.obj i = σ.obj i ∧ ((σ.obj i).tag.hasBits = true → σ'.bitBuf (σ.obj i).bitsId = σ.bitBuf (σ.obj i).bitsId) ∧
      ((σ.obj i).tag.hasRefs = true → σ'.refBuf (σ.obj i).refsId = σ.refBuf (σ.obj i).refsId) := by
  rcases f.owner with e | ho
  · subst e; exact ⟨rfl, fun _ => rfl, fun _ => rfl⟩
  · -- the receiver `r` is an owner other than `i`: by `Sep` its containers are not those of `i`
    have hr : ∀ r, recv = some r → r ≠ i := fun r hr e => hne (e ▸ hr)
    exact ⟨f.obj i hi hne,
      fun hb => f.bits _ (h.wf.idB i hi hb) fun r e e' => h.sep.sepB r i (ho r e).1 hi (hr r e) (ho r e).2 hb e'.symm,
      fun hb => f.refs _ (h.wf.idR i hi hb) fun r e e' => h.sep.sepR r i (ho r e).1 hi (hr r e) (ho r e).2 hb e'.symm⟩

theorem cell_frame {H σ σ'} {recv : Option Nat} (h : Inv H σ) (f : Frame σ σ' recv) (i : Nat) (hi : i < σ.nObj)
    (ht : (σ.obj i).tag = .cell) : cellObs σ' i = cellObs σ i := by
  rcases f.owner with e | ho
  · rw [e]
  · -- the receiver is an owner, so it is not the cell
    have hne : recv ≠ some i := by
      intro e; have := (ho i e).2; rw [ht] at this; simp [Tag.owner] at this
    obtain ⟨a, b, c⟩ := frame_other h f i hi hne
    unfold cellObs; rw [a, b (by simp [ht, Tag.hasBits]), c (by simp [ht, Tag.hasRefs])]

/-! ### Value-level semantics: every object is an independent immutable VALUE -/

/-- the value of an object: a cell is a tree; a slice is (type, remaining bits, remaining referenced trees); a builder is (bits,
referenced trees); a caller-held array is its bits, a caller-held list its trees -/
inductive Val where
  | cell (t : Tree)
  | slice (kind : Int) (bits : Bits) (refs : List Tree)
  | builder (bits : Bits) (refs : List Tree)
  | bits (bs : Bits)
  | refs (ts : List Tree)

/-- abstraction function: the value of object `i`, read off the heap -/
def valOf (σ : State) (i : Nat) : Val :=
  match (σ.obj i).tag with
  | .cell => .cell (.mk (σ.obj i).kind (σ.bitsOf i) (vals σ (σ.refsOf i)))
  | .slice => .slice (σ.obj i).kind (σ.bitsOf i) (vals σ (σ.refsOf i))
  | .builder => .builder (σ.bitsOf i) (vals σ (σ.refsOf i))
  | .ubits => .bits (σ.bitsOf i)
  | .urefs => .refs (vals σ (σ.refsOf i))

inductive OutVal where
  | err | unit
  | val (v : Val)
  | bits (bs : Bits)
  | hash (h : Bytes)

def outVal (σ' : State) : Out → OutVal
  | .err => .err
  | .unit => .unit
  | .obj i => .val (valOf σ' i)
  | .bits b => .bits b
  | .hash h => .hash h

def Val.isCell : Val → Bool
  | .cell _ => true
  | _ => false
def Val.tree : Val → Tree
  | .cell t => t
  | _ => noTree
def Val.isBuilder : Val → Bool
  | .builder _ _ => true
  | _ => false

/-- (type, bits, remaining refs) of a cell / slice / builder value -/
def Val.content : Val → Option (Int × Bits × List Tree)
  | .cell (.mk k b r) => some (k, b, r)
  | .slice k b r => some (k, b, r)
  | .builder b r => some (-1, b, r)
  | _ => none

/-- the `Cell` constructor on values: succeeds iff the tree is constructible (depth, exotic layout, ...) -/
def mkCellV (H : Bytes → Bytes) (k : Int) (b : Bits) (ts : List Tree) : OutVal :=
  if (Cell.info H (.mk k b ts)).isSome then .val (.cell (.mk k b ts)) else .err

/-- THE SPECIFICATION: each API call as a pure function of the VALUES of its arguments (`v` is consulted at the
call's argument objects only - `sem_congr`).  Result value, and the new value of `self` when the call mutates it. -/
def sem (H : Bytes → Bytes) (v : Nat → Val) : Op → OutVal × Option Val
  | .newBits bs => (.val (.bits bs), none)
  | .newRefs cs =>
    (if cs.all (fun j => (v j).isCell) then .val (.refs (cs.map fun j => (v j).tree)) else .err, none)
  | .cellCtor ub ur kind =>
    (match v ub, v ur with
     | .bits b, .refs ts => mkCellV H kind b ts
     | _, _ => .err, none)
  | .cellFresh bs cs kind =>
    (if cs.all (fun j => (v j).isCell) then mkCellV H kind bs (cs.map fun j => (v j).tree) else .err, none)
  | .sliceFresh bs cs kind =>
    (if cs.all (fun j => (v j).isCell) then .val (.slice kind bs (cs.map fun j => (v j).tree)) else .err, none)
  | .builderNew => (.val (.builder [] []), none)
  | .derive src dst =>
    (match (v src).content with
     | none => .err
     | some (k, b, r) =>
       match dst with
       | .cell => mkCellV H k b r
       | .slice => .val (.slice k b r)
       | .builder =>
         if (v src).isBuilder || k != -1 || r.length > 4 || b.length > 1023 then .err else .val (.builder b r), none)
  | .dropBits s n ret =>
    match v s with
    | .slice k b r =>
      if n > b.length then (.err, none)
      else (if ret then .val (.bits (b.take n)) else .bits (b.take n), some (.slice k (b.drop n) r))
    | _ => (.err, none)
  | .peekBits s n =>
    (match v s with
     | .slice _ b _ => .val (.bits (b.take n))
     | _ => .err, none)
  | .loadRef s =>
    match v s with
    | .slice k b (t :: r) => (.val (.cell t), some (.slice k b r))
    | _ => (.err, none)
  | .storeBits b bs =>
    match v b with
    | .builder bb r => if bb.length + bs.length > 1023 then (.err, none) else (.unit, some (.builder (bb ++ bs) r))
    | _ => (.err, none)
  | .storeFrom b src =>
    match v b with
    | .builder bb r =>
      (match v src with
       | .bits sb => if bb.length + sb.length > 1023 then (.err, none) else (.unit, some (.builder (bb ++ sb) r))
       | .cell (.mk _ sb sr) =>
         if r.length + sr.length > 4 then (.err, none) else if bb.length + sb.length > 1023 then (.err, none)
         else (.unit, some (.builder (bb ++ sb) (r ++ sr)))
       | .slice _ sb sr =>
         if r.length + sr.length > 4 then (.err, none) else if bb.length + sb.length > 1023 then (.err, none)
         else (.unit, some (.builder (bb ++ sb) (r ++ sr)))
       | _ => (.err, none))
    | _ => (.err, none)
  | .storeRef b c =>
    match v b, v c with
    | .builder bb r, .cell t => if r.length ≥ 4 then (.err, none) else (.unit, some (.builder bb (r ++ [t])))
    | _, _ => (.err, none)
  | .observe c =>
    (match v c with
     | .cell t => (match Cell.info H t with
                   | some i => .hash i.hash
                   | none => .err)
     | _ => .err, none)

/-- all object ids an operation mentions -/
def opIds : Op → List Nat
  | .newBits _ => []
  | .newRefs cs => cs
  | .cellCtor ub ur _ => [ub, ur]
  | .cellFresh _ cs _ => cs
  | .sliceFresh _ cs _ => cs
  | .builderNew => []
  | .derive src _ => [src]
  | .dropBits s _ _ => [s]
  | .peekBits s _ => [s]
  | .loadRef s => [s]
  | .storeBits b _ => [b]
  | .storeFrom b src => [b, src]
  | .storeRef b c => [b, c]
  | .observe c => [c]

/-- the same call with its argument objects renamed -/
def renameOp (ρ : Nat → Nat) : Op → Op
  | .newBits bs => .newBits bs
  | .newRefs cs => .newRefs (cs.map ρ)
  | .cellCtor ub ur k => .cellCtor (ρ ub) (ρ ur) k
  | .cellFresh bs cs k => .cellFresh bs (cs.map ρ) k
  | .sliceFresh bs cs k => .sliceFresh bs (cs.map ρ) k
  | .builderNew => .builderNew
  | .derive src dst => .derive (ρ src) dst
  | .dropBits s n r => .dropBits (ρ s) n r
  | .peekBits s n => .peekBits (ρ s) n
  | .loadRef s => .loadRef (ρ s)
  | .storeBits b bs => .storeBits (ρ b) bs
  | .storeFrom b src => .storeFrom (ρ b) (ρ src)
  | .storeRef b c => .storeRef (ρ b) (ρ c)
  | .observe c => .observe (ρ c)

theorem all_congr {v1 v2 : Nat → Val} {cs : List Nat} (h : ∀ i ∈ cs, v1 i = v2 i) :
    cs.all (fun j => (v1 j).isCell) = cs.all (fun j => (v2 j).isCell) := by
  induction cs with
  | nil => rfl
  | cons a l ih => simp only [List.all_cons]; rw [h a (by simp), ih (fun i hi => h i (by simp [hi]))]

theorem map_tree_congr {v1 v2 : Nat → Val} {cs : List Nat} (h : ∀ i ∈ cs, v1 i = v2 i) :
    (cs.map fun j => (v1 j).tree) = cs.map fun j => (v2 j).tree :=
  List.map_congr_left (fun i hi => by rw [h i hi])

/-- `sem` reads `v` at the call's arguments only -/
theorem sem_congr (H) (v1 v2 : Nat → Val) (op : Op) (h : ∀ i ∈ opIds op, v1 i = v2 i) : sem H v1 op = sem H v2 op := by
  cases op <;> simp only [opIds, List.mem_cons, List.not_mem_nil, or_false, forall_eq_or_imp, forall_eq] at h <;>
    simp only [sem]
  case newRefs | cellFresh | sliceFresh => rw [all_congr h, map_tree_congr h]
  case derive | dropBits | peekBits | loadRef | storeBits | observe => rw [h]
  case cellCtor | storeFrom | storeRef => rw [h.1, h.2]

theorem sem_rename (H) (v : Nat → Val) (ρ : Nat → Nat) (op : Op) : sem H v (renameOp ρ op) = sem H (v ∘ ρ) op := by
  cases op <;> simp only [sem, renameOp, List.all_map, List.map_map, Function.comp_def]

/-! ### Refinement: the heap transition computes `sem` on values and touches no other object's value -/

theorem vals_frame {σ σ'} {recv : Option Nat} (f : Frame σ σ' recv) {l : List Nat} (hl : CellsAt σ l) :
    vals σ' l = vals σ l := by
  apply vals_congr; intro j hj
  by_cases e : recv = some j
  · rw [f.robj j e]
  · rw [f.obj j (hl j hj).1 e]

/-- the value of an object of type `t` holding type `k`, bits `b` and referenced trees `r` -/
def mkVal : Tag → Int → Bits → List Tree → Val
  | .cell, k, b, r => .cell (.mk k b r)
  | .slice, k, b, r => .slice k b r
  | .builder, _, b, r => .builder b r
  | .ubits, _, b, _ => .bits b
  | .urefs, _, _, r => .refs r

theorem valOf_eq (σ : State) (i : Nat) :
    valOf σ i = mkVal (σ.obj i).tag (σ.obj i).kind (σ.bitsOf i) (vals σ (σ.refsOf i)) := by
  unfold valOf; cases (σ.obj i).tag <;> rfl

/-- ISOLATION: a transition does not change the value of any object other than its `self` -/
theorem valOf_frame {H σ σ'} {recv : Option Nat} (h : Inv H σ) (f : Frame σ σ' recv) (i : Nat) (hi : i < σ.nObj)
    (hne : recv ≠ some i) : valOf σ' i = valOf σ i := by
  obtain ⟨a, b, c⟩ := frame_other h f i hi hne
  have hb : (σ.obj i).tag.hasBits = true → σ'.bitsOf i = σ.bitsOf i := fun hb => by rw [State.bitsOf, a, b hb]; rfl
  have hr : (σ.obj i).tag.hasRefs = true → vals σ' (σ'.refsOf i) = vals σ (σ.refsOf i) := fun hr => by
    rw [State.refsOf, a, c hr]; exact vals_frame f (cellsAt_refsOf h hi hr)
  unfold valOf
  rw [a]
  cases ht : (σ.obj i).tag <;> simp only [ht, Tag.hasBits, Tag.hasRefs, true_implies] at hb hr <;> simp only [hb, hr]

theorem valOf_cell {H σ} (h : Inv H σ) {i : Nat} (hi : i < σ.nObj) (ht : (σ.obj i).tag = .cell) :
    valOf σ i = .cell (σ.obj i).val ∧ (σ.obj i).val = .mk (σ.obj i).kind (σ.bitsOf i) (vals σ (σ.refsOf i)) := by
  have c := h.coh.coh i hi ht
  have o := h.wf.off0 i hi (by simp [ht])
  have e : σ.refsOf i = σ.refBuf (σ.obj i).refsId := by simp [State.refsOf, o]
  refine ⟨?_, ?_⟩
  · simp only [valOf, ht, State.bitsOf, e]; rw [c]
  · rw [e]; exact c

theorem isCell_valOf (σ : State) (i : Nat) : (valOf σ i).isCell = decide ((σ.obj i).tag = .cell) := by
  unfold valOf; cases (σ.obj i).tag <;> simp [Val.isCell]

theorem all_isCell {σ : State} {cs : List Nat} (hcs : ∀ i ∈ cs, i < σ.nObj) :
    cs.all (fun j => (valOf σ j).isCell) = allCells σ cs := by
  unfold allCells
  induction cs with
  | nil => rfl
  | cons a l ih =>
    simp only [List.all_cons]
    rw [ih (fun i hi => hcs i (by simp [hi])), isCell_valOf]
    simp [State.has, hcs a (by simp)]

theorem trees_vals {H σ} (h : Inv H σ) {cs : List Nat} (hcs : CellsAt σ cs) :
    (cs.map fun j => (valOf σ j).tree) = vals σ cs := by
  unfold vals
  apply List.map_congr_left
  intro j hj
  rw [(valOf_cell h (hcs j hj).1 (hcs j hj).2).1]; rfl

theorem valOf_fresh {σ : State} (o : ObjRec) (bits : Bits) (refs : List Nat) (hl : CellsAt σ refs) :
    valOf (freshObj σ o bits refs).1 σ.nObj = mkVal o.tag o.kind bits (vals σ (refs.drop o.off)) := by
  have hv : vals (freshObj σ o bits refs).1 (refs.drop o.off) = vals σ (refs.drop o.off) :=
    (vals_push _ fun j hj => (hl j (List.mem_of_mem_drop hj)).1).trans (vals_congr fun _ _ => rfl)
  rw [valOf_eq, ← hv]
  simp [freshObj, State.bitsOf, State.refsOf]

theorem mkCellV_eq {H σ} (h : Inv H σ) {bI rI : Nat} {kind : Int} {bits : Bits} {refs : List Nat} (hl : CellsAt σ refs) :
    mkCellV H kind bits (vals σ refs) =
      match mkCellRec H σ bI rI kind bits refs with
      | some _ => .val (.cell (.mk kind bits (vals σ refs)))
      | none => .err := by
  unfold mkCellV
  cases e : mkCellRec H σ bI rI kind bits refs with
  | none => simp [mkCellRec_none h.coh hl e]
  | some c =>
    obtain ⟨_, _, _, _, _, e6, e7⟩ := mkCellRec_some h.coh hl e
    rw [e6] at e7; simp [e7]

theorem content_valOf {H σ} (h : Inv H σ) {i : Nat} (hi : i < σ.nObj) :
    (valOf σ i).content =
      if σ.has i .cell || σ.has i .slice || σ.has i .builder then some ((σ.obj i).kind, σ.bitsOf i, vals σ (σ.refsOf i))
      else none := by
  have bk := h.wf.bk i hi
  unfold valOf
  cases ht : (σ.obj i).tag <;> simp [Val.content, State.has, hi, ht]
  exact (bk ht).symm

theorem isBuilder_valOf (σ : State) {i : Nat} (hi : i < σ.nObj) : (valOf σ i).isBuilder = σ.has i .builder := by
  unfold valOf; cases ht : (σ.obj i).tag <;> simp [Val.isBuilder, State.has, hi, ht]

theorem vals_append (σ : State) (l l' : List Nat) : vals σ (l ++ l') = vals σ l ++ vals σ l' := by simp [vals]
theorem vals_length (σ : State) (l : List Nat) : (vals σ l).length = l.length := by simp [vals]

theorem has_eq {σ : State} {i : Nat} (hi : i < σ.nObj) (t : Tag) : σ.has i t = decide ((σ.obj i).tag = t) := by
  simp [State.has, hi]

theorem valOf_push_cell {H σ} (h : Inv H σ) (c : ObjRec) (hr : c.refsId < σ.nRef) (ht : c.tag = .cell) (ho : c.off = 0) :
    valOf (σ.push c) σ.nObj = .cell (.mk c.kind (σ.bitBuf c.bitsId) (vals σ (σ.refBuf c.refsId))) := by
  have : vals (σ.push c) (σ.refBuf c.refsId) = vals σ (σ.refBuf c.refsId) :=
    vals_push c (fun j hj => (h.wf.refsCells _ hr j hj).1)
  simp [valOf, State.bitsOf, State.refsOf, ht, ho, this]

/-- what `step_sem` establishes for one transition from `σ` with receiver `rcv`: the heap-level result `r` shows the value-level
result `s` - the same output, the receiver's new value when `s` has one, and no change of the receiver otherwise -/
structure Refines (σ : State) (rcv : Option Nat) (r : State × Out) (s : OutVal × Option Val) : Prop where
  out : outVal r.1 r.2 = s.1
  recv : ∀ w, s.2 = some w → ∃ i, rcv = some i ∧ i < σ.nObj ∧ valOf r.1 i = w
  same : s.2 = none → rcv = none ∨ r.1 = σ

/-- everything `step_spec` shows of one transition, path by path: the new heap satisfies the invariant, differs from the old one
within the footprint of `rcv` only, and shows the value-level result -/
structure Spec (H : Bytes → Bytes) (σ : State) (rcv : Option Nat) (r : State × Out) (s : OutVal × Option Val) : Prop
    extends Refines σ rcv r s where
  inv : Inv H r.1
  frame : Frame σ r.1 rcv

theorem Spec.err {H σ rcv} (h : Inv H σ) : Spec H σ rcv (σ, .err) (.err, none) :=
  ⟨⟨rfl, fun _ e => (by cases e), fun _ => .inr rfl⟩, h, frame_refl σ rcv⟩

theorem Spec.new {H σ r s} (h' : Inv H r.1) (f : Frame σ r.1 none) (ho : outVal r.1 r.2 = s.1) (hs : s.2 = none) :
    Spec H σ none r s :=
  ⟨⟨ho, fun w e => (by rw [hs] at e; cases e), fun _ => .inl rfl⟩, h', f⟩

theorem Spec.mut {H σ σ' i o ov w} (h' : Inv H σ') (f : Frame σ σ' (some i)) (hi : i < σ.nObj) (ho : outVal σ' o = ov)
    (hv : valOf σ' i = w) : Spec H σ (some i) (σ', o) (ov, some w) :=
  ⟨⟨ho, fun _ e => ⟨i, rfl, hi, (by cases e; exact hv)⟩, fun e => (by cases e)⟩, h', f⟩

theorem Spec.ite {H σ rcv} {c : Prop} [Decidable c] {a b s t} (h1 : c → Spec H σ rcv a s) (h2 : ¬ c → Spec H σ rcv b t) :
    Spec H σ rcv (if c then a else b) (if c then s else t) := by
  split
  · exact h1 ‹_›
  · exact h2 ‹_›

/-- the constructors that take a list of objects: both sides test that all are cells, and the trees `sem` is given are `vals` -/
theorem Spec.cells {H σ} (h : Inv H σ) (cs : List Nat) (hid : ∀ i ∈ cs, i < σ.nObj) {a : State × Out} (s : List Tree → OutVal)
    (ha : CellsAt σ cs → Spec H σ none a (s (vals σ cs), none)) :
    Spec H σ none (if allCells σ cs then a else (σ, .err))
      (if cs.all (fun j => (valOf σ j).isCell) then s (cs.map fun j => (valOf σ j).tree) else .err, none) := by
  rw [all_isCell hid]
  cases hv : allCells σ cs with
  | false => exact .err h
  | true => rw [trees_vals h (allCells_iff.mp hv)]; exact ha (allCells_iff.mp hv)

/-- a new cell on new containers, unless the constructor refuses the content (`cellFresh`, `derive · cell`) -/
theorem Spec.freshCell {H σ} (h : Inv H σ) (kind : Int) (bits : Bits) {refs : List Nat} (hl : CellsAt σ refs) :
    Spec H σ none
      (match mkCellRec H σ σ.nBit σ.nRef kind bits refs with
       | some c => freshObj σ c bits refs
       | none => (σ, .err)) (mkCellV H kind bits (vals σ refs), none) := by
  rw [mkCellV_eq h (bI := σ.nBit) (rI := σ.nRef) hl]
  cases ec : mkCellRec H σ σ.nBit σ.nRef kind bits refs with
  | none => exact .err h
  | some c =>
    obtain ⟨e1, _, _, e4, e5, e6, e7⟩ := mkCellRec_some h.coh hl ec
    refine .new (inv_freshObj h c _ _ hl (by rw [e1]; nofun) (fun _ => by rw [e5]; exact ⟨e6, e7⟩) e4)
      (frame_freshObj _ _ _ _) ?_ rfl
    show OutVal.val (valOf (freshObj σ c bits refs).1 σ.nObj) = _
    rw [valOf_fresh c bits refs hl, e1, e4, e5]; rfl

/-- a new slice or builder on new containers (`sliceFresh`, `builderNew`, `derive · slice`, `derive · builder`) -/
theorem Spec.freshOwner {H σ} (h : Inv H σ) (t : Tag) (ht : t ≠ .cell) (kind : Int) (hk : t = .builder → kind = -1) (bits : Bits)
    {refs : List Nat} (hl : CellsAt σ refs) :
    Spec H σ none (freshObj σ { ObjRec.blank with tag := t, kind := kind } bits refs)
      (.val (mkVal t kind bits (vals σ refs)), none) :=
  .new (inv_freshObj h _ _ _ hl hk (fun e => absurd e ht) rfl) (frame_freshObj _ _ _ _)
    (congrArg OutVal.val (valOf_fresh _ bits refs hl)) rfl

theorem has_oob {σ : State} {i : Nat} (h : ¬ i < σ.nObj) (t : Tag) : σ.has i t = false := by simp [State.has, h]

theorem allCells_oob {σ : State} {cs : List Nat} (h : ¬ ∀ i ∈ cs, i < σ.nObj) : allCells σ cs = false := by
  cases e : allCells σ cs with
  | false => rfl
  | true => exact absurd (fun i hi => (allCells_iff.mp e i hi).1) h

/-- a call that names an object that does not exist raises -/
theorem step_oob {H σ} (op : Op) (h : ¬ ∀ i ∈ opIds op, i < σ.nObj) : step H σ op = (σ, .err) := by
  cases op <;> simp only [opIds, List.mem_cons, List.not_mem_nil, or_false, forall_eq_or_imp, forall_eq, false_imp_iff,
    implies_true, not_true] at h <;> simp only [step]
  case newRefs | cellFresh | sliceFresh => rw [allCells_oob h]; rfl
  case derive | dropBits | peekBits | loadRef | storeBits | observe => simp [has_oob h]
  case cellCtor | storeFrom | storeRef => rcases Classical.not_and_iff_not_or_not.mp h with h | h <;> simp [has_oob h]

/-- EVERY TRANSITION, one look at each path of `step`: it keeps the invariant, stays within its footprint and computes `sem` on the
VALUES of its arguments.  A call on a receiver of the wrong type raises on both sides; otherwise both sides make the same overflow /
underflow tests. -/
theorem step_spec {H σ} (h : Inv H σ) (op : Op) (hid : ∀ i ∈ opIds op, i < σ.nObj) :
    Spec H σ (recvOf op) (step H σ op) (sem H (valOf σ) op) := by
  cases op with
  | newBits bs => exact .new (inv_pushUBits h bs) (frame_pushUBits σ bs _) (by simp [step, sem, outVal, valOf, State.bitsOf]) rfl
  | newRefs cs =>
    refine .cells h cs hid (fun ts => .val (.refs ts)) fun hc =>
      .new (inv_pushURefs h cs hc) ((frame_allocR σ cs).alloc nofun (frame_push _ _)) ?_ rfl
    have : ∀ o', vals ((σ.allocR cs).push o') cs = vals σ cs := fun o' => vals_push (σ := σ.allocR cs) o' hid
    simp [outVal, valOf, State.refsOf, ObjRec.blank, this]
  | cellCtor ub ur kind =>
    have h1 : ub < σ.nObj := hid ub List.mem_cons_self
    have h2 : ur < σ.nObj := hid ur (List.mem_cons_of_mem _ List.mem_cons_self)
    cases t1 : (σ.obj ub).tag <;>
      simp only [step, sem, recvOf, has_eq h1, t1, valOf, decide_true, decide_false, Bool.true_and, Bool.false_and, if_false,
        Bool.false_eq_true, reduceCtorEq] <;> try exact .err h
    cases t2 : (σ.obj ur).tag <;>
      simp only [has_eq h2, t2, decide_true, decide_false, if_true, if_false, Bool.false_eq_true, reduceCtorEq] <;> try exact .err h
    -- ub is an array, ur a list
    have o := h.wf.off0 ur h2 (by simp [t2])
    have hl : CellsAt σ (σ.refBuf (σ.obj ur).refsId) := cellsAt_refBuf h h2 (by simp [t2, Tag.hasRefs])
    have e : σ.refsOf ur = σ.refBuf (σ.obj ur).refsId := by simp [State.refsOf, o]
    rw [e, State.bitsOf, mkCellV_eq h (bI := (σ.obj ub).bitsId) (rI := (σ.obj ur).refsId) hl]
    cases ec : mkCellRec H σ (σ.obj ub).bitsId (σ.obj ur).refsId kind (σ.bitBuf (σ.obj ub).bitsId) (σ.refBuf (σ.obj ur).refsId) with
    | none => exact .err h
    | some c =>
      obtain ⟨e1, e2, e3, e4, e5, _, _⟩ := mkCellRec_some h.coh hl ec
      have hr : c.refsId < σ.nRef := by rw [e3]; exact h.wf.idR ur h2 (by simp [t2, Tag.hasRefs])
      refine .new (inv_pushCell h h1 t1 h2 t2 ec) (frame_push σ c) ?_ rfl
      show OutVal.val (valOf (σ.push c) σ.nObj) = _
      rw [valOf_push_cell h c hr e1 e4, e2, e3, e5]
  | cellFresh bs cs kind => exact .cells h cs hid (mkCellV H kind bs) fun hc => .freshCell h kind bs hc
  | sliceFresh bs cs kind =>
    exact .cells h cs hid (fun ts => .val (.slice kind bs ts)) fun hc => .freshOwner h .slice nofun kind nofun bs hc
  | builderNew => exact .freshOwner h .builder nofun (-1) (fun _ => rfl) [] nofun
  | derive src dst =>
    have hi : src < σ.nObj := hid src List.mem_cons_self
    simp only [step, sem, recvOf]
    rw [content_valOf h hi]
    cases hv : (σ.has src .cell || σ.has src .slice || σ.has src .builder) with
    | false => exact .err h
    | true =>
      obtain ⟨_, hr, _⟩ := src_hasRefs hv
      have hl : CellsAt σ (σ.refsOf src) := cellsAt_refsOf h hi hr
      simp only [if_true]
      cases dst with
      | cell => exact .freshCell h _ _ hl
      | slice => exact .freshOwner h .slice nofun _ nofun _ hl
      | builder =>
        simp only
        rw [isBuilder_valOf σ hi, vals_length]
        split
        · exact .err h
        · exact .freshOwner h .builder nofun (-1) (fun _ => rfl) _ hl
  | dropBits s n ret =>
    have hi : s < σ.nObj := hid s List.mem_cons_self
    cases ht : (σ.obj s).tag <;>
      simp only [step, sem, recvOf, valOf, ht, has_eq hi, reduceCtorEq, decide_false, decide_true, Bool.false_eq_true, if_false,
        if_true] <;> try exact .err h
    have ho := slice_owner ht
    have h1 := inv_setB h s hi ho ((σ.bitsOf s).drop n)
    have f1 := frame_setB σ s hi ho ((σ.bitsOf s).drop n)
    have hv : valOf (σ.setB (σ.obj s).bitsId ((σ.bitsOf s).drop n)) s =
        .slice (σ.obj s).kind ((σ.bitsOf s).drop n) (vals σ (σ.refsOf s)) := by
      simp [valOf, ht, State.bitsOf, State.refsOf, vals]
    cases ret with
    | false => exact .ite (fun _ => .err h) fun _ => .mut h1 f1 hi rfl hv
    | true =>
      refine .ite (fun _ => .err h) fun _ => .mut (inv_pushUBits h1 _)
        (f1.alloc (fun r e => by cases e; exact ⟨hi, ho⟩) (frame_pushUBits _ _ _)) hi (by simp [outVal, valOf, State.bitsOf]) ?_
      -- the returned array is a new object of the heap after the deletion: it does not touch the slice
      rw [← hv]
      exact valOf_frame h1 (frame_pushUBits _ _ _) s hi nofun
  | peekBits s n =>
    have hi : s < σ.nObj := hid s List.mem_cons_self
    cases ht : (σ.obj s).tag <;>
      simp only [step, sem, recvOf, valOf, ht, has_eq hi, reduceCtorEq, decide_false, decide_true, Bool.false_eq_true, if_false,
        if_true] <;> try exact .err h
    exact .new (inv_pushUBits h _) (frame_pushUBits σ _ _) (by simp [outVal, valOf, State.bitsOf]) rfl
  | loadRef s =>
    have hi : s < σ.nObj := hid s List.mem_cons_self
    cases ht : (σ.obj s).tag <;>
      simp only [step, sem, recvOf, valOf, ht, has_eq hi, reduceCtorEq, decide_false, decide_true, Bool.false_eq_true, if_false,
        if_true] <;> try exact .err h
    have hl := cellsAt_refsOf h hi (by simp [ht, Tag.hasRefs])
    cases hr : σ.refsOf s with
    | nil => exact .err h
    | cons c rest =>
      simp only [vals, List.map_cons]
      have hc := hl c (by rw [hr]; simp)
      have hcs : c ≠ s := by intro e; rw [e] at hc; rw [hc.2] at ht; cases ht
      have hlen : (σ.obj s).off + 1 ≤ (σ.refBuf (σ.obj s).refsId).length := by
        have := congrArg List.length hr
        simp only [State.refsOf, List.length_drop, List.length_cons] at this
        omega
      have hrest : List.drop ((σ.obj s).off + 1) (σ.refBuf (σ.obj s).refsId) = rest := by
        have : (List.drop (σ.obj s).off (σ.refBuf (σ.obj s).refsId)).tail = rest := by
          have := hr; simp only [State.refsOf] at this; rw [this]; rfl
        rw [← this, List.tail_drop]
      have hv : ∀ (o' : ObjRec) l, o'.val = (σ.obj s).val → vals (σ.setObj s o') l = vals σ l := by
        intro o' l e; apply vals_congr; intro j _
        by_cases ej : j = s <;> simp [ej, e]
      refine .mut (ht ▸ inv_setOff h s ht _ hlen) (ht ▸ frame_setOff σ s hi (slice_owner ht) _) hi ?_ ?_
      · rw [← (valOf_cell h hc.1 hc.2).1]
        simp [outVal, valOf, State.bitsOf, State.refsOf, hcs, hv]
      · simp [valOf, State.bitsOf, State.refsOf, hrest, hv]; rfl
  | storeBits b bs =>
    have hi : b < σ.nObj := hid b List.mem_cons_self
    cases ht : (σ.obj b).tag <;>
      simp only [step, sem, recvOf, valOf, ht, has_eq hi, reduceCtorEq, decide_false, decide_true, Bool.false_eq_true, if_false,
        if_true] <;> try exact .err h
    have ho := builder_owner ht
    exact .ite (fun _ => .err h) fun _ => .mut (inv_setB h b hi ho _) (frame_setB σ b hi ho _) hi rfl
      (by simp [valOf, ht, State.bitsOf, State.refsOf, vals])
  | storeFrom b src =>
    have hi : b < σ.nObj := hid b List.mem_cons_self
    have hs : src < σ.nObj := hid src (List.mem_cons_of_mem _ List.mem_cons_self)
    cases ht : (σ.obj b).tag <;>
      simp only [step, sem, recvOf, valOf, ht, has_eq hi, reduceCtorEq, decide_false, decide_true, Bool.false_eq_true, if_false,
        if_true] <;> try exact .err h
    have ho := builder_owner ht
    have o := h.wf.off0 b hi (by simp [ht])
    have h1 := inv_setB h b hi ho (σ.bitsOf b ++ σ.bitsOf src)
    cases hsrc : (σ.obj src).tag <;>
      simp only [hsrc, has_eq hs, reduceCtorEq, decide_false, decide_true, Bool.false_eq_true, if_false, if_true, Bool.or_false,
        Bool.or_true, Bool.or_self, vals_length]
    case cell | slice =>
      have hl := cellsAt_append (cellsAt_refsOf h hi (owner_hasRefs ho)) (cellsAt_refsOf h hs (by rw [hsrc]; rfl))
      exact .ite (fun _ => .err h) fun _ => .ite (fun _ => .err h) fun _ =>
        .mut (inv_setR h1 b hi ho _ hl (by simp [o])) (frame_setBR σ b hi ho _ _) hi rfl
          (by simp [valOf, ht, State.bitsOf, State.refsOf, vals, o])
    case ubits =>
      exact .ite (fun _ => .err h) fun _ => .mut h1 (frame_setB σ b hi ho _) hi rfl (by simp [valOf, ht, State.bitsOf, State.refsOf, vals])
    all_goals exact .err h
  | storeRef b c =>
    have hi : b < σ.nObj := hid b List.mem_cons_self
    have hc : c < σ.nObj := hid c (List.mem_cons_of_mem _ List.mem_cons_self)
    cases ht : (σ.obj b).tag <;>
      simp only [step, sem, recvOf, valOf, ht, has_eq hi, reduceCtorEq, decide_false, decide_true, Bool.false_eq_true, if_false,
        Bool.false_and, Bool.true_and] <;> try exact .err h
    cases hcell : (σ.obj c).tag <;>
      simp only [hcell, has_eq hc, reduceCtorEq, decide_false, decide_true, Bool.false_eq_true, if_false, if_true, vals_length] <;>
      try exact .err h
    have ho := builder_owner ht
    have o := h.wf.off0 b hi (by simp [ht])
    have vc := (valOf_cell h hc hcell).2
    have hl : CellsAt σ (σ.refsOf b ++ [c]) :=
      cellsAt_append (cellsAt_refsOf h hi (owner_hasRefs ho)) fun j hj => by simp at hj; subst hj; exact ⟨hc, hcell⟩
    exact .ite (fun _ => .err h) fun _ => .mut (inv_setR h b hi ho _ hl (by simp [o])) (frame_setR σ b hi ho _) hi rfl
      (by simp [valOf, ht, State.bitsOf, State.refsOf, vals, o, vc])
  | observe c =>
    have hc : c < σ.nObj := hid c List.mem_cons_self
    cases hcell : (σ.obj c).tag <;>
      simp only [step, sem, recvOf, valOf, hcell, has_eq hc, reduceCtorEq, decide_false, decide_true, Bool.false_eq_true, if_false,
        if_true] <;> try exact .err h
    exact .new h (frame_refl _ _) (by rw [← (valOf_cell h hc hcell).2, h.coh.cohInfo c hc hcell]; rfl) rfl

/-- every transition keeps the invariant and stays within its footprint, whatever object ids the call names -/
theorem step_ok {H σ} (h : Inv H σ) (op : Op) : Inv H (step H σ op).1 ∧ Frame σ (step H σ op).1 (recvOf op) := by
  by_cases hid : ∀ i ∈ opIds op, i < σ.nObj
  · exact ⟨(step_spec h op hid).inv, (step_spec h op hid).frame⟩
  · rw [step_oob op hid]; exact ⟨h, frame_refl σ _⟩

theorem step_sem {H σ} (h : Inv H σ) (op : Op) (hid : ∀ i ∈ opIds op, i < σ.nObj) :
    Refines σ (recvOf op) (step H σ op) (sem H (valOf σ) op) :=
  (step_spec h op hid).toRefines

theorem inv_step {H σ} (h : Inv H σ) (op : Op) : Inv H (step H σ op).1 := (step_ok h op).1

theorem frame_step {H σ} (h : Inv H σ) (op : Op) : Frame σ (step H σ op).1 (recvOf op) := (step_ok h op).2

theorem inv_run {H σ} (h : Inv H σ) (ops : List Op) : Inv H (run H σ ops) := by
  induction ops generalizing σ with
  | nil => exact h
  | cons op ops ih => exact ih (inv_step h op)


theorem cell_step {H σ} (h : Inv H σ) (op : Op) {i : Nat} (hi : i < σ.nObj) (ht : (σ.obj i).tag = .cell) :
    cellObs (step H σ op).1 i = cellObs σ i ∧ i < (step H σ op).1.nObj ∧ ((step H σ op).1.obj i).tag = .cell := by
  have f := frame_step h op
  have e := cell_frame h f i hi ht
  refine ⟨e, Nat.lt_of_lt_of_le hi f.nObj, ?_⟩
  rw [show (step H σ op).1.obj i = σ.obj i from congrArg Prod.fst e]; exact ht

theorem cell_frame_run {H σ} (h : Inv H σ) (ops : List Op) (i : Nat) (hi : i < σ.nObj) (ht : (σ.obj i).tag = .cell) :
    cellObs (run H σ ops) i = cellObs σ i ∧ i < (run H σ ops).nObj := by
  induction ops generalizing σ with
  | nil => exact ⟨rfl, hi⟩
  | cons op ops ih =>
    obtain ⟨e, hi', ht'⟩ := cell_step h op hi ht
    obtain ⟨a, b⟩ := ih (inv_step h op) hi' ht'
    exact ⟨a.trans e, b⟩

/-- ISOLATION at the level of one transition: no object other than the call's `self` changes value, and `self`
changes only when `sem` says so -/
theorem step_isolated {H σ} (h : Inv H σ) (op : Op) (hid : ∀ i ∈ opIds op, i < σ.nObj) (i : Nat) (hi : i < σ.nObj)
    (hne : recvOf op = some i → (sem H (valOf σ) op).2 = none) : valOf (step H σ op).1 i = valOf σ i := by
  by_cases e : recvOf op = some i
  · rcases (step_sem h op hid).same (hne e) with e' | e'
    · rw [e'] at e; cases e
    · rw [e']
  · exact valOf_frame h (frame_step h op) i hi e

theorem opIds_rename (ρ : Nat → Nat) (op : Op) : opIds (renameOp ρ op) = (opIds op).map ρ := by
  cases op <;> simp [opIds, renameOp]

theorem recvOf_rename (ρ : Nat → Nat) (op : Op) : recvOf (renameOp ρ op) = (recvOf op).map ρ := by
  cases op <;> simp [recvOf, renameOp]

theorem recv_mem_opIds {op : Op} {r : Nat} (h : recvOf op = some r) : r ∈ opIds op := by
  cases op <;> simp [recvOf, opIds] at h ⊢ <;> simp [h]

/-- two (possibly different) states, the same call on arguments with equal VALUES: equal result value, equal new
value of `self` -/
theorem hist_indep {H σ1 σ2} (i1 : Inv H σ1) (i2 : Inv H σ2) (op : Op) (ρ : Nat → Nat)
    (hid1 : ∀ i ∈ opIds op, i < σ1.nObj) (hid2 : ∀ i ∈ opIds op, ρ i < σ2.nObj)
    (hv : ∀ i ∈ opIds op, valOf σ1 i = valOf σ2 (ρ i)) :
    outVal (step H σ1 op).1 (step H σ1 op).2 = outVal (step H σ2 (renameOp ρ op)).1 (step H σ2 (renameOp ρ op)).2 ∧
    ∀ r, recvOf op = some r → valOf (step H σ1 op).1 r = valOf (step H σ2 (renameOp ρ op)).1 (ρ r) := by
  have hid2' : ∀ i ∈ opIds (renameOp ρ op), i < σ2.nObj := by
    rw [opIds_rename]; intro i hi
    obtain ⟨j, hj, rfl⟩ := List.mem_map.mp hi
    exact hid2 j hj
  have r1 := step_sem i1 op hid1
  have r2 := step_sem i2 (renameOp ρ op) hid2'
  have es : sem H (valOf σ2) (renameOp ρ op) = sem H (valOf σ1) op := by
    rw [sem_rename]; exact (sem_congr H _ _ op hv).symm
  refine ⟨by rw [r1.out, r2.out, es], ?_⟩
  intro r hr
  have hr2 : recvOf (renameOp ρ op) = some (ρ r) := by rw [recvOf_rename, hr]; rfl
  have hmem := recv_mem_opIds hr
  cases hw : (sem H (valOf σ1) op).2 with
  | some w =>
    obtain ⟨r', e1, _, v1⟩ := r1.recv w hw
    obtain ⟨r'', e2, _, v2⟩ := r2.recv w (by rw [es]; exact hw)
    rw [hr] at e1; cases e1
    rw [hr2] at e2; cases e2
    rw [v1, v2]
  | none =>
    rw [step_isolated i1 op hid1 r (hid1 r hmem) (fun _ => hw),
      step_isolated i2 (renameOp ρ op) hid2' (ρ r) (hid2 r hmem) (fun _ => by rw [es]; exact hw)]
    exact hv r hmem

/-- objects that are not Slices/Builders (cells, caller-held arrays and lists) never change value -/
theorem nonowner_step {H σ} (h : Inv H σ) (op : Op) (i : Nat) (hi : i < σ.nObj) (hno : (σ.obj i).tag.owner = false) :
    valOf (step H σ op).1 i = valOf σ i ∧ (step H σ op).1.obj i = σ.obj i := by
  have f := frame_step h op
  rcases f.owner with e | ho
  · rw [e]; exact ⟨rfl, rfl⟩
  · have hne : recvOf op ≠ some i := by
      intro e'; have := (ho i e').2; rw [hno] at this; cases this
    exact ⟨valOf_frame h f i hi hne, f.obj i hi hne⟩

theorem nonowner_run {H σ} (h : Inv H σ) (ops : List Op) (i : Nat) (hi : i < σ.nObj) (hno : (σ.obj i).tag.owner = false) :
    valOf (run H σ ops) i = valOf σ i := by
  induction ops generalizing σ with
  | nil => rfl
  | cons op ops ih =>
    obtain ⟨a, b⟩ := nonowner_step h op i hi hno
    have hi' : i < (step H σ op).1.nObj := Nat.lt_of_lt_of_le hi (frame_step h op).nObj
    simp only [run]
    rw [ih (inv_step h op) hi' (by rw [b]; exact hno), a]

end TonVerif.Proofs.Heap
