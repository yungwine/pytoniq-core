/-
The methods AROUND the dictionary serialiser / parser, REGENERATED from hashmap.py and slice.py (Generated/HashmapGlue.lean, translator
harness/translate/hashmapglue.py = specialiser + pyrec.py), equal the hand model Model/Hashmap.lean — for all inputs:

  HashMap.set_int_key, HashMap.set (int / bytes / bit string / Address / hashed text / key_serializer), HashMap.serialize,
  HashMap.parse, HashMap.from_cell, Slice.load_dict / preload_dict / load_hashmap / load_hashmap_aug, and the int-key conversion at
  the end of `parse_hashmap_aug`.
-/
import TonVerif.Generated.HashmapGlue
import TonVerif.Proofs.SrcHashmapSer

set_option linter.unusedSimpArgs false
namespace TonVerif.Proofs.SrcHashmapGlue
open TonVerif TonVerif.Model TonVerif.Model.Hashmap TonVerif.Spec.Hashmap TonVerif.Proofs.Hashmap
open TonVerif.Generated.HashmapSrc TonVerif.Proofs.SrcHashmap TonVerif.Proofs.SrcHashmapSer
open TonVerif.Generated (HashmapGlue.set_int_key HashmapGlue.set_int HashmapGlue.set_bytes HashmapGlue.set_str HashmapGlue.set_addr
  HashmapGlue.set_hashed HashmapGlue.set_ks HashmapGlue.serialize HashmapGlue.hm_parse HashmapGlue.from_cell HashmapGlue.load_dict
  HashmapGlue.preload_dict HashmapGlue.load_hashmap HashmapGlue.load_hashmap_aug HashmapGlue.load_hashmap_aug_e)

/-! ### HashMap.set_int_key / set -/

/-- REGENERATED `HashMap.set_int_key(int_key, value)` = the hand model's `setIntKey`: raises exactly for `int_key < 0` or
`int_key.bit_length() > size`, else `self.map[int_key] = value` -/
theorem set_int_key_eq {V : Type} (d : Dict V) (size : Nat) (k : Int) (v : V) :
    HashmapGlue.set_int_key d size k v = setIntKey size k v d := by
  unfold HashmapGlue.set_int_key setIntKey
  simp only [SrcArith.py_bitLength_eq, dset_eq_dictSet]
  by_cases h : k < 0 ∨ bitLength k.natAbs > size <;> simp [h]

/-- REGENERATED `HashMap.set(key, value)` for every key form = the hand model's `set` (`normKey` then `setIntKey`) -/
theorem set_forms_eq {V : Type} (H : Bytes → Bytes) (d : Dict V) (size : Nat) (v : V) :
    (∀ k : Int, HashmapGlue.set_int d size k v = Hashmap.set H size (.int k) v d) ∧
    (∀ bs : Bytes, HashmapGlue.set_bytes d size bs v = Hashmap.set H size (.bytes bs) v d) ∧
    (∀ s : Bits, HashmapGlue.set_str d size s v = Hashmap.set H size (.bitstr s) v d) ∧
    (∀ a : Addr, HashmapGlue.set_addr d size a v = Hashmap.set H size (.addr a) v d) ∧
    (∀ u : Bytes, HashmapGlue.set_hashed H d size u v = Hashmap.set H size (.hashed u) v d) := by
  refine ⟨?_, ?_, ?_, ?_, ?_⟩
  · intro k
    simp [HashmapGlue.set_int, Hashmap.set, normKey, set_int_key_eq]
  · intro bs
    simp [HashmapGlue.set_bytes, Hashmap.set, normKey, set_int_key_eq]
  · intro s
    cases s with
    | nil => simp [HashmapGlue.set_str, Hashmap.set, normKey, Py.intOfBits2?, Py.intOfBits?]
    | cons b t => simp [HashmapGlue.set_str, Hashmap.set, normKey, Py.intOfBits2?, Py.intOfBits?, set_int_key_eq]
  · intro a
    simp only [HashmapGlue.set_addr, Hashmap.set, normKey, Py.addrKey?, set_int_key_eq, Option.bind_eq_bind, Option.pure_def]
  · intro u
    simp [HashmapGlue.set_hashed, Hashmap.set, normKey, set_int_key_eq]

/-- `HashMap.set` with a `key_serializer` (returning int): the key it returns goes through `set_int_key` -/
theorem set_ks_eq {V K : Type} (ks : K → Option Int) (d : Dict V) (size : Nat) (key : K) (v : V) :
    HashmapGlue.set_ks ks d size key v = (ks key).bind fun k => setIntKey size k v d := by
  simp only [HashmapGlue.set_ks, set_int_key_eq, Option.bind_eq_bind, Option.pure_def]

/-! ### HashMap.serialize -/

/-- REGENERATED `HashMap.serialize()` = the hand model's `serialize`: `None` for the empty map, else the cell of the regenerated
`serialize_dict` — for every map built by `set_int_key`, n ≥ 1, value serialiser `serCb ser`, fuel ≥ 2n + 2 -/
theorem serialize_eq {V : Type} (n : Nat) (hn : 0 < n) (ser : V → Option Val) (d : Dict V) (hd : DictOK n d)
    (fuel : Nat) (hf : 2 * n + 2 ≤ fuel) :
    HashmapGlue.serialize (serCb ser) fuel d n = Model.Hashmap.serialize n ser d := by
  unfold HashmapGlue.serialize
  by_cases h0 : d = []
  · subst h0; simp [Model.Hashmap.serialize]
  · have hl : d.length ≠ 0 := by simpa using h0
    rw [← serialize_dict_eq n hn ser d hd h0 fuel hf]
    simp only [hl, ne_eq, not_false_eq_true, if_true, Option.bind_eq_bind, Option.pure_def]
    cases serialize_dict (serCb ser) fuel d n <;> rfl

/-! ### HashMap.parse / from_cell -/

theorem dset_map {α β : Type} (f : α → β) (k : Nat) (v : α) : ∀ d : List (Nat × α),
    Py.dset k (f v) (d.map fun p => (p.1, f p.2)) = (dictSet k v d).map fun p => (p.1, f p.2) := by
  intro d
  induction d with
  | nil => rfl
  | cons x d ih =>
    obtain ⟨k', v'⟩ := x
    simp only [List.map_cons, Py.dset, dictSet]
    by_cases h : k' = k <;> simp [h, ih]

theorem intKeys_fold_map {α β : Type} (f : α → β) : ∀ (kv : List (Bits × α)) (acc : List (Nat × α)),
    (kv.map fun p => (p.1, f p.2)).foldl (fun acc p => Py.dset (natOfBits p.1) p.2 acc) (acc.map fun p => (p.1, f p.2)) =
      (kv.foldl (fun d p => dictSet (natOfBits p.1) p.2 d) acc).map fun p => (p.1, f p.2) := by
  intro kv
  induction kv with
  | nil => intro acc; rfl
  | cons x kv ih =>
    intro acc
    simp only [List.map_cons, List.foldl_cons, dset_map, ih]

/-- `{int(i, 2): j for i, j in d.items()}` on non-empty key strings = the hand model's `intKeys` -/
theorem intKeys_py {α β : Type} (f : α → β) (kv : List (Bits × α)) (hne : ∀ p ∈ kv, p.1 ≠ []) :
    Py.intKeys? (kv.map fun p => (p.1, f p.2)) = some ((intKeys kv).map fun p => (p.1, f p.2)) := by
  unfold Py.intKeys? intKeys
  have hany : (kv.map fun p => (p.1, f p.2)).any (fun p => p.1.isEmpty) = false := by
    rw [List.any_eq_false]
    intro p hp
    obtain ⟨q, hq, rfl⟩ := List.mem_map.1 hp
    have := hne q hq
    simpa using this
  rw [hany]
  have := intKeys_fold_map f kv []
  simpa using this

/-- `int('', 2)` raises -/
theorem intKeys_py_empty {α : Type} (kv : List (Bits × α)) (h : ∃ p ∈ kv, p.1 = []) : Py.intKeys? kv = none := by
  unfold Py.intKeys?
  have : kv.any (fun p => p.1.isEmpty) = true := by
    rw [List.any_eq_true]
    obtain ⟨p, hp, he⟩ := h
    exact ⟨p, hp, by simp [he]⟩
  simp [this]

/-- the dict `HashMap.parse` returns for the model's result: int keys, each value the ordinary slice behind the leaf label -/
def outDict (r : Dict Val) : List (Nat × Py.Slice) := r.map fun p => (p.1, valSlice p.2)

/-- the regenerated `parse_hashmap` fails with the model's `parseHashmap`, or returns its entries, on which the int-key conversion
`{int(i, 2): j …}` gives the model's dict -/
theorem parse_intKeys_cases (fuel : Nat) (c : Cell) (n : Nat) (hf : 2 * n + 2 ≤ fuel) :
    (parse_hashmap fuel (Py.beginParse c) (n : Int) = none ∧ parseHashmap c n = none) ∨
    ∃ r sl kv, parse_hashmap fuel (Py.beginParse c) (n : Int) = some (r, sl) ∧ parseHashmap c n = some kv ∧
      Py.intKeys? r = some (outDict (intKeys kv)) := by
  obtain h | ⟨⟨r, sl⟩, kv, hp, hq, e⟩ := (SrcBytes.Sim.of_maps (src_parse_hashmap_eq fuel c n hf)).inv
  · exact .inl h
  · obtain rfl : r = _ := e
    exact .inr ⟨_, sl, kv, hp, hq, intKeys_py valSlice kv (parseEdge_keys _ c n [] kv (Nat.lt_succ_self _) hq).2⟩

/-- rendering of the model's `PResult` as what the regenerated functions return (`none` = raises) -/
def outP : PResult (Dict Val) → Option (Option (List (Nat × Py.Slice)))
  | .err => none
  | .none => some none
  | .dict r => some (some (outDict r))

/-- REGENERATED `HashMap.parse(cell.begin_parse(), n)` (default key deserialiser, no value deserialiser) = the hand model's
`hashMapParse`: `None` for a non-ordinary root, raises exactly when the model does, else the model's dict -/
theorem hm_parse_eq (fuel : Nat) (c : Cell) (n : Nat) (hf : 2 * n + 2 ≤ fuel) :
    (HashmapGlue.hm_parse fuel (Py.beginParse c) (n : Int)).map (·.1) = outP (hashMapParse c n) := by
  have key := parse_intKeys_cases fuel c n hf
  obtain ⟨kind, bits, refs⟩ := c
  rw [HashmapGlue.hm_parse, hashMapParse]
  by_cases h1 : kind ≠ -1
  · simp [Py.beginParse, h1, outP]
  have hk : ¬ (Py.beginParse (.mk kind bits refs)).kind ≠ -1 := h1
  obtain ⟨hp, hq⟩ | ⟨r, sl, kv, hp, hq, hi⟩ := key
  · rw [if_neg hk, if_neg h1, hq, hp]
    rfl
  · rw [if_neg hk, if_neg h1, hq, hp]
    simp only [Option.bind_eq_bind, Option.bind_some, hi]
    rfl

/-- REGENERATED `HashMap.from_cell(cell, n).map` = the hand model's `fromCell` -/
theorem from_cell_eq (fuel : Nat) (c : Cell) (n : Nat) (hf : 2 * n + 2 ≤ fuel) :
    HashmapGlue.from_cell fuel c (n : Int) = (fromCell c n).map outDict := by
  unfold HashmapGlue.from_cell fromCell
  obtain ⟨hp, hq⟩ | ⟨r, sl, kv, hp, hq, hi⟩ := parse_intKeys_cases fuel c n hf
  · simp [hp, hq]
  · simp [hp, hq, hi]

/-! ### Slice.load_dict / preload_dict / load_hashmap -/

/-- REGENERATED `Slice.load_dict(n)` = the hand model's `loadDict`, and it consumes exactly the presence bit and, if set, one
reference (also when the result is `None` for a non-ordinary root; nothing is observable after a raise) -/
theorem load_dict_eq (fuel : Nat) (sl : Py.Slice) (n : Nat) (hf : 2 * n + 2 ≤ fuel) :
    (HashmapGlue.load_dict fuel sl (n : Int)).map (·.1) = outP (loadDict sl.bits sl.refs n) ∧
    ∀ r sl', HashmapGlue.load_dict fuel sl (n : Int) = some (r, sl') →
      sl'.kind = sl.kind ∧ sl'.bits = sl.bits.tail ∧ sl'.refs = (if sl.bits.head? = some true then sl.refs.tail else sl.refs) := by
  obtain ⟨kind, bits, refs⟩ := sl
  unfold HashmapGlue.load_dict loadDict
  simp only [loadBit_eq, loadRef_eq, Option.bind_eq_bind, Option.pure_def]
  rcases bits with _ | ⟨_ | _, bits⟩
  · simp [outP]
  · simp [outP, withBits]
  rcases refs with _ | ⟨c, refs⟩
  · simp [outP, withBits]
  simp only [withBits, Option.bind_some, if_true]
  obtain ⟨hq, hp⟩ | ⟨_, ⟨r, s2⟩, hq, hp, rfl⟩ := (SrcBytes.Sim.of_map_eq (hm_parse_eq fuel c n hf).symm).inv
  · simp [hp, hq]
  · simp [hp, hq]

/-- REGENERATED `Slice.preload_dict(n)` = the same result, and it is a pure function of the slice (nothing is consumed) -/
theorem preload_dict_eq (fuel : Nat) (sl : Py.Slice) (n : Nat) (hf : 2 * n + 2 ≤ fuel) :
    HashmapGlue.preload_dict fuel sl (n : Int) = outP (loadDict sl.bits sl.refs n) := by
  obtain ⟨kind, bits, refs⟩ := sl
  unfold HashmapGlue.preload_dict loadDict
  simp only [Py.Slice.preloadBit?, Py.Slice.preloadRef?, Option.bind_eq_bind, Option.pure_def]
  rcases bits with _ | ⟨_ | _, bits⟩
  · simp [outP]
  · simp [outP]
  rcases refs with _ | ⟨c, refs⟩
  · simp [outP]
  simp only [List.head?_cons, Option.bind_some, if_true]
  obtain ⟨hq, hp⟩ | ⟨_, ⟨r, s2⟩, hq, hp, rfl⟩ := (SrcBytes.Sim.of_map_eq (hm_parse_eq fuel c n hf).symm).inv
  · simp [hp, hq]
  · simp [hp, hq]

/-- REGENERATED `Slice.load_hashmap(n)` is `HashMap.parse` on the slice itself -/
theorem load_hashmap_eq (fuel : Nat) (c : Cell) (n : Nat) (hf : 2 * n + 2 ≤ fuel) :
    (HashmapGlue.load_hashmap fuel (Py.beginParse c) (n : Int)).map (·.1) = outP (hashMapParse c n) := by
  rw [← hm_parse_eq fuel c n hf]
  unfold HashmapGlue.load_hashmap
  simp only [Option.bind_eq_bind, Option.pure_def]
  cases HashmapGlue.hm_parse fuel (Py.beginParse c) (n : Int) <;> rfl

/-! ### `parse_hashmap_aug`'s key conversion, `Slice.load_hashmap_aug` -/

/-- the keys `parse_aug` adds all extend the prefix it was called with, and are pairwise different -/
theorem parseAugEdge_keys {X Y : Type} (D : AugDec X Y) : ∀ (N : Nat) (c : Cell) (k : Int) (pfx : Bits) (kv : List (Bits × X)) (ex : List Y),
    k.toNat < N → parseAugEdge D c k pfx = some (kv, ex) → (∀ p ∈ kv, pfx <+: p.1) ∧ (kv.map (·.1)).Nodup := by
  intro N
  induction N with
  | zero => intro _ _ _ _ _ hN; omega
  | succ N ih =>
    intro c k pfx kv ex hN h
    obtain ⟨kind, bits, refs⟩ := c
    rw [parseAugEdge] at h
    by_cases h1 : kind ≠ -1
    · simp [h1] at h; obtain ⟨rfl, _⟩ := h; simp
    simp only [h1, if_false] at h
    rcases hh : deserializeHml bits k with _ | ⟨n, s, rest⟩
    · simp [hh] at h
    have hle := deserializeHml_le hh
    simp only [hh] at h
    by_cases h2 : k - (n : Int) = 0
    · simp only [h2, if_true] at h
      rcases hy : D.decY (rest, refs) with _ | ⟨y, sl⟩
      · simp [hy] at h
      rcases hx : D.decX sl with _ | x
      · simp [hy, hx] at h
      · simp [hy, hx] at h; obtain ⟨rfl, _⟩ := h; simp
    simp only [h2, if_false] at h
    rcases refs with _ | ⟨l, _ | ⟨r, more⟩⟩
    · simp [parseAugFork] at h
    · simp [parseAugFork] at h
    simp only [parseAugFork] at h
    rcases ha : parseAugEdge D l (k - n - 1) (pfx ++ s ++ [false]) with _ | ⟨a, ea⟩
    · simp [-List.append_assoc, ha] at h
    rcases hb : parseAugEdge D r (k - n - 1) (pfx ++ s ++ [true]) with _ | ⟨b, eb⟩
    · simp [-List.append_assoc, ha, hb] at h
    simp only [ha, hb] at h
    rcases hy : D.decY (rest, more) with _ | ⟨y, sl⟩
    · simp [hy] at h
    simp only [hy, Option.some.injEq, Prod.mk.injEq] at h
    obtain ⟨rfl, _⟩ := h
    exact keys_fork (List.prefix_append pfx s) (ih l _ _ a ea (by omega) ha) (ih r _ _ b eb (by omega) hb)

theorem addAllX_fresh {X : Type} (kv d : List (Bits × X)) (hn : (kv.map (·.1)).Nodup)
    (hd : ∀ p ∈ kv, p.1 ∉ d.map Prod.fst) : addAllX d kv = d ++ kv :=
  (foldl_dset_fresh (fun p : Bits × X => p.1) (·.2) kv d hn hd).trans (by rw [List.map_id'' fun _ => rfl])

theorem intKeys_py_id {α : Type} (kv : List (Bits × α)) :
    Py.intKeys? kv = if kv.any (fun p => p.1.isEmpty) then none else some (intKeys kv) := by
  rw [Py.intKeys?, intKeys, dset_eq_dictSet]

/-- rendering of the model's result of `parse_hashmap_aug` -/
def outAug {X Y : Type} : PResult (Dict X × List Y) → Option (Option (List (Nat × X) × List Y))
  | .err => none
  | .none => some none
  | .dict r => some (some r)

/-- REGENERATED `parse_hashmap_aug(cell.begin_parse(), n, x, y)` — the recursion AND its last step, the int-key conversion
`{int(i, 2): j …}` (ValueError on the empty key of a 0-bit dictionary) — = the hand model's `parseHashmapAug`, for every decoder
pair and every fuel ≥ 2n + 2 -/
theorem parse_hashmap_aug_eq {X Y : Type} (D : AugDec X Y) (fuel : Nat) (c : Cell) (n : Nat) (hf : 2 * n + 2 ≤ fuel) :
    (parse_hashmap_aug (xdOf D) (ydOf D) fuel (Py.beginParse c) (n : Int)).map (·.1) = outAug (parseHashmapAug D c n) := by
  have h := (SrcBytes.Sim.of_maps (src_parse_aug_eq D fuel c n [] [] [] (by simpa using hf))).inv
  obtain ⟨kind, bits, refs⟩ := c
  unfold parse_hashmap_aug parseHashmapAug
  by_cases h1 : kind ≠ -1
  · simp [Py.beginParse, h1, outAug]
  simp only [Py.beginParse, h1, if_false, Option.bind_eq_bind, Option.pure_def] at h ⊢
  obtain ⟨hp, hq⟩ | ⟨⟨sl', d, ex, p'⟩, ⟨kv, e⟩, hp, hq, he⟩ := h
  · simp [hp, hq, outAug]
  · obtain ⟨rfl, rfl⟩ : d = addAllX [] kv ∧ ex = [] ++ e := Prod.mk.inj he
    obtain ⟨_, hnd⟩ := parseAugEdge_keys D _ (.mk kind bits refs) n [] kv _ (Nat.lt_succ_self _) hq
    rw [hp, hq, addAllX_fresh kv [] hnd (by simp)]
    simp only [Option.bind_some, List.nil_append, intKeys_py_id]
    by_cases hany : kv.any (fun p => p.1.isEmpty) = true <;> simp [hany, outAug]

/-- REGENERATED `Slice.load_hashmap_aug(n, x, y)` is `parse_hashmap_aug` on the slice itself -/
theorem load_hashmap_aug_eq {X Y : Type} (D : AugDec X Y) (fuel : Nat) (c : Cell) (n : Nat) (hf : 2 * n + 2 ≤ fuel) :
    (HashmapGlue.load_hashmap_aug (xdOf D) (ydOf D) fuel (Py.beginParse c) (n : Int)).map (·.1) = outAug (parseHashmapAug D c n) := by
  rw [← parse_hashmap_aug_eq D fuel c n hf]
  unfold HashmapGlue.load_hashmap_aug
  simp only [Option.bind_eq_bind, Option.pure_def]
  cases parse_hashmap_aug (xdOf D) (ydOf D) fuel (Py.beginParse c) (n : Int) <;> rfl

/-- rendering of the model's result of `load_hashmap_aug_e` on an ordinary slice -/
def outAugE {X Y : Type} : AugE X Y → Option (Option (List (Nat × X) × List Y))
  | .err => none
  | .none => some none
  | .cell => none
  | .empty y => some (some ([], [y]))
  | .dict kv ex => some (some (kv, ex))

/-- REGENERATED `Slice.load_hashmap_aug_e(n, x, y)` on an ORDINARY slice (on a special slice the method returns the cell itself: its first
statement, checked by the translator) = the hand model's `loadHashmapAugE`: `ahme_empty$0 extra:Y` gives `({}, [extra])`;
`ahme_root$1 root:^(HashmapAug n X Y) extra:Y` gives what `parse_hashmap_aug` returns for the root, after the top-level extra was
read from the slice (so it must be readable) -/
theorem load_hashmap_aug_e_eq {X Y : Type} (D : AugDec X Y) (fuel : Nat) (bits : Bits) (refs : List Cell) (n : Nat) (hf : 2 * n + 2 ≤ fuel) :
    (HashmapGlue.load_hashmap_aug_e (xdOf D) (ydOf D) fuel ⟨-1, bits, refs⟩ (n : Int)).map (·.1) =
      outAugE (loadHashmapAugE D (-1) bits refs n) := by
  unfold HashmapGlue.load_hashmap_aug_e loadHashmapAugE
  simp only [loadBit_eq, loadRef_eq, Option.bind_eq_bind, Option.pure_def, ne_eq, not_true_eq_false, if_false]
  rcases bits with _ | ⟨_ | _, rest⟩
  · simp [outAugE]
  · simp only [withBits, Option.bind_some, Bool.false_eq_true, if_false, ydOf]
    rcases hy : D.decY (rest, refs) with _ | ⟨y, sl⟩ <;> simp [outAugE]
  rcases refs with _ | ⟨c, more⟩
  · simp [outAugE, withBits]
  have h := parse_hashmap_aug_eq D fuel c n hf
  simp only [withBits, Option.bind_some, if_true, ydOf]
  cases hq : parseHashmapAug D c n with
  | err =>
    rw [hq] at h
    simp [Option.map_eq_none_iff.1 h, outAugE]
  | none =>
    rw [hq] at h
    obtain ⟨⟨r, s2⟩, hp, rfl⟩ := Option.map_eq_some_iff.1 h
    rcases hy : D.decY (rest, more) with _ | ⟨y, sl⟩ <;> simp [hp, outAugE]
  | dict r' =>
    rw [hq] at h
    obtain ⟨⟨r, s2⟩, hp, rfl⟩ := Option.map_eq_some_iff.1 h
    obtain ⟨kv, ex⟩ := r'
    rcases hy : D.decY (rest, more) with _ | ⟨y, sl⟩ <;> simp [hp, outAugE]

end TonVerif.Proofs.SrcHashmapGlue
