/- C15 helper lemmas, part 1: the builder programs of the model write exactly the spec encoding (`Appends`); sizes of
   encodings; `MessageAny.serialize` returns a spec encoding when the header leaves room (`serialize_cases`) and only then
   (`serialize_some_bound`) -/
import TonVerif.Proofs.MsgBits
import TonVerif.Proofs.Builder
import TonVerif.Model.Message

namespace TonVerif.Proofs.Message
open TonVerif TonVerif.Model TonVerif.Model.BOp TonVerif.Model.Message TonVerif.Spec.Tlb
open TonVerif.Proofs.MsgBits

variable {R : Type}

/-- a builder in its valid range -/
def WFB (b : Builder R) : Prop := b.bits.length ≤ 1023 ∧ b.refs.length ≤ 4

/-- the chunk fits behind what the builder holds -/
def Fits (b : Builder R) (c : Chunk R) : Prop := b.bits.length + c.1.length ≤ 1023 ∧ b.refs.length + c.2.length ≤ 4

def app (b : Builder R) (c : Chunk R) : Builder R := ⟨b.bits ++ c.1, b.refs ++ c.2⟩

/-- `op` behaves as "append the encoding `e`" whenever the value has an encoding: it returns normally exactly
    when `e` fits, and then the builder holds the old content followed by `e` -/
def Appends (op : BOp R) (e : Enc R) : Prop :=
  ∀ b : Builder R, WFB b → ∀ c, e = some c →
    (Fits b c → op b = (app b c, true)) ∧ (¬ Fits b c → (op b).2 = false)

theorem app_wfb {b : Builder R} {c : Chunk R} (h : Fits b c) : WFB (app b c) := by
  unfold WFB app Fits at *; simp; omega

theorem Enc.cat_assoc (a b c : Enc R) : (a +++ b) +++ c = a +++ (b +++ c) := by
  rcases a with _ | ⟨a1, a2⟩ <;> rcases b with _ | ⟨b1, b2⟩ <;> rcases c with _ | ⟨c1, c2⟩ <;> simp [Enc.cat]

theorem Enc.cat_some {a b : Enc R} {c : Chunk R} (h : a +++ b = some c) :
    ∃ x y, a = some x ∧ b = some y ∧ c = (x.1 ++ y.1, x.2 ++ y.2) := by
  rcases a with _ | ⟨a1, a2⟩ <;> rcases b with _ | ⟨b1, b2⟩ <;> simp [Enc.cat] at h
  exact ⟨(a1, a2), (b1, b2), rfl, rfl, h.symm⟩

theorem Enc.cat_eNil (a : Enc R) : a +++ eNil = a := by
  rcases a with _ | ⟨a1, a2⟩ <;> simp [Enc.cat, eNil]

theorem fits_app (b : Builder R) (x y : Chunk R) :
    Fits b (x.1 ++ y.1, x.2 ++ y.2) ↔ Fits b x ∧ Fits (app b x) y := by
  simp only [Fits, app, List.length_append]; omega

theorem Appends.andThen {f g : BOp R} {e1 e2 : Enc R} (hf : Appends f e1) (hg : Appends g e2) :
    Appends (f ⊳ g) (e1 +++ e2) := by
  intro b hb c hc
  obtain ⟨c1, c2, rfl, rfl, rfl⟩ := Enc.cat_some hc
  rw [fits_app]
  obtain ⟨hfit, hnfit⟩ := hf b hb c1 rfl
  by_cases h1 : Fits b c1
  · obtain ⟨hgfit, hgnfit⟩ := hg (app b c1) (app_wfb h1) c2 rfl
    have hfb := hfit h1
    constructor
    · intro h
      simp only [BOp.andThen, hfb, if_true, hgfit h.2]
      simp only [app, List.append_assoc]
    · intro hn
      have := hgnfit (fun h2 => hn ⟨h1, h2⟩)
      simp [BOp.andThen, hfb, this]
  · have hfb := hnfit h1
    exact ⟨fun h => absurd h.1 h1, fun _ => by simp [BOp.andThen, hfb]⟩

theorem Appends.congr {f : BOp R} {e e' : Enc R} (h : Appends f e) (he : e = e') : Appends f e' := he ▸ h

/-! ### primitives

Each store has its closed form in `Proofs/Builder.lean` (`OpSpec`: it returns normally iff the value is in range and the bits fit,
and has then appended exactly the TL-B bits of Spec/TlbPrim.lean). Proved here: an encoder of Spec/Tlb/Message.lean, where it is
defined, names a value in that range and those bits (`eUint_some` … `eAddr_some`). `Appends.of_opSpec` puts the two together. -/

open TonVerif.Proofs.Bits TonVerif.Proofs.Builder

theorem Appends.of_opSpec {f : BOp R} {C : Prop} {xs : Bits} {rs : List R} {e : Enc R}
    (h : OpSpec f C xs rs) (he : ∀ c, e = some c → C ∧ c = (xs, rs)) : Appends f e := by
  intro b hb c hc
  obtain ⟨hC, rfl⟩ := he c hc
  obtain ⟨h1, h2⟩ := h.1 b hb
  refine ⟨fun hf => ?_, fun hnf => ?_⟩
  · have hok := h1.mpr ⟨hC, hf.1, hf.2⟩
    exact Prod.ext (h2 hok) hok
  · exact Bool.eq_false_iff.mpr fun hok => hnf ⟨(h1.mp hok).2.1, (h1.mp hok).2.2⟩

theorem ite_some {α} {C : Prop} [Decidable C] {x c : α} (h : (if C then some x else none) = some c) : C ∧ c = x := by
  split at h
  · exact ⟨‹C›, (Option.some.inj h).symm⟩
  · cases h

theorem appends_extend (xs : Bits) : Appends (extend xs : BOp R) (some (xs, [])) :=
  .of_opSpec (opSpec_extend xs) fun _ hc => ⟨trivial, (Option.some.inj hc).symm⟩

theorem appends_storeRef (r : R) : Appends (storeRef r) (eRef r) :=
  .of_opSpec (opSpec_storeRef r) fun _ hc => ⟨trivial, (Option.some.inj hc).symm⟩

theorem appends_none (f : BOp R) : Appends f none := by
  intro b _ c hc; simp at hc

theorem appends_skip : Appends (BOp.skip : BOp R) eNil :=
  .of_opSpec opSpec_skip fun _ hc => ⟨trivial, (Option.some.inj hc).symm⟩

theorem appends_storeBit (x : Bool) : Appends (storeBit x : BOp R) (eBool x) := appends_extend [x]
theorem appends_storeBits (xs : Bits) : Appends (storeBits xs : BOp R) (eBits xs) := appends_extend xs
theorem appends_storeBytes (xs : Bytes) : Appends (storeBytes xs : BOp R) (eBits (bytesToBits xs)) := appends_extend _

theorem appends_storeCell (cb : Bits) (cr : List R) : Appends (storeCell cb cr) (some (cb, cr)) :=
  .of_opSpec (opSpec_storeCell cb cr) fun _ hc => ⟨trivial, (Option.some.inj hc).symm⟩

theorem eMaybeRef_eq (o : Option R) : eMaybeRef o = some (maybeRefBits o, maybeRefRefs o) := by
  cases o <;> rfl

theorem appends_storeMaybeRef (o : Option R) : Appends (storeMaybeRef o) (eMaybeRef o) :=
  .of_opSpec (opSpec_storeMaybeRef o) fun _ hc => ⟨trivial, (Option.some.inj ((eMaybeRef_eq o).symm.trans hc)).symm⟩

theorem eUint_some {n : Nat} {v : Int} {c : Chunk R} (h : eUint n v = some c) :
    FitsUint n v ∧ c = (uintBits n v.toNat, []) := by
  rw [← natToBits_eq_uintBits]; exact ite_some (C := 0 ≤ v ∧ v < (2 ^ n : Int)) h

theorem eUint_of_range (n : Nat) (v : Int) (h0 : 0 ≤ v) (h1 : v < (2 : Int) ^ n) :
    (eUint n v : Enc R) = some (natToBits n v.toNat, []) := if_pos ⟨h0, h1⟩

theorem appends_storeUint (v : Int) (n : Nat) (hn : 0 < n) : Appends (storeUint v n : BOp R) (eUint n v) :=
  .of_opSpec (opSpec_storeUint v n) fun _ hc => ⟨⟨hn, (eUint_some hc).1⟩, (eUint_some hc).2⟩

theorem eInt_some {n : Nat} {v : Int} {c : Chunk R} (h : eInt n v = some c) :
    (0 < n ∧ FitsInt n v) ∧ c = (intBits n v, []) := by
  obtain ⟨⟨h1, h2, hn⟩, rfl⟩ := ite_some h
  obtain ⟨m, rfl⟩ : ∃ m, n = m + 1 := ⟨n - 1, by omega⟩
  obtain ⟨x, hx1, hx2, -, -⟩ := twos m v h1 h2
  exact ⟨⟨hn, (fitsInt_succ m v).mpr ⟨h1, h2⟩⟩, by rw [hx2, intBits, hx1, natToBits_eq_uintBits]⟩

theorem appends_storeInt (v : Int) (n : Nat) : Appends (storeInt v n : BOp R) (eInt n v) :=
  .of_opSpec (opSpec_storeInt v n) fun _ => eInt_some

theorem nbytes_eq (n : Nat) : nbytes n = byteLenU n := by
  induction n using Nat.strongRecOn with
  | _ n ih =>
    cases n with
    | zero => rw [nbytes, byteLenU]
    | succ k => rw [nbytes, byteLenU, ih _ (by omega)]

theorem eVarUint_some {k : Nat} {v : Int} {c : Chunk R} (h : eVarUint k v = some c) :
    (0 ≤ v ∧ byteLenU v.toNat < 2 ^ k) ∧ c = (varUIntBits k v.toNat, []) := by
  obtain ⟨h0, h⟩ := Option.ite_none_right_eq_some.mp h
  obtain ⟨x, y, hx, hy, rfl⟩ := Enc.cat_some h
  obtain ⟨fx, rfl⟩ := eUint_some hx
  obtain ⟨_, rfl⟩ := eUint_some hy
  rw [nbytes_eq] at *
  exact ⟨⟨h0, (fitsUint_nat _ _).mp fx⟩, by simp [varUIntBits, Nat.mul_comm]⟩

theorem appends_storeVarUint (v : Int) (k : Nat) (hk : 0 < k) : Appends (storeVarUint v k : BOp R) (eVarUint k v) :=
  .of_opSpec (opSpec_storeVarUint v k) fun _ hc => ⟨⟨hk, (eVarUint_some hc).1⟩, (eVarUint_some hc).2⟩

theorem appends_storeCoins (v : Int) : Appends (storeCoins v : BOp R) (eGrams v) :=
  appends_storeVarUint v 4 (by omega)

/-- An address that has a spec encoding is in the library's range (`InRange`; wider: it lets anycast depth 31 through) and meets
the side conditions of the TL-B clauses (`Valid`), and the encoding is the one `store_address` writes (`opSpec_storeAddress`). -/
theorem eAddr_some {a : Addr} {c : Chunk R} (h : eAddr a = some c) :
    InRange (R := R) (.addr a) ∧ (addrOf a).Valid ∧ c = (addrBits (addrOf a), []) := by
  cases a with
  | none => cases h; exact ⟨trivial, trivial, rfl⟩
  | ext len val =>
    simp only [eAddr] at h
    obtain ⟨x, y, hx, hy, rfl⟩ := Enc.cat_some h
    obtain ⟨y1, y2, hy1, hy2, rfl⟩ := Enc.cat_some hy
    cases hx
    obtain ⟨f9, rfl⟩ := eUint_some hy1
    have f9 : len < 512 := (fitsUint_nat 9 len).mp f9
    have : FitsUint len val ∧ y2 = (uintBits len val.toNat, []) := by
      by_cases hl : len = 0
      · subst hl
        rw [if_pos rfl] at hy2
        obtain ⟨rfl, rfl⟩ := ite_some hy2
        exact ⟨by simp [FitsUint], rfl⟩
      · rw [if_neg hl] at hy2; exact eUint_some hy2
    obtain ⟨fv, rfl⟩ := this
    exact ⟨⟨f9, fv⟩, ⟨f9, uintBits_length _ _⟩, by simp [addrBits, addrOf]⟩
  | std any wc hash =>
    simp only [eAddr] at h
    obtain ⟨x, y, hx, hy, rfl⟩ := Enc.cat_some h
    obtain ⟨y1, y2, hy1, hy2, rfl⟩ := Enc.cat_some hy
    obtain ⟨z1, z2, hz1, hz2, rfl⟩ := Enc.cat_some hy2
    cases hx
    obtain ⟨⟨_, fw⟩, rfl⟩ := eInt_some hz1
    obtain ⟨⟨hlen, _⟩, rfl⟩ := ite_some hz2
    rw [bytesToBits_eq_bytesBits]
    have hh : (bytesBits hash).length = 256 := by rw [bytesBits_length, hlen]
    cases any with
    | none => cases hy1; exact ⟨⟨trivial, fw⟩, ⟨trivial, fw, hh⟩, by simp [addrBits, addrOf, anycastBits]⟩
    | some dp =>
      obtain ⟨d, p⟩ := dp
      obtain ⟨hd, hy1⟩ := Option.ite_none_right_eq_some.mp hy1
      obtain ⟨u, w, hu, hw, rfl⟩ := Enc.cat_some hy1
      obtain ⟨w1, w2, hw1, hw2, rfl⟩ := Enc.cat_some hw
      cases hu
      obtain ⟨_, rfl⟩ := eUint_some hw1
      obtain ⟨fp, rfl⟩ := eUint_some hw2
      exact ⟨⟨⟨hd.1, by omega, fp⟩, fw⟩, ⟨⟨hd.1, hd.2, uintBits_length _ _⟩, fw, hh⟩, by simp [addrBits, addrOf, anycastBits]⟩

theorem appends_storeAddress (a : Addr) : Appends (storeAddress a : BOp R) (eAddr a) :=
  .of_opSpec (opSpec_storeAddress a) fun _ hc => ⟨(eAddr_some hc).1, (eAddr_some hc).2.2⟩

theorem wfb_empty : WFB (Builder.empty : Builder R) := by simp [WFB, Builder.empty]

/-- running a program that appends `c` on the empty builder -/
theorem Appends.run {op : BOp R} {e : Enc R} (h : Appends op e) {c : Chunk R} (he : e = some c) :
    (c.1.length ≤ 1023 ∧ c.2.length ≤ 4 → op Builder.empty = (⟨c.1, c.2⟩, true)) ∧
    (¬ (c.1.length ≤ 1023 ∧ c.2.length ≤ 4) → (op Builder.empty).2 = false) := by
  obtain ⟨h1, h2⟩ := h Builder.empty wfb_empty c he
  constructor
  · intro hc
    have := h1 (by simpa [Fits, Builder.empty] using hc)
    simpa [app, Builder.empty] using this
  · intro hc
    exact h2 (by simpa [Fits, Builder.empty] using hc)

/-- a piece serialised on its own and then stored with `store_cell` -/
theorem Appends.sub {op : BOp R} {e : Enc R} (h : Appends op e) : Appends (Message.sub op) e := by
  intro b hb c hc
  obtain ⟨hfit, hnfit⟩ := h.run hc
  by_cases hE : c.1.length ≤ 1023 ∧ c.2.length ≤ 4
  · have hr := hfit hE
    have hs := (appends_storeCell c.1 c.2) b hb c rfl
    simp only [Message.sub, hr, if_true]
    exact hs
  · have hr := hnfit hE
    constructor
    · intro hf; exfalso; apply hE; unfold Fits at *; omega
    · intro _; simp [Message.sub, hr]

/-! the composite serialisers -/

theorem appends_currencyB (c : Currency R) : Appends (currencyB c) (encCurrency c) :=
  (appends_storeCoins _).andThen (appends_storeMaybeRef _).sub

theorem appends_tickTockB (t : TickTock) : Appends (tickTockB t : BOp R) (encTickTock t) :=
  (appends_storeBit _).andThen (appends_storeBit _)

theorem appends_stateInitB (s : StateInit R) : Appends (stateInitB s) (encStateInit s) := by
  unfold stateInitB encStateInit
  rw [← Enc.cat_assoc, ← Enc.cat_assoc, ← Enc.cat_assoc]
  refine Appends.andThen (Appends.andThen (Appends.andThen (Appends.andThen ?_ ?_) (appends_storeMaybeRef _)) (appends_storeMaybeRef _)) (appends_storeMaybeRef _)
  · cases s.splitDepth with
    | none => exact appends_storeBit false
    | some d => exact (appends_storeBit true).andThen (appends_storeUint _ 5 (by omega))
  · cases s.special with
    | none => exact appends_storeBit false
    | some t => exact (appends_storeBit true).andThen (appends_tickTockB t).sub

theorem eUint_1_0 : (eUint 1 0 : Enc R) = eBool false := by simp [eUint, eBool, natToBits]
theorem eUint_2_2 : (eUint 2 2 : Enc R) = eBits [true, false] := by simp [eUint, eBits, natToBits]
theorem eUint_2_3 : (eUint 2 3 : Enc R) = eBits [true, true] := by simp [eUint, eBits, natToBits]

theorem appends_infoB (i : Info R) : Appends (infoB i) (encInfo i) := by
  cases i with
  | int a b c src dest value ihr fwd lt at_ =>
    unfold infoB encInfo
    simp only [← Enc.cat_assoc]
    rw [← eUint_1_0]
    exact ((((((((((appends_storeUint 0 1 (by omega)).andThen (appends_storeBit a)).andThen (appends_storeBit b)).andThen
      (appends_storeBit c)).andThen (appends_storeAddress src)).andThen (appends_storeAddress dest)).andThen
      (appends_currencyB value).sub).andThen (appends_storeCoins ihr)).andThen (appends_storeCoins fwd)).andThen
      (appends_storeUint lt 64 (by omega))).andThen (appends_storeUint at_ 32 (by omega))
  | extIn src dest fee =>
    unfold infoB encInfo
    simp only [← Enc.cat_assoc]
    rw [← eUint_2_2]
    exact (((appends_storeUint 2 2 (by omega)).andThen (appends_storeAddress src)).andThen (appends_storeAddress dest)).andThen
      (appends_storeCoins fee)
  | extOut src dest lt at_ =>
    unfold infoB encInfo
    simp only [← Enc.cat_assoc]
    rw [← eUint_2_3]
    exact ((((appends_storeUint 3 2 (by omega)).andThen (appends_storeAddress src)).andThen (appends_storeAddress dest)).andThen
      (appends_storeUint lt 64 (by omega))).andThen (appends_storeUint at_ 32 (by omega))


/-! sizes of encodings -/

def Enc.nrefs (e : Enc R) : Nat := match e with | some c => c.2.length | none => 0
def Enc.nbits (e : Enc R) : Nat := match e with | some c => c.1.length | none => 0

theorem Enc.nbits_le_of {e : Enc R} {n : Nat} (h : ∀ c, e = some c → c.1.length ≤ n) : Enc.nbits e ≤ n := by
  cases e with
  | none => exact Nat.zero_le _
  | some c => exact h c rfl

theorem Enc.nrefs_le_of {e : Enc R} {n : Nat} (h : ∀ c, e = some c → c.2.length ≤ n) : Enc.nrefs e ≤ n := by
  cases e with
  | none => exact Nat.zero_le _
  | some c => exact h c rfl

theorem nrefs_cat_le {a b : Enc R} {x y : Nat} (ha : Enc.nrefs a ≤ x) (hb : Enc.nrefs b ≤ y) : Enc.nrefs (a +++ b) ≤ x + y := by
  rcases a with _ | ⟨a1, a2⟩ <;> rcases b with _ | ⟨b1, b2⟩ <;> simp [Enc.cat, Enc.nrefs] at * <;> omega

theorem nbits_cat_le {a b : Enc R} {x y : Nat} (ha : Enc.nbits a ≤ x) (hb : Enc.nbits b ≤ y) : Enc.nbits (a +++ b) ≤ x + y := by
  rcases a with _ | ⟨a1, a2⟩ <;> rcases b with _ | ⟨b1, b2⟩ <;> simp [Enc.cat, Enc.nbits] at * <;> omega

theorem Enc.isSome_cat (a b : Enc R) : (a +++ b).isSome = (a.isSome && b.isSome) := by
  rcases a with _ | ⟨a1, a2⟩ <;> rcases b with _ | ⟨b1, b2⟩ <;> rfl

theorem Enc.nbits_cat {a b : Enc R} (ha : a.isSome) (hb : b.isSome) : Enc.nbits (a +++ b) = Enc.nbits a + Enc.nbits b := by
  rcases a with _ | ⟨a1, a2⟩ <;> rcases b with _ | ⟨b1, b2⟩ <;> simp [Enc.cat, Enc.nbits] at *

theorem nbits_eUint_eq {n : Nat} {v : Int} (h : (eUint n v : Enc R).isSome) : Enc.nbits (eUint n v : Enc R) = n := by
  obtain ⟨c, hc⟩ := Option.isSome_iff_exists.mp h
  rw [hc, (eUint_some hc).2]; exact uintBits_length _ _

theorem addrBits_length {m : MsgAddress} (hv : m.Valid) :
    (addrBits m).length = match m with
      | .none => 2
      | .extern len _ => 11 + len
      | .std none _ _ => 267
      | .std (some (d, _)) _ _ => 272 + d := by
  rcases m with _ | ⟨len, a⟩ | ⟨_ | ⟨d, p⟩, wc, a⟩
  · rfl
  · simp [addrBits, hv.2]; omega
  · simp [addrBits, anycastBits, intBits, hv.2.2]
  · simp [addrBits, anycastBits, intBits, hv.2.2, hv.1.2.2]; omega

/-- `addr_extern$01 len:(## 9) external_address:(bits len)` has exactly `11 + len` bits -/
theorem nbits_eAddr_ext {len : Nat} {val : Int} (h : (eAddr (Addr.ext len val) : Enc R).isSome) :
    Enc.nbits (eAddr (Addr.ext len val) : Enc R) = 11 + len := by
  obtain ⟨c, hc⟩ := Option.isSome_iff_exists.mp h
  obtain ⟨_, hv, rfl⟩ := eAddr_some hc
  rw [hc]; exact addrBits_length hv

theorem nrefs_eBool (x : Bool) : Enc.nrefs (eBool x : Enc R) ≤ 0 := by simp [eBool, Enc.nrefs]
theorem nrefs_eBits (x : Bits) : Enc.nrefs (eBits x : Enc R) ≤ 0 := by simp [eBits, Enc.nrefs]
theorem nrefs_eNil : Enc.nrefs (eNil : Enc R) ≤ 0 := by simp [eNil, Enc.nrefs]
theorem nrefs_eUint (n : Nat) (v : Int) : Enc.nrefs (eUint n v : Enc R) ≤ 0 :=
  Enc.nrefs_le_of fun _ h => by rw [(eUint_some h).2]; exact Nat.le_refl _
theorem nrefs_eInt (n : Nat) (v : Int) : Enc.nrefs (eInt n v : Enc R) ≤ 0 :=
  Enc.nrefs_le_of fun _ h => by rw [(eInt_some h).2]; exact Nat.le_refl _
theorem nrefs_eGrams (v : Int) : Enc.nrefs (eGrams v : Enc R) ≤ 0 :=
  Enc.nrefs_le_of fun _ h => by rw [(eVarUint_some h).2]; exact Nat.le_refl _
theorem nrefs_eMaybeRef (o : Option R) : Enc.nrefs (eMaybeRef o) ≤ 1 := by
  cases o <;> simp [eMaybeRef, eBool, eRef, Enc.cat, Enc.nrefs]
theorem nrefs_eAddr (a : Addr) : Enc.nrefs (eAddr a : Enc R) ≤ 0 :=
  Enc.nrefs_le_of fun _ h => by rw [(eAddr_some h).2.2]; exact Nat.le_refl _

theorem nrefs_encCurrency (c : Currency R) : Enc.nrefs (encCurrency c) ≤ 1 :=
  nrefs_cat_le (nrefs_eGrams _) (nrefs_eMaybeRef _)

/-- a header has at most one reference (the extra-currency dictionary) -/
theorem nrefs_encInfo (i : Info R) : Enc.nrefs (encInfo i) ≤ 1 := by
  cases i with
  | int a b c src dest value ihr fwd lt at_ =>
    exact nrefs_cat_le (nrefs_eBool _) <| nrefs_cat_le (nrefs_eBool _) <|
      nrefs_cat_le (nrefs_eBool _) <| nrefs_cat_le (nrefs_eBool _) <|
      nrefs_cat_le (nrefs_eAddr _) <| nrefs_cat_le (nrefs_eAddr _) <|
      nrefs_cat_le (nrefs_encCurrency _) <| nrefs_cat_le (nrefs_eGrams _) <|
      nrefs_cat_le (nrefs_eGrams _) <| nrefs_cat_le (nrefs_eUint _ _) (nrefs_eUint _ _)
  | extIn src dest fee =>
    exact Nat.le_trans (nrefs_cat_le (nrefs_eBits _) <| nrefs_cat_le (nrefs_eAddr _) <|
      nrefs_cat_le (nrefs_eAddr _) (nrefs_eGrams _)) (by omega)
  | extOut src dest lt at_ =>
    exact Nat.le_trans (nrefs_cat_le (nrefs_eBits _) <| nrefs_cat_le (nrefs_eAddr _) <|
      nrefs_cat_le (nrefs_eAddr _) <| nrefs_cat_le (nrefs_eUint _ _) (nrefs_eUint _ _)) (by omega)

theorem nbits_eBool (x : Bool) : Enc.nbits (eBool x : Enc R) ≤ 1 := by simp [eBool, Enc.nbits]
theorem nbits_eUint (n : Nat) (v : Int) : Enc.nbits (eUint n v : Enc R) ≤ n :=
  Enc.nbits_le_of fun _ h => by rw [(eUint_some h).2]; exact Nat.le_of_eq (uintBits_length _ _)
theorem nbits_eMaybeRef (o : Option R) : Enc.nbits (eMaybeRef o) ≤ 1 := by
  cases o <;> simp [eMaybeRef, eBool, eRef, Enc.cat, Enc.nbits]

/-- a state-init has at most 12 bits and 3 references -/
theorem size_encStateInit (s : StateInit R) : Enc.nbits (encStateInit s) ≤ 12 ∧ Enc.nrefs (encStateInit s) ≤ 3 := by
  unfold encStateInit
  constructor
  · refine Nat.le_trans (nbits_cat_le (x := 6) (y := 6) ?_ (nbits_cat_le (x := 3) (y := 3) ?_
      (nbits_cat_le (x := 1) (y := 2) (nbits_eMaybeRef _) (nbits_cat_le (x := 1) (y := 1) (nbits_eMaybeRef _) (nbits_eMaybeRef _))))) (by omega)
    · cases s.splitDepth with
      | none => exact Nat.le_trans (nbits_eBool _) (by omega)
      | some d => exact nbits_cat_le (x := 1) (y := 5) (nbits_eBool _) (nbits_eUint _ _)
    · cases s.special with
      | none => exact Nat.le_trans (nbits_eBool _) (by omega)
      | some t => exact nbits_cat_le (x := 1) (y := 2) (nbits_eBool _) (nbits_cat_le (x := 1) (y := 1) (nbits_eBool _) (nbits_eBool _))
  · refine Nat.le_trans (nrefs_cat_le (x := 0) (y := 3) ?_ (nrefs_cat_le (x := 0) (y := 3) ?_
      (nrefs_cat_le (x := 1) (y := 2) (nrefs_eMaybeRef _) (nrefs_cat_le (x := 1) (y := 1) (nrefs_eMaybeRef _) (nrefs_eMaybeRef _))))) (by omega)
    · cases s.splitDepth with
      | none => exact nrefs_eBool _
      | some d => exact nrefs_cat_le (x := 0) (y := 0) (nrefs_eBool _) (nrefs_eUint _ _)
    · cases s.special with
      | none => exact nrefs_eBool _
      | some t => exact nrefs_cat_le (x := 0) (y := 0) (nrefs_eBool _) (nrefs_cat_le (x := 0) (y := 0) (nrefs_eBool _) (nrefs_eBool _))


/-! ### `MessageAny.serialize`: which encoding it produces and that it always has room -/

theorem enc_some_sizes {e : Enc R} {c : Chunk R} (h : e = some c) : Enc.nbits e = c.1.length ∧ Enc.nrefs e = c.2.length := by
  subst h; simp [Enc.nbits, Enc.nrefs]

/-- what the body step needs from the builder it starts on -/
def BodyRoom (body : Chunk R) (b : Builder R) : Prop :=
  b.bits.length + 1 ≤ 1023 ∧
  (b.refs.length + 1 ≤ 4 ∨ (body.1.length + b.bits.length + 1 ≤ 1023 ∧ body.2.length + b.refs.length ≤ 4))

/-- `store_bit(x)` then `store_cell` of a chunk that fits: both the inline form of the init and of the body -/
theorem bitCell_run (x : Bool) (cb : Bits) (cr : List R) (b : Builder R) (hb : WFB b) (hf : Fits b (x :: cb, cr)) :
    (storeBit x ⊳ storeCell cb cr) b = (app b (x :: cb, cr), true) :=
  (((appends_storeBit x).andThen (appends_storeCell cb cr)) b hb _ (by simp [eBool, Enc.cat])).1 hf

/-- `store_bit(x)` then `store_ref`: the reference form -/
theorem bitRef_run (x : Bool) (c : R) (b : Builder R) (hb : WFB b) (hf : Fits b ([x], [c])) :
    (storeBit x ⊳ storeRef c) b = (app b ([x], [c]), true) :=
  (((appends_storeBit x).andThen (appends_storeRef c)) b hb _ (by simp [eBool, eRef, Enc.cat])).1 hf

theorem bodyB_ok (ops : CellOps R) (ht : ops.Total) (body : Chunk R)
    (hbody : body.1.length ≤ 1023 ∧ body.2.length ≤ 4) (b : Builder R) (hb : WFB b) (hroom : BodyRoom body b) :
    ∃ br ch, encBody ops body br = some ch ∧ Fits b ch ∧ bodyB ops body b = some (app b ch, true) := by
  obtain ⟨h1, h2⟩ := hroom
  unfold bodyB
  split
  · rename_i hc
    simp only [Bool.and_eq_true, decide_eq_true_eq] at hc
    have hf : Fits b (false :: body.1, body.2) := by simp only [Fits, List.length_cons]; omega
    exact ⟨false, _, by simp [encBody, eBool, Enc.cat], hf, by rw [bitCell_run false _ _ b hb hf]⟩
  · rename_i hc
    simp only [Bool.and_eq_true, decide_eq_true_eq] at hc
    obtain ⟨bc, hbc⟩ := Option.isSome_iff_exists.mp (ht body.1 body.2 hbody.1 hbody.2)
    have hf : Fits b ([true], [bc]) := by simp only [Fits, List.length_cons, List.length_nil]; omega
    exact ⟨true, _, by simp [encBody, mkChunk, hbody, hbc, eBool, eRef, Enc.cat], hf, by simp only [hbc, bitRef_run true bc b hb hf]⟩

theorem initB_ok (ops : CellOps R) (hl : ops.Lawful) (ht : ops.Total) (init : Option (StateInit R))
    (hinit : ∀ s, init = some s → (encStateInit s).isSome) (body : Chunk R) (b : Builder R) (hb : WFB b)
    (hbits : b.bits.length + (if init.isSome then 3 else 2) ≤ 1023) (hrefs : b.refs.length ≤ 1) :
    ∃ ir ch, encInit ops init ir = some ch ∧ Fits b ch ∧ initB ops init body b = some (app b ch, true) ∧
      BodyRoom body (app b ch) := by
  cases init with
  | none =>
    simp only [Option.isSome_none, Bool.false_eq_true, if_false] at hbits
    have hf : Fits b ([false], []) := by simp only [Fits, List.length_cons, List.length_nil]; omega
    refine ⟨false, ([false], []), by simp [encInit, eBool], hf, ?_, ?_⟩
    · simp only [initB]; rw [((appends_storeBit false) b hb _ rfl).1 hf]
    · simp only [BodyRoom, app, List.length_append, List.length_cons, List.length_nil]; omega
  | some s =>
    simp only [Option.isSome_some, if_true] at hbits
    obtain ⟨sc, hsc⟩ := Option.isSome_iff_exists.mp (hinit s rfl)
    have hsz := size_encStateInit s
    obtain ⟨e1, e2⟩ := enc_some_sizes hsc
    rw [e1, e2] at hsz
    -- the init cell
    have hrun := ((appends_stateInitB s).run hsc).1 (by omega)
    obtain ⟨ic, hic⟩ := Option.isSome_iff_exists.mp (ht sc.1 sc.2 (by omega) (by omega))
    have hcell : cellOf ops (stateInitB s) = some ic := by simp [cellOf, runB, hrun, hic]
    -- store_bit(1), giving `b1`
    have hf1 : Fits b ([true], []) := by simp only [Fits, List.length_cons, List.length_nil]; omega
    have hwf1 : WFB (app b ([true], [])) := app_wfb hf1
    simp only [initB, ((appends_storeBit true) b hb _ rfl).1 hf1, hcell, hl _ _ _ hic, Bool.not_true, Bool.false_eq_true, if_false]
    generalize hb1 : app b ([true], []) = b1 at hwf1 ⊢
    have hlen1 : b1.bits.length = b.bits.length + 1 := by simp [← hb1, app]
    have hlen2 : b1.refs.length = b.refs.length := by simp [← hb1, app]
    have happ : ∀ x cb cr, app b1 (x :: cb, cr) = app b (true :: x :: cb, cr) := fun x cb cr => by
      simp [← hb1, app]
    split
    · rename_i hc
      simp only [Bool.and_eq_true, Bool.or_eq_true, decide_eq_true_eq, List.isEmpty_iff, hlen1, hlen2] at hc
      have hb2e : body.2 = [] → body.2.length = 0 := fun h => by simp [h]
      have hf : Fits b1 (false :: sc.1, sc.2) := by
        simp only [Fits, hlen1, hlen2, List.length_cons]
        rcases hc with ⟨h1, h2 | ⟨⟨h2, h3⟩, h4⟩⟩ <;> omega
      refine ⟨false, (true :: false :: sc.1, sc.2), by simp [encInit, hsc, eBits, Enc.cat], ?_, ?_, ?_⟩
      · simp only [Fits, hlen1, hlen2, List.length_cons] at hf ⊢; omega
      · rw [bitCell_run false _ _ b1 hwf1 hf, happ]
      · simp only [BodyRoom, app, List.length_append, List.length_cons]
        rcases hc with ⟨h1, h2 | ⟨⟨h2, h3⟩, h4⟩⟩
        · omega
        · have := hb2e h3; omega
    · have hf : Fits b1 ([true], [ic]) := by simp only [Fits, hlen1, hlen2, List.length_cons, List.length_nil]; omega
      have hmk : mkChunk ops sc = some ic := by simp [mkChunk, hic]; omega
      refine ⟨true, ([true, true], [ic]), by simp [encInit, hsc, hmk, eBits, eRef, Enc.cat], ?_, ?_, ?_⟩
      · simp only [Fits, List.length_cons, List.length_nil]; omega
      · rw [bitRef_run true ic b1 hwf1 hf, happ]
      · simp only [BodyRoom, app, List.length_append, List.length_cons, List.length_nil]; omega

/-- `MessageAny.serialize` produces one of the spec encodings of the message and never lacks room -/
theorem serialize_cases (ops : CellOps R) (hl : ops.Lawful) (ht : ops.Total) (m : Msg R)
    {ib : Bits} {ir : List R} (hinfo : encInfo m.info = some (ib, ir))
    (hI : ib.length + (if m.init.isSome then 3 else 2) ≤ 1023)
    (hinit : ∀ s, m.init = some s → (encStateInit s).isSome)
    (hbody : m.body.1.length ≤ 1023 ∧ m.body.2.length ≤ 4) :
    ∃ i b c, encMessage ops m i b = some c ∧ Message.serialize ops m = some c := by
  have hir : ir.length ≤ 1 := by
    have := nrefs_encInfo m.info; rw [(enc_some_sizes hinfo).2] at this; exact this
  have hib : ib.length ≤ 1023 := by split at hI <;> omega
  have hrun := ((appends_infoB m.info).run hinfo).1 ⟨hib, by show ir.length ≤ 4; omega⟩
  dsimp only at hrun
  obtain ⟨icell, hicell⟩ := Option.isSome_iff_exists.mp (ht ib ir hib (by omega))
  have hview := hl _ _ _ hicell
  have hcell : cellOf ops (infoB m.info) = some icell := by simp [cellOf, runB, hrun, hicell]
  have h0 := ((appends_storeCell ib ir).run rfl).1 ⟨hib, by show ir.length ≤ 4; omega⟩
  dsimp only at h0
  have hwf0 : WFB (⟨ib, ir⟩ : Builder R) := ⟨hib, by simp; omega⟩
  obtain ⟨i, ch1, he1, hf1, hi1, hroom⟩ := initB_ok ops hl ht m.init hinit m.body ⟨ib, ir⟩ hwf0 hI hir
  obtain ⟨b, ch2, he2, hf2, hb2⟩ := bodyB_ok ops ht m.body hbody _ (app_wfb hf1) hroom
  have hfin : (app (app (⟨ib, ir⟩ : Builder R) ch1) ch2).bits.length ≤ 1023 ∧ (app (app (⟨ib, ir⟩ : Builder R) ch1) ch2).refs.length ≤ 4 :=
    app_wfb hf2
  obtain ⟨c, hc⟩ := Option.isSome_iff_exists.mp (ht _ _ hfin.1 hfin.2)
  refine ⟨i, b, c, ?_, ?_⟩
  · simp only [encMessage, encMessageChunk, hinfo, he1, he2, Enc.cat, Option.bind_some, mkChunk]
    simp only [app, List.append_assoc] at hfin hc
    have hfin' := hfin
    simp only [List.length_append] at hfin'
    simp [hfin', hc]
  · simp only [Message.serialize, hcell, hview, h0, hi1, hb2]
    simpa using hc

theorem extend_bits {xs : Bits} {b r : Builder R} (h : extend xs b = (r, true)) :
    r.bits.length = b.bits.length + xs.length ∧ r.bits.length ≤ 1023 := by
  unfold extend at h
  split at h
  · cases h
  · cases h; simp; omega

theorem storeRef_bits {x : R} {b r : Builder R} (h : storeRef x b = (r, true)) : r.bits = b.bits := by
  unfold storeRef at h
  split at h <;> cases h
  rfl

theorem storeCell_bits {cb : Bits} {cr : List R} {b r : Builder R} (h : storeCell cb cr b = (r, true)) :
    r.bits.length = b.bits.length + cb.length ∧ r.bits.length ≤ 1023 := by
  unfold storeCell at h
  split at h
  · cases h
  · cases he : extend cb b with
    | mk r' ok =>
      cases ok <;> simp only [he] at h
      · cases h
      · have := extend_bits he
        cases h; exact this

theorem andThen_true {f g : BOp R} {b r : Builder R} (h : (f ⊳ g) b = (r, true)) :
    ∃ r', f b = (r', true) ∧ g r' = (r, true) := by
  unfold BOp.andThen at h
  cases hf : f b with
  | mk r' ok =>
    cases ok <;> simp only [hf] at h
    · cases h
    · exact ⟨r', rfl, h⟩

theorem bodyB_bits {ops : CellOps R} {body : Chunk R} {b r : Builder R} (h : bodyB ops body b = some (r, true)) :
    b.bits.length + 1 ≤ r.bits.length ∧ r.bits.length ≤ 1023 := by
  unfold bodyB at h
  split at h
  · obtain ⟨r', h1, h2⟩ := andThen_true (Option.some.inj h)
    have := extend_bits h1
    have := storeCell_bits h2
    simp only [List.length_cons, List.length_nil] at *
    omega
  · split at h
    · cases h
    · obtain ⟨r', h1, h2⟩ := andThen_true (Option.some.inj h)
      have := extend_bits h1
      rw [storeRef_bits h2]
      simp only [List.length_cons, List.length_nil] at *
      omega

theorem initB_bits {ops : CellOps R} {init : Option (StateInit R)} {body : Chunk R} {b r : Builder R}
    (h : initB ops init body b = some (r, true)) :
    b.bits.length + (if init.isSome then 2 else 1) ≤ r.bits.length := by
  cases init with
  | none =>
    have := extend_bits (Option.some.inj h)
    simp only [List.length_cons, List.length_nil] at this
    simp; omega
  | some s =>
    simp only [initB] at h
    cases h1 : storeBit true b with
    | mk r1 ok =>
      cases ok <;> simp only [h1] at h
      · cases h
      · have l1 := (extend_bits h1).1
        simp only [Bool.not_true, Bool.false_eq_true, if_false] at h
        split at h
        · cases h
        · split at h
          · obtain ⟨r', h2, h3⟩ := andThen_true (Option.some.inj h)
            have := extend_bits h2
            have := storeCell_bits h3
            simp only [List.length_cons, List.length_nil] at *
            simp; omega
          · obtain ⟨r', h2, h3⟩ := andThen_true (Option.some.inj h)
            have := extend_bits h2
            rw [storeRef_bits h3]
            simp only [List.length_cons, List.length_nil] at *
            simp; omega

/-- **the bound of `serialize_cases` is necessary**: the init part takes at least two bits (one without a state-init), the body
part at least one, and every store checks the 1023 bits of a cell -/
theorem serialize_some_bound (ops : CellOps R) (hl : ops.Lawful) (m : Msg R) {ib : Bits} {ir : List R}
    (hinfo : encInfo m.info = some (ib, ir)) (h : (Message.serialize ops m).isSome) :
    ib.length + (if m.init.isSome then 3 else 2) ≤ 1023 := by
  unfold Message.serialize at h
  cases hc : cellOf ops (infoB m.info) with
  | none => simp [hc] at h
  | some icell =>
    have hv : ops.view icell = (ib, ir) := by
      obtain ⟨c, hrun, hmk⟩ := Option.bind_eq_some_iff.mp hc
      by_cases hfit : ib.length ≤ 1023 ∧ ir.length ≤ 4
      · have := ((appends_infoB m.info).run hinfo).1 hfit
        simp only [runB, this, if_true, Option.some.injEq] at hrun
        subst hrun
        exact hl _ _ _ hmk
      · have := ((appends_infoB m.info).run hinfo).2 hfit
        simp [runB, this] at hrun
    simp only [hc, hv] at h
    cases h0 : storeCell ib ir Builder.empty with
    | mk r0 ok0 =>
      cases ok0 <;> simp only [h0] at h
      · simp at h
      · have l0 := storeCell_bits h0
        simp only [Bool.not_true, Bool.false_eq_true, if_false] at h
        cases h1 : initB ops m.init m.body r0 with
        | none => simp [h1] at h
        | some r1 =>
          obtain ⟨r1, ok1⟩ := r1
          cases ok1 <;> simp only [h1] at h
          · simp at h
          · have l1 := initB_bits h1
            simp only [Bool.not_true, Bool.false_eq_true, if_false] at h
            cases h2 : bodyB ops m.body r1 with
            | none => simp [h2] at h
            | some r2 =>
              obtain ⟨r2, ok2⟩ := r2
              cases ok2 <;> simp only [h2] at h
              · simp at h
              · have l2 := bodyB_bits h2
                simp only [Builder.empty, List.length_nil] at l0
                split <;> simp_all <;> omega
end TonVerif.Proofs.Message
