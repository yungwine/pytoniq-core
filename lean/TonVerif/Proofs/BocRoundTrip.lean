/-
C03, the composition: what `Cell.to_boc` emits (Model/BocEmit.lean) IS an encoding of the parser-side spec
encoder `Spec.BocEncode.encodeWith` for the freedoms the library uses — generic magic b5ee9c72, minimal
size width, minimal offset width (computed from the DOUBLED length with cache bits), no stored hashes, cache flags 0,
one root at position 0 — of the listing `ord.map (scOf ord)` (one entry per distinct cell, references = positions).
That listing is `Valid` and denotes the tree unfoldings of the cells of the order, so C05's `encode_accepts` applies and
`Cell.from_boc` returns exactly `[(t, p.info)]`.

After the composition: the two models of `Boc.__init__` (`BocForms.inputBytes`, `BocParse.bocInit`) give the same bytes on the
raw, hex and base64 forms of an emitted bag; a Boolean test for `NoCollision` on concrete DAGs; and the facts about the emitted
magic and the root's limits that Properties/C03.lean uses.
-/
import TonVerif.Proofs.BocSemFinal
import TonVerif.Proofs.BocParse
import TonVerif.Proofs.BocForms

namespace TonVerif.Proofs.BocRoundTrip
open TonVerif TonVerif.Model TonVerif.Proofs.BocOrder TonVerif.Proofs.BocEmit TonVerif.Proofs.BocSem
open TonVerif.Spec.BocEncode (SCell Freedoms Magic encodeCell records endOffsets indexEntries encodeBody encodeWith crcBytes
  Valid CellsOK denote denoteFrom)

/-! ### vocabulary bridge -/

mutual
  /-- the tree a constructed cell object unfolds to -/
  def treeOf : PCell → Cell
    | .mk i refs => .mk i.kind i.bits (treesOf refs)
  def treesOf : List PCell → List Cell
    | [] => []
    | c :: cs => treeOf c :: treesOf cs
end

theorem treesOf_eq_map : ∀ (cs : List PCell), treesOf cs = cs.map treeOf
  | [] => by simp [treesOf]
  | c :: cs => by simp [treesOf, treesOf_eq_map cs]

theorem treeOf_eq (c : PCell) : treeOf c = .mk c.info.kind c.info.bits (c.refs.map treeOf) := by
  cases c with
  | mk i refs => rw [treeOf, treesOf_eq_map]; rfl

/-- the listing entry (parser-side spec vocabulary) of a cell of the order: content, references as positions, level mask.
The stored-hash block is never written by `to_boc` (`with_hashes = 0`); `Valid` only asks it to have the advertised shape. -/
def scOf (ord : List PCell) (c : PCell) : SCell :=
  { kind := c.info.kind, bits := c.info.bits, refs := c.refs.map (fun r => posOf ord r.key), mask := c.info.mask,
    hashes := List.replicate (Spec.popcount c.info.mask + 1) (List.replicate 32 0),
    depths := List.replicate (Spec.popcount c.info.mask + 1) 0 }

/-- the freedoms `to_boc` uses for option set `o` on the records `as` -/
def frOf (o : Opts) (as : List ARec) : Freedoms :=
  { magic := .generic, size := sizeW as, offBytes := offOf o as, hasIdx := o.hasIdx, hasCrc := o.hasCrc,
    hasCacheBits := o.hasCache, storeHashes := [], cacheFlags := [] }

/-- the emitter-side record of a cell of the order -/
def recOf (ord : List PCell) (c : PCell) : ARec := cellARec c (c.refs.map (fun r => posOf ord r.key))

theorem orderRecs_eq (ord : List PCell) : orderRecs ord = ord.map (recOf ord) := rfl

/-! ### records -/

theorem d2_eq (len : Nat) : Spec.d2 len = cellD2 len := by
  unfold Spec.d2 cellD2
  split <;> rename_i h <;> simp at h <;> omega

theorem encodeCell_eq (size : Nat) (ord : List PCell) (c : PCell) (ok : CellOK c) :
    encodeCell size (scOf ord c) false = (recOf ord c).bytes size := by
  simp only [encodeCell, scOf, recOf, cellARec, ARec.bytes, cellD1, List.length_map, ← ok.nrefs, d2_eq,
    PCell.data, CellSpec.dataBytes_eq, List.flatMap_def]
  by_cases h : c.info.kind = -1 <;> simp [h, kOrdinary]

theorem records_eq (size : Nat) (ord : List PCell) : ∀ (l : List PCell) (base : Nat), (∀ c ∈ l, CellOK c) →
    records size [] (l.map (scOf ord)) base = (l.map (recOf ord)).map (ARec.bytes size)
  | [], _, _ => by simp [records]
  | c :: l, base, h => by
    have ih := records_eq size ord l (base + 1) (fun x hx => h x (by simp [hx]))
    simp only [List.map_cons, records, ih, List.getD_eq_getElem?_getD, List.getElem?_nil, Option.getD_none,
      encodeCell_eq size ord c (h c (by simp))]

theorem endOffsets_eq : ∀ (rs : List Bytes) (acc : Nat), endOffsets rs acc = cumulativeFrom acc (rs.map List.length)
  | [], _ => by simp [endOffsets, cumulativeFrom]
  | r :: rs, acc => by simp [endOffsets, cumulativeFrom, endOffsets_eq rs]

theorem indexEntries_eq (cache : Bool) : ∀ (es : List Nat) (k : Nat),
    indexEntries cache [] es k = es.map (fun e => if cache = true then e * 2 else e)
  | [], _ => by simp [indexEntries]
  | e :: es, k => by
    simp only [indexEntries, indexEntries_eq cache es (k + 1), List.map_cons, List.getD_eq_getElem?_getD,
      List.getElem?_nil, Option.getD_none]
    cases cache <;> simp <;> omega

/-! ### the whole serialisation -/

/-- everything before the CRC: the emitter's closed form is the spec encoder's body -/
theorem body_eq (o : Opts) (ord : List PCell) (ok : ∀ c ∈ ord, CellOK c) :
    encodeBody (frOf o (orderRecs ord)) (ord.map (scOf ord)) [0] = bodyOf o (orderRecs ord) := by
  have hrec := records_eq (sizeW (orderRecs ord)) ord ord 0 ok
  unfold encodeBody bodyOf
  simp only [frOf, Freedoms.withCache, hrec, Magic.bytes, endOffsets_eq, indexEntries_eq, List.length_map,
    List.length_cons, List.length_nil, List.flatMap_def]
  simp only [bocMagic, payloadOf, indexOf, cumulative, lensOf, orderRecs_eq, List.map_map, Function.comp_def,
    List.append_assoc, List.cons_append, List.nil_append, Nat.zero_add, flagByte_eq, List.map_cons, List.map_nil,
    List.flatten_cons, List.flatten_nil, List.append_nil, List.length_map]
  rfl

theorem crc_eq (body : Bytes) : crcBytes body = Spec.Boc.crc32cLE body := rfl

/-- **the emitter's output is an instance of the parser-side spec encoder** -/
theorem emitted_eq_encodeWith (o : Opts) (ord : List PCell) (ok : ∀ c ∈ ord, CellOK c) :
    bodyOf o (orderRecs ord) ++ tailOf o (orderRecs ord) =
      encodeWith (frOf o (orderRecs ord)) (ord.map (scOf ord)) [0] := by
  unfold encodeWith tailOf
  simp only [body_eq o ord ok, crc_eq]
  simp only [frOf, Spec.BocEncode.Freedoms.withCrc]
  by_cases hc : o.hasCrc = true <;> simp [hc]

/-! ### the listing is `Valid` for these freedoms -/

/-- every listing entry is well formed in the sense of the parser-side spec -/
theorem cellsOK_order (H : Bytes → Bytes) (ord : List PCell) (h : OrdOK H ord) : CellsOK (ord.map (scOf ord)) := by
  intro pos hpos
  have hpos' : pos < ord.length := by simpa using hpos
  have hc : ord[pos]? = some ord[pos] := List.getElem?_eq_getElem hpos'
  have hmem : ord[pos] ∈ ord := List.getElem_mem hpos'
  have okc := h.ok _ hmem
  have semc := h.sem _ hmem
  rw [List.getElem_map]
  generalize ord[pos] = c at hc hmem okc semc
  refine ⟨okc.bits_le, by simpa [scOf] using okc.refs_le, ?_, ?_, ?_, by simp [scOf], ?_, by simp [scOf]⟩
  · intro r hr
    simp only [scOf, List.mem_map] at hr
    obtain ⟨q, hq, rfl⟩ := hr
    obtain ⟨j, hij, hj⟩ := h.refsAt pos c hc q hq
    have hjn : j < ord.length := by
      apply Nat.lt_of_not_le; intro hle
      rw [List.getElem?_eq_none hle] at hj; cases hj
    rw [posOf_at ord h.nodup j q hj]
    simp only [List.length_map]
    exact ⟨hij, hjn⟩
  · intro hk
    have hk' : c.info.kind ≠ kOrdinary := hk
    obtain ⟨h8, ht⟩ := semc.typed hk'
    have hcases := kind_cases H c semc
    simp only [scOf] at hk ⊢
    refine ⟨h8, ?_, ?_, ?_⟩ <;> omega
  · have := okc.mask_le
    simp only [scOf]; omega
  · intro x hx
    simp only [scOf, List.mem_replicate] at hx
    rw [hx.2]
    exact ⟨by simp, by intro b hb; simp only [List.mem_replicate] at hb; omega⟩

/-- minimal widths are admissible: the size width holds the count, the offset width holds the (doubled, +1) total -/
theorem valid_order (H : Bytes → Bytes) (o : Opts) (hv : o.valid = true) (ord : List PCell) (h : OrdOK H ord)
    (h1 : 1 ≤ ord.length) (hn : ord.length < 2 ^ 32)
    (hP : (payloadOf (sizeW (orderRecs ord)) (orderRecs ord)).length * 2 < 2 ^ 64) :
    Valid (frOf o (orderRecs ord)) (ord.map (scOf ord)) [0] := by
  have hlen : (orderRecs ord).length = ord.length := by simp [orderRecs]
  obtain ⟨hsz1, hsz4, hnlt, -, hoff8, -⟩ := widths_ok o (orderRecs ord) (by omega) (by omega) hP
  have hrec := records_eq (sizeW (orderRecs ord)) ord ord 0 h.ok
  have htot : (records (sizeW (orderRecs ord)) [] (ord.map (scOf ord)) 0).flatten =
      payloadOf (sizeW (orderRecs ord)) (orderRecs ord) := by
    rw [hrec]; rfl
  have h2 := payload_ge (sizeW (orderRecs ord)) (orderRecs ord) (by omega)
  have hci : o.hasCache = true → o.hasIdx = true := by
    simp [Opts.valid] at hv
    intro hc; cases hi : o.hasIdx <;> simp_all
  refine ⟨cellsOK_order H ord h, hsz1, hsz4, by simpa [frOf, hlen] using hnlt, hoff8, ?_, ?_⟩
  · simp only [frOf, Freedoms.withCache, Freedoms.withIdx, htot]
    generalize hT : (payloadOf (sizeW (orderRecs ord)) (orderRecs ord)).length = T at h2
    unfold offOf
    rw [hT]
    by_cases hc : o.hasCache = true
    · have hi := hci hc
      simp only [hc, hi, and_self, if_true]
      have hlt := lt_pow_byteWidth (T * 2)
      have hpos : 1 ≤ byteWidth (T * 2) := byteWidth_pos _ (by omega)
      obtain ⟨k, hk⟩ : ∃ k, byteWidth (T * 2) = k + 1 := ⟨byteWidth (T * 2) - 1, by omega⟩
      rw [hk, Nat.pow_succ] at hlt ⊢
      omega
    · simp only [hc, false_and, if_false, Bool.false_eq_true]
      exact lt_pow_byteWidth T
  · simp only [frOf, List.length_map]
    refine ⟨by simp, by intro r hr; simp at hr; omega, ?_, hci⟩
    exact Nat.one_lt_pow (by omega) (by decide)

/-! ### the listing denotes the unfoldings of the cells of the order -/

theorem denote_suffix (ord : List PCell) (nd : (ord.map PCell.key).Nodup)
    (refsAt : ∀ (i : Nat) (c : PCell), ord[i]? = some c → ∀ r ∈ c.refs, ∃ j, i < j ∧ ord[j]? = some r) :
    ∀ (suf pre : List PCell), ord = pre ++ suf → denoteFrom (suf.map (scOf ord)) pre.length = some (suf.map treeOf)
  | [], _, _ => by simp [denoteFrom]
  | c :: suf, pre, he => by
    have ih := denote_suffix ord nd refsAt suf (pre ++ [c]) (by rw [he]; simp)
    have hc : ord[pre.length]? = some c := by rw [he]; simp
    have hkids : (c.refs.map (fun r => posOf ord r.key)).mapM
        (fun r => if r ≤ pre.length then none else (suf.map treeOf)[r - pre.length - 1]?) = some (c.refs.map treeOf) := by
      apply BocParse.mapM_map_eq
      intro r hr
      obtain ⟨j, hij, hj⟩ := refsAt _ c hc r hr
      rw [posOf_at ord nd j r hj]
      have hnle : ¬ j ≤ pre.length := by omega
      simp only [hnle, if_false]
      rw [he, List.getElem?_append_right (by omega)] at hj
      obtain ⟨d, hd⟩ : ∃ d, j - pre.length = d + 1 := ⟨j - pre.length - 1, by omega⟩
      rw [hd, List.getElem?_cons_succ] at hj
      rw [show j - pre.length - 1 = d by omega, List.getElem?_map, hj]
      rfl
    simp only [List.length_append, List.length_cons, List.length_nil, Nat.zero_add] at ih
    simp only [List.map_cons, denoteFrom, ih, Option.bind_some]
    rw [show (scOf ord c).refs = c.refs.map (fun r => posOf ord r.key) from rfl, hkids]
    simp [scOf, treeOf_eq c]

theorem denote_order (H : Bytes → Bytes) (ord : List PCell) (h : OrdOK H ord) :
    denote (ord.map (scOf ord)) = some (ord.map treeOf) :=
  denote_suffix ord h.nodup h.refsAt ord [] rfl

/-! ### `Cell.build` and the unfolding -/

mutual
  /-- a built object unfolds to the tree it was built from; it and every cell object below it cache exactly the
  constructor's info of their unfoldings -/
  theorem build_tree (H : Bytes → Bytes) : ∀ (t : Cell) (p : PCell), Cell.build H t = some p →
      treeOf p = t ∧ Cell.info H t = some p.info ∧ ∀ c ∈ subcells p, Cell.info H (treeOf c) = some c.info
    | .mk kind bits refs, p, hb => by
      obtain ⟨rs, i, hrs, hi, rfl⟩ := build_some hb
      obtain ⟨h1, h2, h3, _, _⟩ := construct_limits H kind bits _ i hi
      obtain ⟨a1, a2, a3⟩ := builds_tree H refs rs hrs
      have ht : treeOf (.mk i rs) = .mk kind bits refs := by rw [treeOf, h2, h3, a1]
      have hinfo : Cell.info H (.mk kind bits refs) = some i := by
        rw [Cell.info]; simp [a2, hi]
      refine ⟨ht, hinfo, ?_⟩
      intro c hc
      rw [subcells] at hc
      rcases List.mem_cons.1 hc with rfl | hc
      · rw [ht]; exact hinfo
      · exact a3 c hc
  theorem builds_tree (H : Bytes → Bytes) : ∀ (ts : List Cell) (ps : List PCell), Cell.builds H ts = some ps →
      treesOf ps = ts ∧ Cell.infos H ts = some (ps.map PCell.info) ∧
      ∀ c ∈ subcellsList ps, Cell.info H (treeOf c) = some c.info
    | [], ps, hb => by
      rw [Cell.builds] at hb; cases hb
      refine ⟨by simp [treesOf], by simp [Cell.infos], ?_⟩
      intro c hc; simp [subcellsList] at hc
    | t :: ts, ps, hb => by
      obtain ⟨p, ps', hp, hps, rfl⟩ := builds_cons_some hb
      obtain ⟨a1, a2, a3⟩ := build_tree H t p hp
      obtain ⟨b1, b2, b3⟩ := builds_tree H ts ps' hps
      refine ⟨by rw [treesOf, a1, b1], by simp [Cell.infos, a2, b2], ?_⟩
      intro c hc
      rw [subcellsList] at hc
      rcases List.mem_append.1 hc with hc | hc
      · exact a3 c hc
      · exact b3 c hc
end

/-! ### composition -/

/-- an emitted serialisation is `b5ee9c72 ++ rest` with every byte < 256 -/
theorem emitted_magic (o : Opts) (as : List ARec) (h1 : 1 ≤ as.length) (hn : as.length < 2 ^ 32)
    (hP : (payloadOf (sizeW as) as).length * 2 < 2 ^ 64) (ok : ∀ a ∈ as, a.OK as.length) :
    ∃ rest, Bytes.WF rest ∧ bodyOf o as ++ tailOf o as = [0xb5, 0xee, 0x9c, 0x72] ++ rest :=
  ⟨_, emitted_wf o as h1 hn hP ok, by simp [bodyOf, tailOf, bocMagic, List.append_assoc]⟩

theorem order_magic (root : PCell) (ord : List PCell) (o : Opts) (ok : ∀ c ∈ subcells root, CellOK c)
    (vo : ValidOrder root ord) (hn : ord.length < 2 ^ 32)
    (hP : (payloadOf (sizeW (orderRecs ord)) (orderRecs ord)).length * 2 < 2 ^ 64) :
    ∃ rest, Bytes.WF rest ∧
      bodyOf o (orderRecs ord) ++ tailOf o (orderRecs ord) = [0xb5, 0xee, 0x9c, 0x72] ++ rest := by
  obtain ⟨_, hok, _⟩ := flatten_order root ord vo (fun c hc => ok c (vo.sound c hc))
  exact emitted_magic o (orderRecs ord) (orderRecs_pos vo) (by rw [orderRecs_length]; exact hn) hP hok

theorem anyOrder_emits (root : PCell) (ord : List PCell) (o : Opts) (hv : o.valid = true)
    (ok : ∀ c ∈ subcells root, CellOK c) (vo : ValidOrder root ord)
    (hn : ord.length < 2 ^ 32) (hP : (payloadOf (sizeW (orderRecs ord)) (orderRecs ord)).length * 2 < 2 ^ 64) :
    (flattenCells (indexMap ord) ord).bind (emit · o) = some (bodyOf o (orderRecs ord) ++ tailOf o (orderRecs ord)) ∧
    ∃ rest, Bytes.WF rest ∧ bodyOf o (orderRecs ord) ++ tailOf o (orderRecs ord) = [0xb5, 0xee, 0x9c, 0x72] ++ rest := by
  have okord : ∀ c ∈ ord, CellOK c := fun c hc => ok c (vo.sound c hc)
  obtain ⟨hfl, hok, _⟩ := flatten_order root ord vo okord
  have hlen := orderRecs_length ord
  have h1 := orderRecs_pos vo
  have he := emit_eq o (orderRecs ord) hv h1 (by rw [hlen]; exact hn) hP hok
  exact ⟨by rw [hfl, Option.bind_some, he]; rfl, order_magic root ord o ok vo hn hP⟩

/-- `Cell.to_boc` (order + index lookups + layout) returns exactly the spec encoder's bytes for the library's freedoms -/
theorem toBoc_eq_encodeWith (root : PCell) (fuel : Nat) (ord : List PCell) (o : Opts) (hv : o.valid = true)
    (nc : NoCollision root) (ok : ∀ c ∈ subcells root, CellOK c) (h : root.order fuel = some ord)
    (hn : ord.length < 2 ^ 32) (hP : (payloadOf (sizeW (orderRecs ord)) (orderRecs ord)).length * 2 < 2 ^ 64) :
    root.toBoc fuel o = some (encodeWith (frOf o (orderRecs ord)) (ord.map (scOf ord)) [0]) ∧
    root.toBoc fuel o = some (bodyOf o (orderRecs ord) ++ tailOf o (orderRecs ord)) := by
  have vo := order_valid root fuel ord nc h
  have hb : root.toBoc fuel o = some (bodyOf o (orderRecs ord) ++ tailOf o (orderRecs ord)) := by
    simpa [PCell.toBoc, h] using (anyOrder_emits root ord o hv ok vo hn hP).1
  exact ⟨by rw [hb, emitted_eq_encodeWith o ord (fun c hc => ok c (vo.sound c hc))], hb⟩

/-- the parser half of the round trip, for ANY valid order of the cells: the parser model maps the layout of the order's
records back to exactly one root, the tree with the cached info of the original object -/
theorem fromBoc_order (H : Bytes → Bytes) (t : Cell) (wf : CellSpec.TreeWF H t) (ty : Typed t) (p : PCell)
    (hb : Cell.build H t = some p) (nc : NoCollision p) (ord : List PCell) (vo : ValidOrder p ord)
    (o : Opts) (hv : o.valid = true) (hn : ord.length < 2 ^ 32)
    (hP : (payloadOf (sizeW (orderRecs ord)) (orderRecs ord)).length * 2 < 2 ^ 64) :
    BocParse.fromBoc H (bodyOf o (orderRecs ord) ++ tailOf o (orderRecs ord)) = some [(t, p.info)] := by
  have okp := build_ok H t p (shape_of H t wf ty) hb
  obtain ⟨sem, _⟩ := sem_of_tree H t p wf ty hb
  have oo := ordOK_of_valid H p ord vo nc okp sem
  obtain ⟨rest, hord⟩ := vo.eq_cons
  have h1 : 1 ≤ ord.length := by rw [hord]; simp
  obtain ⟨t1, t2, t3⟩ := build_tree H t p hb
  have hcon : ∀ t' ∈ ord.map treeOf, (Cell.info H t').isSome := by
    intro t' ht'
    obtain ⟨c, hc, rfl⟩ := List.mem_map.1 ht'
    rw [t3 c (vo.sound c hc)]; rfl
  obtain ⟨out, hout, hroots, hinfo⟩ := Proofs.BocParse.encode_accepts H _ _ [0] (valid_order H o hv ord oo h1 hn hP)
    _ (denote_order H ord oo) hcon
  rw [emitted_eq_encodeWith o ord oo.ok, hout]
  have h0 : (ord.map treeOf)[0]? = some t := by rw [hord]; simp [t1]
  simp only [List.mapM_cons, List.mapM_nil, h0, Option.pure_def, Option.bind_eq_bind, Option.bind_some] at hroots
  have hmap : out.map (·.1) = [t] := (Option.some.inj hroots).symm
  match out, hmap, hinfo with
  | [(t', i')], hmap, hinfo =>
    simp only [List.map_cons, List.map_nil, List.cons.injEq, and_true] at hmap
    subst hmap
    have := hinfo (t', i') (by simp)
    simp only at this
    rw [t2] at this
    rw [Option.some.inj this]

/-- **THE ROUND TRIP on bytes**: for a spec-valid typed tree, the parser model applied to what the emitter model produces
returns exactly one root: the same tree, with the cached info of the original object. -/
theorem fromBoc_toBoc (H : Bytes → Bytes) (t : Cell) (wf : CellSpec.TreeWF H t) (ty : Typed t) (p : PCell)
    (hb : Cell.build H t = some p) (nc : NoCollision p) (fuel : Nat) (ord : List PCell) (h : p.order fuel = some ord)
    (o : Opts) (hv : o.valid = true) (hn : ord.length < 2 ^ 32)
    (hP : (payloadOf (sizeW (orderRecs ord)) (orderRecs ord)).length * 2 < 2 ^ 64) :
    p.toBoc fuel o = some (bodyOf o (orderRecs ord) ++ tailOf o (orderRecs ord)) ∧
    BocParse.fromBoc H (bodyOf o (orderRecs ord) ++ tailOf o (orderRecs ord)) = some [(t, p.info)] :=
  ⟨(toBoc_eq_encodeWith p fuel ord o hv nc (build_ok H t p (shape_of H t wf ty) hb) h hn hP).2,
    fromBoc_order H t wf ty p hb nc ord (order_valid p fuel ord nc h) o hv hn hP⟩

/-! ### the two models of `Boc.__init__` agree on the texts at hand

`Model/BocForms.lean` (`inputBytes`, CPython's non-strict `a2b_base64` state machine) is the reference model of the input
form detection; `Model/BocParse.lean` carries a second, simpler one (`bocInit`: same `fromhex`, canonical base64 only).
`bytes.fromhex` is the same function in both; on the base64 text `b64encode` produces the simpler decoder succeeds with
the same bytes. -/

theorem parse_fromHex_eq : ∀ (n : Nat) (s : List Char), s.length ≤ n → BocParse.fromHex s = BocForms.fromHex s
  | _, [], _ => rfl
  | 0, _ :: _, h => by simp at h
  | n + 1, c :: rest, h => by
    have hs : BocParse.isAsciiSpace c = BocForms.isAsciiSpace c := rfl
    have ih := parse_fromHex_eq n rest (by simpa using h)
    rw [BocParse.fromHex.eq_def]; simp only []
    unfold BocForms.fromHex at ih ⊢
    rw [BocForms.fromHexGo, hs]
    by_cases hsp : BocForms.isAsciiSpace c = true
    · simp only [hsp, if_true]; exact ih
    · simp only [hsp, if_false, Bool.false_eq_true]
      cases rest with
      | nil => cases hexVal? c <;> simp [BocForms.fromHexGo]
      | cons d rest' =>
        have ih' := parse_fromHex_eq n rest' (by simp at h ⊢; omega)
        unfold BocForms.fromHex at ih'
        cases hx : hexVal? c with
        | none => simp
        | some x =>
          simp only [Option.bind_eq_bind, Option.bind_some, BocForms.fromHexGo]
          cases hy : hexVal? d with
          | none => simp
          | some y =>
            simp only [Option.bind_some, ih']
            cases BocForms.fromHexGo rest' none <;> rfl

theorem parse_fromHex (s : List Char) : BocParse.fromHex s = BocForms.fromHex s := parse_fromHex_eq s.length s (Nat.le_refl _)

theorem parse_b64Val (c : Char) : BocParse.b64Val? c = BocForms.b64Val? c := by
  simp only [BocParse.b64Val?, BocForms.b64Val?, beq_iff_eq]

theorem parse_b64Val_b64Char (n : Nat) (h : n < 64) : BocParse.b64Val? (BocForms.b64Char n) = some n := by
  rw [parse_b64Val, TonVerif.Proofs.BocForms.b64Val_eq]
  exact (Proofs.Base64.decVal_encChar_std n h).1

theorem parse_fromB64_b64Enc : ∀ (b : Bytes), Bytes.WF b → BocParse.fromB64 (BocForms.b64Enc b) = some b
  | [], _ => rfl
  | [a], h => by
    have ha : a < 256 := h a (by simp)
    rw [BocForms.b64Enc, BocParse.fromB64]
    simp only [parse_b64Val_b64Char _ (show a / 4 < 64 by omega), parse_b64Val_b64Char _ (show a % 4 * 16 < 64 by omega),
      Option.bind_eq_bind, Option.bind_some, Option.pure_def, Option.some.injEq, List.cons.injEq, and_true]
    omega
  | [a, b], h => by
    have ha : a < 256 := h a (by simp)
    have hb : b < 256 := h b (by simp)
    have hne : BocForms.b64Char (b % 16 * 4) ≠ '=' := BocForms.b64Char_ne_pad _ (by omega)
    rw [BocForms.b64Enc, BocParse.fromB64.eq_3 _ _ _ (by intro h1; exact absurd h1 hne)]
    simp only [parse_b64Val_b64Char _ (show a / 4 < 64 by omega), parse_b64Val_b64Char _ (show a % 4 * 16 + b / 16 < 64 by omega),
      parse_b64Val_b64Char _ (show b % 16 * 4 < 64 by omega),
      Option.bind_eq_bind, Option.bind_some, Option.pure_def, Option.some.injEq, List.cons.injEq, and_true]
    omega
  | a :: b :: c :: rest, h => by
    have ha : a < 256 := h a (by simp)
    have hb : b < 256 := h b (by simp)
    have hc : c < 256 := h c (by simp)
    have ih := parse_fromB64_b64Enc rest (fun x hx => h x (by simp [hx]))
    have hne3 : BocForms.b64Char (b % 16 * 4 + c / 64) ≠ '=' := BocForms.b64Char_ne_pad _ (by omega)
    have hne4 : BocForms.b64Char (c % 64) ≠ '=' := BocForms.b64Char_ne_pad _ (by omega)
    rw [BocForms.b64Enc, BocParse.fromB64.eq_4 _ _ _ _ _ (by intro h1; exact absurd h1 hne3) (by intro h1; exact absurd h1 hne4)]
    simp only [parse_b64Val_b64Char _ (show a / 4 < 64 by omega), parse_b64Val_b64Char _ (show a % 4 * 16 + b / 16 < 64 by omega),
      parse_b64Val_b64Char _ (show b % 16 * 4 + c / 64 < 64 by omega), parse_b64Val_b64Char _ (show c % 64 < 64 by omega), ih,
      Option.bind_eq_bind, Option.bind_some, Option.pure_def, Option.some.injEq, List.cons.injEq, and_true]
    omega

/-! ### input forms of an emitted serialisation, both models of `Boc.__init__` -/

open TonVerif.Model.BocForms TonVerif.Proofs.BocForms in
/-- reference model (`inputBytes`): bytes, hex text and base64 text of a BoC all give the bytes -/
theorem forms_inputBytes (rest : Bytes) (h : Bytes.WF rest) (form : Sum Bytes (List Char))
    (hf : form ∈ [Sum.inl ([0xb5, 0xee, 0x9c, 0x72] ++ rest), Sum.inr (hexEnc ([0xb5, 0xee, 0x9c, 0x72] ++ rest)),
      Sum.inr (b64Enc ([0xb5, 0xee, 0x9c, 0x72] ++ rest))]) :
    inputBytes form = some ([0xb5, 0xee, 0x9c, 0x72] ++ rest) := by
  have hb : Bytes.WF ([0xb5, 0xee, 0x9c, 0x72] ++ rest) := TonVerif.Proofs.BocParse.wf_append (by decide) h
  simp only [List.mem_cons, List.not_mem_nil, or_false] at hf
  rcases hf with rfl | rfl | rfl
  · rfl
  · rw [inputBytes_hex _ hb]; rfl
  · rw [inputBytes_b64 rest h]; rfl

open TonVerif.Model.BocForms TonVerif.Proofs.BocForms in
theorem forms_bocInit (rest : Bytes) (h : Bytes.WF rest) (inp : BocParse.BocInput)
    (hf : inp = .bytes ([0xb5, 0xee, 0x9c, 0x72] ++ rest) ∨ inp = .str (String.ofList (hexEnc ([0xb5, 0xee, 0x9c, 0x72] ++ rest))) ∨
      inp = .str (String.ofList (b64Enc ([0xb5, 0xee, 0x9c, 0x72] ++ rest)))) :
    BocParse.bocInit inp = some ([0xb5, 0xee, 0x9c, 0x72] ++ rest) := by
  have hb : Bytes.WF ([0xb5, 0xee, 0x9c, 0x72] ++ rest) := TonVerif.Proofs.BocParse.wf_append (by decide) h
  rcases hf with rfl | rfl | rfl
  · rfl
  · simp only [BocParse.bocInit, String.toList_ofList, parse_fromHex, fromHex_hexEnc _ hb]
  · simp only [BocParse.bocInit, String.toList_ofList, parse_fromHex, fromHex_b64_magic rest, parse_fromB64_b64Enc _ hb]

/-! ### a decision procedure for `NoCollision` on concrete DAGs (non-vacuity examples with sharing) -/

mutual
  /-- structural equality test of cell objects -/
  def pbeq : PCell → PCell → Bool
    | .mk i rs, .mk j ss => decide (i = j) && pbeqL rs ss
  def pbeqL : List PCell → List PCell → Bool
    | [], [] => true
    | a :: as, b :: bs => pbeq a b && pbeqL as bs
    | [], _ :: _ => false
    | _ :: _, [] => false
end

mutual
  theorem pbeq_eq : ∀ (a b : PCell), pbeq a b = true → a = b
    | .mk i rs, .mk j ss, h => by
      rw [pbeq] at h
      simp only [Bool.and_eq_true, decide_eq_true_eq] at h
      rw [h.1, pbeqL_eq rs ss h.2]
  theorem pbeqL_eq : ∀ (as bs : List PCell), pbeqL as bs = true → as = bs
    | [], [], _ => rfl
    | a :: as, b :: bs, h => by
      rw [pbeqL] at h
      simp only [Bool.and_eq_true] at h
      rw [pbeq_eq a b h.1, pbeqL_eq as bs h.2]
    | [], _ :: _, h => by rw [pbeqL] at h; cases h
    | _ :: _, [], h => by rw [pbeqL] at h; cases h
end

/-- executable `NoCollision` -/
def noCollisionB (root : PCell) : Bool :=
  (subcells root).all fun a => (subcells root).all fun b => a.key != b.key || pbeq a b

theorem noCollision_of_B (root : PCell) (h : noCollisionB root = true) : NoCollision root := by
  intro a ha b hb hk
  simp only [noCollisionB, List.all_eq_true] at h
  have := h a ha b hb
  simp only [Bool.or_eq_true, bne_iff_ne, ne_eq] at this
  rcases this with h' | h'
  · exact absurd hk h'
  · exact pbeq_eq a b h'

/-! ### facts the property file needs about the emitted bytes and the root -/

theorem toBoc_magic (root : PCell) (fuel : Nat) (ord : List PCell) (o : Opts)
    (nc : NoCollision root) (ok : ∀ c ∈ subcells root, CellOK c) (h : root.order fuel = some ord)
    (hn : ord.length < 2 ^ 32) (hP : (payloadOf (sizeW (orderRecs ord)) (orderRecs ord)).length * 2 < 2 ^ 64) :
    ∃ rest, Bytes.WF rest ∧
      bodyOf o (orderRecs ord) ++ tailOf o (orderRecs ord) = [0xb5, 0xee, 0x9c, 0x72] ++ rest :=
  order_magic root ord o ok (order_valid root fuel ord nc h) hn hP

/-- the root of a spec-valid typed tree is within the builder's capacity -/
theorem root_limits (H : Bytes → Bytes) (kind : Int) (bits : Bits) (refs : List Cell)
    (wf : CellSpec.TreeWF H (.mk kind bits refs)) (ty : Typed (.mk kind bits refs)) : bits.length ≤ 1023 ∧ refs.length ≤ 4 := by
  obtain ⟨p, hb⟩ := tree_builds H _ wf
  have okp := build_ok H _ p (shape_of H _ wf ty) hb p (self_mem_subcells p)
  have ht := (build_tree H _ p hb).1
  rw [treeOf_eq] at ht
  injection ht with _ h2 h3
  rw [← h2, ← h3, List.length_map]
  exact ⟨okp.bits_le, okp.refs_le⟩

end TonVerif.Proofs.BocRoundTrip
