/-
C16 source tie, third part — per class of tlb/account.py / block.py / config.py: the regenerated reader refines the spec decoder of its
block.tlb type under the declared view (Spec/Tlb/PyViewBlk.lean).  Method: Proofs/SrcTlb.lean, Proofs/SrcTlbTx.lean, Proofs/SrcTlbBlk.lean.
-/
import TonVerif.Proofs.SrcTlbBlk
import TonVerif.Proofs.SrcTlbParsersTx
import TonVerif.Generated.TlbParsersBlk

namespace TonVerif.Tlb.Blk
open TonVerif TonVerif.Tlb

attribute [local congr] bind_congr_read optionBind_congr_read

/-! ### classes of the first generated file (Generated/TlbParsers.lean) that had no theorem -/

theorem refines_ConsensusConfig : Refines (Src.ConsensusConfig false) consensusConfig view_ConsensusConfig := by
  tlb_refine [consensusConfig, consensusConfigAlts, consensusTail, consensusNewHead, Src.ConsensusConfig, view_ConsensusConfig,
    consensusTailView]
  -- left: the parser's check `1 <= round_candidates`, which the range of the field gives
  all_goals simp only [vle_one_nat, *, decide_true, Option.bind_some, Bool.not_true, Bool.false_eq_true, ↓reduceIte]

theorem refines_BlkPrevInfo_bit (b : Bool) :
    Refines (fun s => Src.BlkPrevInfo false s (.int (if b = true then 1 else 0))) (blkPrevInfo (if b = true then 1 else 0)) view_BlkPrevInfo := by
  cases b
  · exact refines_BlkPrevInfo0
  · exact refines_BlkPrevInfo1

theorem nonUnit_globalVersion : NonUnit globalVersion := by unfold globalVersion; tlb_nonunit
theorem nonUnit_blkMasterInfo : NonUnit blkMasterInfo := by unfold blkMasterInfo; tlb_nonunit
theorem nonUnit_blkPrevInfo (m : Nat) : NonUnit (blkPrevInfo m) := by
  unfold blkPrevInfo
  intro s v s' hd
  simp only [typ_dec, ite_dec] at hd
  split at hd
  · obtain ⟨x, _, rfl⟩ := (named_dec _ _ _ _ _).1 hd; simp
  · obtain ⟨x, _, rfl⟩ := (named_dec _ _ _ _ _).1 hd; simp

/-- `BlockInfo` (parsed by `__init__`): 20 straight-line fields, of which three one-bit flags and `flags` are used later; then
    `flags . 0?GlobalVersion`, `not_master?^BlkMasterInfo`, `^(BlkPrevInfo after_merge)`, `vert_seqno_incr?^(BlkPrevInfo 0)`,
    each conditional field one joined `if` (`Reads.opt`, `Reads.cond`) -/
theorem refines_BlockInfo : Refines (Src.BlockInfo false) blockInfo view_BlockInfo := by
  refine .of_reads fun s => .typ <| .ifFalse rfl <| .ctagBytes (natToBits_length 32 _) fun s => .ifFalse rfl <| .recd ?_
  refine .cons (refines_uint 32 (by decide)) fun version s => ?_
  refine .consQ refines_bit uint1_bit fun _ ⟨not_master, h⟩ s => ?_; subst h
  refine .consQ refines_bit uint1_bit fun _ ⟨after_merge, h⟩ s => ?_; subst h
  refine .cons refines_bit fun before_split s => ?_
  refine .cons refines_bit fun after_split s => ?_
  refine .cons refines_bool fun want_split s => ?_
  refine .cons refines_bool fun want_merge s => ?_
  refine .cons refines_bool fun key_block s => ?_
  refine .consQ refines_bit uint1_bit fun _ ⟨vert_seqno_incr, h⟩ s => ?_; subst h
  refine .consQ (.uintRange 8 0 1 (by decide)) (uintRange_between 8 0 1) fun _ ⟨flags, h, _, hflags⟩ s => ?_; subst h
  refine .check (by simp [id, vle_nat_one, hflags]) ?_
  refine .cons (.uintRange 32 _ _ (by decide)) fun seq_no s => ?_
  refine .consQ (.uintRange 32 _ _ (by decide)) (uintRange_between 32 _ _) fun _ ⟨vert_seq_no, h, hvs, _⟩ s => ?_; subst h
  simp only [Env.nat, List.lookup, String.reduceBEq] at hvs
  refine .check (by cases vert_seqno_incr <;> simp [Rd.vle, Rd.toInt] at hvs ⊢ <;> omega) ?_
  refine .cons refines_ShardIdent fun shard s => ?_
  refine .cons (refines_uint 32 (by decide)) fun gen_utime s => ?_
  refine .cons (refines_uint 64 (by decide)) fun start_lt s => ?_
  refine .cons (refines_uint 64 (by decide)) fun end_lt s => ?_
  refine .cons (refines_uint 32 (by decide)) fun gen_validator_list_hash_short s => ?_
  refine .cons (refines_uint 32 (by decide)) fun gen_catchain_seqno s => ?_
  refine .cons (refines_uint 32 (by decide)) fun min_ref_mc_seqno s => ?_
  refine .cons (refines_uint 32 (by decide)) fun prev_key_block_seqno s => ?_
  refine .pureLet (lowBit_nat flags) ?_
  refine .field <| .opt ?hb1 refines_GlobalVersion nonUnit_globalVersion fun gen_software s => ?_
  case hb1 => simp only [Env.nat, List.lookup, String.reduceBEq, Int.toNat_natCast, beq_iff_eq]
  refine .field <| .cond ?hb2 (nonUnit_ref _ nonUnit_blkMasterInfo)
    (.ref fun b r s => .call refines_BlkMasterInfo fun v _ _ => .pure rfl) fun master_ref s => ?_
  case hb2 => simp only [Env.nat, List.lookup, String.reduceBEq, id]; cases not_master <;> decide
  refine .fieldAs ?hf <| .ref fun b r s => .call (refines_BlkPrevInfo_bit after_merge) fun prev_ref _ _ => ?_
  case hf => simp only [Env.nat, List.lookup, String.reduceBEq]; cases after_merge <;> rfl
  refine .field <| .cond ?hb3 (nonUnit_ref _ (nonUnit_blkPrevInfo 0))
    (.ref fun b r s => .call refines_BlkPrevInfo0 fun v _ _ => .pure rfl) fun prev_vert_ref s => ?_
  case hb3 => simp only [Env.nat, List.lookup, String.reduceBEq, id]; cases vert_seqno_incr <;> decide
  exact .nil <| .pure (by tlb_view [view_BlockInfo])

/-! ### classes of Generated/TlbParsersBlk.lean -/

theorem refines_DepthBalanceInfo : Refines (SrcBlk.DepthBalanceInfo false) depthBalanceInfo view_DepthBalanceInfo := by
  apply RefinesP.toRefines
  tx_refine [depthBalanceInfo, SrcBlk.DepthBalanceInfo, view_DepthBalanceInfo, Tx.refines_CurrencyCollection.keep]

theorem refines_ValueFlow : Refines (SrcBlk.ValueFlow false) valueFlow view_ValueFlow := by
  apply RefinesP.toRefines
  tx_refine [valueFlow, valueFlowAlts, valueFlowIn, valueFlowOut, SrcBlk.ValueFlow, view_ValueFlow, Tx.refines_CurrencyCollection.keep, ref_dec]

theorem refines_ShardDescr : Refines (SrcBlk.ShardDescr false) shardDescr view_ShardDescr := by
  apply RefinesP.toRefines
  tx_refine [shardDescr, shardDescrAlts, shardDescrHead, SrcBlk.ShardDescr, view_ShardDescr, shardDescrHeadView,
    Tx.refines_CurrencyCollection.keep, refines_FutureSplitMerge.keep]

theorem refines_AccountStorage : Refines (SrcBlk.AccountStorage false) accountStorage view_AccountStorage := by
  apply RefinesP.toRefines
  tx_refine [accountStorage, SrcBlk.AccountStorage, view_AccountStorage, Tx.refines_CurrencyCollection.keep, refines_AccountState.keep]

theorem refines_Account : RefinesP PV (SrcBlk.Account false) account view_Account := by
  tx_refine [account, accountAlts, SrcBlk.Account, view_Account, Tx.refines_MsgAddressInt.keepV, refines_StorageInfo.keep,
    refines_AccountStorage.keep]
  -- left: `view_Account` of `account_none`, a `match` on the constructor name
  rfl

theorem refines_ShardAccount : RefinesP PV (SrcBlk.ShardAccount false) shardAccount view_ShardAccount :=
  .of_reads fun s => .typ <| .recdV <|
    .consP refines_Account.toE.viaRef fun account s =>
    .cons (refines_bits 256) fun last_trans_hash s =>
    .cons (refines_uint 64 (by decide)) fun last_trans_lt s =>
    .nil <| .pure (by tlb_view [view_ShardAccount])

theorem refines_ValidatorSet : Refines (SrcBlk.ValidatorSet false) validatorSet view_ValidatorSet := by
  apply RefinesP.toRefines
  tx_refine [validatorSet, validatorSetAlts, SrcBlk.ValidatorSet, view_ValidatorSet, envNat_cons, uint_keepN,
    hashmapK refines_ValidatorDescr 16, dictK refines_ValidatorDescr 16]
  all_goals simp_all [vle_one_nat, vle_nat_isNat]

/-! ### augmented dictionaries (`load_hashmap_aug_e`) -/

theorem refines_ShardAccounts : RefinesP PV (SrcBlk.ShardAccounts false) shardAccounts view_ShardAccounts := by
  tx_refine [shardAccounts, SrcBlk.ShardAccounts, view_ShardAccounts,
    augKV (x := SrcBlk.ShardAccount false) (y := SrcBlk.DepthBalanceInfo false) refines_ShardAccount.toE refines_DepthBalanceInfo 256]

theorem refines_OldMcBlocksInfo : Refines (SrcBlk.OldMcBlocksInfo false) oldMcBlocksInfo view_OldMcBlocksInfo := by
  apply RefinesP.toRefines
  tx_refine [oldMcBlocksInfo, SrcBlk.OldMcBlocksInfo, view_OldMcBlocksInfo,
    augK (x := Src.KeyExtBlkRef false) (y := Src.KeyMaxLt false) refines_KeyExtBlkRef refines_KeyMaxLt 32]

theorem refines_BlockCreateStats : Refines (SrcBlk.BlockCreateStats false) blockCreateStats view_BlockCreateStats := by
  apply RefinesP.toRefines
  tx_refine [blockCreateStats, blockCreateStatsAlts, SrcBlk.BlockCreateStats, view_BlockCreateStats,
    dictK refines_CreatorStats 256,
    augK (x := Src.CreatorStats false) (y := Rd.loadUint 32) refines_CreatorStats (refines_uint 32 (by decide)) 256]

/-! ### masterchain state extra -/

theorem refines_ConfigParams : Refines (SrcBlk.ConfigParams false) configParams view_ConfigParams := by
  apply RefinesP.toRefines
  tx_refine [configParams, SrcBlk.ConfigParams, view_ConfigParams, ref_dec, hashmapSK refines_refSlice 32]

theorem nonUnit_extBlkRef : NonUnit extBlkRef := by unfold extBlkRef; tlb_nonunit
theorem nonUnit_blockCreateStats : NonUnit blockCreateStats := by unfold blockCreateStats; tlb_nonunit

theorem refines_McStateExtra : Refines (SrcBlk.McStateExtra false) mcStateExtra view_McStateExtra := by
  tlb_decompose [mcStateExtra, shardHashes, ref_recd_dec]
  simp (config := {decide := true}) only [uint_keep, boolC_keep, forall_const,
     envNat_cons, String.reduceBEq, Bool.false_eq_true, if_false, if_true, natOf_nat,
     shardHashesK (leaf := SrcBlk.ShardDescr) (refines_ShardDescr.toP PT).toE, refines_ConfigParams.keep, refines_ValidatorInfo.keep,
     refines_OldMcBlocksInfo.keep, optK refines_ExtBlkRef nonUnit_extBlkRef, Tx.refines_CurrencyCollection.keep,
     condK refines_BlockCreateStats nonUnit_blockCreateStats] at *
  simp [*, SrcBlk.McStateExtra, view_McStateExtra, view_ShardHashes, Val.get, List.lookup, Rd.truthy, Rd.obj, Rd.str, Rd.veq, Rd.bytesLit,
      loadBytes_cons, takeBits_zero, takeBits_succ, natOfBits, natToBits, vle_nat_one, lowBit_nat, bind_some_eta, loadRef_cons, special_mk,
      beginParse_mk]

/-! ### shard state -/

theorem nonUnit_mcStateExtra : NonUnit mcStateExtra := by unfold mcStateExtra; tlb_nonunit

theorem refines_ShardStateUnsplit : RefinesP PV (SrcBlk.ShardStateUnsplit false) shardStateUnsplit view_ShardStateUnsplit := by
  tx_refine [shardStateUnsplit, shardStateUnsplitBody, SrcBlk.ShardStateUnsplit, view_ShardStateUnsplit, refines_ShardIdent.keep,
    refKP (r := SrcBlk.ShardAccounts) refines_ShardAccounts.toE, Tx.refines_CurrencyCollection.keep, dictRawK libDescr 256,
    optK refines_BlkMasterInfo nonUnit_blkMasterInfo,
    optRefK (r := SrcBlk.McStateExtra) refines_McStateExtra nonUnit_mcStateExtra]

theorem refines_ShardState : RefinesP PV (SrcBlk.ShardState false) shardState view_ShardState := by
  rintro ⟨bits, refs⟩ v s'
  simp only [shardState, typ_dec, shardStateAlts, tagged_dec, decAlts_cons, decAlts_nil, tag, natToBits, Nat.reduceDiv, Nat.reduceMod,
    Nat.reduceBEq, Nat.reduceBNe, List.cons_append, List.nil_append, Frag.mk.injEq]
  rintro ⟨_, h⟩ hv
  rcases h with ⟨t, rs, ⟨rfl, rfl⟩, x, hx, rfl⟩ | ⟨_, ⟨t, rs, ⟨rfl, rfl⟩, x, hx, rfl⟩ | ⟨_, hf⟩⟩
  · have := refines_ShardStateUnsplit ⟨tag 32 0x9023afe2 ++ t, refs⟩ x s'
      ((ctag_dec (tag 32 0x9023afe2) shardStateUnsplitBody _ _ _).2 ⟨t, refs, rfl, hx⟩) (Tx.noVar_con _ _ hv)
    simp only [tag, natToBits, Nat.reduceDiv, Nat.reduceMod, Nat.reduceBEq, Nat.reduceBNe, List.cons_append, List.nil_append] at this
    simp [SrcBlk.ShardState, preloadBytes_cons, takeBits_succ, takeBits_zero, Rd.veq, Rd.bytesLit, natToBits, this, view_ShardState,
      Rd.obj, Rd.str]
  · simp only [recd_dec, fld, decFields_cons, decFields_nil] at hx
    obtain ⟨vs, ⟨a, s1, ha, vs', ⟨b, s2, hb, vs'', ⟨rfl, rfl⟩, rfl⟩, rfl⟩, rfl⟩ := hx
    have hv' : a.noVar = true ∧ b.noVar = true := by
      simpa [PV, Val.noVar, noVarFs, Bool.and_eq_true] using hv
    have h1 := (refines_ShardStateUnsplit.toE.viaRef (r := SrcBlk.ShardStateUnsplit)) _ _ _ ha hv'.1
    have h2 := (refines_ShardStateUnsplit.toE.viaRef (r := SrcBlk.ShardStateUnsplit)) _ _ _ hb hv'.2
    simp [SrcBlk.ShardState, preloadBytes_cons, loadBytes_cons, takeBits_succ, takeBits_zero, Rd.veq, Rd.bytesLit, natToBits, h1, h2,
      view_ShardState, Rd.obj, Rd.str, Val.get, List.lookup]
  · exact hf.elim

/-! ### masterchain block extra -/

theorem nonUnit_configParams : NonUnit configParams := by unfold configParams; tlb_nonunit

theorem refines_McBlockExtra : Refines (SrcBlk.McBlockExtra false) mcBlockExtra view_McBlockExtra := by
  tlb_decompose [mcBlockExtra, shardHashes, shardFeesK Tx.refines_CurrencyCollection, ref_recd_dec]
  simp (config := {decide := true}) only [forall_const,
     envNat_cons, String.reduceBEq, Bool.false_eq_true, if_false, if_true, bitInt_toNat, bit_eq_one,
     shardHashesK (leaf := SrcBlk.ShardDescr) (refines_ShardDescr.toP PT).toE, dictRawK cryptoSignaturePair 16,
     optK (r := Rd.loadRefV) (c := cellRef) (w := id) (fun s v s' hd => by
        obtain ⟨b, c, more, rfl, rfl, rfl⟩ := (cellRef_dec s v s').1 hd; rfl) (fun s v s' hd => by
        obtain ⟨b, c, more, rfl, rfl, rfl⟩ := (cellRef_dec s v s').1 hd; simp),
     condK refines_ConfigParams nonUnit_configParams] at *
  simp [*, SrcBlk.McBlockExtra, view_McBlockExtra, view_ShardHashes, Val.get, List.lookup, Rd.truthy, Rd.obj, Rd.str, Rd.veq, Rd.bytesLit,
      loadBytes_cons, takeBits_zero, takeBits_succ, natOfBits, natToBits, loadBit_cons, bind_some_eta, loadRef_cons, special_mk,
      beginParse_mk]
  simp [*, loadMaybeRef_eq_optional, viewMaybe_id]

/-! ### account blocks, block extra -/

theorem refines_AccountBlock : RefinesP PV (SrcBlk.AccountBlock false) accountBlock view_AccountBlock := by
  have htx : RefinesP PV (Rd.viaRef (SrcTx.Transaction 3)) (ref transaction) (Tx.view_Transaction 3) :=
    (Tx.refines_Transaction 3).toE.viaRef
  tx_refine [accountBlock, SrcBlk.AccountBlock, view_AccountBlock,
    augInlKV (x := Rd.viaRef (SrcTx.Transaction 3)) (y := SrcTx.CurrencyCollection false) htx Tx.refines_CurrencyCollection 64,
    refK (r := Src.HashUpdate) refines_HashUpdate]

theorem nonUnit_mcBlockExtra : NonUnit mcBlockExtra := by unfold mcBlockExtra; tlb_nonunit

theorem refines_BlockExtra : RefinesP PV (SrcBlk.BlockExtra false) blockExtra view_BlockExtra := by
  tx_refine [blockExtra, inMsgDescr, outMsgDescr, shardAccountBlocks, SrcBlk.BlockExtra, view_BlockExtra, ref_dec,
    augKV (x := SrcTx.InMsg 3 false) (y := SrcTx.ImportFees false) Tx.refines_InMsg.toE Tx.refines_ImportFees 256,
    augKV (x := SrcTx.OutMsg 3 false) (y := SrcTx.CurrencyCollection false) Tx.refines_OutMsg.toE Tx.refines_CurrencyCollection 256,
    augKV (x := SrcBlk.AccountBlock false) (y := SrcTx.CurrencyCollection false) refines_AccountBlock.toE Tx.refines_CurrencyCollection 256,
    optRefK (r := SrcBlk.McBlockExtra) refines_McBlockExtra nonUnit_mcBlockExtra]

/-- no `addr_var` inside, and the state update is an ordinary cell -/
abbrev PB : Val → Prop := fun v => v.noVar = true ∧ ordinaryStateUpdate v = true

theorem refines_Block : RefinesP PB (SrcBlk.Block false) block view_Block := by
  tx_refine [block, SrcBlk.Block, view_Block, refK (r := Src.BlockInfo) refines_BlockInfo, refK (r := SrcBlk.ValueFlow) refines_ValueFlow,
    refKP (r := SrcBlk.BlockExtra) refines_BlockExtra.toE, PB, ordinaryStateUpdate, Rd.merkleUpdateOrd]
  all_goals simp_all [Val.get, List.lookup, Cell.exotic]

end TonVerif.Tlb.Blk
