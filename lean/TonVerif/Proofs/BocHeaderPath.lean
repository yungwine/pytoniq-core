/-
What the hand model's header parser (`Model.BocParse.deserializeBocHeader`) decides.  `readFlags_cases` / `readFields_cases`
list every way its first two stages can end, with the facts about `data` that select that way: `src_header_eq_model`
(Proofs/SrcBocHeader.lean) walks the regenerated source against them, rejections included.  `header_iff` says when the whole
parser returns a given header: `Accepts data h` has one clause per read or check of the Python function, in terms of the
model's own `Fields.hdrEnd … expectedLen`.  Its forward half is what the C05 rejection theorems and the cost proofs
(Proofs/SrcHeaderWork.lean, SrcBocCnt.lean) read off a returned header; its backward half is how a laid-out byte string is
shown to be accepted (`header_of_layout`, Proofs/BocParse.lean).

Generation independent (nothing here mentions `Generated.*`).
-/
import TonVerif.Model.BocParse

namespace TonVerif.Proofs.BocHeaderPath
open TonVerif TonVerif.Model TonVerif.Model.BocParse

/-- first `if / elif / elif` of `deserialize_boc_header` took this branch and `data[4]` exists. -/
inductive FlagsAt (data : Bytes) : Flags → Prop
  | generic (fb : Nat) (hm : pySlice data 0 4 = magicGeneric) (h4 : data[4]? = some fb) :
      FlagsAt data { generic := true, hasIdx := fb.testBit 7, hasCrc := fb.testBit 6, hasCacheBits := fb.testBit 5,
                     flags := (if fb.testBit 4 then 16 else 0) * 2 + (if fb.testBit 3 then 8 else 0), sizeBytes := fb % 8 }
  | idx (s : Nat) (hm0 : ¬ pySlice data 0 4 = magicGeneric) (hm : pySlice data 0 4 = magicIdx) (h4 : data[4]? = some s) :
      FlagsAt data { generic := false, hasIdx := true, hasCrc := false, hasCacheBits := false, flags := 0, sizeBytes := s }
  | idxCrc (s : Nat) (hm0 : ¬ pySlice data 0 4 = magicGeneric) (hm1 : ¬ pySlice data 0 4 = magicIdx)
      (hm : pySlice data 0 4 = magicIdxCrc) (h4 : data[4]? = some s) :
      FlagsAt data { generic := false, hasIdx := true, hasCrc := true, hasCacheBits := false, flags := 0, sizeBytes := s }

/-- `readFields` returns these values (`readFields_eq_some`): `size_bytes > 0`, the pre-check passes. -/
structure Fixed (data : Bytes) (fl : Flags) (off cells roots absent tot : Nat) : Prop where
  hfl : readFlags data = some fl
  hpre : ¬ data.length < 6 + 3 * fl.sizeBytes
  hs : fl.sizeBytes ≠ 0
  h5 : data[5]? = some off
  hcells : natOfBE (pySlice data 6 (6 + fl.sizeBytes)) = cells
  hroots : natOfBE (pySlice data (6 + fl.sizeBytes) (6 + fl.sizeBytes + fl.sizeBytes)) = roots
  habsent : natOfBE (pySlice data (6 + 2 * fl.sizeBytes) (6 + 2 * fl.sizeBytes + fl.sizeBytes)) = absent
  htot : natOfBE (pySlice data (6 + 3 * fl.sizeBytes) (6 + 3 * fl.sizeBytes + off)) = tot

/-! ### the first two stages, every way they can end -/

/-- the model reads flag bits with `testBit`, the source and the encoders with `/ 2 ^ i % 2` -/
theorem testBit_div (x i : Nat) : x.testBit i = (x / 2 ^ i % 2 == 1) := by
  rw [Nat.testBit_eq_decide_div_mod_eq]; simp [BEq.beq]

theorem idx_ne_gen : ¬ magicIdx = magicGeneric := by decide
theorem crc_ne_gen : ¬ magicIdxCrc = magicGeneric := by decide
theorem crc_ne_idx : ¬ magicIdxCrc = magicIdx := by decide

/-- stage A: `readFlags`. -/
theorem readFlags_cases (data : Bytes) :
    (readFlags data = none ∧ (data.length < 4 ∨
        (¬ data.length < 4 ∧ ¬ pySlice data 0 4 = magicGeneric ∧ ¬ pySlice data 0 4 = magicIdx ∧ ¬ pySlice data 0 4 = magicIdxCrc) ∨
        (¬ data.length < 4 ∧ data[4]? = none))) ∨
    ∃ fl, readFlags data = some fl ∧ FlagsAt data fl := by
  unfold readFlags
  by_cases h : data.length < 4
  · exact Or.inl ⟨by simp [h], Or.inl h⟩
  · cases h4 : data[4]? with
    | none => exact Or.inl ⟨by simp [h], Or.inr (Or.inr ⟨h, rfl⟩)⟩
    | some fb =>
      by_cases hg : pySlice data 0 4 = magicGeneric
      · exact Or.inr ⟨_, by simp [h, hg], FlagsAt.generic fb hg h4⟩
      · by_cases hi : pySlice data 0 4 = magicIdx
        · exact Or.inr ⟨_, by simp [h, hi, idx_ne_gen], FlagsAt.idx fb hg hi h4⟩
        · by_cases hc : pySlice data 0 4 = magicIdxCrc
          · exact Or.inr ⟨_, by simp [h, hc, crc_ne_gen, crc_ne_idx], FlagsAt.idxCrc fb hg hi hc h4⟩
          · exact Or.inl ⟨by simp [h, hg, hi, hc], Or.inr (Or.inl ⟨h, hg, hi, hc⟩)⟩

theorem flagsAt_of_readFlags {data : Bytes} {fl : Flags} (h : readFlags data = some fl) : FlagsAt data fl := by
  rcases readFlags_cases data with ⟨h0, -⟩ | ⟨fl', h', hfl⟩
  · rw [h0] at h; cases h
  · rw [h'] at h; cases h; exact hfl

/-- stage B: `readFields`. -/
theorem readFields_cases (data : Bytes) (fl : Flags) (hf : readFlags data = some fl) :
    (readFields data = none ∧ (data.length < 6 + 3 * fl.sizeBytes ∨
        (¬ data.length < 6 + 3 * fl.sizeBytes ∧ ∃ off, data[5]? = some off ∧ fl.sizeBytes = 0))) ∨
    ∃ off cells roots absent tot, readFields data = some { fl := fl, off := off, cells := cells, roots := roots, absent := absent, tot := tot } ∧
      Fixed data fl off cells roots absent tot := by
  unfold readFields
  rw [hf]
  simp only [Option.bind_some]
  by_cases hpre : data.length < 6 + 3 * fl.sizeBytes
  · refine Or.inl ⟨?_, Or.inl hpre⟩
    have : data.length < 5 + (1 + 3 * fl.sizeBytes) := by omega
    rw [if_pos this]
  · have hpre' : ¬ data.length < 5 + (1 + 3 * fl.sizeBytes) := by omega
    have h5 : data[5]? = some (data[5]'(by omega)) := by simp
    by_cases hs : fl.sizeBytes = 0
    · exact Or.inl ⟨by rw [if_neg hpre', h5]; simp [hs], Or.inr ⟨hpre, _, h5, hs⟩⟩
    · refine Or.inr ⟨data[5]'(by omega), uintAt data 6 fl.sizeBytes, uintAt data (6 + fl.sizeBytes) fl.sizeBytes,
        uintAt data (6 + 2 * fl.sizeBytes) fl.sizeBytes, _, ?_, ⟨hf, hpre, hs, h5, rfl, rfl, rfl, rfl⟩⟩
      rw [if_neg hpre', h5]
      simp [hs]

theorem readFields_eq_some (data : Bytes) (fl : Flags) (off cells roots absent tot : Nat) :
    readFields data = some ⟨fl, off, cells, roots, absent, tot⟩ ↔ Fixed data fl off cells roots absent tot := by
  constructor
  · intro h
    cases hf : readFlags data with
    | none => simp [readFields, hf] at h
    | some fl' =>
      rcases readFields_cases data fl' hf with ⟨h0, -⟩ | ⟨_, _, _, _, _, hF, hx⟩
      · rw [h0] at h; cases h
      · rw [hF] at h; cases h; exact hx
  · rintro ⟨hfl, hpre, hs, h5, rfl, rfl, rfl, rfl⟩
    rcases readFields_cases data fl hfl with ⟨-, h | ⟨-, _, -, h⟩⟩ | ⟨_, _, _, _, _, hF, -, -, -, h5', rfl, rfl, rfl, rfl⟩
    · exact absurd h hpre
    · exact absurd h hs
    · cases h5.symm.trans h5'; exact hF

/-! ### the whole parser: when it returns `h` -/

/-- the fixed-position fields of a returned header -/
def _root_.TonVerif.Model.BocParse.Header.fields (h : Header) : Fields :=
  ⟨h.fl, h.offsetBytes, h.cellsNum, h.rootsNum, h.absentNum, h.totCellsSize⟩

/-- `deserialize_boc_header data` returns `h`. -/
structure Accepts (data : Bytes) (h : Header) : Prop where
  fields : readFields data = some h.fields
  len : data.length = h.fields.expectedLen
  legacy : h.fl.generic = false → h.rootsNum = 1
  rootList : h.rootList = if h.fl.generic then uintsAt data h.fields.hdrEnd h.fl.sizeBytes h.rootsNum else [0]
  off0 : h.fl.hasIdx = true → h.offsetBytes ≠ 0
  index : h.index = if h.fl.hasIdx then uintsAt data (h.fields.hdrEnd + h.fields.rootsLen) h.offsetBytes h.cellsNum else []
  cells : h.cellsData = pySlice data h.fields.cellsStart (h.fields.cellsStart + h.totCellsSize)
  crc : h.fl.hasCrc = true → Model.crc32c (data.take (data.length - 4)) = some (data.drop (data.length - 4))

/-- a stage `if bad then none else …` that passed -/
theorem guard_opt {α : Type} {c : Prop} [Decidable c] {o : Option α} {x : α} (h : (if c then none else o) = some x) :
    ¬ c ∧ o = some x := by
  by_cases hc : c
  · rw [if_pos hc] at h; cases h
  · rw [if_neg hc] at h; exact ⟨hc, h⟩

theorem guard_some {α : Type} {c : Prop} [Decidable c] {v x : α} (h : (if c then none else some v) = some x) :
    ¬ c ∧ v = x :=
  ⟨(guard_opt h).1, Option.some.inj (guard_opt h).2⟩

theorem header_iff (data : Bytes) (h : Header) : deserializeBocHeader data = some h ↔ Accepts data h := by
  unfold deserializeBocHeader
  constructor
  · intro hh
    obtain ⟨⟨fl, off, cells, roots, absent, tot⟩, hf, hh⟩ := Option.bind_eq_some_iff.1 hh
    -- `dsimp`, not `simp`: the `Decidable` instances of the `if`s must be unfolded with their propositions
    dsimp only [Fields.hdrEnd, Fields.rootsLen, Fields.indexLen] at hh
    obtain ⟨rl, hrl, hh⟩ := Option.bind_eq_some_iff.1 hh
    obtain ⟨ix, hix, hh⟩ := Option.bind_eq_some_iff.1 hh
    obtain ⟨-, hh⟩ := guard_opt hh
    obtain ⟨i, hi, hh⟩ := Option.bind_eq_some_iff.1 hh
    obtain ⟨hlen, rfl⟩ := guard_some hh
    have hlen : data.length = i := by simpa using hlen
    -- one fact per optional part
    have s1 : rl = (if fl.generic = true then uintsAt data (6 + 3 * fl.sizeBytes + off) fl.sizeBytes roots else [0]) ∧
        (fl.generic = false → roots = 1) := by
      by_cases hg : fl.generic = true
      · rw [if_pos hg] at hrl; rw [if_pos hg]; exact ⟨(guard_some hrl).2.symm, by simp [hg]⟩
      · rw [if_neg hg] at hrl; rw [if_neg hg]; exact ⟨(guard_some hrl).2.symm, fun _ => by simpa using (guard_some hrl).1⟩
    have s2 : ix = (if fl.hasIdx = true then uintsAt data (6 + 3 * fl.sizeBytes + off +
          if fl.generic = true then roots * fl.sizeBytes else 0) off cells else []) ∧ (fl.hasIdx = true → off ≠ 0) := by
      by_cases hx : fl.hasIdx = true
      · rw [if_pos hx] at hix; rw [if_pos hx]
        exact ⟨(guard_some (guard_opt hix).2).2.symm, fun _ => (guard_some (guard_opt hix).2).1⟩
      · rw [if_neg hx] at hix; rw [if_neg hx]; exact ⟨(Option.some.inj hix).symm, fun h => absurd h hx⟩
    have s3 : i = ((6 + 3 * fl.sizeBytes + off + if fl.generic = true then roots * fl.sizeBytes else 0) +
          (if fl.hasIdx = true then cells * off else 0)) + tot + (if fl.hasCrc = true then 4 else 0) ∧
        (fl.hasCrc = true → Model.crc32c (data.take (i - 4)) = some (pySlice data (i - 4) i)) := by
      by_cases hc : fl.hasCrc = true
      · rw [if_pos hc] at hi; rw [if_pos hc]
        obtain ⟨-, hi⟩ := guard_opt hi
        obtain ⟨hcrc, rfl⟩ := guard_some hi
        exact ⟨rfl, fun _ => by simpa using hcrc⟩
      · rw [if_neg hc] at hi; rw [if_neg hc]; exact ⟨(Option.some.inj hi).symm, fun h => absurd h hc⟩
    refine ⟨hf, hlen.trans s3.1, s1.2, s1.1, s2.2, s2.1, rfl, fun hc => ?_⟩
    rw [hlen, s3.2 hc, pySlice, ← hlen, List.take_length]
  · rintro ⟨hf, hlen, hleg, hrl, ho0, hix, hcd, hcrc⟩
    obtain ⟨fl, off, cells, roots, absent, tot, rl, ix, cd⟩ := h
    dsimp only [Header.fields, Fields.expectedLen, Fields.cellsStart, Fields.hdrEnd, Fields.rootsLen, Fields.indexLen,
      Fields.crcLen] at hf hlen hleg hrl ho0 hix hcd hcrc
    rw [hf, Option.bind_some]
    dsimp only [Fields.hdrEnd, Fields.rootsLen, Fields.indexLen]
    -- every length check follows from `hlen`; an optional part is opened only in its own stage
    refine Option.bind_eq_some_iff.2 ⟨rl, ?_, Option.bind_eq_some_iff.2 ⟨ix, ?_, ?_⟩⟩
    · rw [hrl]
      by_cases hg : fl.generic = true
      · rw [if_pos hg] at hlen
        rw [if_pos hg, if_pos hg, if_neg (by omega)]
      · rw [if_neg hg, if_neg hg, if_neg (by simpa using hleg (by simpa using hg))]
    · rw [hix]
      by_cases hi : fl.hasIdx = true
      · rw [if_pos hi] at hlen
        rw [if_pos hi, if_pos hi, if_neg (by rw [Nat.mul_comm off cells]; omega), if_neg (ho0 hi)]
      · rw [if_neg hi, if_neg hi]
    · rw [if_neg (by omega), hcd]
      refine Option.bind_eq_some_iff.2 ⟨data.length, ?_, by simp⟩
      by_cases hc : fl.hasCrc = true
      · rw [if_pos hc] at hlen
        rw [if_pos hc, if_neg (by omega)]
        have e : ((6 + 3 * fl.sizeBytes + off + if fl.generic = true then roots * fl.sizeBytes else 0) +
            if fl.hasIdx = true then cells * off else 0) + tot = data.length - 4 := by omega
        rw [e, hcrc hc, show data.length - 4 + 4 = data.length by omega, pySlice, List.take_length]
        simp
      · rw [if_neg hc] at hlen
        rw [if_neg hc]; congr 1; omega

end TonVerif.Proofs.BocHeaderPath
