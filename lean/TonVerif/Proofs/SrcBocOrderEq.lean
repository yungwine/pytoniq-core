/-
The traversal of `Cell.order` regenerated from the source (Generated/BocEmitSrc.lean) equals the hand model `PCell.order`
(Model/BocEmit.lean) — same visiting order of the references, same iteration budget — and hence `Cell.to_boc` regenerated equals
`PCell.toBoc`: `src_order_eq`, `src_toBoc_eq`.  This is the MODEL-EQUALITY tie of the traversal; it breaks when the source visits
the references in another order (also another VALID one).  The property-level statements about the regenerated `Cell.order`
that do not depend on the visiting order are in Proofs/SrcOrderAny.lean (`src_order_valid_any`, `src_order_linear`).
-/
import TonVerif.Proofs.SrcBocEmit
import TonVerif.Proofs.SrcOrderAny

namespace TonVerif.Proofs.SrcBocEmit
open TonVerif TonVerif.Model TonVerif.Generated.BocEmitSrc TonVerif.Proofs.SrcDict TonVerif.Proofs.SrcOrderAny

/-! ### `Cell.order` -/

/-- the `while stack:` loop = the hand model's `orderLoop` (same iteration budget): the Python list `stack` is the model's stack
reversed, `post_order` the model's `post` reversed, `visited` the model's hash set -/
theorem while_orderLoop :
    ∀ (fuel : Nat) (po : List PCell) (stack : List (PCell × Bool)) (vis : Py.KSet PCell) (hs : Std.HashSet Nat),
      SetSim PCell.key vis hs →
      ((Py.while? (fun s : OState => decide (s.2.1 ≠ [])) (stepG PCell.refs) fuel (po, stack, vis)).map fun s => s.1.reverse) =
        orderLoop fuel stack.reverse hs po.reverse
  | 0, _, _, _, _, _ => by simp [Py.while?, orderLoop]
  | fuel + 1, po, stack, vis, hs, h => by
    rcases List.eq_nil_or_concat stack with rfl | ⟨init, ⟨c, e⟩, hst⟩
    · simp [Py.while?, orderLoop]
    · rw [List.concat_eq_append] at hst
      subst hst
      have hne : (init ++ [(c, e)] ≠ []) := by simp
      simp only [Py.while?, hne, decide_true, if_true, ne_eq, not_false_eq_true, stepG, listPop_append,
        Option.bind_some, List.reverse_append, List.reverse_cons, List.reverse_nil, List.nil_append, List.singleton_append]
      cases e with
      | true =>
        simp only [if_true, Option.bind_some, orderLoop]
        rw [while_orderLoop fuel _ _ _ _ h]; simp
      | false =>
        simp only [Bool.false_eq_true, if_false, setSim_has h, orderLoop]
        by_cases hc : hs.contains c.key = true
        · simp only [hc, if_true, Option.bind_some]
          rw [while_orderLoop fuel _ _ _ _ h]
        · simp only [hc, if_false, Option.bind_some, Bool.false_eq_true]
          rw [while_orderLoop fuel _ _ _ _ (setSim_add h c)]
          simp [List.map_reverse]

/-- the result dict of the re-insertion loop vs the model's `(keys latest first, key set)` -/
def DSim (d : Py.KDict PCell Unit) (cd : CDict) : Prop :=
  d.map (·.1) = cd.1.reverse ∧ ∀ k, cd.2.contains k = d.any (fun e => PCell.key e.1 == k)

theorem filter_fst (c : PCell) (d : Py.KDict PCell Unit) : (d.filter (fun e => PCell.key e.1 != PCell.key c)).map (·.1) =
    (d.map (·.1)).filter (fun x => PCell.key x != PCell.key c) := by
  induction d with
  | nil => rfl
  | cons e d ih => by_cases he : PCell.key e.1 = PCell.key c <;> simp [he, ih]

theorem dsim_step (d : Py.KDict PCell Unit) (cd : CDict) (c : PCell) (h : DSim d cd) :
    DSim (moveToEnd PCell.key d c ()) (dictMoveToEnd cd c) := by
  obtain ⟨h1, h2⟩ := h
  have hfilter := filter_fst c d
  unfold dictMoveToEnd moveToEnd
  by_cases hc : cd.2.contains c.key = true
  · rw [if_pos hc]
    refine ⟨?_, ?_⟩
    · simp only [List.map_append, hfilter, h1, List.map_cons, List.map_nil, List.reverse_cons, List.filter_reverse]
    · intro k
      simp only [List.any_append, List.any_cons, List.any_nil, Bool.or_false]
      by_cases hk : PCell.key c = k
      · subst hk; simp [hc]
      · rw [h2 k]
        have : (PCell.key c == k) = false := by simpa using hk
        rw [this, Bool.or_false, List.any_filter]
        congr 1; funext e
        by_cases he : PCell.key e.1 = k
        · have h3 : ¬ k = PCell.key c := fun h => hk h.symm
          simp [he, h3]
        · simp [he]
  · rw [if_neg hc]
    have hc' : Py.dictHas PCell.key d c = false := by
      have := h2 c.key
      simp only [Bool.not_eq_true] at hc
      rw [hc] at this
      exact this.symm
    rw [filter_absent PCell.key d c hc']
    refine ⟨by simp [h1], ?_⟩
    intro k
    rw [Std.HashSet.contains_insert, h2 k]
    simp [List.any_append, Bool.or_comm]

theorem dsim_foldl : ∀ (xs : List PCell) (d : Py.KDict PCell Unit) (cd : CDict), DSim d cd →
    DSim (xs.foldl (fun d c => moveToEnd PCell.key d c ()) d) (xs.foldl dictMoveToEnd cd)
  | [], _, _, h => h
  | x :: xs, d, cd, h => dsim_foldl xs _ _ (dsim_step d cd x h)

theorem dictOf_keys (d : Py.KDict PCell Unit) : dictOf (d.map (·.1)) = d := by
  induction d with
  | nil => rfl
  | cons e d ih =>
    simp only [dictOf, List.map_cons] at ih ⊢
    rw [ih]

/-- pushing the references in the order `cell.refs` is the hand model's traversal (generation independent) -/
theorem orderG_refs_eq (fuel : Nat) (p : PCell) : orderG PCell.refs fuel p = (p.order fuel).map dictOf := by
  have hw := while_orderLoop fuel [] [(p, false)] [] ∅ (setSim_empty _)
  simp only [List.reverse_cons, List.reverse_nil, List.nil_append] at hw
  unfold PCell.order orderG
  rw [← hw]
  cases Py.while? (fun s : OState => decide (s.2.1 ≠ [])) (stepG PCell.refs) fuel ([], [(p, false)], []) with
  | none => rfl
  | some s =>
    simp only [Option.bind_some, Option.map_some, Option.bind_eq_bind, Option.pure_def]
    have hd := dsim_foldl s.1.reverse [] ([], ∅) ⟨rfl, by intro k; simp⟩
    rw [← hd.1, dictOf_keys]

/-- **`Cell.order` regenerated = the hand model**, for every cell object and every iteration budget: same decision to return
(also "budget exhausted"), and the returned dict has exactly the model's key list, in iteration order. -/
theorem src_order_eq (fuel : Nat) (p : PCell) : order fuel p [] = (p.order fuel).map dictOf := by
  rw [← orderG_refs_eq]
  unfold order
  simp only [foldlM_append]
  exact shape_nf _ _ _ _ (fun _ => rfl) (fun _ => rfl) (fun _ _ => rfl) fuel p

/-! ### `Cell.to_boc` -/

/-- **`Cell.to_boc` regenerated = the hand model** `PCell.toBoc`, for every cell object (any DAG behind it), every option set
(also invalid ones: cache bits without index, `flags ≠ 0`) and every iteration budget: same bytes, same decision to raise. -/
theorem src_toBoc_eq (fuel : Nat) (p : PCell) (o : Opts) :
    to_boc fuel p o.hasIdx o.hasCrc o.hasCache o.flags = p.toBoc fuel o := by
  unfold PCell.toBoc
  cases hm : p.order fuel with
  | none =>
    have h := src_order_eq fuel p
    rw [hm] at h
    unfold to_boc
    simp [h]
  | some cells =>
    have h := src_order_eq fuel p
    rw [hm] at h
    have hnd := order_nodup fuel p _ h
    have hnd' : (cells.map PCell.key).Nodup := by
      simpa [NodupKeys, dictOf, Function.comp_def] using hnd
    rw [to_boc_given fuel p _ _ _ _ cells h hnd']
    rfl

end TonVerif.Proofs.SrcBocEmit
