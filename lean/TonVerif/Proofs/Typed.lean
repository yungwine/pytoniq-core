/-
Helper definitions and lemmas for C06 / C07 on sequences of typed values, peeks, operation histories.
-/
import TonVerif.Proofs.SnakeDepth

namespace TonVerif.Proofs.Typed
open TonVerif TonVerif.Model TonVerif.Spec.Tlb TonVerif.Proofs.Bits TonVerif.Proofs.Builder
  TonVerif.Proofs.Slice
variable {R : Type} {α β : Type}

/-! ### sequences -/

/-- `b.store_X(v1).store_Y(v2)…` -/
def storeAll : List (TVal R) → BOp R
  | [] => BOp.skip
  | tv :: tvs => tv.store ⊳ storeAll tvs

/-- `[s.load_X(), s.load_Y(), …]` -/
def loadAll : List Kind → SOp R (List (TVal R))
  | [] => SOp.pure []
  | k :: ks => SOp.bind k.load (fun v => SOp.bind (loadAll ks) (fun vs => SOp.pure (v :: vs)))

def encAll : List (TVal R) → Bits
  | [] => []
  | tv :: tvs => enc tv ++ encAll tvs

def refsAll : List (TVal R) → List R
  | [] => []
  | tv :: tvs => refsOf tv ++ refsAll tvs

theorem storeAll_spec (tvs : List (TVal R)) :
    OpSpec (storeAll tvs) (∀ tv ∈ tvs, InRange tv) (encAll tvs) (refsAll tvs) := by
  induction tvs with
  | nil => exact opSpec_skip.congr (by simp) (fun _ => ⟨rfl, rfl⟩)
  | cons tv tvs ih =>
    exact (opSpec_andThen (store_spec tv) ih).congr (by simp) (fun _ => ⟨rfl, rfl⟩)

theorem reads_loadAll (tvs : List (TVal R)) (h : ∀ tv ∈ tvs, InRange tv ∧ WF tv) :
    Reads (loadAll (tvs.map TVal.kind)) (encAll tvs) (refsAll tvs) tvs := by
  induction tvs with
  | nil => exact Reads.pure []
  | cons tv tvs ih =>
    have h1 := h tv (by simp)
    exact Reads.bind (reads_load tv h1.1 h1.2) ((ih fun t ht => h t (by simp [ht])).ret _)

theorem loadAll_rt (tvs : List (TVal R)) (h : ∀ tv ∈ tvs, InRange tv ∧ WF tv) (kb : Bits) (kr : List R) :
    loadAll (tvs.map TVal.kind) ⟨encAll tvs ++ kb, refsAll tvs ++ kr⟩ = (⟨kb, kr⟩, some tvs) :=
  (reads_loadAll tvs h).run kb kr

/-! ### peeks -/

theorem bind_some_inv {f : SOp R α} {g : α → SOp R β} {s s' : Slice R} {b : β}
    (h : SOp.bind f g s = (s', some b)) : ∃ s1 a, f s = (s1, some a) ∧ g a s1 = (s', some b) := by
  unfold SOp.bind at h
  cases hf : f s with
  | mk s1 r =>
    rw [hf] at h
    cases r with
    | none => simp at h
    | some a => exact ⟨s1, a, rfl, h⟩

/-- a consuming read "peek and decode, then delete the bits": when it returns, the peek alone returns the same value -/
theorem peek_of_thenDel {p : SOp R α} (hp : ∀ s, (p s).1 = s) {m : Nat} {s s' : Slice R} {v : α}
    (h : SOp.bind p (fun v => SOp.bind (SOp.delBits m) fun _ => SOp.pure v) s = (s', some v)) : p s = (s, some v) := by
  obtain ⟨s1, a, h1, h2⟩ := bind_some_inv h
  obtain ⟨s2, _, _, h3⟩ := bind_some_inv h2
  obtain rfl : a = v := Option.some.inj (congrArg Prod.snd h3)
  have hs : s1 = s := by have := hp s; rwa [h1] at this
  rw [h1, hs]

theorem preloadUint_of_load {n : Nat} {s s' : Slice R} {v : Int} (h : SOp.loadUint n s = (s', some v)) :
    SOp.preloadUint n s = (s, some v) := peek_of_thenDel (fun _ => rfl) h

theorem preloadInt_of_load {n : Nat} {s s' : Slice R} {v : Int} (h : SOp.loadInt n s = (s', some v)) :
    SOp.preloadInt n s = (s, some v) := peek_of_thenDel (fun _ => rfl) h

theorem peekBits_of_load {n : Nat} {s s' : Slice R} {v : Bits} (h : SOp.loadBits n s = (s', some v)) :
    SOp.peekBits n s = (s, some v) := peek_of_thenDel (fun _ => rfl) h

theorem preloadBytes_of_load {n : Nat} {s s' : Slice R} {v : Bytes} (h : SOp.loadBytes n s = (s', some v)) :
    SOp.preloadBytes n s = (s, some v) := peek_of_thenDel (fun _ => rfl) h

theorem preloadBit_of_load {s s' : Slice R} {v : Bool} (h : SOp.loadBit s = (s', some v)) :
    SOp.preloadBit s = (s, some v) := by
  obtain ⟨bits, refs⟩ := s
  cases bits with
  | nil => simp [SOp.loadBit] at h
  | cons b rest => simp [SOp.loadBit] at h; simp [SOp.preloadBit, h.2]

theorem preloadRef_of_load {s s' : Slice R} {v : R} (h : SOp.loadRef s = (s', some v)) :
    SOp.preloadRef s = (s, some v) := by
  obtain ⟨bits, refs⟩ := s
  cases refs with
  | nil => simp [SOp.loadRef] at h
  | cons b rest => simp [SOp.loadRef] at h; simp [SOp.preloadRef, h.2]

theorem preloadMaybeRef_of_load {s s' : Slice R} {v : Option R} (h : SOp.loadMaybeRef s = (s', some v)) :
    SOp.preloadMaybeRef s = (s, some v) := by
  obtain ⟨bits, refs⟩ := s
  cases bits with
  | nil => simp [SOp.loadMaybeRef, SOp.bind, SOp.loadBit] at h
  | cons b rest =>
    cases b with
    | false =>
      simp [SOp.loadMaybeRef, SOp.bind, SOp.loadBit, SOp.pure] at h
      simp [SOp.preloadMaybeRef, SOp.bind, SOp.preloadBit, SOp.pure, h.2]
    | true =>
      cases refs with
      | nil => simp [SOp.loadMaybeRef, SOp.bind, SOp.loadBit, SOp.loadRef] at h
      | cons r rs =>
        simp [SOp.loadMaybeRef, SOp.bind, SOp.loadBit, SOp.loadRef, SOp.pure] at h
        obtain ⟨_, h2⟩ := h
        subst h2
        simp [SOp.preloadMaybeRef, SOp.bind, SOp.preloadBit, SOp.preloadRef, SOp.pure]

theorem preloadDict_of_load {s s' : Slice R} {v : Option R} (h : SOp.loadDict s = (s', some v)) :
    SOp.preloadDict s = (s, some v) := preloadMaybeRef_of_load h

theorem drop_take_eq (bits : Bits) (k m : Nat) : (bits.take (k + m)).drop k = (bits.drop k).take m := by
  rw [List.drop_take]; congr 1; omega

/-- the variable-length reads: a length prefix, then `rd` on that many bytes; the peek decodes the same window with `conv` -/
theorem preloadVar_of_load {rd : Nat → SOp R Int} {conv : Bits → Option Int}
    (hrd : ∀ {m : Nat} {s s' : Slice R} {v : Int}, rd m s = (s', some v) → conv (s.bits.take m) = some v)
    {k : Nat} {s s' : Slice R} {v : Int}
    (h : SOp.bind (SOp.loadUint k) (fun len => if len = 0 then SOp.pure 0 else rd (len.toNat * 8)) s = (s', some v)) :
    SOp.bind (SOp.preloadUint k) (fun len => if len = 0 then SOp.pure 0 else
      SOp.bind (SOp.peekBits (k + len.toNat * 8)) fun bs => SOp.ofOption (conv (bs.drop k))) s = (s, some v) := by
  obtain ⟨s1, len, h1, h2⟩ := bind_some_inv h
  rw [bind_some (preloadUint_of_load h1)]
  by_cases hl : len = 0
  · rw [if_pos hl] at h2 ⊢
    have hv : some (0 : Int) = some v := congrArg Prod.snd h2
    exact Prod.ext rfl hv
  · rw [if_neg hl] at h2 ⊢
    obtain ⟨bits, refs⟩ := s
    obtain ⟨_, _, rfl, _⟩ := loadUint_some h1
    exact Prod.ext rfl (by rw [← hrd h2]; exact congrArg conv (drop_take_eq bits k _))

theorem preloadVarUint_of_load {k : Nat} {s s' : Slice R} {v : Int} (h : SOp.loadVarUint k s = (s', some v)) :
    SOp.preloadVarUint k s = (s, some v) :=
  preloadVar_of_load (rd := SOp.loadUint) (conv := SOp.ba2intU) (fun h => congrArg Prod.snd (preloadUint_of_load h)) h

theorem preloadVarInt_of_load {k : Nat} {s s' : Slice R} {v : Int} (h : SOp.loadVarInt k s = (s', some v)) :
    SOp.preloadVarInt k s = (s, some v) :=
  preloadVar_of_load (rd := SOp.loadInt) (conv := SOp.ba2intS) (fun h => congrArg Prod.snd (preloadInt_of_load h)) h

theorem preloadString_of_load {n : Nat} {s s' : Slice R} {v : Bytes} (h : SOp.loadString n s = (s', some v)) :
    SOp.preloadString n s = (s, some v) := by
  unfold SOp.loadString at h
  unfold SOp.preloadString
  exact preloadBytes_of_load h

theorem preloadAddress_of_load {s s' : Slice R} {a : Addr} (h : SOp.loadAddress s = (s', some a)) :
    SOp.preloadAddress s = (s, some a) := by
  obtain ⟨bits, refs⟩ := s
  have h0 := h
  match bits with
  | [] => simp [SOp.loadAddress, SOp.bind, loadUint_eq] at h
  | [b0] => simp [SOp.loadAddress, SOp.bind, loadUint_eq] at h
  | b0 :: b1 :: rest =>
    have h2 : SOp.loadUint 2 ⟨b0 :: b1 :: rest, refs⟩ = (⟨rest, refs⟩, some (natOfBits [b0, b1] : Int)) := by
      rw [loadUint_eq]; simp
    have p2 := preloadUint_of_load h2
    simp only [SOp.loadAddress, bind_eq, pure_eq] at h
    rw [bind_some h2] at h
    unfold SOp.preloadAddress
    simp only [p2]
    cases b0 <;> cases b1
    · simp [natOfBits, SOp.pure] at h ⊢
      exact h.2
    · -- tag 1: addr_extern
      have e : ((natOfBits [false, true] : Nat) : Int) = 1 := rfl
      simp only [e, show ¬((1:Int) = 0) by decide, if_true, if_false] at h ⊢
      obtain ⟨s1, len, h9, h⟩ := bind_some_inv h
      obtain ⟨_, hl, rfl, rfl⟩ := loadUint_some h9
      have elb : ((false :: true :: rest).take 11).drop 2 = rest.take 9 := rfl
      simp only [elb, take_isEmpty_false (show 9 ≠ 0 by decide) (by omega : ¬ rest.length < 9), Bool.false_eq_true, if_false]
      generalize natOfBits (rest.take 9) = L at h ⊢
      by_cases hl0 : L = 0
      · subst hl0
        rw [if_pos (by rfl)] at h; rw [if_pos rfl]; exact Prod.ext rfl (congrArg Prod.snd h :)
      · rw [if_neg (by omega), Int.toNat_natCast] at h
        obtain ⟨s2, v, hv, h⟩ := bind_some_inv h
        obtain ⟨_, hl2, rfl, rfl⟩ := loadUint_some hv
        have eab : ((false :: true :: rest).take (11 + L)).drop 11 = (rest.drop 9).take L := by rw [drop_take_eq]; rfl
        simp only [hl0, if_false, eab, take_isEmpty_false (by omega : L ≠ 0) (by omega : ¬ (rest.drop 9).length < L),
          Bool.false_eq_true]
        exact Prod.ext rfl (congrArg Prod.snd h :)
    · -- tag 2: addr_std
      have e : ((natOfBits [true, false] : Nat) : Int) = 2 := rfl
      simp only [e, show ¬((2:Int) = 0) by decide, show ¬((2:Int) = 1) by decide, if_true, if_false,
        show ((2:Int) != 2) = false by decide, Bool.false_eq_true] at h ⊢
      obtain ⟨s1, any, hb, h⟩ := bind_some_inv h
      cases rest with
      | nil => simp [SOp.loadBit] at hb
      | cons b2 rest2 =>
        simp only [SOp.loadBit, Prod.mk.injEq, Option.some.injEq] at hb
        obtain ⟨rfl, rfl⟩ := hb
        have p3 : SOp.preloadUint 3 ⟨true :: false :: b2 :: rest2, refs⟩
            = (⟨true :: false :: b2 :: rest2, refs⟩, some (natOfBits [true, false, b2] : Int)) := by
          simp [SOp.preloadUint, SOp.bind, SOp.peekBits, SOp.ofOption, SOp.ba2intU]
        simp only [p3]
        cases b2 with
        | true =>
          have e3 : ((natOfBits [true, false, true] : Nat) : Int) = 5 := rfl
          simp only [e3, show (((5:Int) % 2) != 0) = true by decide, if_true, h0]
        | false =>
          have e3 : ((natOfBits [true, false, false] : Nat) : Int) = 4 := rfl
          simp only [e3, show (((4:Int) % 2) != 0) = false by decide, Bool.false_eq_true, if_false]
          obtain ⟨s2, ac, hac, h⟩ := bind_some_inv h
          simp only [Bool.false_eq_true, if_false, SOp.pure, Prod.mk.injEq, Option.some.injEq] at hac
          obtain ⟨rfl, rfl⟩ := hac
          obtain ⟨s3, wc, hwc, h⟩ := bind_some_inv h
          obtain ⟨s4, hp, hhp, h⟩ := bind_some_inv h
          obtain ⟨_, _, rfl, ewc⟩ := loadInt_some hwc
          obtain ⟨_, rfl, rfl⟩ := loadBytes_some hhp
          have e1 : List.drop 3 (List.take 11 (List.take 267 (true :: false :: false :: rest2))) = List.take 8 rest2 := by
            simp [List.take_take]
          have e2 : List.drop 11 (List.take 267 (true :: false :: false :: rest2)) = List.take (32 * 8) (List.drop 8 rest2) := by
            rw [show 267 = 11 + 256 by rfl, drop_take_eq]; simp
          simp only [e1, e2, ewc]
          exact Prod.ext rfl (congrArg Prod.snd h :)
    · -- tag 3: not supported, load fails
      have e : ((natOfBits [true, true] : Nat) : Int) = 3 := rfl
      simp only [e, show ¬((3:Int) = 0) by decide, show ¬((3:Int) = 1) by decide, show ¬((3:Int) = 2) by decide,
        if_false] at h
      obtain ⟨s1, any, hb, h⟩ := bind_some_inv h
      obtain ⟨s2, ac, hac, h⟩ := bind_some_inv h
      simp [SOp.fail] at h

/-- a peek that agrees with its consuming read still does when both are mapped -/
theorem peek_map {ld pk : SOp R α} (hp : ∀ {s s' : Slice R} {a : α}, ld s = (s', some a) → pk s = (s, some a)) (g : α → β)
    {s s' : Slice R} {v : β} (h : ld.map g s = (s', some v)) : pk.map g s = (s, some v) := by
  unfold SOp.map at h ⊢
  cases hf : ld s with
  | mk s1 r =>
    rw [hf] at h
    cases r with
    | none => cases h
    | some a => rw [hp hf]; exact Prod.ext rfl (congrArg Prod.snd h :)

/-! ### operation histories -/

theorem safe_run (op : Op R) : Safe op.run := by
  cases op with
  | val tv => exact (store_spec tv).2
  | cell b r => exact safe_storeCell b r
  | slice b r => exact (opSpec_storeSlice b r).2
  | snake mk bs => exact SnakeDepth.safe_storeSnake mk bs

/-- the builder after a history of operations (each may have returned normally or raised) -/
def runAll (ops : List (Op R)) (b : Builder R) : Builder R := ops.foldl (fun b op => (op.run b).1) b

theorem inv_runAll (ops : List (Op R)) (b : Builder R) (hb : Inv b) : Inv (runAll ops b) := by
  induction ops generalizing b with
  | nil => exact hb
  | cons op ops ih => exact ih _ (safe_run op b hb)

end TonVerif.Proofs.Typed
