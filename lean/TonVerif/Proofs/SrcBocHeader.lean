/-
`Generated.BocHeader.header` (regenerated on every run from `Boc.deserialize_boc_header`, pytoniq_core/boc/deserialize.py)
equals the hand model's header parser `Model.BocParse.deserializeBocHeader` on EVERY byte list.
-/
import TonVerif.Model.BocHeaderView
import TonVerif.Proofs.SrcBytes
import TonVerif.Proofs.BocHeaderPath

namespace TonVerif.Proofs.SrcBocHeader
open TonVerif TonVerif.Model TonVerif.Model.BocParse TonVerif.Generated.BocHeader
open TonVerif.Proofs.SrcBytes TonVerif.Proofs.BocHeaderPath

/-- the three magics of the source are the three magics of the hand model -/
theorem magic_generic : SERIALIZED_BOC_PREFIX = magicGeneric := by decide
theorem magic_idx : SERIALIZED_BOC_IDX_PREFIX = magicIdx := by decide
theorem magic_idx_crc : SERIALIZED_BOC_IDX_CRC32C = magicIdxCrc := by decide

/-- **the regenerated header parser is the hand model's header parser**, for every byte list: same accept / reject
decision, and on acceptance the same `has_idx`, `hash_crc32`, `has_cache_bits` (as truth values), `flags`, `size_bytes`,
`offset_bytes`, `cells_num`, `roots_num`, `absent_num`, `tot_cells_size`, `root_list`, `index` (`None` exactly without
index) and `cells_data`.

Both sides are walked once, stage by stage.  Up to the four counters the source is evaluated against what
`readFlags_cases` / `readFields_cases` say about the model; from the root list on, the two programs run in step (`Sim`),
each stage handing on the position it reached. -/
theorem src_header_eq_model (data : Bytes) : header data = (deserializeBocHeader data).map HeaderOut.ofModel := by
  unfold header deserializeBocHeader
  simp only [magic_generic, magic_idx, magic_idx_crc, slice_eq, bytes_to_uint]
  by_cases h4 : data.length < 4
  · have hF : readFields data = none := by simp [readFields, readFlags, h4]
    rw [hF, if_pos h4]; rfl
  refine (if_neg h4).trans ?_
  refine (bind_congr_left (getElem?_zero_of_lt (by omega))).trans ?_
  refine (Option.bind_some _ _).trans ?_
  -- magic and flag byte: the entries the source keeps as integers are only ever tested against 0
  rcases readFlags_cases data with ⟨h0, hc⟩ | ⟨fl, hf, hfl⟩
  · have hF : readFields data = none := by simp [readFields, h0]
    rw [hF]
    refine (bind_congr_left (x' := none) ?_).trans rfl
    rcases hc with h | ⟨_, h1, h2, h3⟩ | ⟨_, h4⟩
    · exact absurd h h4
    · rw [if_neg h1, if_neg h2, if_neg h3]
    · simp only [h4, Option.bind_none, ite_self]
  have hgen : pySlice data 0 4 = magicGeneric ↔ fl.generic = true := by cases hfl <;> simp [*, idx_ne_gen, crc_ne_gen]
  refine bind_of (fun t => ∃ a c b, t = (a, c, b, fl.flags, fl.sizeBytes) ∧ (a ≠ 0 ↔ fl.hasIdx = true) ∧
    (c ≠ 0 ↔ fl.hasCrc = true) ∧ (b ≠ 0 ↔ fl.hasCacheBits = true)) ?_ ?_
  · cases hfl with
    | generic fb hm h4 =>
      rw [if_pos hm, h4]
      exact ⟨_, rfl, _, _, _, by rw [and16, and8], and128 _, and64 _, and32 _⟩
    | idx s hm0 hm h4 =>
      rw [if_neg hm0, if_pos hm, h4]
      exact ⟨_, rfl, _, _, _, rfl, by simp, by simp, by simp⟩
    | idxCrc s hm0 hm1 hm h4 =>
      rw [if_neg hm0, if_neg hm1, if_pos hm, h4]
      exact ⟨_, rfl, _, _, _, rfl, by simp, by simp, by simp⟩
  rintro _ ⟨a, c, b, rfl, ha, hc, hb⟩
  dsimp only
  -- pre-check, `offset_bytes`, the four counters
  rcases readFields_cases data fl hf with ⟨h0, hc⟩ | ⟨off, cells, roots, absent, tot, hF, hx⟩
  · rw [h0]
    rcases hc with h | ⟨h, off, h5, hs⟩
    · exact if_pos (by omega)
    · refine (if_neg (by omega)).trans ?_
      rw [h5, Option.bind_some, range?_zero _ _ _ hs]
      rfl
  obtain ⟨-, hpre, hs, h5, hcells, hroots, habsent, htot⟩ := hx
  refine (if_neg (by omega)).trans ?_
  rw [hF, h5, Option.bind_some, Option.bind_some, range?_three 6 _ _ (by omega) rfl, Option.bind_some]
  refine (unpack3_bind _ _ _ _ _).trans ?_
  dsimp only [Fields.hdrEnd, Fields.rootsLen, Fields.indexLen]
  simp only [hcells, hroots, habsent, htot]
  -- root list, index, cell data, checksum, total length, in step with the model
  have hmul : off * cells = cells * off := Nat.mul_comm _ _
  have hs' : 0 < fl.sizeBytes := Nat.pos_of_ne_zero hs
  obtain ⟨rlen, hrl⟩ : ∃ rlen, (if fl.generic = true then roots * fl.sizeBytes else 0) = rlen := ⟨_, rfl⟩
  obtain ⟨ilen, hil⟩ : ∃ ilen, (if fl.hasIdx = true then cells * off else 0) = ilen := ⟨_, rfl⟩
  simp only [hrl, hil]
  refine Sim.to_eq (Sim.bind (R := fun t rl => ∃ e, t = (e, rl, 6 + 3 * fl.sizeBytes + off + rlen)) ?_ ?_)
  · refine Sim.ite hgen (fun hg => ?_) (fun hg => ?_)
    · rw [if_pos hg] at hrl
      subst hrl
      refine Sim.guard (by omega) (fun hl => ?_)
      rw [range?_pos _ _ _ hs']
      exact .ret ⟨_, congrArg (_, ·, _) (map_range_uints _ _ _ _ _ _ hs' rfl rfl)⟩
    · rw [if_neg hg] at hrl
      subst hrl
      exact Sim.guard (by simp) (fun _ => .ret ⟨_, rfl⟩)
  rintro _ _ ⟨_, rfl⟩
  dsimp only
  refine Sim.bind (R := fun t ix => ∃ e, t = (e, if fl.hasIdx = true then some ix else none,
    6 + 3 * fl.sizeBytes + off + rlen + ilen)) ?_ ?_
  · refine Sim.ite ha (fun hi => ?_) (fun hi => ?_)
    · rw [if_pos hi] at hil
      subst hil
      refine Sim.guard (by omega) (fun hl => ?_)
      by_cases h0 : off = 0
      · rw [range?_zero _ _ _ h0, if_pos h0]
        exact .fail
      · have h0' : 0 < off := Nat.pos_of_ne_zero h0
        rw [range?_pos _ _ _ h0', if_neg h0]
        exact .ret ⟨_, congrArg (_, ·, _) ((congrArg some (map_range_uints _ _ _ _ _ _ h0' rfl rfl)).trans (if_pos hi).symm)⟩
    · rw [if_neg hi] at hil
      subst hil
      exact .ret ⟨_, congrArg (_, ·, _) (if_neg hi).symm⟩
  rintro _ ix ⟨_, rfl⟩
  dsimp only
  refine Sim.guard (by omega) (fun hl => ?_)
  refine Sim.bind (R := Eq) ?_ ?_
  · refine Sim.ite hc (fun _ => ?_) (fun _ => .ret rfl)
    refine Sim.guard (by omega) (fun _ => ?_)
    exact Sim.crc _ _ _
  rintro _ k rfl
  refine Sim.guard (by simp; omega) (fun _ => .ret ?_)
  rw [decide_eq_of_iff ha, decide_eq_of_iff hc, decide_eq_of_iff hb]
  rfl

end TonVerif.Proofs.SrcBocHeader
