/-
C14, auto-deserialisation ON in general: parsing the serialisation of a well-typed value returns its `normalize`d
form (Model/TlNorm.lean) and consumes exactly the serialised bytes; both raise together.
-/
import TonVerif.Model.TlNorm
import TonVerif.Proofs.Tl

namespace TonVerif.Proofs.Tl
open TonVerif TonVerif.Spec.Tl TonVerif.Model.Tl

/-! ### the parsed prefix and its normal form agree on keys and on integer values (flags lookups) -/

def FlagRel : Fields → Fields → Prop
  | [], [] => True
  | (k, v) :: r, (k', w) :: r' => k = k' ∧ (∀ m, v = .int m → w = .int m) ∧ FlagRel r r'
  | _, _ => False

theorem flagRel_lookup (k : Nat) : ∀ (acc accN : Fields), FlagRel acc accN →
    (acc.lookup k = none → accN.lookup k = none) ∧ (∀ m, acc.lookup k = some (.int m) → accN.lookup k = some (.int m))
  | [], [], _ => ⟨fun _ => rfl, fun _ h => by simp at h⟩
  | [], _ :: _, h => by simp [FlagRel] at h
  | _ :: _, [], h => by simp [FlagRel] at h
  | (k1, v) :: r, (k2, w) :: r', h => by
    obtain ⟨rfl, hv, hr⟩ := h
    have ih := flagRel_lookup k r r' hr
    by_cases hk : k = k1
    · subst hk
      simp only [List.lookup_cons, beq_self_eq_true]
      refine ⟨fun h => ?_, fun m h => ?_⟩
      · cases h
      · rw [hv m (Option.some.inj h)]
    · have : (k == k1) = false := by simpa using hk
      simp only [List.lookup_cons, this]
      exact ih

theorem flagRel_snoc : ∀ (acc accN : Fields) (n : Nat) (v w : Val), FlagRel acc accN → (∀ m, v = .int m → w = .int m) →
    FlagRel (acc ++ [(n, v)]) (accN ++ [(n, w)])
  | [], [], n, v, w, _, hv => ⟨rfl, hv, trivial⟩
  | [], _ :: _, _, _, _, h, _ => by simp [FlagRel] at h
  | _ :: _, [], _, _, _, h, _ => by simp [FlagRel] at h
  | (k1, v1) :: r, (k2, w1) :: r', n, v, w, h, hv => by
    obtain ⟨rfl, hv1, hr⟩ := h
    exact ⟨rfl, hv1, flagRel_snoc r r' n v w hr hv⟩

theorem flagVal_rel (T : Table) (acc accN : Fields) (h : FlagRel acc accN) (m : Int)
    (hf : flagVal T acc = some (.int m)) : flagVal T accN = some (.int m) := by
  unfold flagVal at hf ⊢
  have h1 := flagRel_lookup T.modeKey acc accN h
  have h2 := flagRel_lookup T.flagsKey acc accN h
  cases hm : acc.lookup T.modeKey with
  | none =>
    rw [hm] at hf
    simp only at hf
    rw [h1.1 hm]
    exact h2.2 m hf
  | some x =>
    rw [hm] at hf
    simp only [Option.some.injEq] at hf
    subst hf
    rw [h1.2 m hm]

/-! ### integers are left alone -/

theorem normOne_int (T : Table) (rep : Bytes → Option Val) (rec : Option Nat → List Arg → Fields → Option Fields)
    (ut : Bool) (e : ETy) (m : Int) : normOne T rep rec ut e (.int m) = some (.int m) := by
  cases e <;> rfl

theorem normArg_int (T : Table) (rep : Bytes → Option Val) (rec : Option Nat → List Arg → Fields → Option Fields)
    (ut : Bool) (a : Arg) (m : Int) (w : Val) (h : normArg T rep rec ut a (.int m) = some w) : w = .int m := by
  unfold normArg at h
  split at h
  · simpa using h.symm
  · rw [normOne_int] at h; simpa using h.symm

/-! ### the parser returns the normal form -/

def NormOK (T : Table) (fuel : Nat) : Item → Bytes → Prop
  | .one e iv v, bs => ∀ rest ut,
      deserOne T true (deserObj T true fuel) ut e iv (bs ++ rest) =
        (normOne T (reparse T fuel) (normObj T fuel) ut e v).map (fun w => (some w, bs.length))
  | .many e vs, bs => ∀ rest,
      deserMany (deserElem T true (deserObj T true fuel) e) vs.length (bs ++ rest) =
        (normMany (normOne T (reparse T fuel) (normObj T fuel) false e) vs).map (fun ws => (ws, bs.length))
  | .field a v, bs => ∀ rest ut,
      deserArg T true (deserObj T true fuel) ut a (bs ++ rest) =
        (normArg T (reparse T fuel) (normObj T fuel) ut a v).map (fun w => (some w, bs.length))
  | .body args whole, bs => ∀ rest pre schema accN, condOK T pre args = true → FlagRel (canonFields pre whole) accN →
      deserBody T true (deserObj T true fuel) schema args accN (bs ++ rest) =
        (normBody T (reparse T fuel) (normObj T fuel) schema args whole).map (fun fs => (accN ++ fs, bs.length))

/-- `NormOK` of a whole field list, started on the empty prefix. -/
theorem NormOK.whole {T : Table} {fuel : Nat} {args : List Arg} {fs : Fields} {bs : Bytes}
    (h : NormOK T fuel (.body args fs) bs) (hco : condOK T [] args = true) (rest : Bytes) (schema : Option Nat) :
    deserBody T true (deserObj T true fuel) schema args [] (bs ++ rest) =
      (normBody T (reparse T fuel) (normObj T fuel) schema args fs).map (fun fs' => (fs', bs.length)) := by
  simpa using h rest [] schema [] hco trivial

/-- the field loop on a present field followed by the rest, given the two parts (`hint`: integers are left alone, so the flags
relation extends). -/
theorem NormOK.present {T : Table} {fuel : Nat} {a : Arg} {as : List Arg} {whole accN : Fields} {v : Val} {b1 b2 : Bytes}
    {schema : Option Nat}
    (hp : present T accN a = some true)
    (hl : whole.lookup a.name = some v) (i1 : NormOK T fuel (.field a v) b1)
    (i2 : ∀ w, (∀ m, v = .int m → w = .int m) → ∀ rest,
      deserBody T true (deserObj T true fuel) schema as (accN ++ [(a.name, w)]) (b2 ++ rest) =
        (normBody T (reparse T fuel) (normObj T fuel) schema as whole).map (fun fs => (accN ++ [(a.name, w)] ++ fs, b2.length)))
    (rest : Bytes) :
    deserBody T true (deserObj T true fuel) schema (a :: as) accN (b1 ++ b2 ++ rest) =
      (normBody T (reparse T fuel) (normObj T fuel) schema (a :: as) whole).map (fun fs => (accN ++ fs, (b1 ++ b2).length)) := by
  rw [List.append_assoc, deserBody_cons, hp, i1 (b2 ++ rest) _]
  simp only [normBody, hl, utM]
  generalize hw : normArg T (reparse T fuel) (normObj T fuel) _ a v = o
  cases o with
  | none => simp
  | some w =>
    have hint : ∀ m, v = .int m → w = .int m := fun m hm => by subst hm; exact normArg_int _ _ _ _ _ _ _ hw
    simp only [Option.map_some, Option.bind_some, List.drop_left' rfl, i2 w hint rest]
    cases normBody T (reparse T fuel) (normObj T fuel) schema as whole <;> simp

theorem normalized (T : Table) (hT : TableOK T) {item : Item} {bs : Bytes} (h : Enc T (fun _ => True) item bs) :
    ∃ N, ∀ fuel, N ≤ fuel → NormOK T fuel item bs := by
  induction h with
  | int h1 h2 =>
    exact Ev.all fun fuel rest ut => by
      simp [deserOne, readFixed, normOne, List.take_left' (intLE_length 4 _), intOfLE_intLE4 _ h1 h2, intLE_length]
  | long h1 h2 =>
    exact Ev.all fun fuel rest ut => by
      simp [deserOne, readFixed, normOne, List.take_left' (intLE_length 8 _), intOfLE_intLE8 _ h1 h2, intLE_length]
  | nat h1 h2 =>
    exact Ev.all fun fuel rest ut => by
      simp [deserOne, readFixed, normOne, List.take_left' (intLE_length 4 _), natOfLE_intLE4 _ h1 h2, intLE_length]
  | int128 h1 h2 => exact Ev.all fun fuel rest ut => by simp [deserOne, readFixed, normOne, List.take_left' h1, h1]
  | int256 h1 h2 => exact Ev.all fun fuel rest ut => by simp [deserOne, readFixed, normOne, List.take_left' h1, h1]
  | boolT => exact Ev.all fun fuel rest ut => by simp [deserOne, readFixed, normOne, boolTrueId, natToLE]
  | boolF => exact Ev.all fun fuel rest ut => by simp [deserOne, readFixed, normOne, boolFalseId, natToLE]
  | bytes h1 h2 h3 =>
    refine Ev.all fun fuel rest ut => ?_
    simp only [deserOne, readFrame_encodeBytes _ rest h2, normOne, reparse]
    cases ut with
    | true => simp
    | false =>
      simp only [Bool.not_true, Bool.or_self, Bool.false_eq_true, if_false]
      cases autoParse (fun x => deserObj T true fuel x none) _ _ <;> simp
  | string h1 h2 h3 h4 =>
    rename_i iv b
    refine Ev.all fun fuel rest ut => ?_
    simp only [deserOne, readFrame_encodeBytes _ rest h3, normOne, reparse]
    cases ut with
    | true => simp [h2]
    | false =>
      simp only [Bool.not_true, Bool.or_self, Bool.false_eq_true, if_false]
      cases autoParse (fun x => deserObj T true fuel x none) b b.length with
      | none => rfl
      | some w =>
        cases w with
        | bytes b' => by_cases hu : utf8Valid b' = true <;> simp [hu]
        | _ => rfl
  | bare hn hc hb ih =>
    rename_i iv n c fs bs
    refine Ev.succ ih fun k ih rest ut => ?_
    simp only [deserOne, hn, deserObj_bare_succ, ih.whole (ctorOK_cond (hT c (mem_of_byName hn))), normOne, normObj]
    cases normBody T (reparse T k) (normObj T k) none c.args fs <;> simp
  | boxed hm hn hc hb ih =>
    rename_i iv cl c fs bs
    have hok := hT c (mem_of_byClass hm)
    refine Ev.succ ih fun k ih rest ut => ?_
    simp only [deserOne, List.append_assoc, deserObj_head hok, ih.whole (ctorOK_cond hok), normOne, hn, normObj]
    cases normBody T (reparse T k) (normObj T k) (some c.name) c.args fs <;> simp
  | manyNil => exact Ev.all fun fuel rest => by simp [deserMany, normMany]
  | manyCons h1 h2 ih1 ih2 =>
    rename_i e v vs b1 b2
    refine Ev.mp2 ih1 ih2 fun fuel a b rest => ?_
    simp only [List.length_cons, deserMany, deserElem, List.append_assoc, a (b2 ++ rest) false, normMany]
    cases normOne T (reparse T fuel) (normObj T fuel) false e v with
    | none => simp
    | some w =>
      simp only [Option.map_some, Option.bind_eq_bind, Option.bind_some, List.drop_left' rfl, b rest]
      cases normMany (normOne T (reparse T fuel) (normObj T fuel) false e) vs <;> simp
  | scalar hv h1 ih => exact Ev.mp ih fun fuel a rest ut => by simp [deserArg, normArg, hv, a rest ut]
  | vector hv hl hb h1 ih =>
    rename_i a0 vs bs
    refine Ev.mp ih fun fuel a rest ut => ?_
    rw [deserArg_vector T true _ ut hv hl hb rest, a rest]
    simp only [normArg, hv, if_true]
    cases normMany (normOne T (reparse T fuel) (normObj T fuel) false a0.ty) vs <;> simp
  | bodyNil => exact Ev.all fun fuel rest pre schema accN _ _ => by simp [deserBody, normBody]
  | bodyReq hc hl h1 h2 ih1 ih2 =>
    rename_i a as whole v b1 b2
    refine Ev.mp2 ih1 ih2 fun fuel i1 i2 rest pre schema accN hco hrel => ?_
    simp only [condOK, Bool.and_eq_true] at hco
    exact NormOK.present (present_req hc) hl i1 (fun w hint rest => i2 rest (pre ++ [a]) schema _ hco.2
      (by simp only [canon_snoc pre _ hl]; exact flagRel_snoc _ _ _ _ _ hrel hint)) rest
  | bodyOn hc hf h0 hb hl h1 h2 ih1 ih2 =>
    rename_i a as whole fl bit m v b1 b2
    refine Ev.mp2 ih1 ih2 fun fuel i1 i2 rest pre schema accN hco hrel => ?_
    simp only [condOK, hc, Bool.and_eq_true] at hco
    have hfv := flagVal_rel T _ accN hrel m (flagVal_canon T pre whole fl _ hco.1.1 hco.1.2 hf)
    exact NormOK.present (by rw [present_flag hc hfv h0, hb]) hl i1 (fun w hint rest =>
      i2 rest (pre ++ [a]) schema _ hco.2 (by simp only [canon_snoc pre _ hl]; exact flagRel_snoc _ _ _ _ _ hrel hint)) rest
  | bodyOff hc hf h0 hb hl h1 ih =>
    rename_i a as whole fl bit m bs
    refine Ev.mp ih fun fuel ih rest pre schema accN hco hrel => ?_
    simp only [condOK, hc, Bool.and_eq_true] at hco
    have hfv := flagVal_rel T _ accN hrel m (flagVal_canon T pre whole fl _ hco.1.1 hco.1.2 hf)
    have hx := ih rest (pre ++ [a]) schema accN hco.2
      (by simpa only [canon_snoc pre _ hl, Option.map_none, Option.toList_none, List.append_nil] using hrel)
    rw [deserBody_cons, present_flag hc hfv h0, hb, hx]
    simp only [normBody, hl]

/-- top level: `deserialize` with auto-deserialisation on returns `normalize` of the value, consuming exactly the
serialisation, and raises exactly when `normalize` is `none`. -/
theorem normalized_top (T : Table) (hT : TableOK T) (c : Ctor) (hc : c ∈ T.ctors) (fs : Fields) (body : Bytes)
    (hb : Enc T (fun _ => True) (.body c.args fs) body) :
    ∃ N, ∀ fuel, N ≤ fuel → ∀ rest, deserialize T true fuel (natToLE 4 c.id ++ body ++ rest) =
      (normalize T fuel c (.obj (some c.name) fs)).map (fun w => (w, (natToLE 4 c.id ++ body).length)) := by
  refine Ev.succ (normalized T hT hb) fun k ih rest => ?_
  simp only [deserialize, List.append_assoc, deserObj_head (hT c hc), ih.whole (ctorOK_cond (hT c hc)), normalize, normObj]
  cases normBody T (reparse T k) (normObj T k) (some c.name) c.args fs <;> simp

/-! ### the side condition can be weakened; the identity case -/

theorem enc_mono (T : Table) {P Q : Bytes → Prop} (hPQ : ∀ b, P b → Q b) {item : Item} {bs : Bytes}
    (h : Enc T P item bs) : Enc T Q item bs := by
  induction h with
  | int h1 h2 => exact Enc.int h1 h2
  | long h1 h2 => exact Enc.long h1 h2
  | nat h1 h2 => exact Enc.nat h1 h2
  | int128 h1 h2 => exact Enc.int128 h1 h2
  | int256 h1 h2 => exact Enc.int256 h1 h2
  | boolT => exact Enc.boolT
  | boolF => exact Enc.boolF
  | bytes h1 h2 h3 => exact Enc.bytes h1 h2 (hPQ _ h3)
  | string h1 h2 h3 h4 => exact Enc.string h1 h2 h3 (hPQ _ h4)
  | bare hn hc _ ih => exact Enc.bare hn hc ih
  | boxed hm hn hc _ ih => exact Enc.boxed hm hn hc ih
  | manyNil => exact Enc.manyNil
  | manyCons _ _ ih1 ih2 => exact Enc.manyCons ih1 ih2
  | scalar hv _ ih => exact Enc.scalar hv ih
  | vector hv hl hb _ ih => exact Enc.vector hv hl hb ih
  | bodyNil => exact Enc.bodyNil
  | bodyReq hc hl _ _ ih1 ih2 => exact Enc.bodyReq hc hl ih1 ih2
  | bodyOn hc hf h0 hb hl _ _ ih1 ih2 => exact Enc.bodyOn hc hf h0 hb hl ih1 ih2
  | bodyOff hc hf h0 hb hl _ ih => exact Enc.bodyOff hc hf h0 hb hl ih

/-- when no `bytes`/`string` content starts with a registered id the normal form is the value itself. -/
theorem normalize_id (T : Table) (hT : TableOK T) (c : Ctor) (hc : c ∈ T.ctors) (fs : Fields) (body : Bytes)
    (hcan : fs = canonFields c.args fs) (hb : Enc T (fun b => byIdLE T b = none) (.body c.args fs) body) :
    ∃ N, ∀ fuel, N ≤ fuel → normalize T fuel c (.obj (some c.name) fs) = some (.obj (some c.name) fs) := by
  refine Ev.mp2 (roundtrip_top T _ true hT (fun _ b hb => hb) c hc fs body hcan hb)
    (normalized_top T hT c hc fs body (enc_mono T (fun _ _ => trivial) hb)) fun fuel a b => ?_
  have b := b []
  rw [a []] at b
  cases hn : normalize T fuel c (.obj (some c.name) fs) with
  | none => rw [hn] at b; simp at b
  | some w => rw [hn] at b; simp only [Option.map_some, Option.some.injEq, Prod.mk.injEq] at b; rw [← b.1]

/-! ### contents that are serialised objects: the field becomes the object's own normal form / a list of them -/

/-- a `bytes` content that is the serialisation of one well-typed object is replaced by that object's normal form
(and the outer call raises iff the inner normalisation does). -/
theorem reparse_one (T : Table) (hT : TableOK T) (c : Ctor) (hc : c ∈ T.ctors) (fs : Fields) (body : Bytes)
    (hb : Enc T (fun _ => True) (.body c.args fs) body) :
    ∃ N, ∀ fuel, N ≤ fuel →
      reparse T fuel (natToLE 4 c.id ++ body) = normalize T fuel c (.obj (some c.name) fs) := by
  refine Ev.mp (normalized_top T hT c hc fs body hb) fun fuel h => ?_
  have h := h []
  simp only [List.append_nil, deserialize] at h
  simp only [reparse, autoParse, h]
  cases normalize T fuel c (.obj (some c.name) fs) <;> simp

/-- serialised objects one after the other: (constructor, fields, encoding of the fields). -/
def catSer : List (Ctor × Fields × Bytes) → Bytes
  | [] => []
  | (c, _, body) :: l => (natToLE 4 c.id ++ body) ++ catSer l

/-- the normal forms of all of them (`none` if one of them raises). -/
def normEach (T : Table) (fuel : Nat) : List (Ctor × Fields × Bytes) → Option (List Val)
  | [] => some []
  | (c, fs, _) :: l =>
    match normalize T fuel c (.obj (some c.name) fs) with
    | none => none
    | some w => (normEach T fuel l).map (fun ws => w :: ws)

def AllEnc (T : Table) (l : List (Ctor × Fields × Bytes)) : Prop :=
  ∀ x ∈ l, x.1 ∈ T.ctors ∧ Enc T (fun _ => True) (.body x.1.args x.2.1) x.2.2

theorem catSer_length (l : List (Ctor × Fields × Bytes)) : 4 * l.length ≤ (catSer l).length := by
  induction l with
  | nil => simp [catSer]
  | cons x l ih =>
    obtain ⟨c, fs, body⟩ := x
    simp only [catSer, List.length_append, natToLE_length, List.length_cons]
    omega

theorem autoLoop_catSer (T : Table) (hT : TableOK T) (l : List (Ctor × Fields × Bytes)) (hl : AllEnc T l) :
    ∃ N, ∀ fuel, N ≤ fuel → ∀ (pre : Bytes) (acc : List Val) (k : Nat), l.length ≤ k →
      autoLoop (fun x => deserObj T true fuel x none) (pre ++ catSer l) (pre ++ catSer l).length k pre.length acc =
        (normEach T fuel l).map (fun ws => .list (acc ++ ws)) := by
  induction l with
  | nil =>
    refine Ev.all fun fuel pre acc k _ => ?_
    cases k <;> simp [autoLoop, catSer, normEach]
  | cons x l ih =>
    obtain ⟨c, fs, body⟩ := x
    have hx := hl (c, fs, body) (List.mem_cons_self ..)
    refine Ev.mp2 (ih (fun y hy => hl y (List.mem_cons_of_mem _ hy))) (normalized_top T hT c hx.1 fs body hx.2)
      fun fuel h1 h2 pre acc k hk => ?_
    obtain ⟨k', rfl⟩ : ∃ k', k = k' + 1 := ⟨k - 1, by simp only [List.length_cons] at hk; omega⟩
    have hj : pre.length < (pre ++ catSer ((c, fs, body) :: l)).length := by
      simp only [catSer, List.length_append, natToLE_length]; omega
    have hd : (pre ++ catSer ((c, fs, body) :: l)).drop pre.length = natToLE 4 c.id ++ body ++ catSer l := by
      simp [catSer]
    have ht := h2 (catSer l)
    simp only [deserialize] at ht
    simp only [autoLoop, hj, if_true, hd, ht, normEach]
    cases hn : normalize T fuel c (.obj (some c.name) fs) with
    | none => simp
    | some w =>
      have hne : ¬ (natToLE 4 c.id ++ body).length = 0 := by simp only [List.length_append, natToLE_length]; omega
      have hi := h1 (pre ++ (natToLE 4 c.id ++ body)) (acc ++ [w]) k'
        (by simp only [List.length_cons] at hk; omega)
      have e : pre ++ catSer ((c, fs, body) :: l) = pre ++ (natToLE 4 c.id ++ body) ++ catSer l := by
        simp [catSer]
      simp only [Option.map_some, hne, if_false]
      rw [e, show pre.length + (natToLE 4 c.id ++ body).length = (pre ++ (natToLE 4 c.id ++ body)).length by simp, hi]
      cases normEach T fuel l <;> simp

/-- a `bytes` content that consists of two or more serialised well-typed objects is replaced by the list of their
normal forms. -/
theorem reparse_many (T : Table) (hT : TableOK T) (x y : Ctor × Fields × Bytes) (l : List (Ctor × Fields × Bytes))
    (hl : AllEnc T (x :: y :: l)) :
    ∃ N, ∀ fuel, N ≤ fuel →
      reparse T fuel (catSer (x :: y :: l)) = (normEach T fuel (x :: y :: l)).map (fun ws => .list ws) := by
  obtain ⟨c, fs, body⟩ := x
  have hx := hl (c, fs, body) (List.mem_cons_self ..)
  refine Ev.mp2 (autoLoop_catSer T hT (y :: l) (fun z hz => hl z (List.mem_cons_of_mem _ hz)))
    (normalized_top T hT c hx.1 fs body hx.2) fun fuel h1 h2 => ?_
  have ht := h2 (catSer (y :: l))
  simp only [deserialize] at ht
  have e : catSer ((c, fs, body) :: y :: l) = natToLE 4 c.id ++ body ++ catSer (y :: l) := by simp [catSer]
  have hlen := catSer_length (y :: l)
  simp only [reparse, autoParse]
  rw [e, ht, normEach]
  cases hn : normalize T fuel c (.obj (some c.name) fs) with
  | none => simp
  | some w =>
    have hj : (natToLE 4 c.id ++ body).length < (natToLE 4 c.id ++ body ++ catSer (y :: l)).length := by
      simp only [List.length_append, List.length_cons] at hlen ⊢; omega
    have hi := h1 (natToLE 4 c.id ++ body) [w] (natToLE 4 c.id ++ body ++ catSer (y :: l)).length
      (by simp only [List.length_append, List.length_cons] at hlen ⊢; omega)
    simp only [Option.map_some, hj, if_true, hi]
    cases normEach T fuel (y :: l) <;> simp

end TonVerif.Proofs.Tl
