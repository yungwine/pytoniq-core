/-
Lemmas about the hand model Model/Hashmap.lean behind C09 / C10: the label functions generated from utils.py and the label
reader against the hashmap.tlb encodings (`LabelEnc`); the parsers on spec-valid trees (`ValidHMK`, `ValidAug`) and on over-long
labels; `find_common_prefix` / `build_edge` on pairwise different n-bit keys (`Keyed`); the serialiser writes the canonical tree
(`serialize_canonical`), exactly when every cell fits (`serialize_iff_fits`), and that tree is unique (`canonical_unique'`).
-/
import TonVerif.Model.Hashmap
import TonVerif.PyHm
import TonVerif.Proofs.Bits
import TonVerif.Proofs.CellSpec
import Mathlib.Tactic.Ring

namespace TonVerif.Proofs.Hashmap
open TonVerif TonVerif.Model TonVerif.Model.Hashmap TonVerif.Spec.Hashmap
open TonVerif.Generated.LabelFns

/-! ### numbers and bit strings -/

theorem foldl_bits (bs : Bits) (acc : Nat) :
    bs.foldl (fun acc b => acc * 2 + (if b then 1 else 0)) acc = acc * 2 ^ bs.length + natOfBits bs := by
  unfold natOfBits
  induction bs generalizing acc with
  | nil => simp
  | cons b t ih =>
    simp only [List.foldl_cons, List.length_cons]
    rw [ih, ih (0 * 2 + _)]
    rw [Nat.pow_succ]
    simp [Nat.add_mul, Nat.mul_assoc, Nat.add_assoc, Nat.mul_comm 2]

theorem natOfBits_nil : natOfBits [] = 0 := rfl

theorem natOfBits_cons (b : Bool) (t : Bits) :
    natOfBits (b :: t) = (if b then 1 else 0) * 2 ^ t.length + natOfBits t := by
  show List.foldl _ _ _ = _
  simp only [List.foldl_cons]
  rw [foldl_bits]; simp

theorem natOfBits_append (a b : Bits) : natOfBits (a ++ b) = natOfBits a * 2 ^ b.length + natOfBits b := by
  induction a with
  | nil => simp [natOfBits_nil]
  | cons x t ih =>
    simp only [List.cons_append, natOfBits_cons, ih, List.length_append, Nat.pow_add]
    ring

theorem natOfBits_lt (b : Bits) : natOfBits b < 2 ^ b.length := Bits.natOfBits_lt b

theorem natOfBits_natToBits (w v : Nat) (h : v < 2 ^ w) : natOfBits (natToBits w v) = v := Bits.natOfBits_natToBits w v h

/-! ### the generated label functions (utils.py) -/

theorem any_ne_eq (a : Bool) (t : Bits) : t.any (fun e => e != a) = !(t.all (fun b => b == a)) := by
  induction t with
  | nil => simp
  | cons b t ih => rw [List.any_cons, List.all_cons, ih]; cases a <;> cases b <;> simp

/-- `is_same` of utils.py is "all bits equal" -/
theorem is_same_eq (s : Bits) : is_same s = allSame s := by
  unfold is_same allSame
  match s with
  | [] => simp
  | [a] => simp
  | a :: b :: t =>
    have h : ((a :: b :: t).length == 0 || (a :: b :: t).length == 1) = false := by simp
    rw [h]
    simp only [List.drop_succ_cons, List.drop_zero, List.getD_cons_zero, List.headD_cons, any_ne_eq,
      List.all_cons, beq_self_eq_true, Bool.true_and]
    generalize (b == a && t.all (fun b => b == a)) = x
    cases x <;> rfl

/-- `detect_label_type` of utils.py is the reference choice of dict.cpp, for every label and bound -/
theorem detect_eq (s : Bits) (max : Nat) :
    detect_label_type s max = refLabelKind s.length max (allSame s) := by
  unfold detect_label_type refLabelKind label_short_length label_long_length label_same_length lenBits
  rw [is_same_eq]
  generalize bitLength max = k
  generalize allSame s = sm
  generalize s.length = len
  cases sm <;> simp <;> grind

theorem allSame_head {s : Bits} (h : allSame s = true) : s = List.replicate s.length (s.headD false) := by
  rw [allSame, List.all_eq_true] at h
  apply List.ext_getElem (by simp)
  intro i h1 h2
  simpa using h s[i] (List.getElem_mem h1)

theorem allSame_iff (s : Bits) : allSame s = true ↔ ∃ v, s = List.replicate s.length v := by
  refine ⟨fun h => ⟨_, allSame_head h⟩, ?_⟩
  rintro ⟨v, hv⟩
  rw [hv, allSame]
  cases s <;> simp [List.replicate_succ]

/-! ### reading labels -/

theorem readUnary_replicate (n : Nat) (rest : Bits) :
    readUnary (List.replicate n true ++ false :: rest) = some (n, rest) := by
  induction n with
  | zero => simp [readUnary]
  | succ n ih => simp [List.replicate_succ, readUnary, ih]

theorem loadBits_append (s rest : Bits) : loadBits s.length (s ++ rest) = some (s, rest) := by
  simp [loadBits]

/-- a `#<= m` field holding any value that fits its width is read back (also values above `m`: the reader has no range test) -/
theorem loadLen_fits (m len : Nat) (rest : Bits) (h : len < 2 ^ lenBits m) :
    loadLen (m : Int) (natToBits (lenBits m) len ++ rest) = some (len, rest) := by
  unfold loadLen
  unfold lenBits at h ⊢
  simp only [Int.natAbs_natCast]
  by_cases h0 : bitLength m = 0
  · have hl : len = 0 := by rw [h0] at h; simp at h; omega
    simp [h0, natToBits, hl]
  · simp [h0, Hashmap.loadUint, Bits.natToBits_length, natOfBits_natToBits _ _ h]

/-- the constructor branches of the label reader read every label PATTERN back, whether or not it respects `{n <= m}` -/
theorem readHml_bits {m : Nat} {s : Bits} {k : LabelKind} {lb : Bits} (h : LabelBits m s k lb) (rest : Bits) :
    readHml (lb ++ rest) (m : Int) = some (s.length, s, rest) := by
  cases h with
  | short =>
    simp [readHml, readUnary_replicate, loadBits_append]
  | long hl =>
    simp only [readHml, List.cons_append, List.append_assoc]
    rw [loadLen_fits m s.length _ hl]
    simp [loadBits_append]
  | same v hs hl =>
    simp only [readHml, List.cons_append]
    rw [loadLen_fits m s.length _ hl]
    simp [← hs]

theorem labelEnc_len_le {m : Nat} {s : Bits} {k : LabelKind} {lb : Bits} (h : LabelEnc m s k lb) : s.length ≤ m := by
  cases h <;> assumption

theorem labelEnc_iff_bits {m : Nat} {s : Bits} {k : LabelKind} {lb : Bits} :
    LabelEnc m s k lb ↔ LabelBits m s k lb ∧ s.length ≤ m := by
  constructor
  · intro h
    have hl := labelEnc_len_le h
    have hlt : s.length < 2 ^ lenBits m := Nat.lt_of_le_of_lt hl (CellSpec.lt_two_pow_bitLength m)
    refine ⟨?_, hl⟩
    cases h with
    | short _ => exact .short
    | long _ => exact .long hlt
    | same v hs _ => exact .same v hs hlt
  · rintro ⟨h, hl⟩
    cases h with
    | short => exact .short hl
    | long _ => exact .long hl
    | same v hs _ => exact .same v hs hl

/-- `deserialize_hml` on a label pattern: returned iff the label fits the remaining key -/
theorem deserializeHml_bits {m : Nat} {s : Bits} {k : LabelKind} {lb : Bits} (h : LabelBits m s k lb) (rest : Bits) :
    deserializeHml (lb ++ rest) (m : Int) = if s.length ≤ m then some (s.length, s, rest) else none := by
  simp only [deserializeHml, readHml_bits h, gt_iff_lt, Int.ofNat_lt, ← Nat.not_le]
  by_cases hl : s.length ≤ m <;> simp [hl]

/-- the label reader inverts every hashmap.tlb label encoding (`{n <= m}` is part of `LabelEnc`, so the length test of
`deserialize_hml` passes) -/
theorem deserializeHml_enc {m : Nat} {s : Bits} {k : LabelKind} {lb : Bits} (h : LabelEnc m s k lb) (rest : Bits) :
    deserializeHml (lb ++ rest) (m : Int) = some (s.length, s, rest) := by
  rw [deserializeHml_bits (labelEnc_iff_bits.1 h).1, if_pos (labelEnc_len_le h)]

/-- what `deserialize_hml` returns is what its constructor branches read, and the label is not longer than the remaining key -/
theorem deserializeHml_some {bits : Bits} {m : Int} {n : Nat} {s rest : Bits} :
    deserializeHml bits m = some (n, s, rest) ↔ readHml bits m = some (n, s, rest) ∧ (n : Int) ≤ m := by
  unfold deserializeHml
  cases hr : readHml bits m with
  | none => simp
  | some t =>
    obtain ⟨n', s', rest'⟩ := t
    by_cases hgt : (n' : Int) > m
    · simp only [hgt, if_true, Option.some.injEq, Prod.mk.injEq, reduceCtorEq, false_iff]
      rintro ⟨⟨rfl, _, _⟩, hle⟩
      omega
    · simp only [hgt, if_false, Option.some.injEq, Prod.mk.injEq, iff_self_and]
      rintro ⟨rfl, _, _⟩
      omega

/-- a label the reader accepts fits the remaining key; in particular the remaining key was not negative -/
theorem deserializeHml_le {bits : Bits} {m : Int} {n : Nat} {s rest : Bits}
    (h : deserializeHml bits m = some (n, s, rest)) : (n : Int) ≤ m := (deserializeHml_some.1 h).2

/-- a label longer than the remaining key is refused -/
theorem deserializeHml_too_long {bits : Bits} {m : Int} {n : Nat} {s rest : Bits}
    (h : readHml bits m = some (n, s, rest)) (hgt : m < (n : Int)) : deserializeHml bits m = none := by
  simp [deserializeHml, h, hgt]

/-- the first data byte of every exotic cell is its type (1..4): the label reader sees `00…` = an empty `hml_short` label -/
theorem deserializeHml_zero_zero (r : Bits) {m : Int} (hm : 0 ≤ m) :
    deserializeHml (false :: false :: r) m = some (0, [], r) := by
  simp [deserializeHml, readHml, readUnary, loadBits, hm]

/-! ### the parser on spec-valid trees -/

theorem pre_comp {α} (a b : Bits) : (pre a ∘ pre b : Bits × α → Bits × α) = pre (a ++ b) := by
  funext x; simp [pre]

theorem pre_pre {α} (a b : Bits) (kv : List (Bits × α)) : (kv.map (pre b)).map (pre a) = kv.map (pre (a ++ b)) := by
  rw [List.map_map, pre_comp]

theorem map_pre_nil {α} (kv : List (Bits × α)) : kv.map (pre []) = kv := by
  have : (pre [] : Bits × α → Bits × α) = id := by funext x; simp [pre]
  simp [this]

theorem pruned_bits {bits : Bits} (h : bits.take 8 = byteToBits 1) : ∃ r, bits = false :: false :: r := by
  match bits, h with
  | a :: b :: r, h =>
    simp [byteToBits, natToBits] at h
    exact ⟨r, by simp [h.1, h.2.1]⟩

theorem parseEdge_fork {n m : Nat} {s : Bits} {k : LabelKind} {lb : Bits} (hl : LabelEnc n s k lb) (hn : n = s.length + 1 + m)
    (rest : Bits) (refs : List Cell) (pfx : Bits) :
    parseEdge (.mk (-1) (lb ++ rest) refs) n pfx = parseFork refs m (pfx ++ s) := by
  rw [parseEdge, deserializeHml_enc hl]
  have hm : ((n : Int) - (s.length : Int) = 0) = False := by simp; omega
  have hm2 : (n : Int) - (s.length : Int) - 1 = (m : Int) := by omega
  simp only [ne_eq, not_true_eq_false, if_false, hm, hm2]

theorem parseAugEdge_fork {X Y : Type} (D : AugDec X Y) {n m : Nat} {s : Bits} {k : LabelKind} {lb : Bits} (hl : LabelEnc n s k lb)
    (hn : n = s.length + 1 + m) (rest : Bits) (refs : List Cell) (pfx : Bits) :
    parseAugEdge D (.mk (-1) (lb ++ rest) refs) n pfx = parseAugFork D refs rest m (pfx ++ s) := by
  rw [parseAugEdge, deserializeHml_enc hl]
  have hm : ((n : Int) - (s.length : Int) = 0) = False := by simp; omega
  have hm2 : (n : Int) - (s.length : Int) - 1 = (m : Int) := by omega
  simp only [ne_eq, not_true_eq_false, if_false, hm, hm2]

theorem parseEdge_valid {ok p n c kv} (h : ValidHMK ok p n c kv) :
    ∀ (pfx : Bits), (pfx ≠ [] ∨ 0 < n) → parseEdge c (n : Int) pfx = some (kv.map (pre pfx)) := by
  induction h with
  | @leaf p n s k lb vb vr hl _ hn =>
    intro pfx hne
    rw [parseEdge, deserializeHml_enc hl]
    have : pfx ++ s ≠ [] := by
      rcases hne with h | h
      · simp [h]
      · intro hh; simp at hh; rw [hh.2] at hn; simp at hn; omega
    simp [hn, this, pre]
  | @fork p n m s k lb l r kvl kvr hl _ hn _ _ ihl ihr =>
    intro pfx hne
    have e : lb = lb ++ [] := by simp
    rw [e, parseEdge_fork hl hn, parseFork, ihl _ (Or.inl (by simp)), ihr _ (Or.inl (by simp))]
    simp [pre_comp, List.append_assoc]
  | @pruned n bits hb =>
    intro pfx _
    obtain ⟨r, rfl⟩ := pruned_bits hb
    simp [parseEdge, deserializeHml_zero_zero r (Int.natCast_nonneg n)]

theorem parseHashmap_valid {ok p n c kv} (hn : 0 < n) (h : ValidHMK ok p n c kv) : parseHashmap c n = some kv := by
  have := parseEdge_valid h [] (Or.inr hn)
  rwa [map_pre_nil] at this

/-- a fork whose cell carries MORE than its label and its two references (the root of an inline `Hashmap n X` lives in the caller's
cell): the parser reads the label, takes the first two references and ignores the rest -/
theorem parseEdge_fork_trailing {ok : Nat → Bits → LabelKind → Prop} {p : Bool} {n m : Nat} {s : Bits} {k : LabelKind} {lb : Bits}
    {l r : Cell} {kvl kvr : List (Bits × Val)}
    (hl : LabelEnc n s k lb) (hn : n = s.length + 1 + m) (hL : ValidHMK ok p m l kvl) (hR : ValidHMK ok p m r kvr)
    (postB : Bits) (postR : List Cell) (pfx : Bits) :
    parseEdge (.mk (-1) (lb ++ postB) (l :: r :: postR)) (n : Int) pfx
      = some ((kvl.map (pre (s ++ [false])) ++ kvr.map (pre (s ++ [true]))).map (pre pfx)) := by
  rw [parseEdge_fork hl hn, parseFork, parseEdge_valid hL _ (Or.inl (by simp)), parseEdge_valid hR _ (Or.inl (by simp))]
  simp [pre_comp, List.append_assoc]

theorem parseAugEdge_valid {X Y : Type} {D : AugDec X Y} {p n c kv ex} (h : ValidAug D p n c kv ex) :
    ∀ (pfx : Bits), parseAugEdge D c (n : Int) pfx = some (kv.map (pre pfx), ex) := by
  induction h with
  | @leaf p n s k lb rest refs y s' x hl hn hy hx =>
    intro pfx
    rw [parseAugEdge, deserializeHml_enc hl]
    simp [hn, hy, hx, pre]
  | @fork p n m s k lb rest l r refs kvl kvr el er y s' hl hn _ _ hy ihl ihr =>
    intro pfx
    rw [parseAugEdge_fork D hl hn, parseAugFork, ihl, ihr]
    simp [hy, pre_comp, List.append_assoc]
  | @pruned n kind bits refs hk =>
    intro pfx
    simp [parseAugEdge, hk]

/-- the fork step of every "the keys a parse returns extend its prefix and are pairwise different": the entries below `q·0` and those
below `q·1` (`q` extending `pfx`) all extend `pfx`, and differ in the bit behind `q` -/
theorem keys_fork {α : Type} {pfx q : Bits} {a b : List (Bits × α)} (hq : pfx <+: q)
    (ha : (∀ p ∈ a, q ++ [false] <+: p.1) ∧ (a.map (·.1)).Nodup) (hb : (∀ p ∈ b, q ++ [true] <+: p.1) ∧ (b.map (·.1)).Nodup) :
    (∀ p ∈ a ++ b, pfx <+: p.1) ∧ ((a ++ b).map (·.1)).Nodup := by
  constructor
  · intro p hp
    rcases List.mem_append.1 hp with hp | hp
    · exact hq.trans ((List.prefix_append _ _).trans (ha.1 p hp))
    · exact hq.trans ((List.prefix_append _ _).trans (hb.1 p hp))
  · rw [List.map_append, List.nodup_append]
    refine ⟨ha.2, hb.2, ?_⟩
    intro x hx y hy hxy
    obtain ⟨p, hp, rfl⟩ := List.mem_map.1 hx
    obtain ⟨p', hp', rfl⟩ := List.mem_map.1 hy
    obtain ⟨t, e⟩ := ha.1 p hp
    obtain ⟨t', e'⟩ := hb.1 p' hp'
    rw [← hxy, ← e] at e'
    simp at e'

/-! ### labels longer than the remaining key (hashmap.tlb `{n <= m}`) -/

/-- `parse` reads the label BEFORE it looks at the cell type: a refused label raises whatever the cell is -/
theorem parseEdge_label_none {kind : Int} {bits : Bits} {refs : List Cell} {k : Int} {pfx : Bits}
    (h : deserializeHml bits k = none) : parseEdge (.mk kind bits refs) k pfx = none := by
  rw [parseEdge, h]

/-- `parse_aug` tests the type first; on an ordinary cell a refused label raises -/
theorem parseAugEdge_label_none {X Y : Type} (D : AugDec X Y) {bits : Bits} {refs : List Cell} {k : Int} {pfx : Bits}
    (h : deserializeHml bits k = none) : parseAugEdge D (.mk (-1) bits refs) k pfx = none := by
  rw [parseAugEdge]; simp [h]

/-- an exception in either child ends the whole parse -/
theorem parseFork_none {l r : Cell} {more : List Cell} {m : Int} {pfx : Bits}
    (h : parseEdge l m (pfx ++ [false]) = none ∨ parseEdge r m (pfx ++ [true]) = none) :
    parseFork (l :: r :: more) m pfx = none := by
  rw [parseFork]
  rcases h with h | h
  · rw [h]
  · rw [h]; cases parseEdge l m (pfx ++ [false]) <;> rfl

theorem parseAugFork_none {X Y : Type} (D : AugDec X Y) {l r : Cell} {more : List Cell} {rest : Bits} {m : Int} {pfx : Bits}
    (h : parseAugEdge D l m (pfx ++ [false]) = none ∨ parseAugEdge D r m (pfx ++ [true]) = none) :
    parseAugFork D (l :: r :: more) rest m pfx = none := by
  rw [parseAugFork]
  rcases h with h | h
  · rw [h]
  · rw [h]; cases parseAugEdge D l m (pfx ++ [false]) <;> rfl

theorem deserializeHml_neg (bits : Bits) {k : Int} (hk : k < 0) : deserializeHml bits k = none := by
  cases hd : deserializeHml bits k with
  | none => rfl
  | some t => obtain ⟨n, s, rest⟩ := t; have := deserializeHml_le hd; omega

/-- a negative (remaining) key length is refused by the first label read, on every cell -/
theorem parseEdge_neg (c : Cell) {k : Int} (hk : k < 0) (pfx : Bits) : parseEdge c k pfx = none := by
  cases c with
  | mk kind bits refs => exact parseEdge_label_none (deserializeHml_neg bits hk)

theorem parseAugEdge_neg {X Y : Type} (D : AugDec X Y) (bits : Bits) (refs : List Cell) {k : Int} (hk : k < 0) (pfx : Bits) :
    parseAugEdge D (.mk (-1) bits refs) k pfx = none :=
  parseAugEdge_label_none D (deserializeHml_neg bits hk)

mutual
  /-- every edge a parse walks through: its label is readable and not longer than the key length remaining there; the walk
  continues below ordinary cells whose label leaves key bits over (first two references, remaining length minus the fork bit) -/
  def labelsFit : Cell → Int → Prop
    | .mk kind bits refs, k =>
      match readHml bits k with
      | none => False
      | some (n, _, _) => (n : Int) ≤ k ∧ (kind ≠ -1 ∨ k - (n : Int) = 0 ∨ labelsFitFork refs (k - (n : Int) - 1))
  def labelsFitFork : List Cell → Int → Prop
    | l :: r :: _, m => labelsFit l m ∧ labelsFit r m
    | _, _ => False
end

mutual
  /-- a `parse` that returns has met only labels that fit the remaining key -/
  theorem parseEdge_labelsFit : ∀ (c : Cell) (k : Int) (pfx : Bits) (kv : List (Bits × Val)),
      parseEdge c k pfx = some kv → labelsFit c k
    | .mk kind bits refs, k, pfx, kv, h => by
      rw [parseEdge] at h
      cases hd : deserializeHml bits k with
      | none => rw [hd] at h; cases h
      | some t =>
        obtain ⟨n, s, rest⟩ := t
        rw [hd] at h
        simp only [] at h
        obtain ⟨hr, hle⟩ := deserializeHml_some.1 hd
        rw [labelsFit, hr]
        refine ⟨hle, ?_⟩
        by_cases hk : kind = -1
        · right
          by_cases hm : k - (n : Int) = 0
          · left; exact hm
          · right
            simp only [hk, ne_eq, not_true_eq_false, if_false, hm] at h
            exact parseFork_labelsFit refs _ _ _ h
        · left; exact hk
  theorem parseFork_labelsFit : ∀ (refs : List Cell) (m : Int) (pfx : Bits) (kv : List (Bits × Val)),
      parseFork refs m pfx = some kv → labelsFitFork refs m
    | [], m, pfx, kv, h => by simp [parseFork] at h
    | [_], m, pfx, kv, h => by simp [parseFork] at h
    | l :: r :: more, m, pfx, kv, h => by
      rw [parseFork] at h
      split at h
      · rename_i a b ha hb
        rw [labelsFitFork]
        exact ⟨parseEdge_labelsFit l m _ a ha, parseEdge_labelsFit r m _ b hb⟩
      · cases h
end

/-- wherever the walk stands, the remaining key length is not negative -/
theorem labelsFit_nonneg : ∀ (c : Cell) (k : Int), labelsFit c k → 0 ≤ k
  | .mk kind bits refs, k, h => by
    rw [labelsFit] at h
    split at h
    · exact h.elim
    · have := h.1; omega

/-! ### keys -/
theorem natOfBits_replicate_false (j : Nat) (b : Bits) : natOfBits (List.replicate j false ++ b) = natOfBits b := by
  induction j with
  | zero => simp
  | succ j ih => simp [List.replicate_succ, natOfBits_cons, ih]

theorem natOfBits_binDigits (k : Nat) : natOfBits (binDigits k) = k := by
  unfold binDigits
  split
  · simp [natOfBits_cons, natOfBits_nil, *]
  · exact natOfBits_natToBits _ _ (CellSpec.lt_two_pow_bitLength k)

theorem natOfBits_keyBits (n k : Nat) : natOfBits (keyBits n k) = k := by
  simp [keyBits, natOfBits_replicate_false, natOfBits_binDigits]

theorem keyBits_length (n k : Nat) (hn : 0 < n) (hk : k < 2 ^ n) : (keyBits n k).length = n := by
  unfold keyBits binDigits
  have := (CellSpec.bitLength_le_iff k n).2 hk
  split <;> simp [Bits.natToBits_length] <;> omega

/-! ### the serialiser writes canonical trees -/
/-- leaves of the dict tree, left to right, keys relative to this edge -/
def Edge.leaves {V} : Edge V → List (Bits × V)
  | .leaf s v => [(s, v)]
  | .fork s l r => (Edge.leaves l).map (pre (s ++ [false])) ++ (Edge.leaves r).map (pre (s ++ [true]))

/-- the tree spells keys of exactly `n` bits -/
def Edge.Sized {V} : Edge V → Nat → Prop
  | .leaf s _, n => s.length = n
  | .fork s l r, n => ∃ m, n = s.length + 1 + m ∧ Edge.Sized l m ∧ Edge.Sized r m

theorem int2baU_nat (v w : Nat) (h : v < 2 ^ w) (hw : w ≠ 0) : BOp.int2baU (v : Int) w = some (natToBits w v) := by
  unfold BOp.int2baU
  have : ¬ ((v : Int) < 0) := by omega
  simp [hw, this]
  omega

/-- `write_label` writes a hashmap.tlb encoding of the label with the reference constructor -/
theorem labelBits_enc {s : Bits} {n : Nat} {lb : Bits} (hl : s.length ≤ n) (h : labelBits s n = some lb) :
    LabelEnc n s (refLabelKind s.length n (allSame s)) lb := by
  unfold labelBits at h
  rw [detect_eq] at h
  have hlt : s.length < 2 ^ bitLength n := Nat.lt_of_le_of_lt hl (CellSpec.lt_two_pow_bitLength n)
  -- with a length field of width 0 the label is empty, and the empty label is written short
  have hw : refLabelKind s.length n (allSame s) ≠ .short → bitLength n ≠ 0 := by
    intro hk h0
    rw [h0] at hlt
    simp [refLabelKind, lenBits, h0, Nat.lt_one_iff.1 hlt] at hk
  cases hk : refLabelKind s.length n (allSame s) with
  | short =>
    rw [hk] at h; simp at h; subst h; exact LabelEnc.short hl
  | long =>
    rw [hk, int2baU_nat _ _ hlt (hw (by simp [hk]))] at h
    simp at h; subst h
    exact LabelEnc.long hl
  | same =>
    have hs : allSame s = true := by
      cases hc : allSame s with
      | true => rfl
      | false => simp [refLabelKind, hc] at hk; split at hk <;> cases hk
    rw [hk, int2baU_nat _ _ hlt (hw (by simp [hk]))] at h
    simp at h; subst h
    simpa [lenBits, List.headD_eq_head?_getD] using LabelEnc.same (m := n) (s.headD false) (allSame_head hs) hl

/-- a label not longer than the bound is always written: `store_uint` accepts its length in `bit_length(n)` bits -/
theorem labelBits_some {s : Bits} {n : Nat} (hl : s.length ≤ n) : ∃ lb, labelBits s n = some lb := by
  unfold labelBits
  have hlt : s.length < 2 ^ bitLength n := Nat.lt_of_le_of_lt hl (CellSpec.lt_two_pow_bitLength n)
  by_cases hw : bitLength n = 0
  · have : n < 2 ^ 0 := (CellSpec.bitLength_le_iff n 0).1 (by omega)
    have h0 : s.length = 0 := by simp at this; omega
    rw [detect_eq]
    simp [refLabelKind, lenBits, hw, h0]
  · rw [int2baU_nat _ _ hlt hw]
    cases detect_label_type s n <;> simp

theorem writeEdge_leaf {V} {ser : V → Option Val} {s : Bits} {v : V} {n : Nat} {c : Cell} :
    writeEdge ser (.leaf s v) n = some c ↔ ∃ lb, labelBits s n = some lb ∧ ∃ vb vr, ser v = some (vb, vr) ∧
      ((lb ++ vb).length ≤ 1023 ∧ vr.length ≤ 4) ∧ c = .mk (-1) (lb ++ vb) vr := by
  simp only [writeEdge, Option.bind_eq_bind, Option.bind_eq_some_iff, Prod.exists, Option.ite_none_left_eq_some,
    Option.some.injEq, not_or, Nat.not_lt, eq_comm (b := c)]

theorem writeEdge_fork {V} {ser : V → Option Val} {s : Bits} {l r : Edge V} {n : Nat} {c : Cell} :
    writeEdge ser (.fork s l r) n = some c ↔ ∃ lb, labelBits s n = some lb ∧ lb.length ≤ 1023 ∧
      ∃ lc, writeEdge ser l (n - s.length - 1) = some lc ∧ ∃ rc, writeEdge ser r (n - s.length - 1) = some rc ∧
        c = .mk (-1) lb [lc, rc] := by
  simp only [writeEdge, Option.bind_eq_bind, Option.bind_eq_some_iff, Option.ite_none_left_eq_some,
    Option.some.injEq, Nat.not_lt, eq_comm (b := c)]

theorem writeEdge_valid {V} (ser : V → Option Val) (t : Edge V) : ∀ (n : Nat) (c : Cell), Edge.Sized t n →
    writeEdge ser t n = some c →
    ValidHMK refPolicy false n c ((Edge.leaves t).filterMap fun p => (ser p.2).map (p.1, ·)) := by
  induction t with
  | leaf s v =>
    intro n c hs h
    obtain ⟨lb, hlb, vb, vr, hv, _, rfl⟩ := writeEdge_leaf.1 h
    simpa [Edge.leaves, hv] using ValidHMK.leaf (p := false) (vb := vb) (vr := vr) (labelBits_enc (Nat.le_of_eq hs) hlb) rfl hs
  | fork s l r ihl ihr =>
    intro n c ⟨m, hn, hsl, hsr⟩ h
    obtain ⟨lb, hlb, _, lc, hlc, rc, hrc, rfl⟩ := writeEdge_fork.1 h
    have hm : n - s.length - 1 = m := by omega
    rw [hm] at hlc hrc
    have := ValidHMK.fork (labelBits_enc (by omega) hlb) rfl hn (ihl m lc hsl hlc) (ihr m rc hsr hrc)
    simpa [Edge.leaves, List.filterMap_append, List.filterMap_map, List.map_filterMap, Function.comp_def, pre] using this

/-! ### find_common_prefix -/
theorem lexLe_refl (a : Bits) : lexLe a a = true := by
  induction a with
  | nil => simp [lexLe]
  | cons x t ih => simp [lexLe, ih]

theorem lexLe_total (a b : Bits) : lexLe a b = true ∨ lexLe b a = true := by
  induction a generalizing b with
  | nil => simp [lexLe]
  | cons x t ih =>
    cases b with
    | nil => simp [lexLe]
    | cons y u =>
      simp only [lexLe]
      cases x <;> cases y <;> simp [ih]

theorem lexLe_trans (a b c : Bits) : lexLe a b = true → lexLe b c = true → lexLe a c = true := by
  induction a generalizing b c with
  | nil => simp [lexLe]
  | cons x t ih =>
    cases b with
    | nil => simp [lexLe]
    | cons y u =>
      cases c with
      | nil => simp [lexLe]
      | cons z w =>
        simp only [lexLe]
        cases x <;> cases y <;> cases z <;> simp <;> exact ih u w

/-- a common prefix of the two ends of a lexicographic interval is a prefix of everything in between -/
theorem prefix_between (p a b c : Bits) : lexLe a b = true → lexLe b c = true → p <+: a → p <+: c → p <+: b := by
  induction p generalizing a b c with
  | nil => simp
  | cons x p ih =>
    intro hab hbc ha hc
    obtain ⟨a1, rfl⟩ := ha
    obtain ⟨c1, rfl⟩ := hc
    cases b with
    | nil => simp [lexLe] at hab
    | cons y b1 =>
      simp only [List.cons_append, lexLe] at hab hbc
      have hxy : x = y := by
        cases x <;> cases y <;> simp_all
      subst hxy
      simp at hab hbc
      have := ih (p ++ a1) b1 (p ++ c1) hab hbc (by simp) (by simp)
      simpa using this

theorem commonPrefix_prefix (a b : Bits) : commonPrefix a b <+: a ∧ commonPrefix a b <+: b := by
  induction a generalizing b with
  | nil => simp [commonPrefix]
  | cons x t ih =>
    cases b with
    | nil => simp [commonPrefix]
    | cons y u =>
      simp only [commonPrefix]
      split
      · rename_i h; simp at h; subst h; simpa using ih u
      · simp

theorem commonPrefix_left (a b : Bits) : commonPrefix a b <+: a := (commonPrefix_prefix a b).1

/-- a left fold that keeps one of its two arguments, one that is below both in a preorder `r`, ends on a member below all -/
theorem foldl_pick {α} (r : α → α → Prop) (hrefl : ∀ a, r a a) (htrans : ∀ a b c, r a b → r b c → r a c) (pick : α → α → α)
    (hpick : ∀ a b, (pick a b = a ∨ pick a b = b) ∧ r (pick a b) a ∧ r (pick a b) b) :
    ∀ (ks : List α) (k : α), ks.foldl pick k ∈ k :: ks ∧ ∀ x ∈ k :: ks, r (ks.foldl pick k) x := by
  intro ks
  induction ks with
  | nil => intro k; simpa using hrefl k
  | cons b ks ih =>
    intro k
    obtain ⟨hmem, hle⟩ := ih (pick k b)
    obtain ⟨hkb, hk, hb⟩ := hpick k b
    rw [List.foldl_cons]
    constructor
    · rcases List.mem_cons.1 hmem with h | h
      · rw [h]; rcases hkb with e | e <;> simp [e]
      · simp [h]
    · intro x hx
      have htop := hle _ (List.mem_cons_self ..)
      rcases List.mem_cons.1 hx with rfl | hx
      · exact htrans _ _ _ htop hk
      rcases List.mem_cons.1 hx with rfl | hx
      · exact htrans _ _ _ htop hb
      · exact hle x (List.mem_cons_of_mem _ hx)

theorem lexMin_spec (k : Bits) (ks : List Bits) : lexMin k ks ∈ k :: ks ∧ ∀ x ∈ k :: ks, lexLe (lexMin k ks) x = true := by
  refine foldl_pick (fun a b => lexLe a b = true) lexLe_refl lexLe_trans _ (fun a b => ?_) ks k
  rcases lexLe_total a b with h | h
  · simp [h, lexLe_refl]
  · by_cases h' : lexLe a b = true <;> simp [h, h', lexLe_refl]

theorem lexMax_spec (k : Bits) (ks : List Bits) : lexMax k ks ∈ k :: ks ∧ ∀ x ∈ k :: ks, lexLe x (lexMax k ks) = true := by
  refine foldl_pick (fun a b => lexLe b a = true) lexLe_refl (fun a b c h1 h2 => lexLe_trans c b a h2 h1) _ (fun a b => ?_) ks k
  rcases lexLe_total a b with h | h
  · simp [h, lexLe_refl]
  · by_cases h' : lexLe a b = true <;> simp [h, h', lexLe_refl]

theorem lexMin_mem (k : Bits) (ks : List Bits) : lexMin k ks ∈ k :: ks := (lexMin_spec k ks).1
theorem lexMin_le (k : Bits) (ks : List Bits) : ∀ x ∈ k :: ks, lexLe (lexMin k ks) x = true := (lexMin_spec k ks).2
theorem lexMax_mem (k : Bits) (ks : List Bits) : lexMax k ks ∈ k :: ks := (lexMax_spec k ks).1
theorem le_lexMax (k : Bits) (ks : List Bits) : ∀ x ∈ k :: ks, lexLe x (lexMax k ks) = true := (lexMax_spec k ks).2

/-- `find_common_prefix` returns a prefix of every key -/
theorem findCommonPrefix_prefix (keys : List Bits) : ∀ x ∈ keys, findCommonPrefix keys <+: x := by
  match keys with
  | [] => simp
  | [k] => simp [findCommonPrefix]
  | k :: b :: ks =>
    intro x hx
    simp only [findCommonPrefix]
    exact prefix_between _ _ _ _ (lexMin_le k (b :: ks) x hx) (le_lexMax k (b :: ks) x hx)
      (commonPrefix_prefix _ _).1 (commonPrefix_prefix _ _).2

theorem lexLe_antisymm (a b : Bits) : lexLe a b = true → lexLe b a = true → a = b := by
  induction a generalizing b with
  | nil => cases b <;> simp [lexLe]
  | cons x t ih =>
    cases b with
    | nil => simp [lexLe]
    | cons y u =>
      simp only [lexLe]
      cases x <;> cases y <;> simp <;> exact ih u

/-- two different strings of equal length in lexicographic order split as cp·0·x / cp·1·y -/
theorem commonPrefix_split (a b : Bits) (hl : a.length = b.length) (hne : a ≠ b) (hle : lexLe a b = true) :
    ∃ x y, a = commonPrefix a b ++ false :: x ∧ b = commonPrefix a b ++ true :: y := by
  induction a generalizing b with
  | nil => cases b <;> simp at hl hne
  | cons p t ih =>
    cases b with
    | nil => simp at hl
    | cons q u =>
      simp only [lexLe] at hle
      simp only [commonPrefix]
      by_cases e : p = q
      · subst e
        simp at hle hl hne
        obtain ⟨x, y, h1, h2⟩ := ih u hl hne hle
        exact ⟨x, y, by simpa using h1, by simpa using h2⟩
      · cases p <;> cases q <;> simp at e hle ⊢

/-- with at least two distinct keys of equal length, the bit right after the common prefix is 0 in one key and 1 in another -/
theorem findCommonPrefix_forks (keys : List Bits) (n : Nat) (hlen : ∀ x ∈ keys, x.length = n) (hnd : keys.Nodup)
    (h2 : 2 ≤ keys.length) :
    ∃ x y, findCommonPrefix keys ++ false :: x ∈ keys ∧ findCommonPrefix keys ++ true :: y ∈ keys := by
  match keys, h2 with
  | k1 :: k2 :: ks, _ =>
    simp only [findCommonPrefix]
    obtain ⟨hmin, hminle⟩ := lexMin_spec k1 (k2 :: ks)
    obtain ⟨hmax, hmaxle⟩ := lexMax_spec k1 (k2 :: ks)
    have hne : lexMin k1 (k2 :: ks) ≠ lexMax k1 (k2 :: ks) := by
      intro e
      -- then every key lies between equal bounds: k1 = k2
      have all_eq : ∀ x ∈ k1 :: k2 :: ks, x = lexMin k1 (k2 :: ks) := fun x hx =>
        lexLe_antisymm _ _ (e ▸ hmaxle x hx) (hminle x hx)
      exact (List.nodup_cons.1 hnd).1 (by rw [all_eq k1 (by simp), ← all_eq k2 (by simp)]; simp)
    obtain ⟨x, y, h1, h2⟩ := commonPrefix_split _ _ (by rw [hlen _ hmin, hlen _ hmax]) hne (hmaxle _ hmin)
    exact ⟨x, y, h1 ▸ hmin, h2 ▸ hmax⟩

/-! ### build_edge -/
def leftOf {V} (src : List (Bits × V)) : List (Bits × V) :=
  src.filterMap (fun kv => match kv.1 with | false :: t => some (t, kv.2) | _ => none)
def rightOf {V} (src : List (Bits × V)) : List (Bits × V) :=
  src.filterMap (fun kv => match kv.1 with | false :: _ => none | k => some (k.drop 1, kv.2))

theorem forkMap_eq {V} (src : List (Bits × V)) :
    forkMap src = if (leftOf src).isEmpty || (rightOf src).isEmpty then none else some (leftOf src, rightOf src) := rfl

theorem fork_perm {V} (rest : List (Bits × V)) (h : ∀ kv ∈ rest, kv.1 ≠ []) :
    List.Perm rest ((leftOf rest).map (pre [false]) ++ (rightOf rest).map (pre [true])) := by
  induction rest with
  | nil => simp [leftOf, rightOf]
  | cons kv rest ih =>
    have ih' := ih (fun x hx => h x (List.mem_cons_of_mem _ hx))
    obtain ⟨k, v⟩ := kv
    cases k with
    | nil => exact absurd rfl (h (([] : Bits), v) (by simp))
    | cons b t =>
      cases b with
      | false =>
        simp only [leftOf, rightOf, List.filterMap_cons, List.map_cons, List.cons_append, pre] at ih' ⊢
        exact List.Perm.cons _ ih'
      | true =>
        simp only [leftOf, rightOf, List.filterMap_cons, List.map_cons, List.drop_succ_cons, List.drop_zero, pre] at ih' ⊢
        exact (List.Perm.cons _ ih').trans List.perm_middle.symm

/-- what `build_edge` may assume of its argument: pairwise different keys of `n` bits -/
structure Keyed {V} (n : Nat) (src : List (Bits × V)) : Prop where
  len : ∀ kv ∈ src, kv.1.length = n
  nodup : (src.map Prod.fst).Nodup

theorem Keyed.keys_len {V} {n : Nat} {src : List (Bits × V)} (h : Keyed n src) : ∀ x ∈ src.map (·.1), x.length = n := by
  intro x hx
  obtain ⟨kv, hkv, rfl⟩ := List.mem_map.1 hx
  exact h.len kv hkv

theorem Keyed.perm {V} {n : Nat} {a b : List (Bits × V)} (h : Keyed n a) (p : a.Perm b) : Keyed n b :=
  ⟨fun kv hkv => h.len kv (p.mem_iff.2 hkv), (p.map Prod.fst).nodup_iff.1 h.nodup⟩

theorem Keyed.append {V} {n : Nat} {a b : List (Bits × V)} (h : Keyed n (a ++ b)) : Keyed n a ∧ Keyed n b := by
  have hnd := h.nodup
  rw [List.map_append, List.nodup_append] at hnd
  exact ⟨⟨fun kv hkv => h.len kv (List.mem_append_left _ hkv), hnd.1⟩, ⟨fun kv hkv => h.len kv (List.mem_append_right _ hkv), hnd.2.1⟩⟩

theorem Keyed.unpre {V} {n : Nat} (p : Bits) {l : List (Bits × V)} (h : Keyed n (l.map (pre p))) : Keyed (n - p.length) l := by
  constructor
  · intro kv hkv
    have := h.len _ (List.mem_map_of_mem hkv)
    simp only [pre, List.length_append] at this
    omega
  · have hnd := h.nodup
    rw [List.map_map] at hnd
    exact (List.pairwise_map.1 hnd).imp (fun {a b} hab heq => hab (by simp [pre, heq])) |> List.pairwise_map.2

/-- the map `remove_prefix_map(src, len(label))` of `build_edge`: `src` is `rest` with the label put back in front -/
theorem rest_facts {V} {n : Nat} {src : List (Bits × V)} (hk : Keyed n src) (label : Bits)
    (hlab : findCommonPrefix (src.map (·.1)) = label) :
    (src.map fun kv => (kv.1.drop label.length, kv.2)).map (pre label) = src ∧
    Keyed (n - label.length) (src.map fun kv => (kv.1.drop label.length, kv.2)) := by
  have hsrc : (src.map fun kv => (kv.1.drop label.length, kv.2)).map (pre label) = src := by
    rw [List.map_map]
    conv => rhs; rw [← List.map_id src]
    apply List.map_congr_left
    intro kv hkv
    have hpre := findCommonPrefix_prefix _ kv.1 (List.mem_map_of_mem (f := fun kv : Bits × V => kv.1) hkv)
    rw [hlab] at hpre
    obtain ⟨r, hr⟩ := hpre
    show (label ++ kv.1.drop label.length, kv.2) = kv
    rw [← hr, List.drop_left, hr]
  exact ⟨hsrc, Keyed.unpre label (hsrc.symm ▸ hk)⟩

/-- `fork_map(rest)` for pairwise different (m+1)-bit keys: both halves have pairwise different m-bit keys -/
theorem fork_facts {V} {m : Nat} {rest : List (Bits × V)} (hk : Keyed (m + 1) rest) :
    rest.Perm ((leftOf rest).map (pre [false]) ++ (rightOf rest).map (pre [true])) ∧ Keyed m (leftOf rest) ∧ Keyed m (rightOf rest) := by
  have hperm := fork_perm rest (fun kv hkv h0 => by have := hk.len kv hkv; rw [h0] at this; simp at this)
  obtain ⟨hl, hr⟩ := (hk.perm hperm).append
  exact ⟨hperm, Keyed.unpre [false] hl, Keyed.unpre [true] hr⟩

theorem mem_keys_pre {V} {label k : Bits} {rest : List (Bits × V)} (h : label ++ k ∈ (rest.map (pre label)).map (·.1)) :
    ∃ v, (k, v) ∈ rest := by
  obtain ⟨q, hq, he⟩ := List.mem_map.1 h
  obtain ⟨⟨k', v⟩, hq', rfl⟩ := List.mem_map.1 hq
  have : k' = k := List.append_cancel_left he
  exact ⟨v, this ▸ hq'⟩

/-- `build_edge` on pairwise different `n`-bit keys never trips its assertions (fuel n+1 suffices); the tree spells `n`-bit keys
and its leaves are a permutation of the input -/
theorem buildEdge_spec {V} : ∀ (fuel n : Nat) (src : List (Bits × V)), n < fuel → src ≠ [] → Keyed n src →
    ∃ t, buildEdge fuel src = some t ∧ Edge.Sized t n ∧ (Edge.leaves t).Perm src := by
  intro fuel
  induction fuel with
  | zero => intro n src h; omega
  | succ fuel ih =>
    intro n src hfuel hne hk
    have hemp : src.isEmpty = false := by simpa using hne
    rw [buildEdge, hemp]
    dsimp only [Bool.false_eq_true, if_false]
    obtain ⟨hsrc, hrest⟩ := rest_facts hk _ rfl
    generalize hlab : findCommonPrefix (src.map (·.1)) = label at hsrc hrest ⊢
    generalize src.map (fun kv => (kv.1.drop label.length, kv.2)) = rest at hsrc hrest ⊢
    subst hsrc
    rcases rest with _ | ⟨⟨k, v⟩, _ | ⟨b, tl⟩⟩
    · exact absurd rfl hne
    · -- a single key is its own common prefix
      have hk0 : k = [] := by simpa [findCommonPrefix, pre] using hlab
      subst hk0
      refine ⟨_, rfl, ?_, by simp [Edge.leaves, pre]⟩
      simpa [Edge.Sized, pre] using hk.len (pre label ([], v)) (by simp)
    · dsimp only
      have h2 : 2 ≤ ((k, v) :: b :: tl).length := by simp
      generalize (k, v) :: b :: tl = rest at *
      obtain ⟨x, y, hx, hy⟩ := findCommonPrefix_forks _ n hk.keys_len hk.nodup (by simpa using h2)
      rw [hlab] at hx hy
      obtain ⟨va, hva⟩ := mem_keys_pre hx
      obtain ⟨vb, hvb⟩ := mem_keys_pre hy
      have hL : (x, va) ∈ leftOf rest := List.mem_filterMap.2 ⟨_, hva, rfl⟩
      have hR : (y, vb) ∈ rightOf rest := List.mem_filterMap.2 ⟨_, hvb, rfl⟩
      have hn : n = label.length + 1 + x.length := by
        have := hk.len _ (List.mem_map_of_mem (f := pre label) hva)
        simp only [pre, List.length_append, List.length_cons] at this
        omega
      have hm : n - label.length = x.length + 1 := by omega
      rw [hm] at hrest
      obtain ⟨hperm, hkl, hkr⟩ := fork_facts hrest
      obtain ⟨tl, htl, sl, pl⟩ := ih x.length (leftOf rest) (by omega) (List.ne_nil_of_mem hL) hkl
      obtain ⟨tr, htr, sr, pr⟩ := ih x.length (rightOf rest) (by omega) (List.ne_nil_of_mem hR) hkr
      have hfm : forkMap rest = some (leftOf rest, rightOf rest) := by
        rw [forkMap_eq]; simp [List.ne_nil_of_mem hL, List.ne_nil_of_mem hR]
      rw [hfm]
      dsimp only
      rw [htl, htr]
      refine ⟨_, rfl, ⟨x.length, hn, sl, sr⟩, ?_⟩
      rw [Edge.leaves, ← pre_pre label [false], ← pre_pre label [true], ← List.map_append]
      exact (((pl.map _).append (pr.map _)).trans hperm.symm).map _

/-! ### the leaves of a tree of `n`-bit keys -/

/-- `KeyTree n kv`: `kv` has the shape in which `ValidHMK`, `ValidAug` and `Locate.ValidAugP` list the leaves of a hashmap.tlb tree
of `n`-bit keys (a pruned edge contributes none) -/
inductive KeyTree {α : Type} : Nat → List (Bits × α) → Prop where
  | nil {n} : KeyTree n []
  | leaf {n s v} : s.length = n → KeyTree n [(s, v)]
  | fork {n m s kvl kvr} : n = s.length + 1 + m → KeyTree m kvl → KeyTree m kvr →
      KeyTree n (kvl.map (pre (s ++ [false])) ++ kvr.map (pre (s ++ [true])))

theorem KeyTree.len {α n} {kv : List (Bits × α)} (h : KeyTree n kv) : ∀ q ∈ kv, q.1.length = n := by
  induction h with
  | nil => simp
  | leaf hn => simpa using hn
  | fork hn _ _ ihl ihr =>
    intro q hq
    simp only [List.mem_append, List.mem_map] at hq
    rcases hq with ⟨a, ha, rfl⟩ | ⟨a, ha, rfl⟩
    · simp only [pre, List.length_append, List.length_singleton, ihl a ha, hn]
    · simp only [pre, List.length_append, List.length_singleton, ihr a ha, hn]

theorem pairwise_pre {V} (p : Bits) {m : Nat} {l : List (Bits × V)} (hlen : ∀ q ∈ l, q.1.length = m)
    (h : l.Pairwise fun a b => natOfBits a.1 < natOfBits b.1) :
    (l.map (pre p)).Pairwise fun a b => natOfBits a.1 < natOfBits b.1 := by
  rw [List.pairwise_map]
  refine h.imp_of_mem fun {a b} ha hb hab => ?_
  simp only [pre, natOfBits_append, hlen a ha, hlen b hb]
  omega

/-- the keys come out strictly ascending as numbers, hence pairwise different -/
theorem KeyTree.sorted {α n} {kv : List (Bits × α)} (h : KeyTree n kv) :
    kv.Pairwise fun a b => natOfBits a.1 < natOfBits b.1 := by
  induction h with
  | nil => exact .nil
  | leaf _ => exact List.pairwise_singleton _ _
  | fork hn hl hr ihl ihr =>
    rw [List.pairwise_append]
    refine ⟨pairwise_pre _ hl.len ihl, pairwise_pre _ hr.len ihr, ?_⟩
    simp only [List.mem_map]
    rintro _ ⟨a, ha, rfl⟩ _ ⟨b, hb, rfl⟩
    have h1 := natOfBits_lt a.1
    rw [hl.len a ha] at h1
    simp only [pre, natOfBits_append, hl.len a ha, hr.len b hb, natOfBits_cons, natOfBits_nil, List.length_cons,
      List.length_nil, Bool.false_eq_true, if_false, if_true, Nat.zero_add, Nat.add_zero, Nat.pow_zero, Nat.mul_one, Nat.pow_one,
      Nat.add_mul, Nat.one_mul]
    omega

/-- with `n > 0` no key is empty: the `int(i, 2)` of `parse_hashmap_aug` does not raise -/
theorem KeyTree.any_empty {α n} {kv : List (Bits × α)} (h : KeyTree n kv) (hn : 0 < n) :
    kv.any (fun p => p.1.isEmpty) = false := by
  rw [List.any_eq_false]
  intro q hq he
  have := h.len q hq
  rw [List.isEmpty_iff.1 he] at this
  exact absurd this (by simp; omega)

theorem valid_keyTree {ok p n c kv} (h : ValidHMK ok p n c kv) : KeyTree n kv := by
  induction h with
  | leaf _ _ hn => exact .leaf hn
  | fork _ _ hn _ _ ihl ihr => exact .fork hn ihl ihr
  | pruned _ => exact .nil

/-! ### the HashMap.map dict -/
/-- invariant of `HashMap.map` under `set_int_key`: distinct keys, all below 2^n -/
def DictOK {V} (n : Nat) (d : Dict V) : Prop := (d.map Prod.fst).Nodup ∧ ∀ kv ∈ d, kv.1 < 2 ^ n

theorem dset_new {K V : Type} [DecidableEq K] (k : K) (v : V) (d : List (K × V)) (h : k ∉ d.map Prod.fst) :
    Py.dset k v d = d ++ [(k, v)] := by
  induction d with
  | nil => rfl
  | cons x d ih =>
    obtain ⟨k', v'⟩ := x
    simp only [List.map_cons, List.mem_cons, not_or] at h
    have : ¬ k' = k := fun e => h.1 e.symm
    simp [Py.dset, this, ih h.2]

/-- `for x in l: d[f(x)] = g(x)` with new, pairwise different keys appends the entries in order -/
theorem foldl_dset_fresh {α K V : Type} [DecidableEq K] (f : α → K) (g : α → V) :
    ∀ (l : List α) (d : List (K × V)), (l.map f).Nodup → (∀ x ∈ l, f x ∉ d.map Prod.fst) →
      l.foldl (fun d x => Py.dset (f x) (g x) d) d = d ++ l.map fun x => (f x, g x) := by
  intro l
  induction l with
  | nil => intro d _ _; simp
  | cons x l ih =>
    intro d hn hd
    rw [List.map_cons, List.nodup_cons] at hn
    rw [List.foldl_cons, dset_new _ _ _ (hd x List.mem_cons_self), ih _ hn.2]
    · simp
    · intro y hy
      simp only [List.map_append, List.map_cons, List.map_nil, List.mem_append, List.mem_singleton, not_or]
      exact ⟨hd y (List.mem_cons_of_mem _ hy), fun e => hn.1 (e ▸ List.mem_map_of_mem hy)⟩

/-- the model's dict of integer keys is the Python dict at `K = Nat` (as functions, so that it rewrites under a fold) -/
theorem dset_eq_dictSet {V : Type} : @Py.dset Nat V _ = dictSet := by
  funext k v d
  induction d with
  | nil => rfl
  | cons x d ih => obtain ⟨k', v'⟩ := x; simp only [Py.dset, dictSet, ih]

theorem dictSet_new {V} (k : Nat) (v : V) (d : Dict V) (h : k ∉ d.map Prod.fst) : dictSet k v d = d ++ [(k, v)] :=
  dset_eq_dictSet ▸ dset_new k v d h

theorem dictSet_keys_old {V} (k : Nat) (v : V) (d : Dict V) (h : k ∈ d.map Prod.fst) :
    (dictSet k v d).map Prod.fst = d.map Prod.fst := by
  induction d with
  | nil => simp at h
  | cons a d ih =>
    obtain ⟨k', v'⟩ := a
    by_cases e : k' = k
    · simp [dictSet, e]
    · have : k ∈ d.map Prod.fst := (List.mem_cons.1 h).resolve_left (Ne.symm e)
      simp [dictSet, e, ih this]

theorem dictSet_mem {V} (k : Nat) (v : V) (d : Dict V) : ∀ kv ∈ dictSet k v d, kv ∈ d ∨ kv = (k, v) := by
  induction d with
  | nil => simp [dictSet]
  | cons a d ih =>
    intro kv hkv
    rw [dictSet] at hkv
    split at hkv
    · rcases List.mem_cons.1 hkv with rfl | h
      · exact .inr (by simp [*])
      · exact .inl (List.mem_cons_of_mem _ h)
    · rcases List.mem_cons.1 hkv with rfl | h
      · exact .inl List.mem_cons_self
      · exact (ih kv h).imp_left (List.mem_cons_of_mem _)

theorem dictSet_ok {V} (n k : Nat) (v : V) (d : Dict V) (hd : DictOK n d) (hk : k < 2 ^ n) : DictOK n (dictSet k v d) := by
  constructor
  · by_cases h : k ∈ d.map Prod.fst
    · rw [dictSet_keys_old k v d h]; exact hd.1
    · rw [dictSet_new k v d h, List.map_append, List.nodup_append]
      refine ⟨hd.1, by simp, ?_⟩
      intro a ha b hb
      simp at hb; subst hb
      intro e; subst e; exact h ha
  · intro kv hkv
    rcases dictSet_mem k v d kv hkv with h | h
    · exact hd.2 kv h
    · subst h; exact hk

/-- `set_int_key` accepts exactly the keys `0 ≤ k < 2^n` (`int_key.bit_length() ≤ size`) -/
theorem setIntKey_eq {V} (n : Nat) (k : Int) (v : V) (d : Dict V) :
    setIntKey n k v d = if 0 ≤ k ∧ k < 2 ^ n then some (dictSet k.toNat v d) else none := by
  have hp : (2 : Int) ^ n = ((2 ^ n : Nat) : Int) := by simp
  have hb := CellSpec.bitLength_le_iff k.natAbs n
  unfold setIntKey
  by_cases h : 0 ≤ k ∧ k < 2 ^ n
  · rw [if_neg (by omega), if_pos h]
  · rw [if_pos (by omega), if_neg h]

theorem setIntKey_ok {V} (n : Nat) (k : Int) (v : V) (d d' : Dict V) (hd : DictOK n d) (h : setIntKey n k v d = some d') :
    DictOK n d' := by
  rw [setIntKey_eq] at h
  split at h
  · rename_i hk
    obtain rfl := Option.some.inj h
    have hp : (2 : Int) ^ n = ((2 ^ n : Nat) : Int) := by simp
    exact dictSet_ok n _ v d hd (by omega)
  · cases h

theorem setAll_ok {V} (n : Nat) (ins : List (Int × V)) : ∀ (d d' : Dict V), DictOK n d → setAll n ins d = some d' → DictOK n d' := by
  induction ins with
  | nil => intro d d' hd h; obtain rfl := Option.some.inj h; exact hd
  | cons a ins ih =>
    intro d d' hd h
    obtain ⟨k, v⟩ := a
    obtain ⟨d1, h1, h⟩ := Option.bind_eq_some_iff.1 h
    exact ih d1 d' (setIntKey_ok n k v d d1 hd h1) h

theorem dictGet_dictSet {V} (k k' : Nat) (v : V) (d : Dict V) :
    dictGet k (dictSet k' v d) = if k = k' then some v else dictGet k d := by
  induction d with
  | nil => simp only [dictSet, dictGet]; by_cases e : k' = k <;> simp [e] <;> omega
  | cons a d ih =>
    obtain ⟨k2, v2⟩ := a
    by_cases e : k2 = k'
    · subst e
      by_cases e2 : k2 = k
      · simp [dictSet, dictGet, e2]
      · have : ¬ k = k2 := fun h => e2 h.symm
        simp [dictSet, dictGet, e2, this]
    · by_cases e2 : k2 = k
      · subst e2; simp [dictSet, dictGet, e]
      · simp [dictSet, dictGet, e, e2, ih]

theorem dictGet_mem {V} (d : Dict V) (h : (d.map Prod.fst).Nodup) (k : Nat) (v : V) : (k, v) ∈ d ↔ dictGet k d = some v := by
  induction d with
  | nil => simp [dictGet]
  | cons a d ih =>
    obtain ⟨k2, v2⟩ := a
    simp only [List.map_cons, List.nodup_cons] at h
    by_cases e : k2 = k
    · subst e
      simp only [dictGet, if_true, List.mem_cons, Prod.mk.injEq, true_and, Option.some.injEq]
      constructor
      · rintro (h1 | h1)
        · exact h1.symm
        · exact absurd (List.mem_map_of_mem (f := Prod.fst) h1) h.1
      · intro h1; left; exact h1.symm
    · have : ¬ k = k2 := fun h => e h.symm
      simp [dictGet, e, this, ih h.2]

/-- value last written for key `k` by a sequence of `set_int_key` calls -/
def lastWrite {V} (ins : List (Int × V)) (k : Nat) : Option V :=
  (ins.reverse.find? (fun p => p.1 = (k : Int))).map (·.2)

theorem lastWrite_cons {V} (kk : Int) (v : V) (ins : List (Int × V)) (k : Nat) :
    lastWrite ((kk, v) :: ins) k = (lastWrite ins k).or (if kk = k then some v else none) := by
  simp only [lastWrite, List.reverse_cons, List.find?_append]
  cases List.find? _ ins.reverse with
  | some x => rfl
  | none => by_cases e : kk = k <;> simp [e]

theorem dictGet_setAll {V} (n : Nat) (ins : List (Int × V)) : ∀ (d d' : Dict V), setAll n ins d = some d' →
    ∀ k, dictGet k d' = (lastWrite ins k).or (dictGet k d) := by
  induction ins with
  | nil => intro d d' h k; obtain rfl := Option.some.inj h; simp [lastWrite]
  | cons a ins ih =>
    intro d d' h k
    obtain ⟨kk, v⟩ := a
    obtain ⟨d1, h1, h⟩ := Option.bind_eq_some_iff.1 h
    rw [setIntKey_eq] at h1
    split at h1
    · obtain rfl := Option.some.inj h1
      have e : k = kk.toNat ↔ kk = (k : Int) := by omega
      rw [ih _ d' h k, dictGet_dictSet, lastWrite_cons]
      cases lastWrite ins k <;> by_cases e' : kk = (k : Int) <;> simp [e, e']
    · cases h1

/-! ### serialize -/
theorem valid_ordinary {ok n c kv} (h : ValidHMK ok false n c kv) : ∃ b r, c = .mk (-1) b r := by
  cases h with
  | leaf => exact ⟨_, _, rfl⟩
  | fork => exact ⟨_, _, rfl⟩

theorem valid_mono {ok ok' : Nat → Bits → LabelKind → Prop} (hmono : ∀ m s k, ok m s k → ok' m s k) {p n c kv}
    (h : ValidHMK ok p n c kv) : ValidHMK ok' p n c kv := by
  induction h with
  | leaf hl hok hn => exact ValidHMK.leaf hl (hmono _ _ _ hok) hn
  | fork hl hok hn _ _ ihl ihr => exact ValidHMK.fork hl (hmono _ _ _ hok) hn ihl ihr
  | pruned hb => exact ValidHMK.pruned hb

theorem nodup_map_on {α β} (f : α → β) (l : List α) (hinj : ∀ a ∈ l, ∀ b ∈ l, f a = f b → a = b) (h : l.Nodup) :
    (l.map f).Nodup := by
  unfold List.Nodup at *
  rw [List.pairwise_map]
  exact h.imp_of_mem (fun {a b} ha hb hab e => hab (hinj a ha b hb e))

theorem keyed_of_dictOK {V} {n : Nat} (hn : 0 < n) {d : Dict V} (hd : DictOK n d) :
    Keyed n (d.map fun kv => (keyBits n kv.1, kv.2)) := by
  constructor
  · intro kv hkv
    obtain ⟨a, ha, rfl⟩ := List.mem_map.1 hkv
    exact keyBits_length n a.1 hn (hd.2 a ha)
  · have := nodup_map_on (keyBits n) _ (fun a _ b _ hab => by simpa [natOfBits_keyBits] using congrArg natOfBits hab) hd.1
    rwa [List.map_map] at this ⊢

/-- `build_tree` of a non-empty map built by `set_int_key` always returns a tree, with the padded keys at its leaves -/
theorem buildTree_spec {V} (n : Nat) (hn : 0 < n) (d : Dict V) (hd : DictOK n d) (hne : d ≠ []) :
    ∃ t, buildTree n d = some t ∧ Edge.Sized t n ∧ (Edge.leaves t).Perm (d.map fun kv => (keyBits n kv.1, kv.2)) :=
  buildEdge_spec (n + 1) n _ (Nat.lt_succ_self n) (by simpa using hne) (keyed_of_dictOK hn hd)

/-- what `HashMap.serialize()` returns, when it returns: the canonical tree of the map -/
theorem serialize_canonical {V} (n : Nat) (hn : 0 < n) (ser : V → Option Val) (d : Dict V) (c : Cell)
    (hd : DictOK n d) (h : serialize n ser d = some (some c)) :
    ∃ kv : List (Bits × Val), Canonical n c kv ∧
      kv.Pairwise (fun a b => natOfBits a.1 < natOfBits b.1) ∧ (∀ p ∈ kv, p.1.length = n) ∧
      ∀ kb val, (kb, val) ∈ kv ↔ ∃ k v, (k, v) ∈ d ∧ kb = keyBits n k ∧ ser v = some val := by
  have hne : d ≠ [] := by rintro rfl; simp [serialize] at h
  obtain ⟨t, ht, hsz, hperm⟩ := buildTree_spec n hn d hd hne
  have he : d.isEmpty = false := by simpa using hne
  simp only [serialize, he, Bool.false_eq_true, if_false, ht, Option.bind_eq_bind, Option.bind_some] at h
  obtain ⟨c', hc, rfl⟩ : ∃ c', writeEdge ser t n = some c' ∧ c' = c := by simpa [Option.bind_eq_some_iff] using h
  have hcan := writeEdge_valid ser t n c' hsz hc
  refine ⟨_, hcan, ?_, ?_, ?_⟩
  · exact (valid_keyTree hcan).sorted
  · exact (valid_keyTree hcan).len
  · intro kb val
    simp only [List.mem_filterMap, Option.map_eq_some_iff, Prod.mk.injEq, hperm.mem_iff, List.mem_map]
    constructor
    · rintro ⟨_, ⟨⟨k, v⟩, hmem, rfl⟩, _, hser, rfl, rfl⟩
      exact ⟨k, v, hmem, rfl, hser⟩
    · rintro ⟨k, v, hmem, rfl, hser⟩
      exact ⟨_, ⟨(k, v), hmem, rfl⟩, val, hser, rfl, rfl⟩

theorem intKeys_sorted {V} (kv : List (Bits × V)) (h : kv.Pairwise (fun a b => natOfBits a.1 < natOfBits b.1)) :
    intKeys kv = kv.map (fun p => (natOfBits p.1, p.2)) := by
  have := foldl_dset_fresh (fun p : Bits × V => natOfBits p.1) (·.2) kv [] (List.pairwise_map.2 (h.imp Nat.ne_of_lt)) (by simp)
  rwa [dset_eq_dictSet, List.nil_append] at this

/-! ### augmented parser, API level -/
theorem validAug_keyTree {X Y : Type} {D : AugDec X Y} {p n c kv ex} (h : ValidAug D p n c kv ex) : KeyTree n kv := by
  induction h with
  | leaf _ hn _ _ => exact .leaf hn
  | fork _ hn _ _ _ ihl ihr => exact .fork hn ihl ihr
  | pruned _ => exact .nil

theorem parseHashmapAug_valid {X Y : Type} {D : AugDec X Y} {p : Bool} {n : Nat} {bits refs} {kv : List (Bits × X)} {ex : List Y}
    (hn : 0 < n) (h : ValidAug D p n (.mk (-1) bits refs) kv ex) :
    parseHashmapAug D (.mk (-1) bits refs) n = .dict (intKeys kv, ex) := by
  have hp := parseAugEdge_valid h []
  rw [map_pre_nil] at hp
  simp [parseHashmapAug, hp, (validAug_keyTree h).any_empty hn]


/-! ### capacity -/
theorem LabelEnc_length {m s k lb} (h : LabelEnc m s k lb) : lb.length = encLen k s.length m := by
  cases h <;> simp only [encLen, List.length_cons, List.length_append, List.length_replicate, Bits.natToBits_length] <;> omega

/-- explicit capacity condition: every cell of the tree holds its (reference-kind) label plus, for a leaf, the value -/
def Edge.Fits {V} (ser : V → Option Val) : Edge V → Nat → Prop
  | .leaf s v, n => ∃ vb vr, ser v = some (vb, vr) ∧
      encLen (refLabelKind s.length n (allSame s)) s.length n + vb.length ≤ 1023 ∧ vr.length ≤ 4
  | .fork s l r, n => encLen (refLabelKind s.length n (allSame s)) s.length n ≤ 1023 ∧
      Edge.Fits ser l (n - s.length - 1) ∧ Edge.Fits ser r (n - s.length - 1)

theorem writeEdge_iff {V} (ser : V → Option Val) (t : Edge V) : ∀ n, Edge.Sized t n →
    ((writeEdge ser t n).isSome ↔ Edge.Fits ser t n) := by
  induction t with
  | leaf s v =>
    intro n hs
    obtain ⟨lb, hlb⟩ := labelBits_some (s := s) (n := n) (Nat.le_of_eq hs)
    have hlen := LabelEnc_length (labelBits_enc (Nat.le_of_eq hs) hlb)
    simp only [Option.isSome_iff_exists, writeEdge_leaf, hlb, Edge.Fits, Option.some.injEq, exists_eq_left', List.length_append, hlen]
    exact ⟨fun ⟨_, vb, vr, hv, h, _⟩ => ⟨vb, vr, hv, h⟩, fun ⟨vb, vr, hv, h⟩ => ⟨_, vb, vr, hv, h, rfl⟩⟩
  | fork s l r ihl ihr =>
    intro n ⟨m, hn, hsl, hsr⟩
    obtain ⟨lb, hlb⟩ := labelBits_some (s := s) (n := n) (by omega)
    have hlen := LabelEnc_length (labelBits_enc (by omega) hlb)
    have hm : n - s.length - 1 = m := by omega
    simp only [Option.isSome_iff_exists, writeEdge_fork, hlb, Edge.Fits, Option.some.injEq, exists_eq_left', hlen, hm, ← ihl m hsl, ← ihr m hsr]
    exact ⟨fun ⟨_, h, lc, hl, rc, hr, _⟩ => ⟨h, ⟨lc, hl⟩, rc, hr⟩, fun ⟨h, ⟨lc, hl⟩, rc, hr⟩ => ⟨_, h, lc, hl, rc, hr, rfl⟩⟩

/-- CAPACITY, explicitly: the tree of a non-empty map always exists, and `serialize()` succeeds iff every cell fits -/
theorem serialize_iff_fits {V} (n : Nat) (hn : 0 < n) (ser : V → Option Val) (d : Dict V) (hd : DictOK n d) (hne : d ≠ []) :
    ∃ t, buildTree n d = some t ∧ Edge.Sized t n ∧ ((serialize n ser d).isSome ↔ Edge.Fits ser t n) := by
  obtain ⟨t, ht, hsz, _⟩ := buildTree_spec n hn d hd hne
  refine ⟨t, ht, hsz, ?_⟩
  have he : d.isEmpty = false := by simpa using hne
  rw [← writeEdge_iff ser t n hsz]
  simp only [serialize, he, Bool.false_eq_true, if_false, ht, Option.bind_eq_bind, Option.bind_some]
  cases writeEdge ser t n <;> simp

/-! ### uniqueness of the canonical tree -/
theorem valid_nonempty' {ok p n c kv} (h : ValidHMK ok p n c kv) : p = false → kv ≠ [] := by
  induction h with
  | leaf => intro _; simp
  | fork _ _ _ _ _ ihl _ => intro hp; simp [ihl hp]
  | pruned _ => intro hp; simp at hp

theorem valid_nonempty {ok n c kv} (h : ValidHMK ok false n c kv) : kv ≠ [] := valid_nonempty' h rfl

theorem valid_keylen {ok p n c kv} (h : ValidHMK ok p n c kv) : ∀ q ∈ kv, q.1.length = n :=
  (valid_keyTree h).len

theorem refPolicy_same_ne {m s} (h : refLabelKind s.length m (allSame s) = .same) : s ≠ [] := by
  intro e; subst e
  simp [refLabelKind] at h

theorem refLabel_unique {m s k k' lb lb'} (h : LabelEnc m s k lb) (hk : refPolicy m s k) (h' : LabelEnc m s k' lb')
    (hk' : refPolicy m s k') : lb = lb' := by
  obtain rfl : k = k' := hk.trans hk'.symm
  cases h with
  | short _ => cases h'; rfl
  | long _ => cases h'; rfl
  | same v hv _ =>
    cases h' with
    | same v' hv' _ =>
      have hne : s.length ≠ 0 := by simpa using refPolicy_same_ne (Eq.symm hk)
      rw [(List.replicate_inj.1 (hv.symm.trans hv')).2.resolve_left hne]

theorem fork_ne_singleton {α β} {l r : List α} (f g : α → β) (hl : l ≠ []) (hr : r ≠ []) (x : β) :
    l.map f ++ r.map g ≠ [x] := by
  intro h
  have := congrArg List.length h
  have := List.length_pos_iff.2 hl
  have := List.length_pos_iff.2 hr
  simp at *
  omega

theorem pre_inj {α} (p : Bits) : Function.Injective (pre p : Bits × α → Bits × α) := by
  intro a b h
  obtain ⟨a1, a2⟩ := a; obtain ⟨b1, b2⟩ := b
  simp [pre] at h
  simp [h.1, h.2]

theorem commonPrefix_fork (s a b : Bits) : commonPrefix (s ++ false :: a) (s ++ true :: b) = s := by
  induction s with
  | nil => simp [commonPrefix]
  | cons x s ih => simp [commonPrefix, ih]

theorem append_split_unique {α} (p : α → Prop) : ∀ (l₁ l₂ r₁ r₂ : List α), (∀ a ∈ l₁, p a) → (∀ a ∈ l₂, p a) →
    (∀ a ∈ r₁, ¬ p a) → (∀ a ∈ r₂, ¬ p a) → l₁ ++ r₁ = l₂ ++ r₂ → l₁ = l₂ ∧ r₁ = r₂ := by
  intro l₁
  induction l₁ with
  | nil =>
    intro l₂ r₁ r₂ _ h2 h3 _ h
    cases l₂ with
    | nil => exact ⟨rfl, h⟩
    | cons a l₂ => subst h; exact absurd (h2 a (by simp)) (h3 a (by simp))
  | cons a l₁ ih =>
    intro l₂ r₁ r₂ h1 h2 h3 h4 h
    cases l₂ with
    | nil => subst h; exact absurd (h1 a (by simp)) (h4 a (by simp))
    | cons b l₂ =>
      rw [List.cons_append, List.cons_append] at h
      obtain ⟨rfl, h'⟩ := List.cons.inj h
      obtain ⟨rfl, rfl⟩ := ih l₂ r₁ r₂ (fun x hx => h1 x (by simp [hx])) (fun x hx => h2 x (by simp [hx])) h3 h4 h'
      exact ⟨rfl, rfl⟩

/-- two fork decompositions of the same leaf list coincide -/
theorem fork_split_unique {α} (s s' : Bits) (kvl kvr kvl' kvr' : List (Bits × α))
    (hl : kvl ≠ []) (hr : kvr ≠ []) (hl' : kvl' ≠ []) (hr' : kvr' ≠ [])
    (h : kvl.map (pre (s ++ [false])) ++ kvr.map (pre (s ++ [true])) = kvl'.map (pre (s' ++ [false])) ++ kvr'.map (pre (s' ++ [true]))) :
    s = s' ∧ kvl = kvl' ∧ kvr = kvr' := by
  -- the label is the common prefix of the first and the last key
  have hs : s = s' := by
    obtain ⟨a, ta, rfl⟩ := List.exists_cons_of_ne_nil hl
    obtain ⟨a', ta', rfl⟩ := List.exists_cons_of_ne_nil hl'
    obtain ⟨ir, b, rfl⟩ := (List.eq_nil_or_concat kvr).resolve_left hr
    obtain ⟨ir', b', rfl⟩ := (List.eq_nil_or_concat kvr').resolve_left hr'
    have hfirst : s ++ false :: a.1 = s' ++ false :: a'.1 := by simpa [pre] using congrArg (fun l => l.head?.map Prod.fst) h
    have hlast : s ++ true :: b.1 = s' ++ true :: b'.1 := by simpa [pre] using congrArg (fun l => l.reverse.head?.map Prod.fst) h
    have := commonPrefix_fork s a.1 b.1
    rw [hfirst, hlast, commonPrefix_fork] at this
    exact this.symm
  subst hs
  -- the left keys continue with 0 behind the label, the right keys with 1
  have hL : ∀ l : List (Bits × α), ∀ q ∈ l.map (pre (s ++ [false])), ∃ t, q.1 = s ++ false :: t := by
    intro l q hq
    obtain ⟨x, _, rfl⟩ := List.mem_map.1 hq
    exact ⟨x.1, by simp [pre]⟩
  have hR : ∀ l : List (Bits × α), ∀ q ∈ l.map (pre (s ++ [true])), ¬ ∃ t, q.1 = s ++ false :: t := by
    rintro l q hq ⟨t, ht⟩
    obtain ⟨x, _, rfl⟩ := List.mem_map.1 hq
    simp [pre] at ht
  obtain ⟨e1, e2⟩ := append_split_unique _ _ _ _ _ (hL kvl) (hL kvl') (hR kvr) (hR kvr') h
  exact ⟨rfl, (List.map_inj_right (pre_inj _)).1 e1, (List.map_inj_right (pre_inj _)).1 e2⟩

/-- UNIQUENESS of the canonical tree.  The induction is over the first derivation, whose index `p` (pruned branches allowed) and leaf
list `kv` vary in its cases: hence `p = false` and `kv = kv'` as equations under the induction, not as unified arguments. -/
theorem canonical_unique' {p n c1 kv} (h1 : ValidHMK refPolicy p n c1 kv) : p = false →
    ∀ c2 kv', kv = kv' → ValidHMK refPolicy false n c2 kv' → c1 = c2 := by
  induction h1 with
  | pruned _ => intro hp; simp at hp
  | @leaf p n s k lb vb vr hl hok hn =>
    intro hp c2 kv' hkv h2
    cases h2 with
    | @leaf _ _ s' k' lb' vb' vr' hl' hok' hn' =>
      obtain ⟨rfl, rfl, rfl⟩ : s = s' ∧ vb = vb' ∧ vr = vr' := by simpa using hkv
      rw [refLabel_unique hl hok hl' hok']
    | fork _ _ _ hvl' hvr' => exact absurd hkv.symm (fork_ne_singleton _ _ (valid_nonempty hvl') (valid_nonempty hvr') _)
  | @fork p n m s k lb l r kvl kvr hl hok hn hvl hvr ihl ihr =>
    intro hp c2 kv' hkv h2
    subst hp
    cases h2 with
    | leaf => exact absurd hkv (fork_ne_singleton _ _ (valid_nonempty hvl) (valid_nonempty hvr) _)
    | @fork _ _ m' s' k' lb' l' r' kvl' kvr' hl' hok' hn' hvl' hvr' =>
      obtain ⟨rfl, rfl, rfl⟩ := fork_split_unique s s' kvl kvr kvl' kvr' (valid_nonempty hvl) (valid_nonempty hvr)
        (valid_nonempty hvl') (valid_nonempty hvr') hkv
      obtain rfl : m = m' := by omega
      rw [refLabel_unique hl hok hl' hok', ihl rfl l' kvl rfl hvl', ihr rfl r' kvr rfl hvr']

end TonVerif.Proofs.Hashmap
