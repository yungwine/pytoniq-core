/-
C14: the side condition of `Enc.vector` (`vs.length ≤ bs.length`: the parser rejects a declared count larger than
the remaining input) follows from the table: every element of a vector occupies at least `minLen` bytes, and
`minLen ≥ 1` for every vector field of a table with `VecOK` (decidable; checked for the bundled table).
-/
import TonVerif.Proofs.Tl
import TonVerif.Proofs.TlBare

namespace TonVerif.Proofs.Tl
open TonVerif TonVerif.Spec.Tl TonVerif.Model.Tl

/-- a lower bound for the encoded length of one value of type `e` (bare references followed `k` deep). -/
def minLen (T : Table) : Nat → ETy → Nat
  | _, .int => 4 | _, .long => 8 | _, .nat => 4 | _, .int128 => 16 | _, .int256 => 32 | _, .bool => 4
  | _, .bytes => 4 | _, .string => 4
  | _, .boxed _ => 4
  | _, .unsup => 0
  | 0, .bare _ => 0
  | k+1, .bare n =>
    match T.byName n with
    | some c => (c.args.map (fun a => if a.cond.isSome then 0 else if a.vec then 4 else minLen T k a.ty)).sum
    | none => 0

def argMin (T : Table) (k : Nat) (a : Arg) : Nat := if a.cond.isSome then 0 else if a.vec then 4 else minLen T k a.ty

def bodyMin (T : Table) (k : Nat) (args : List Arg) : Nat := (args.map (argMin T k)).sum

theorem minLen_bare (T : Table) (k n : Nat) (c : Ctor) (h : T.byName n = some c) :
    minLen T (k + 1) (.bare n) = bodyMin T k c.args := by
  simp only [minLen, h, bodyMin]
  rfl

/-- every vector field of the table has elements of at least one byte. -/
def VecOK (T : Table) (k : Nat) : Prop := ∀ c ∈ T.ctors, ∀ a ∈ c.args, a.vec = true → 1 ≤ minLen T k a.ty

theorem encodeBytes_len4 (b : Bytes) : 4 ≤ (encodeBytes b).length := by
  have h1 := encodeBytes_length_mod4 b
  have h2 : 1 ≤ (encodeBytes b).length := by
    unfold encodeBytes
    simp only [List.length_append]
    split <;> simp <;> omega
  omega

def MinOK (T : Table) (k : Nat) : Item → Bytes → Prop
  | .one e _ _, bs => minLen T k e ≤ bs.length
  | .many e vs, bs => vs.length * minLen T k e ≤ bs.length
  | .field a _, bs => (if a.vec then 4 else minLen T k a.ty) ≤ bs.length
  | .body args _, bs => bodyMin T k args ≤ bs.length

theorem enc_minLen (T : Table) (P : Bytes → Prop) {item : Item} {bs : Bytes} (h : Enc T P item bs) :
    ∀ k, MinOK T k item bs := by
  induction h with
  | int h1 h2 => intro k; cases k <;> simp [MinOK, minLen, intLE_length]
  | long h1 h2 => intro k; cases k <;> simp [MinOK, minLen, intLE_length]
  | nat h1 h2 => intro k; cases k <;> simp [MinOK, minLen, intLE_length]
  | int128 h1 h2 => intro k; cases k <;> simp [MinOK, minLen, h1]
  | int256 h1 h2 => intro k; cases k <;> simp [MinOK, minLen, h1]
  | boolT => intro k; cases k <;> simp [MinOK, minLen]
  | boolF => intro k; cases k <;> simp [MinOK, minLen]
  | bytes h1 h2 h3 => intro k; cases k <;> simp [MinOK, minLen, encodeBytes_len4]
  | string h1 h2 h3 h4 => intro k; cases k <;> simp [MinOK, minLen, encodeBytes_len4]
  | bare hn hc hb ih =>
    intro k
    cases k with
    | zero => simp [MinOK, minLen]
    | succ k =>
      have := ih k
      simp only [MinOK] at this ⊢
      rw [minLen_bare T k _ _ hn]
      exact this
  | boxed hm hn hc hb ih => intro k; cases k <;> simp [MinOK, minLen] <;> omega
  | manyNil => intro k; simp [MinOK]
  | manyCons h1 h2 ih1 ih2 =>
    intro k
    have a := ih1 k
    have b := ih2 k
    simp only [MinOK, List.length_cons, List.length_append, Nat.succ_mul] at a b ⊢
    omega
  | scalar hv h1 ih =>
    intro k
    have a := ih k
    simp only [MinOK] at a ⊢
    simp only [hv, Bool.false_eq_true, if_false]
    exact a
  | vector hv hl hb h1 ih =>
    intro k
    simp only [MinOK, hv, if_true, List.length_append, natToLE_length]
    omega
  | bodyNil => intro k; simp [MinOK, bodyMin]
  | bodyReq hc hl h1 h2 ih1 ih2 =>
    intro k
    have a := ih1 k
    have b := ih2 k
    simp only [MinOK, bodyMin, List.map_cons, List.sum_cons, argMin, hc, Option.isSome_none, Bool.false_eq_true, if_false,
      List.length_append] at a b ⊢
    omega
  | bodyOn hc hf h0 hb hl h1 h2 ih1 ih2 =>
    intro k
    have b := ih2 k
    simp only [MinOK, bodyMin, List.map_cons, List.sum_cons, argMin, hc, Option.isSome_some, if_true,
      List.length_append] at b ⊢
    omega
  | bodyOff hc hf h0 hb hl h1 ih =>
    intro k
    have b := ih k
    simp only [MinOK, bodyMin, List.map_cons, List.sum_cons, argMin, hc, Option.isSome_some, if_true] at b ⊢
    omega

/-- the element count of a well-typed vector never exceeds its encoded length when elements have `minLen ≥ 1`. -/
theorem many_length_le (T : Table) (P : Bytes → Prop) (k : Nat) (e : ETy) (vs : List Val) (bs : Bytes)
    (hmin : 1 ≤ minLen T k e) (h : Enc T P (.many e vs) bs) : vs.length ≤ bs.length := by
  have := enc_minLen T P h k
  simp only [MinOK] at this
  have h2 : vs.length * 1 ≤ vs.length * minLen T k e := Nat.mul_le_mul_left _ hmin
  omega

def vecOKb (T : Table) (k : Nat) (cs : List Ctor) : Bool :=
  cs.all (fun c => c.args.all (fun a => !a.vec || decide (1 ≤ minLen T k a.ty)))

theorem vecOK_of_b (T : Table) (k : Nat) (h : vecOKb T k T.ctors = true) : VecOK T k := by
  intro c hc a ha hv
  have := List.all_eq_true.mp (List.all_eq_true.mp h c hc) a ha
  simpa [hv] using this

/-- `1 ≤ minLen T 1 a.ty` for a vector field `a`, with the lookup by name as a parameter (for a large table). -/
def vecArgOK (T : Table) (look : Nat → Option Ctor) (a : Arg) : Bool :=
  !a.vec ||
    match a.ty with
    | .bare n =>
      match look n with
      | some c => decide (1 ≤ bodyMin T 0 c.args)
      | none => false
    | e => decide (1 ≤ minLen T 0 e)

theorem vecOK_of_look (T : Table) (look : Nat → Option Ctor) (hl : ∀ n, look n = T.byName n)
    (h : T.ctors.all (fun c => c.args.all (vecArgOK T look)) = true) : VecOK T 1 := by
  intro c hc a ha hv
  have := List.all_eq_true.mp (List.all_eq_true.mp h c hc) a ha
  simp only [vecArgOK, hv, Bool.not_true, Bool.false_or, hl] at this
  cases hty : a.ty <;> simp only [hty] at this
  case bare n =>
    cases hn : T.byName n <;> simp only [hn] at this
    · cases this
    · rw [minLen_bare T 0 n _ hn]
      exact of_decide_eq_true this
  all_goals exact of_decide_eq_true this

/-- the bundled table: every vector field's elements occupy at least one byte (bare references followed 1 deep). -/
theorem bundled_vecOK : VecOK Generated.Tl.table 1 :=
  vecOK_of_look _ TlBare.look16 (TlBare.lookBy_eq _ _ (by decide)) (by decide +kernel)
end TonVerif.Proofs.Tl
