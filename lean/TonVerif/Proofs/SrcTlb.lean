/-
C16 source tie — generation-independent lemmas.

`Refines r c w` : whenever the SPEC decoder of the block.tlb type `c` accepts a slice, the regenerated Python reader `r`
(Generated/TlbParsers.lean) returns the declared view `w` of the decoded value and leaves the same rest of the slice.
With `Lawful c` (Properties/C16.lean) this gives the statement of the property for the regenerated parser:
on the spec encoding of ANY value followed by ANY trailer it returns every field with its encoded value and consumes
exactly the encoding (`Refines.on_encoding`).  Nothing is claimed for slices the spec decoder rejects (the Python
parsers are laxer there).

Method (classes proved with `Reads`): a derivation that follows the Python parser statement by statement.  `Reads D Q res Post` relates
what is left of the reader, `res`, to the result `D` of what is left of the spec decoder on the same slice; each rule takes one
statement off `res` and the matching combinator, field or tag off `D` (`Reads.cons`: one field read by a nested reader with its own
theorem; `Reads.maybeBit`, `Reads.cond`, `Reads.ref`, `Reads.ctagBytes` …), the continuation being applied to the value read, never
looked into.  The last step, `Reads.nil`, leaves the equation between the declared view of the decoded record and the object the
parser builds (`tlb_view`).

Method (the other classes): the hypothesis `c.dec s = some (v, s')` is decomposed, a record field by field (`tlb_decompose`), with one iff-lemma per
spec combinator (`recd_dec`, `decAlts_cons`, `ctag_dec`, `ref_dec`, `constrained_dec` …) into facts about
the primitive decoders; each primitive fact yields what the Python `Slice` primitive returns on that slice (`uint_keep`,
`bitsC_keep`, … — `Kept` only keeps the original fact out of the rewriter's reach); nested TL-B types stay opaque and
contribute through their own `Refines` theorem (`Refines.keep`); an optional field is one rewrite, not two cases
(`Refines.maybeK`); the reader is then computed by `simp only` with these facts (`tlb_eval`).
-/
import TonVerif.Model.TlbRd
import TonVerif.Spec.Tlb.PyView
import TonVerif.Proofs.Codec

namespace TonVerif.Tlb
open TonVerif

def Refines (r : Frag → Rd.R) (c : Codec) (w : Val → Val) : Prop :=
  ∀ s v s', c.dec s = some (v, s') → r s = some (w v, s')

/-- the statement of C16 for a regenerated reader -/
theorem Refines.on_encoding {r c w} (h : Refines r c w) [hl : Lawful c] (v : Val) (f : Frag) (he : c.enc v = some f)
    (k : Frag) : r (f ++ k) = some (w v, k) :=
  h _ _ _ (hl.law v f he k)

def RefinesP (P : Val → Prop) (r : Frag → Rd.R) (c : Codec) (w : Val → Val) : Prop :=
  ∀ s v s', c.dec s = some (v, s') → P v → r s = some (w v, s')

/-- value only (what the reader leaves unread is not compared) -/
def RefinesEP (P : Val → Prop) (r : Frag → Rd.R) (c : Codec) (w : Val → Val) : Prop :=
  ∀ s v s', c.dec s = some (v, s') → P v → ∃ k, r s = some (w v, k)

/-- no condition on the value -/
abbrev PT : Val → Prop := fun _ => True

theorem Refines.toP {r c w} (h : Refines r c w) (P : Val → Prop) : RefinesP P r c w := fun s v s' hd _ => h s v s' hd
theorem RefinesP.toRefines {r c w} (h : RefinesP PT r c w) : Refines r c w := fun s v s' hd => h s v s' hd trivial
theorem RefinesP.toE {P r c w} (h : RefinesP P r c w) : RefinesEP P r c w := fun s v s' hd hp => ⟨s', h s v s' hd hp⟩
theorem RefinesP.mono {P P' : Val → Prop} {r c w} (h : RefinesP P r c w) (hi : ∀ v, P' v → P v) : RefinesP P' r c w :=
  fun s v s' hd hp => h s v s' hd (hi v hp)
theorem RefinesEP.mono {P P' : Val → Prop} {r c w} (h : RefinesEP P r c w) (hi : ∀ v, P' v → P v) : RefinesEP P' r c w :=
  fun s v s' hd hp => h s v s' hd (hi v hp)

def Kept (c : Codec) (s : Frag) (v : Val) (s' : Frag) : Prop := c.dec s = some (v, s')

theorem Refines.keep {r c w} (h : Refines r c w) (s : Frag) (v : Val) (s' : Frag) :
    (c.dec s = some (v, s')) ↔ (Kept c s v s' ∧ r s = some (w v, s')) :=
  ⟨fun hd => ⟨hd, h s v s' hd⟩, fun hd => hd.1⟩

/-- the decoded value of `c` is never `Val.unit` (so `Maybe c` tells absent from present by the value) -/
def NonUnit (c : Codec) : Prop := ∀ s v s', c.dec s = some (v, s') → v ≠ .unit

theorem viewMaybe_unit (w : Val → Val) : viewMaybe w .unit = .unit := rfl
theorem viewMaybe_id (v : Val) : viewMaybe id v = v := by cases v <;> rfl

/-! ### primitives -/

theorem refines_uint (n : Nat) (hn : n ≠ 0) : Refines (Rd.loadUint n) (uint n) id := by
  intro s v s' h
  simp only [uint] at h
  simp only [Rd.loadUint, hn, Rd.takeBits, if_false]
  split at h
  · cases h
  · rename_i hl; simp only [hl, if_false, Option.map]; simpa using h

theorem uint_keep (n : Nat) (s : Frag) (v : Val) (s' : Frag) :
    ((uint n).dec s = some (v, s')) ↔ (Kept (uint n) s v s' ∧ (n ≠ 0 → Rd.loadUint n s = some (v, s'))) :=
  ⟨fun h => ⟨h, fun hn => refines_uint n hn s v s' h⟩, fun h => h.1⟩

/-- a one-bit number: explicit (the parsers read it with `load_bit` and branch on it) -/
theorem uint1_dec (s : Frag) (v : Val) (s' : Frag) :
    (uint 1).dec s = some (v, s') ↔ ∃ b r rs, s = ⟨b :: r, rs⟩ ∧ v = .int (if b then 1 else 0) ∧ s' = ⟨r, rs⟩ := by
  obtain ⟨bits, refs⟩ := s
  simp only [uint]
  constructor
  · intro h
    split at h
    · cases h
    · rename_i hl
      match bits, hl, h with
      | [], hl, _ => simp at hl
      | b :: r, _, h =>
        simp only [Option.some.injEq, Prod.mk.injEq] at h
        refine ⟨b, r, refs, rfl, ?_, ?_⟩
        · rw [← h.1]; cases b <;> simp [natOfBits]
        · rw [← h.2]; simp
  · rintro ⟨b, r, rs, hb, rfl, rfl⟩
    cases hb
    cases b <;> simp [natOfBits]

theorem refines_bit : Refines Rd.loadBit (uint 1) id := by
  intro s v s' hd
  obtain ⟨b, r, rs, rfl, rfl, rfl⟩ := (uint1_dec s v s').1 hd
  rfl

theorem uint1_bit (s : Frag) (v : Val) (s' : Frag) (hd : (uint 1).dec s = some (v, s')) :
    ∃ b : Bool, v = .int (if b = true then 1 else 0) := by
  obtain ⟨b, r, rs, rfl, rfl, rfl⟩ := (uint1_dec s v s').1 hd
  exact ⟨b, rfl⟩

theorem truthy_bit (b : Bool) : Rd.truthy (.int (if b = true then 1 else 0)) = true ↔ b = true := by cases b <;> decide

theorem refines_sint (n : Nat) : Refines (Rd.loadInt n) (sint n) id := by
  intro s v s' h
  simp only [sint] at h
  split at h
  · cases h
  · rename_i hc
    have hn : n ≠ 0 := fun h0 => hc (Or.inl h0)
    have hl : ¬ s.bits.length < n := fun h0 => hc (Or.inr h0)
    have hlen : (s.bits.take n).length = n := by simp; omega
    simp only [Rd.loadInt, hn, Rd.takeBits, hl, if_false, Option.map, Rd.sintOfBits, hlen]
    simpa using h

theorem sint_keep (n : Nat) (s : Frag) (v : Val) (s' : Frag) :
    ((sint n).dec s = some (v, s')) ↔ (Kept (sint n) s v s' ∧ Rd.loadInt n s = some (v, s')) :=
  (refines_sint n).keep s v s'

theorem refines_bits (n : Nat) : Refines (Rd.loadBits n) (bitsC n) id := by
  intro s v s' h
  simp only [bitsC] at h
  simp only [Rd.loadBits, Rd.takeBits]
  split at h
  · cases h
  · rename_i hl; simp only [hl, if_false, Option.map]; simpa using h

theorem bitsC_keep (n : Nat) (s : Frag) (v : Val) (s' : Frag) :
    ((bitsC n).dec s = some (v, s')) ↔
      (Kept (bitsC n) s v s' ∧ Rd.loadBits n s = some (v, s') ∧ (n % 8 = 0 → Rd.loadBytes (n / 8) s = some (v, s'))) := by
  constructor
  · intro h
    refine ⟨h, refines_bits n s v s' h, fun h8 => ?_⟩
    have : 8 * (n / 8) = n := by omega
    simp only [Rd.loadBytes, this]
    exact refines_bits n s v s' h
  · intro h; exact h.1

theorem refines_bool : Refines Rd.loadBool boolC id := by
  intro s v s' h
  simp only [boolC] at h
  simp only [Rd.loadBool]
  split at h
  · cases h
  · rename_i b r hb; simp only [hb]; simpa using h

theorem boolC_keep (s : Frag) (v : Val) (s' : Frag) :
    (boolC.dec s = some (v, s')) ↔ (Kept boolC s v s' ∧ Rd.loadBool s = some (v, s')) := refines_bool.keep s v s'

theorem natOfBits_nil' : natOfBits [] = 0 := rfl

theorem refines_varUInt (k w : Nat) (hw : bitLen (k - 1) = w) (hw0 : w ≠ 0) :
    Refines (Rd.loadVarUint w) (varUInt k) id := by
  intro s v s' h
  simp only [varUInt, hw] at h
  simp only [Rd.loadVarUint, Rd.loadUint, Rd.takeBits, hw0, if_false]
  split at h
  · cases h
  · rename_i hl
    split at h
    · cases h
    · rename_i hc
      simp only [hl, if_false, Option.map]
      simp only [not_or, Nat.not_le, Nat.not_lt, ge_iff_le, List.length_drop] at hc
      simp only [Option.some.injEq, Prod.mk.injEq] at h
      by_cases hz : natOfBits (List.take w s.bits) = 0
      · have hz' : ((natOfBits (List.take w s.bits) : Nat) : Int) = 0 := by omega
        simp only [hz', if_true]
        simp only [hz, Nat.mul_zero, List.take_zero, natOfBits_nil', List.drop_zero] at h
        simp [← h.1, ← h.2]
      · have hz' : ¬ (((natOfBits (List.take w s.bits) : Nat) : Int) = 0) := by omega
        have hm : natOfBits (List.take w s.bits) * 8 ≠ 0 := by omega
        have hl2 : ¬ (List.length s.bits - w < natOfBits (List.take w s.bits) * 8) := by omega
        simp only [hz', if_false, Int.toNat_natCast, hm, List.length_drop, hl2, Option.some.injEq, Prod.mk.injEq]
        rw [Nat.mul_comm] at h
        exact ⟨h.1, h.2⟩

theorem grams_keep (s : Frag) (v : Val) (s' : Frag) :
    (grams.dec s = some (v, s')) ↔ (Kept grams s v s' ∧ Rd.loadCoins s = some (v, s') ∧ Rd.loadVarUint 4 s = some (v, s')) := by
  have h := refines_varUInt 16 4 (by decide) (by decide)
  exact ⟨fun hd => ⟨hd, h s v s' hd, h s v s' hd⟩, fun hd => hd.1⟩

theorem varUInt7_keep (s : Frag) (v : Val) (s' : Frag) :
    ((varUInt 7).dec s = some (v, s')) ↔ (Kept (varUInt 7) s v s' ∧ Rd.loadVarUint 3 s = some (v, s')) :=
  (refines_varUInt 7 3 (by decide) (by decide)).keep s v s'

theorem varUInt3_keep (s : Frag) (v : Val) (s' : Frag) :
    ((varUInt 3).dec s = some (v, s')) ↔ (Kept (varUInt 3) s v s' ∧ Rd.loadVarUint 2 s = some (v, s')) :=
  (refines_varUInt 3 2 (by decide) (by decide)).keep s v s'

theorem varUInt32_keep (s : Frag) (v : Val) (s' : Frag) :
    ((varUInt 32).dec s = some (v, s')) ↔ (Kept (varUInt 32) s v s' ∧ Rd.loadVarUint 5 s = some (v, s')) :=
  (refines_varUInt 32 5 (by decide) (by decide)).keep s v s'

theorem cellRef_dec (s : Frag) (v : Val) (s' : Frag) :
    cellRef.dec s = some (v, s') ↔ ∃ b c more, s = ⟨b, c :: more⟩ ∧ v = .cell c ∧ s' = ⟨b, more⟩ := by
  obtain ⟨bits, refs⟩ := s
  simp only [cellRef]
  constructor
  · intro h
    split at h
    · cases h
    · rename_i c more
      simp only [Option.some.injEq, Prod.mk.injEq] at h
      exact ⟨bits, c, more, rfl, h.1.symm, h.2.symm⟩
  · rintro ⟨b, c, more, hr, rfl, rfl⟩
    cases hr
    simp

theorem refines_cellRef : Refines Rd.loadRefV cellRef id := by
  intro s v s' h
  obtain ⟨b, c, more, rfl, rfl, rfl⟩ := (cellRef_dec s v s').1 h
  rfl

theorem nonUnit_uint (n : Nat) : NonUnit (uint n) := by
  intro s v s' h
  simp only [uint] at h
  split at h
  · cases h
  · cases h; simp
theorem nonUnit_sint (n : Nat) : NonUnit (sint n) := by
  intro s v s' h
  simp only [sint] at h
  split at h
  · cases h
  · cases h; simp
theorem nonUnit_varUInt (k : Nat) : NonUnit (varUInt k) := by
  intro s v s' h
  simp only [varUInt] at h
  split at h
  · cases h
  · split at h
    · cases h
    · cases h; simp
theorem refines_grams : Refines Rd.loadCoins grams id := refines_varUInt 16 4 (by decide) (by decide)

theorem nonUnit_cellRef : NonUnit cellRef := by
  intro s v s' h
  obtain ⟨b, c, more, rfl, rfl, rfl⟩ := (cellRef_dec s v s').1 h
  simp

/-! ### structure -/

theorem typ_dec (n : String) (c : Codec) : (typ n c).dec = c.dec := rfl
theorem withGen_dec (c : Codec) (g : Gen Val) : (withGen c g).dec = c.dec := rfl
theorem withPaths_dec (c : Codec) (p : PMode → Gen (List Val)) : (withPaths c p).dec = c.dec := rfl

theorem nothing_dec (s : Frag) (v : Val) (s' : Frag) : nothing.dec s = some (v, s') ↔ v = .unit ∧ s' = s := by
  simp only [nothing, Option.some.injEq, Prod.mk.injEq]
  constructor <;> (rintro ⟨a, b⟩; exact ⟨a.symm, b.symm⟩)

theorem recd_dec (fs : List Field) (s : Frag) (v : Val) (s' : Frag) :
    (recd fs).dec s = some (v, s') ↔ ∃ vs, decFields fs [] s = some (vs, s') ∧ v = .record vs := by
  simp only [recd, Option.map_eq_some_iff]
  constructor
  · rintro ⟨⟨vs, s2⟩, h1, h2⟩
    simp only [Option.some.injEq, Prod.mk.injEq] at h2
    exact ⟨vs, by rw [h1, h2.2], h2.1.symm⟩
  · rintro ⟨vs, h1, h2⟩; exact ⟨(vs, s'), h1, by simp [h2]⟩

theorem decFields_nil (env : Env) (s : Frag) (vs) (s' : Frag) :
    decFields [] env s = some (vs, s') ↔ vs = [] ∧ s' = s := by
  simp only [decFields, Option.some.injEq, Prod.mk.injEq]
  constructor <;> (rintro ⟨a, b⟩; exact ⟨a.symm, b.symm⟩)

theorem decFields_cons (n : String) (f : Env → Codec) (fs : List Field) (env : Env) (s : Frag) (vs) (s' : Frag) :
    decFields ((n, f) :: fs) env s = some (vs, s') ↔
      ∃ v s1, (f env).dec s = some (v, s1) ∧ ∃ vs', decFields fs ((n, v) :: env) s1 = some (vs', s') ∧ vs = (n, v) :: vs' := by
  simp only [decFields]
  constructor
  · intro h
    split at h
    · cases h
    · rename_i v s1 h1
      split at h
      · cases h
      · rename_i vs' s2 h2
        simp only [Option.some.injEq, Prod.mk.injEq] at h
        exact ⟨v, s1, h1, vs', by rw [h2, h.2], h.1.symm⟩
  · rintro ⟨v, s1, h1, vs', h2, h3⟩
    simp [h1, h2, h3]

/-- the fields of a record one at a time: the first field's decoding fact, then the rest of the record with the value appended
    (`Q` is the goal as a function of the list of decoded fields) -/
theorem decFields_cons_elim {n : String} {f : Env → Codec} {fs : List Field} {env : Env} {s s' : Frag}
    {Q : List (String × Val) → Prop}
    (k : ∀ v s1, (f env).dec s = some (v, s1) → ∀ vs, decFields fs ((n, v) :: env) s1 = some (vs, s') → Q ((n, v) :: vs)) :
    ∀ vs, decFields ((n, f) :: fs) env s = some (vs, s') → Q vs := by
  intro vs h
  obtain ⟨v, s1, h1, vs', h2, rfl⟩ := (decFields_cons n f fs env s vs s').1 h
  exact k v s1 h1 vs' h2

theorem decFields_nil_elim {env : Env} {s s' : Frag} {Q : List (String × Val) → Prop} (k : s' = s → Q []) :
    ∀ vs, decFields [] env s = some (vs, s') → Q vs := by
  intro vs h
  obtain ⟨rfl, hs⟩ := (decFields_nil env s vs s').1 h
  exact k hs

theorem maybe_dec (c : Codec) (s : Frag) (v : Val) (s' : Frag) :
    (maybe c).dec s = some (v, s') ↔
      (∃ r rs, s = ⟨false :: r, rs⟩ ∧ v = .unit ∧ s' = ⟨r, rs⟩) ∨
      (∃ r rs, s = ⟨true :: r, rs⟩ ∧ c.dec ⟨r, rs⟩ = some (v, s')) := by
  obtain ⟨bits, refs⟩ := s
  simp only [maybe]
  constructor
  · intro h
    split at h
    · cases h
    · rename_i r
      simp only [Option.some.injEq, Prod.mk.injEq] at h
      exact Or.inl ⟨r, refs, rfl, h.1.symm, h.2.symm⟩
    · rename_i r
      exact Or.inr ⟨r, refs, rfl, h⟩
  · rintro (⟨r, rs, hb, hv, hs⟩ | ⟨r, rs, hb, h⟩)
    · cases hb; simp [hv, hs]
    · cases hb; simp [h]

/-- `x:(Maybe X)` read statement by statement (`b = S.load_bit()`, then `X.deserialize(S) if b else None`): whatever the parser
    does next with the pair (value, slice) — `g`, which on the absent branch `(None, S)` gives `e` — the whole block yields
    `g` of the view and the rest.  One rewrite per optional field, no case split on the bit. -/
theorem Refines.maybeK {rd c w} (h : Refines rd c w) (hn : NonUnit c) (s : Frag) (v : Val) (s' : Frag) :
    (maybe c).dec s = some (v, s') ↔ ∃ b r rs, s = ⟨b :: r, rs⟩ ∧ Kept (maybe c) s v s' ∧
      ∀ {α : Type} (g : Val × Frag → Option α) (e : α), g (.unit, ⟨r, rs⟩) = some e →
        (if b = true then (rd ⟨r, rs⟩).bind g else some e) = g (viewMaybe w v, s') := by
  refine ⟨fun hd => ?_, fun ⟨_, _, _, _, hd, _⟩ => hd⟩
  rcases (maybe_dec c s v s').1 hd with ⟨r, rs, hs, rfl, rfl⟩ | ⟨r, rs, hs, hc⟩
  · exact ⟨false, r, rs, hs, hd, fun g e hg => hg.symm⟩
  · refine ⟨true, r, rs, hs, hd, fun g e _ => ?_⟩
    have hv : viewMaybe w v = w v := by
      have := hn _ _ _ hc
      cases v <;> first | rfl | contradiction
    rw [hv, if_pos rfl, h _ _ _ hc]
    rfl

theorem isPrefixOf_true_iff (p l : Bits) : p.isPrefixOf l = true ↔ ∃ t, l = p ++ t := by
  rw [List.isPrefixOf_iff_prefix]
  constructor
  · rintro ⟨t, ht⟩; exact ⟨t, ht.symm⟩
  · rintro ⟨t, ht⟩; exact ⟨t, ht.symm⟩

theorem ctag_dec (p : Bits) (c : Codec) (s : Frag) (v : Val) (s' : Frag) :
    (ctag p c).dec s = some (v, s') ↔ ∃ t rs, s = ⟨p ++ t, rs⟩ ∧ c.dec ⟨t, rs⟩ = some (v, s') := by
  obtain ⟨bits, refs⟩ := s
  simp only [ctag]
  constructor
  · intro h
    split at h
    · rename_i hp
      obtain ⟨t, ht⟩ := (isPrefixOf_true_iff _ _).1 hp
      (try simp only at ht); subst ht
      refine ⟨t, refs, rfl, ?_⟩
      simp only [List.drop_left] at h
      exact h
    · cases h
  · rintro ⟨t, rs, ht, h⟩
    cases ht
    have hp : p.isPrefixOf (p ++ t) = true := (isPrefixOf_true_iff _ _).2 ⟨t, rfl⟩
    simp only [hp, if_true, List.drop_left]
    exact h

theorem tagged_dec (alts : List Alt) (s : Frag) (v : Val) (s' : Frag) :
    (tagged alts).dec s = some (v, s') ↔ prefixFree (altTags alts) = true ∧ decAlts alts s = some (v, s') := by
  unfold tagged
  by_cases h : prefixFree (altTags alts) = true
  · simp [h]
  · simp [h, failC]

theorem decAlts_nil (s : Frag) (v : Val) (s' : Frag) : decAlts [] s = some (v, s') ↔ False := by
  simp [decAlts]

theorem decAlts_cons (p : Bits) (name : String) (c : Codec) (more : List Alt) (s : Frag) (v : Val) (s' : Frag) :
    decAlts ((p, name, c) :: more) s = some (v, s') ↔
      (∃ t rs, s = ⟨p ++ t, rs⟩ ∧ ∃ x, c.dec ⟨t, rs⟩ = some (x, s') ∧ v = .con name x) ∨
      (p.isPrefixOf s.bits = false ∧ decAlts more s = some (v, s')) := by
  obtain ⟨bits, refs⟩ := s
  simp only [decAlts]
  constructor
  · intro h
    split at h
    · rename_i hp
      obtain ⟨t, ht⟩ := (isPrefixOf_true_iff _ _).1 hp
      (try simp only at ht); subst ht
      simp only [List.drop_left, Option.map_eq_some_iff] at h
      obtain ⟨⟨x, s2⟩, h1, h2⟩ := h
      simp only [Option.some.injEq, Prod.mk.injEq] at h2
      exact Or.inl ⟨t, refs, rfl, x, by rw [h1, h2.2], h2.1.symm⟩
    · rename_i hp
      exact Or.inr ⟨by cases hq : p.isPrefixOf bits <;> simp_all, h⟩
  · rintro (⟨t, rs, ht, x, h, rfl⟩ | ⟨hp, h⟩)
    · cases ht
      have hp : p.isPrefixOf (p ++ t) = true := (isPrefixOf_true_iff _ _).2 ⟨t, rfl⟩
      simp only [hp, if_true, List.drop_left, h]
      rfl
    · try simp only at hp
      simp [hp, h]

theorem named_dec (name : String) (c : Codec) (s : Frag) (v : Val) (s' : Frag) :
    (named name c).dec s = some (v, s') ↔ ∃ x, c.dec s = some (x, s') ∧ v = .con name x := by
  simp only [named, Option.map_eq_some_iff]
  constructor
  · rintro ⟨⟨x, s2⟩, h1, h2⟩
    simp only [Option.some.injEq, Prod.mk.injEq] at h2
    exact ⟨x, by rw [h1, h2.2], h2.1.symm⟩
  · rintro ⟨x, h1, rfl⟩; exact ⟨(x, s'), h1, rfl⟩

theorem constrained_dec (c : Codec) (p : Val → Bool) (g : Option (Gen Val)) (s : Frag) (v : Val) (s' : Frag) :
    (constrained c p g).dec s = some (v, s') ↔ c.dec s = some (v, s') ∧ p v = true := by
  simp only [constrained]
  constructor
  · intro h
    split at h
    · rename_i v1 s1 h1
      split at h
      · rename_i hp
        simp only [Option.some.injEq, Prod.mk.injEq] at h
        rw [← h.1, ← h.2]; exact ⟨h1, hp⟩
      · cases h
    · cases h
  · rintro ⟨h1, hp⟩
    simp [h1, hp]

theorem uintRange_dec (n lo hi : Nat) : (uintRange n lo hi).dec = (constrained (uint n) (vBetween lo hi) none).dec := rfl

theorem vBetween_iff (lo hi : Nat) (v : Val) :
    vBetween lo hi v = true ↔ ∃ n : Nat, v = .int n ∧ lo ≤ n ∧ n ≤ hi := by
  cases v <;> simp [vBetween]
  case int i =>
    constructor
    · rintro ⟨⟨h0, h1⟩, h2⟩; exact ⟨i.toNat, by omega, by omega, by omega⟩
    · rintro ⟨n, rfl, h1, h2⟩; simp; omega

theorem Refines.uintRange (n lo hi : Nat) (hn : n ≠ 0) : Refines (Rd.loadUint n) (uintRange n lo hi) id := by
  intro s v s' hd
  exact refines_uint n hn s v s' ((constrained_dec _ _ none s v s').1 hd).1

theorem uintRange_between (n lo hi : Nat) (s : Frag) (v : Val) (s' : Frag) (hd : (Tlb.uintRange n lo hi).dec s = some (v, s')) :
    ∃ m : Nat, v = .int m ∧ lo ≤ m ∧ m ≤ hi :=
  (vBetween_iff lo hi v).1 ((constrained_dec _ _ none s v s').1 hd).2

/-- `^X` : the next reference is an ordinary cell that `X` reads completely -/
theorem ref_dec (c : Codec) (s : Frag) (v : Val) (s' : Frag) :
    (ref c).dec s = some (v, s') ↔
      ∃ bs b r more, s = ⟨bs, Cell.mk false b r :: more⟩ ∧ c.dec ⟨b, r⟩ = some (v, ⟨[], []⟩) ∧ s' = ⟨bs, more⟩ := by
  obtain ⟨bits, refs⟩ := s
  simp only [ref]
  constructor
  · intro h
    split at h
    · rename_i b r more
      split at h
      · rename_i v1 h1
        simp only [Option.some.injEq, Prod.mk.injEq] at h
        exact ⟨bits, b, r, more, rfl, by rw [h1, h.1], h.2.symm⟩
      · cases h
    · cases h
  · rintro ⟨bs, b, r, more, hr, h1, rfl⟩
    cases hr
    simp [h1]

theorem ite_dec (p : Prop) [Decidable p] (a b : Codec) (s : Frag) :
    (if p then a else b).dec s = if p then a.dec s else b.dec s := by
  split <;> rfl

theorem nonUnit_typ (n : String) (c : Codec) (h : NonUnit c) : NonUnit (typ n c) := h
theorem nonUnit_ctag (p : Bits) (c : Codec) (h : NonUnit c) : NonUnit (ctag p c) := by
  intro s v s' hd
  obtain ⟨t, rs, _, h2⟩ := (ctag_dec p c s v s').1 hd
  exact h _ _ _ h2
theorem nonUnit_recd (fs : List Field) : NonUnit (recd fs) := by
  intro s v s' hd
  obtain ⟨vs, _, rfl⟩ := (recd_dec fs s v s').1 hd
  simp
theorem nonUnit_tagged (alts : List Alt) : NonUnit (tagged alts) := by
  intro s v s' hd
  have h2 := ((tagged_dec alts s v s').1 hd).2
  clear hd
  induction alts with
  | nil => simp [decAlts] at h2
  | cons a more ih =>
    obtain ⟨p, name, c⟩ := a
    rcases (decAlts_cons p name c more s v s').1 h2 with ⟨_, _, _, x, _, rfl⟩ | ⟨_, h3⟩
    · simp
    · exact ih h3

/-- `NonUnit T` for a type defined as `typ _ (ctag _ (recd _))`, `typ _ (tagged _)` … -/
macro "tlb_nonunit" : tactic =>
  `(tactic| repeat (first | exact nonUnit_recd _ | exact nonUnit_tagged _ | apply nonUnit_typ | apply nonUnit_ctag))

/-! ### reads of known bits (constructor tags) -/

theorem takeBits_append (p t : Bits) (rs : List Cell) : Rd.takeBits p.length ⟨p ++ t, rs⟩ = some (p, ⟨t, rs⟩) := by
  simp [Rd.takeBits]


theorem takeBits_zero (s : Frag) : Rd.takeBits 0 s = some ([], s) := by
  simp [Rd.takeBits]

theorem takeBits_succ (n : Nat) (b : Bool) (t : Bits) (r : List Cell) :
    Rd.takeBits (n + 1) ⟨b :: t, r⟩ = (Rd.takeBits n ⟨t, r⟩).map (fun p => (b :: p.1, p.2)) := by
  simp only [Rd.takeBits, List.length_cons, Nat.add_lt_add_iff_right]
  split <;> simp

theorem loadBit_cons (b : Bool) (t : Bits) (r : List Cell) :
    Rd.loadBit ⟨b :: t, r⟩ = some (.int (if b then 1 else 0), ⟨t, r⟩) := rfl
/-- `Rd.truthy` of a bit read with `load_bit`, once `Rd.truthy` is unfolded -/
theorem bit_ne_zero (b : Bool) : ((if b = true then (1 : Int) else 0) != 0) = b := by cases b <;> rfl
theorem loadBool_cons (b : Bool) (t : Bits) (r : List Cell) :
    Rd.loadBool ⟨b :: t, r⟩ = some (.bool b, ⟨t, r⟩) := rfl
theorem preloadBit_cons (b : Bool) (t : Bits) (r : List Cell) :
    Rd.preloadBit ⟨b :: t, r⟩ = some (.int (if b then 1 else 0)) := rfl
theorem loadRef_cons (bs : Bits) (c : Cell) (more : List Cell) :
    Rd.loadRef ⟨bs, c :: more⟩ = some (c, ⟨bs, more⟩) := rfl
theorem loadRefV_cons (bs : Bits) (c : Cell) (more : List Cell) :
    Rd.loadRefV ⟨bs, c :: more⟩ = some (.cell c, ⟨bs, more⟩) := rfl
theorem loadUint_cons (n : Nat) (b : Bool) (t : Bits) (r : List Cell) :
    Rd.loadUint n ⟨b :: t, r⟩ =
      if n = 0 then none else (Rd.takeBits n ⟨b :: t, r⟩).map fun p => (.int (natOfBits p.1), p.2) := rfl
theorem loadBits_cons (n : Nat) (b : Bool) (t : Bits) (r : List Cell) :
    Rd.loadBits n ⟨b :: t, r⟩ = (Rd.takeBits n ⟨b :: t, r⟩).map fun p => (.bits p.1, p.2) := rfl
theorem loadBytes_cons (k : Nat) (b : Bool) (t : Bits) (r : List Cell) :
    Rd.loadBytes k ⟨b :: t, r⟩ = (Rd.takeBits (8 * k) ⟨b :: t, r⟩).map fun p => (.bits p.1, p.2) := rfl
theorem preloadBits_cons (n : Nat) (b : Bool) (t : Bits) (r : List Cell) :
    Rd.preloadBits n ⟨b :: t, r⟩ = (Rd.takeBits n ⟨b :: t, r⟩).map fun p => .bits p.1 := rfl
theorem preloadBytes_cons (k : Nat) (b : Bool) (t : Bits) (r : List Cell) :
    Rd.preloadBytes k ⟨b :: t, r⟩ = (Rd.takeBits (8 * k) ⟨b :: t, r⟩).map fun p => .bits p.1 := rfl

theorem bitLen_60 : bitLen 60 = 6 := by decide
theorem bitLen_96 : bitLen 96 = 7 := by decide
theorem bitLen_30 : bitLen 30 = 5 := by decide

/-! ### the parser read statement by statement -/

/-- `D` is what the spec decoder returns at the point reached, `res` what is left of the reader, both on the same slice:
    whenever `D` is a value `a` that satisfies `Q`, with a rest `s'`, the result `res` is as `Post a s'` says.
    The rules below take one statement off `res` and the matching piece off `D`; a continuation is applied to the value read and
    the slice left, never looked into (the generated modules destructure pairs with different auxiliary matchers). -/
def Reads {α ρ : Type} (D : Option (α × Frag)) (Q : α → Prop) (res : Option ρ) (Post : α → Frag → Option ρ → Prop) : Prop :=
  ∀ a s', D = some (a, s') → Q a → Post a s' res

/-- the reader returns the view `W` of the decoded value and the decoder's rest -/
def Returns {α : Type} (W : α → Val) : α → Frag → Rd.R → Prop := fun a s' res => res = some (W a, s')

theorem Returns.pure {α : Type} {W : α → Val} {a : α} {x : Val} {s : Frag} (h : W a = x) : Returns W a s (pure (x, s)) := by
  rw [← h]; rfl

/-- every field value satisfies `Q` -/
def AllVals (Q : Val → Prop) (vs : List (String × Val)) : Prop := ∀ p ∈ vs, Q p.2

theorem AllVals.head {Q n v vs} (h : AllVals Q ((n, v) :: vs)) : Q v := h (n, v) (List.mem_cons_self ..)
theorem AllVals.tail {Q a vs} (h : AllVals Q (a :: vs)) : AllVals Q vs := fun p hp => h p (List.mem_cons_of_mem _ hp)

theorem RefinesP.of_reads {P r c w} (h : ∀ s, Reads (c.dec s) P (r s) (Returns w)) : RefinesP P r c w :=
  fun s v s' hd hp => h s v s' hd hp

theorem Refines.of_reads {r c w} (h : ∀ s, Reads (c.dec s) PT (r s) (Returns w)) : Refines r c w :=
  fun s v s' hd => h s v s' hd trivial

namespace Reads
variable {α ρ : Type} {D : Option (α × Frag)} {Q : α → Prop} {Post : α → Frag → Option ρ → Prop}
variable {Qv : Val → Prop} {Pv : Val → Frag → Option ρ → Prop} {Pf : List (String × Val) → Frag → Option ρ → Prop}

/-! statements that read nothing -/

theorem ifTrue {b : Bool} {A B : Option ρ} (hb : b = true) (h : Reads D Q A Post) : Reads D Q (if b = true then A else B) Post := by
  rw [if_pos hb]; exact h

theorem ifFalse {b : Bool} {A B : Option ρ} (hb : b = false) (h : Reads D Q B Post) : Reads D Q (if b = true then A else B) Post := by
  rw [if_neg (by simp [hb])]; exact h

/-- `x = e` for a Python expression that may raise: it returns `x` on the values at hand -/
theorem pureLet {β : Type} {g : Option β} {x : β} {k : β → Option ρ} (hg : g = some x) (h : Reads D Q (k x) Post) :
    Reads D Q (g >>= k) Post := by
  rw [hg]; exact h

/-- `ok = …; if not ok: raise`, with `ok` true on the values at hand -/
theorem check {g : Option Bool} {A : Option ρ} (hg : g = some true) (h : Reads D Q A Post) :
    Reads D Q (g >>= fun b => if (!b) = true then none else A) Post := by
  rw [hg]; exact h

/-! one rule per combinator of the schema -/

theorem typ {n : String} {c : Codec} {s : Frag} {res : Option ρ} (h : Reads (c.dec s) Qv res Pv) :
    Reads ((Tlb.typ n c).dec s) Qv res Pv := h

/-- a nested type read by its own reader, whose theorem is `hr`; `F` is what the rest may use about the value
    (the range of a `uintRange`, that a `uint 1` is a bit) -/
theorem callPQ {c : Codec} {r : Frag → Rd.R} {w : Val → Val} {s : Frag} {k : Val × Frag → Option ρ} {F : Val → Prop}
    (hr : RefinesP Qv r c w) (hf : ∀ s v s', c.dec s = some (v, s') → F v)
    (hk : ∀ v, F v → ∀ s', Pv v s' (k (w v, s'))) : Reads (c.dec s) Qv (r s >>= k) Pv := by
  intro v s' hd hq
  show Pv v s' ((r s).bind k)
  rw [hr s v s' hd hq]; exact hk v (hf s v s' hd) s'

theorem callP {c : Codec} {r : Frag → Rd.R} {w : Val → Val} {s : Frag} {k : Val × Frag → Option ρ}
    (hr : RefinesP Qv r c w) (hk : ∀ v s', Pv v s' (k (w v, s'))) : Reads (c.dec s) Qv (r s >>= k) Pv :=
  callPQ (F := fun _ => True) hr (fun _ _ _ _ => trivial) fun v _ => hk v

theorem call {c : Codec} {r : Frag → Rd.R} {w : Val → Val} {s : Frag} {k : Val × Frag → Option ρ}
    (hr : Refines r c w) (hk : ∀ v s', Pv v s' (k (w v, s'))) : Reads (c.dec s) Qv (r s >>= k) Pv :=
  callP (hr.toP Qv) hk

/-- a record whose value is under the condition `P`: `hq` hands the condition on to the fields -/
theorem recdQ {fs : List Field} {s : Frag} {res : Option ρ} {P : Val → Prop} (hq : ∀ vs, P (.record vs) → AllVals Qv vs)
    (h : Reads (decFields fs [] s) (AllVals Qv) res (fun vs => Pv (.record vs))) : Reads ((Tlb.recd fs).dec s) P res Pv := by
  intro v s' hd hp
  obtain ⟨vs, h1, rfl⟩ := (recd_dec fs s v s').1 hd
  exact h vs s' h1 (hq vs hp)

theorem recd {fs : List Field} {s : Frag} {res : Option ρ}
    (h : Reads (decFields fs [] s) (AllVals PT) res (fun vs => Pv (.record vs))) : Reads ((Tlb.recd fs).dec s) PT res Pv :=
  recdQ (fun _ _ _ _ => trivial) h

/-- last statement, `return cls(…)` -/
theorem nil {env : Env} {s : Frag} {res : Option ρ} {Q : List (String × Val) → Prop} (h : Pf [] s res) :
    Reads (decFields [] env s) Q res Pf := by
  intro vs s' hd _
  obtain ⟨rfl, rfl⟩ := (decFields_nil env s vs s').1 hd
  exact h

/-- the first field, then the others with its value in the environment and in the result -/
theorem field {n : String} {f : Env → Codec} {fs : List Field} {env : Env} {s : Frag} {res : Option ρ}
    (h : Reads ((f env).dec s) Qv res
      (fun v s1 res => Reads (decFields fs ((n, v) :: env) s1) (AllVals Qv) res (fun vs => Pf ((n, v) :: vs)))) :
    Reads (decFields ((n, f) :: fs) env s) (AllVals Qv) res Pf := by
  intro vs s' hd hq
  obtain ⟨v, s1, h1, vs', h2, rfl⟩ := (decFields_cons n f fs env s vs s').1 hd
  exact h v s1 h1 hq.head vs' s' h2 hq.tail

/-- `field` for a dependent field, whose type under the values at hand is given by `hf` -/
theorem fieldAs {n : String} {f : Env → Codec} {fs : List Field} {env : Env} {s : Frag} {res : Option ρ} {c : Codec} (hf : f env = c)
    (h : Reads (c.dec s) Qv res
      (fun v s1 res => Reads (decFields fs ((n, v) :: env) s1) (AllVals Qv) res (fun vs => Pf ((n, v) :: vs)))) :
    Reads (decFields ((n, f) :: fs) env s) (AllVals Qv) res Pf :=
  field (hf ▸ h)

/-- `x = <read>`, then the rest -/
theorem cons {n : String} {f : Env → Codec} {fs : List Field} {env : Env} {s : Frag} {r : Frag → Rd.R} {w : Val → Val}
    {k : Val × Frag → Option ρ} (hr : Refines r (f env) w)
    (hk : ∀ v s1, Reads (decFields fs ((n, v) :: env) s1) (AllVals Qv) (k (w v, s1)) (fun vs => Pf ((n, v) :: vs))) :
    Reads (decFields ((n, f) :: fs) env s) (AllVals Qv) (r s >>= k) Pf :=
  field (call hr hk)

theorem consP {n : String} {f : Env → Codec} {fs : List Field} {env : Env} {s : Frag} {r : Frag → Rd.R} {w : Val → Val}
    {k : Val × Frag → Option ρ} (hr : RefinesP Qv r (f env) w)
    (hk : ∀ v s1, Reads (decFields fs ((n, v) :: env) s1) (AllVals Qv) (k (w v, s1)) (fun vs => Pf ((n, v) :: vs))) :
    Reads (decFields ((n, f) :: fs) env s) (AllVals Qv) (r s >>= k) Pf :=
  field (callP hr hk)

theorem consQ {n : String} {f : Env → Codec} {fs : List Field} {env : Env} {s : Frag} {r : Frag → Rd.R} {w : Val → Val}
    {F : Val → Prop} {k : Val × Frag → Option ρ}
    (hr : Refines r (f env) w) (hf : ∀ s v s', (f env).dec s = some (v, s') → F v)
    (hk : ∀ v, F v → ∀ s1, Reads (decFields fs ((n, v) :: env) s1) (AllVals Qv) (k (w v, s1)) (fun vs => Pf ((n, v) :: vs))) :
    Reads (decFields ((n, f) :: fs) env s) (AllVals Qv) (r s >>= k) Pf :=
  field (callPQ (hr.toP Qv) hf hk)

/-- `b = S.load_bit()` in front of `Maybe X`: what follows reads `b ? X` -/
theorem maybeBit {c : Codec} {s : Frag} {k0 : Val × Frag → Option ρ}
    (hk : ∀ b s1, Reads ((if b = true then c else nothing).dec s1) Qv (k0 (.int (if b = true then 1 else 0), s1)) Pv) :
    Reads ((maybe c).dec s) Qv (Rd.loadBit s >>= k0) Pv := by
  intro v s' hd hq
  obtain ⟨bits, refs⟩ := s
  cases bits with
  | nil => simp [maybe] at hd
  | cons b t => exact hk b ⟨t, refs⟩ v s' (by cases b <;> exact hd) hq

/-- the translator's joined `if` (`x = A if b else None`, then the rest `k`, once) against `p ? X`: `A` reads an `X` and returns
    its view `w`; `e` is how the value and the slice are handed on -/
theorem condE {β : Type} (e : Val → Frag → β) {c : Codec} {s : Frag} {w : Val → Val} {p : Prop} {dp : Decidable p} {b : Bool}
    {A : Option β} {u : β} {k : β → Option ρ}
    (hb : b = true ↔ p) (hn : NonUnit c) (hA : Reads (c.dec s) Qv A (fun v s1 res => res = some (e (w v) s1)))
    (hu : u = e .unit s) (hk : ∀ v s1, Pv v s1 (k (e (viewMaybe w v) s1))) :
    Reads ((if p then c else nothing).dec s) Qv ((if b = true then A else pure u) >>= k) Pv := by
  intro v s' hd hq
  have hk' := hk v s'
  by_cases hp : p
  · rw [if_pos hp] at hd
    have hv : viewMaybe w v = w v := by
      have := hn _ _ _ hd
      cases v <;> first | rfl | contradiction
    rw [hv] at hk'
    rw [if_pos (hb.2 hp), hA v s' hd hq]; exact hk'
  · rw [if_neg hp] at hd
    obtain ⟨rfl, rfl⟩ := (nothing_dec _ _ _).1 hd
    rw [if_neg (fun hb' => hp (hb.1 hb')), hu]
    exact hk'

theorem cond {c : Codec} {s : Frag} {w : Val → Val} {p : Prop} {dp : Decidable p} {b : Bool} {A : Rd.R} {k : Val × Frag → Option ρ}
    (hb : b = true ↔ p) (hn : NonUnit c) (hA : Reads (c.dec s) Qv A (Returns w))
    (hk : ∀ v s1, Pv v s1 (k (viewMaybe w v, s1))) :
    Reads ((if p then c else nothing).dec s) Qv ((if b = true then A else pure (Val.unit, s)) >>= k) Pv :=
  condE Prod.mk hb hn hA rfl hk

/-- the common case of `cond`: `A` is one nested read -/
theorem opt {c : Codec} {s : Frag} {r : Frag → Rd.R} {w : Val → Val} {p : Prop} {dp : Decidable p} {b : Bool}
    {k : Val × Frag → Option ρ} (hb : b = true ↔ p) (hr : Refines r c w) (hn : NonUnit c)
    (hk : ∀ v s1, Pv v s1 (k (viewMaybe w v, s1))) :
    Reads ((if p then c else nothing).dec s) Qv
      ((if b = true then r s >>= fun x => pure (x.1, x.2) else pure (Val.unit, s)) >>= k) Pv :=
  cond hb hn (call hr fun _ _ => rfl) hk

/-- `c = S.load_ref()` against `^X`: what follows reads an `X` from the cell, all of it, and then goes on with `S` -/
theorem ref {c : Codec} {s : Frag} {k0 : Cell × Frag → Option ρ}
    (hk : ∀ b r s1, Reads (c.dec ⟨b, r⟩) Qv (k0 (Cell.mk false b r, s1)) (fun v si res => si = ⟨[], []⟩ → Pv v s1 res)) :
    Reads ((Tlb.ref c).dec s) Qv (Rd.loadRef s >>= k0) Pv := by
  intro v s' hd hq
  obtain ⟨bs, b, r, more, rfl, h3, rfl⟩ := (ref_dec c s v s').1 hd
  exact hk b r _ v _ h3 hq rfl

/-- a constructor tag read with `load_bits`: what follows has the tag at hand (and compares it with a literal) -/
theorem ctagBits {n : Nat} {p : Bits} {c : Codec} {s : Frag} {k0 : Val × Frag → Option ρ} (hl : p.length = n)
    (hk : ∀ s1, Reads (c.dec s1) Qv (k0 (.bits p, s1)) Pv) : Reads ((ctag p c).dec s) Qv (Rd.loadBits n s >>= k0) Pv := by
  intro v s' hd hq
  obtain ⟨t, rs, rfl, h2⟩ := (ctag_dec p c s v s').1 hd
  show Pv v s' ((Option.map _ (Rd.takeBits n _)).bind k0)
  rw [← hl, takeBits_append]
  exact hk _ v s' h2 hq

theorem ctagBytes {nb : Nat} {p : Bits} {c : Codec} {s : Frag} {k0 : Val × Frag → Option ρ} (hl : p.length = 8 * nb)
    (hk : ∀ s1, Reads (c.dec s1) Qv (k0 (.bits p, s1)) Pv) : Reads ((ctag p c).dec s) Qv (Rd.loadBytes nb s >>= k0) Pv :=
  ctagBits hl hk

/-- a constructor tag read as a number, with `load_uint` -/
theorem ctagUint {n : Nat} {p : Bits} {c : Codec} {s : Frag} {k0 : Val × Frag → Option ρ} (hl : p.length = n) (hn : n ≠ 0)
    (hk : ∀ s1, Reads (c.dec s1) Qv (k0 (.int (natOfBits p), s1)) Pv) : Reads ((ctag p c).dec s) Qv (Rd.loadUint n s >>= k0) Pv := by
  intro v s' hd hq
  obtain ⟨t, rs, rfl, h2⟩ := (ctag_dec p c s v s').1 hd
  show Pv v s' ((if n = 0 then none else Option.map _ (Rd.takeBits n _)).bind k0)
  rw [if_neg hn, ← hl, takeBits_append]
  exact hk _ v s' h2 hq

/-- a type that depends on a number known here (`BlkPrevInfo 0`) -/
theorem iteTrue {p : Prop} {dp : Decidable p} {a b : Codec} {s : Frag} {res : Option ρ} (hp : p) (h : Reads (a.dec s) Qv res Pv) :
    Reads ((if p then a else b).dec s) Qv res Pv := by
  rw [if_pos hp]; exact h

theorem iteFalse {p : Prop} {dp : Decidable p} {a b : Codec} {s : Frag} {res : Option ρ} (hp : ¬ p) (h : Reads (b.dec s) Qv res Pv) :
    Reads ((if p then a else b).dec s) Qv res Pv := by
  rw [if_neg hp]; exact h

/-- a single constructor without tag -/
theorem named {n : String} {c : Codec} {s : Frag} {res : Option ρ} (h : Reads (c.dec s) PT res (fun x => Pv (.con n x))) :
    Reads ((Tlb.named n c).dec s) PT res Pv := by
  intro v s' hd _
  obtain ⟨x, h1, rfl⟩ := (named_dec n c s v s').1 hd
  exact h x s' h1 trivial

end Reads

/-- The equation left by `Reads.nil`: the declared view looks its fields up by name in the record of the decoded values.  The names
    are compared by the simproc; `rfl` would have `whnf` decide the string equalities, which is very slow. -/
macro "tlb_view" "[" ds:Lean.Parser.Tactic.simpLemma,* "]" : tactic =>
  `(tactic| simp only [$ds,*, Val.get, List.lookup, String.reduceBEq, Option.getD_some, viewMaybe_id, id])

/-! ### tactic -/

/-- The decoding fact at the head of the goal (`c.dec s = some (v, s') → …`) is rewritten, as a hypothesis, by the iff-lemmas of
    the spec combinators and `ds`; its conjunctions, existentials and alternatives then go back into the goal as separate
    premises.  Records are not opened here (`decFields_cons_elim` does that, field by field), and the reader in the conclusion
    is not touched. -/
macro "tlb_fact" "[" ds:Lean.Parser.Tactic.simpLemma,* "]" : tactic =>
  `(tactic| (intro hf
             try simp only [$ds,*, fld, dep, bits256, typ_dec, withGen_dec, withPaths_dec, uintRange_dec, uintLe, uintLt,
      recd_dec, ctag_dec, tagged_dec, decAlts_cons, decAlts_nil, named_dec, constrained_dec, nothing_dec, cellRef_dec,
      uint1_dec, vBetween_iff, ite_dec, bitLen_60, bitLen_96, bitLen_30, false_imp_iff, imp_true_iff, and_true, true_and,
      Frag.mk.injEq, tag, natToBits, List.cons_append, List.nil_append, List.append_assoc, Nat.reduceDiv, Nat.reduceMod,
      Nat.reduceBEq, Nat.reduceBNe, Nat.le_zero_eq, Nat.zero_le, ↓reduceIte, if_true, if_false, Nat.reduceEqDiff,
      Nat.succ_ne_zero, ne_eq, not_false_eq_true, not_true_eq_false] at hf
             all_goals try revert hf
             all_goals try simp only [forall_exists_index, and_imp, or_imp, false_imp_iff, imp_true_iff]))

/-- From `c.dec ⟨bits, refs⟩ = some (v, s') → goal` to one goal per alternative of `c`, with the decoding facts of the fields as
    hypotheses, front to back: a record gives its fields one at a time (`decFields_cons_elim`, each fact through `tlb_fact`),
    equations between slices are substituted. -/
macro "tlb_decompose" "[" ds:Lean.Parser.Tactic.simpLemma,* "]" : tactic =>
  `(tactic| (rintro ⟨bits, refs⟩ v s'
             tlb_fact [$ds,*]
             repeat' (first
               | exact True.intro
               | apply And.intro
               | (refine decFields_cons_elim (fun _ _ => ?_); tlb_fact [$ds,*])
               | refine decFields_nil_elim ?_
               | (intro h
                  first
                    | (simp only [Frag.mk.injEq] at h; obtain ⟨h1, h2⟩ := h; subst h1; subst h2)
                    | subst h
                    | skip))))

/-- Congruence rules for `simp` (switched on locally by the files that evaluate readers): in `x >>= f` only the read `x` is
    simplified; `f` is entered when `x` has become `some a` and `f a` is formed.  A reader of n statements is then computed in
    n steps on the instantiated rest, instead of n passes under the binders, and of a tagged union only the branch taken.
    Trap: `simp` drops such a rule, and simplifies `f` under its binder after all, (a) when the proof it has for `x = x'` does not
    have that type syntactically, which happens when `x` was rewritten by a `rfl` lemma (`loadBits_cons` …) without a proof
    step: hence `implicitDefEqProofs := false` in `tlb_eval`; (b) when `x` is left unchanged: hence `↓Option.bind_some`, which
    applies `f` to the value read before the arguments of `Option.bind (some a) f` are visited. -/
theorem bind_congr_read {α β : Type} {x x' : Option α} {f : α → Option β} (h : x = x') : (x >>= f) = (x' >>= f) := h ▸ rfl
theorem optionBind_congr_read {α β : Type} {x x' : Option α} {f : α → Option β} (h : x = x') : x.bind f = x'.bind f := h ▸ rfl

/-- evaluation of the regenerated reader under the decomposed facts: the primitive facts are turned into what the `Slice` method
    returns, then the reader and the view are computed with them (closed conditions by `decide`) -/
macro "tlb_eval" "[" ds:Lean.Parser.Tactic.simpLemma,* "]" : tactic =>
  `(tactic| (try simp (config := {decide := true}) only [$ds,*, Frag.mk.injEq, uint_keep, sint_keep, bitsC_keep, boolC_keep, grams_keep, varUInt7_keep,
      varUInt3_keep, varUInt32_keep, and_imp, ne_eq, not_false_eq_true, true_and, Nat.reduceMod, Nat.reduceDiv,
      forall_const] at *
             simp (config := {decide := true, implicitDefEqProofs := false}) only [*, Val.get, List.lookup, Rd.truthy, Rd.obj, Rd.str, loadRefV_cons,
      Rd.beginParse, Rd.special, Cell.bits, Cell.refs, Cell.exotic, Rd.veq, Rd.bits01, Rd.bytesLit,
      Rd.loadMaybeRef, loadUint_cons, loadBits_cons, loadBytes_cons, preloadBits_cons, preloadBytes_cons, takeBits_zero,
      takeBits_succ, natOfBits, loadBit_cons, loadBool_cons, preloadBit_cons, loadRef_cons, Rd.bytesPrefix, Rd.strOfBit,
      Rd.bitsCat, natToBits, viewMaybe_unit, viewMaybe_id, bit_ne_zero, List.cons_append, List.nil_append,
      Option.bind_eq_bind, ↓Option.bind_some, Option.pure_def, Option.map_some, Option.getD_some, String.reduceBEq,
      ↓reduceIte, Int.reduceBNe, Int.reduceBEq, Bool.false_eq_true, Bool.true_eq_false, Bool.not_true, Bool.not_false,
      List.foldl_cons, List.foldl_nil, Nat.reduceMul, Nat.reduceAdd, Int.cast_ofNat_Int, Int.natCast_zero, Int.natCast_one]))

/-- `Refines (Src.T false) T view_T` : `tlb_refine [T, Src.T, view_T, refines_A.keep, …]` -/
macro "tlb_refine" "[" ds:Lean.Parser.Tactic.simpLemma,* "]" : tactic =>
  `(tactic| (tlb_decompose [$ds,*, ref_dec, (refines_sint _).maybeK (nonUnit_sint _), refines_grams.maybeK (nonUnit_varUInt 16),
               refines_cellRef.maybeK nonUnit_cellRef]
             all_goals tlb_eval [$ds,*]))

end TonVerif.Tlb
