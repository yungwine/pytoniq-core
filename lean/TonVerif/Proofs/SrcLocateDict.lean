/-
C11 / locsrc (b), plain dictionaries: `Rd.dictWalk` (the `parse` / `deserialize_hashmap_node` walk of the parser files, value reader applied
to every leaf) returns exactly when the C10 model `Hashmap.parseEdge` returns on the underlying tree and every leaf value is readable.
Then `CurrencyCollection` / `DepthBalanceInfo` of the parser files against `readCurrencyCollection` / `readDepthBalance`, and
`Rd.loadDictRaw` against `readDictRaw`.
-/
import TonVerif.Proofs.SrcLocateWalk
namespace TonVerif.Proofs.SrcLocate
open TonVerif TonVerif.Model TonVerif.Tlb TonVerif.Model.Hashmap TonVerif.Proofs.Hashmap TonVerif.Proofs.Locate

theorem toCell_mk (i : CellInfo) (refs : List PCell) : PCell.toCell (.mk i refs) = .mk i.kind i.bits (PCell.toCells refs) := by
  rw [PCell.toCell]

/-- the verdict of the model's plain parse with a per-leaf test -/
def edgeOk (ok : Bits → Bool) (r : Option (List (Bits × Spec.Hashmap.Val))) : Bool :=
  match r with
  | none => false
  | some kv => kv.all fun p => ok p.2.1

theorem isSome_both (x y : Option (List (Bits × Tlb.Val))) :
    (match x, y with | some a, some b => some (a ++ b) | _, _ => none).isSome = (x.isSome && y.isSome) := by
  cases x <;> cases y <;> rfl

theorem edgeOk_both (ok : Bits → Bool) (x y : Option (List (Bits × Spec.Hashmap.Val))) :
    edgeOk ok (match x, y with | some a, some b => some (a ++ b) | _, _ => none) = (edgeOk ok x && edgeOk ok y) := by
  cases x <;> cases y <;> simp [edgeOk, List.all_append]

theorem dictWalk_ok {rd : Frag → Rd.R} {ok : Bits → Bool} (hrd : ∀ b r, (rd ⟨b, r⟩).isSome = ok b) :
    ∀ (fuel n : Nat) (pfx : Bits) (c : PCell), n < fuel → (0 < n ∨ pfx ≠ []) →
      (Rd.dictWalk rd fuel n pfx (tcell c)).isSome = edgeOk ok (parseEdge c.toCell (n : Int) pfx) := by
  intro fuel
  induction fuel with
  | zero => intro n pfx c hn; omega
  | succ fuel ih =>
    intro n pfx c hn hp
    obtain ⟨info, refs⟩ := c
    rw [tcell_mk, toCell_mk, Rd.dictWalk, parseEdge]
    simp only [Tlb.Cell.exotic, Tlb.Cell.bits, Tlb.Cell.refs]
    rcases label_cases n info.bits refs with ⟨h1, h2⟩ | ⟨lv, l, s, rest, h1, h2, rfl, rfl, hle⟩
    · simp [h1, h2, edgeOk]
    · simp only [h1, h2]
      by_cases hk : info.kind = -1
      · simp only [hk, bne_self_eq_false, Bool.false_eq_true, if_false, ne_eq, not_true_eq_false]
        by_cases hz : n - labelLen lv = 0
        · have hzi : (n : Int) - (labelLen lv : Int) = 0 := by omega
          have hne : (pfx ++ Rd.labelBitsOf lv).isEmpty = false := by
            rw [List.isEmpty_eq_false_iff, ← List.length_pos_iff, List.length_append, deserializeHml_length h2]
            rcases hp with hp | hp
            · omega
            · have := List.length_pos_iff.2 hp; omega
          simp only [hz, hzi, if_true, hne]
          have := hrd rest (tcells refs)
          rcases hv : rd ⟨rest, tcells refs⟩ with _ | ⟨v, s2⟩ <;> rw [hv] at this <;> simp at this <;> simp [edgeOk, this]
        · have hzi : ¬ ((n : Int) - (labelLen lv : Int) = 0) := by omega
          simp only [hz, hzi, if_false]
          match refs with
          | [] => simp [tcells_nil, PCell.toCells, parseFork, edgeOk]
          | [a] => simp [tcells_cons, tcells_nil, PCell.toCells, parseFork, edgeOk]
          | a :: b :: more =>
            simp only [tcells_cons, toCells_cons2, parseFork]
            have hci : (n : Int) - (labelLen lv : Int) - 1 = ((n - labelLen lv - 1 : Nat) : Int) := by omega
            rw [hci]
            have ha := ih (n - labelLen lv - 1) (pfx ++ Rd.labelBitsOf lv ++ [false]) a (by omega) (Or.inr (by simp))
            have hb := ih (n - labelLen lv - 1) (pfx ++ Rd.labelBitsOf lv ++ [true]) b (by omega) (Or.inr (by simp))
            exact (isSome_both _ _).trans ((congrArg₂ (· && ·) ha hb).trans (edgeOk_both ok _ _).symm)
      · have hb : (info.kind != -1) = true := by simpa using hk
        simp [hb, hk, edgeOk]

/-- `load_var_uint(w)`: a `w`-bit length `l`, then `8 l` bits -/
theorem loadVarUint_rest (w : Nat) (hw : w ≠ 0) (b : Bits) (r : List Tlb.Cell) :
    (Rd.loadVarUint w ⟨b, r⟩).map (·.2) =
      if b.length < w ∨ b.length - w < 8 * natOfBits (b.take w) then none
      else some ⟨(b.drop w).drop (8 * natOfBits (b.take w)), r⟩ := by
  simp only [Rd.loadVarUint, Rd.loadUint, Rd.takeBits, hw, if_false]
  by_cases h : b.length < w
  · simp [h]
  · simp only [h, if_false, Option.map_some, false_or]
    by_cases h0 : natOfBits (b.take w) = 0
    · simp [h0]
    · have hi : ¬ ((natOfBits (b.take w) : Int) = 0) := by omega
      have hm : ¬ (natOfBits (b.take w) * 8 = 0) := by omega
      simp only [hi, hm, if_false, Int.toNat_natCast, Nat.mul_comm 8, List.length_drop]
      split <;> simp

theorem loadVarUint5_isSome (b : Bits) (r : List Tlb.Cell) : (Rd.loadVarUint 5 ⟨b, r⟩).isSome = varUintOk 5 b := by
  rw [← Option.isSome_map, loadVarUint_rest 5 (by decide), varUintOk]
  by_cases h : b.length < 5
  · simp [h]
  · by_cases hl : b.length - 5 < 8 * natOfBits (b.take 5)
    · simp [h, hl]
    · simp [h, hl, Nat.le_of_not_lt hl]

theorem loadCoins_rest (b : Bits) (r : List Tlb.Cell) :
    (Rd.loadCoins ⟨b, r⟩).map (·.2) = (loadCoinsRest b).map (fun x => (⟨x, r⟩ : Frag)) := by
  rw [Rd.loadCoins, loadVarUint_rest 4 (by decide), loadCoinsRest]
  by_cases h : b.length < 4
  · simp [h]
  · by_cases hl : b.length - 4 < 8 * natOfBits (b.take 4)
    · simp [h, hl]
    · simp [h, hl]

/-- `Rd.loadDict n rd` against "Maybe bit, root reference, exotic root → None, else the C10 parse + a per-leaf test" -/
theorem loadDict_rest {rd : Frag → Rd.R} {ok : Bits → Bool} (hrd : ∀ b r, (rd ⟨b, r⟩).isSome = ok b) (n : Nat) (hn : 0 < n)
    (bits : Bits) (refs : List PCell) :
    (Rd.loadDict n rd ⟨bits, tcells refs⟩).map (·.2) =
      (match bits with
       | [] => none
       | false :: r => some (psliceFrag (r, refs))
       | true :: r =>
         match refs with
         | [] => none
         | c :: more =>
           if c.info.kind ≠ -1 then some (psliceFrag (r, more))
           else if edgeOk ok (parseHashmap c.toCell n) then some (psliceFrag (r, more)) else none) := by
  match bits with
  | [] => simp [Rd.loadDict, Rd.loadBit]
  | false :: r => simp [Rd.loadDict, Rd.loadBit, Rd.truthy, psliceFrag]
  | true :: r =>
    match refs with
    | [] => simp [Rd.loadDict, Rd.loadBit, Rd.truthy, Rd.loadRef, tcells_nil]
    | c :: more =>
      have hw := dictWalk_ok hrd (n + 1) n [] c (by omega) (Or.inl hn)
      obtain ⟨info, cr⟩ := c
      rw [tcell_mk] at hw
      simp only [Rd.loadDict, Rd.loadBit, Rd.truthy, Rd.loadRef, tcells_cons, tcell_mk, Tlb.Cell.exotic, PCell.info, psliceFrag, parseHashmap]
      by_cases hk : info.kind = -1
      · simp only [hk, bne_self_eq_false, ne_eq, not_true_eq_false, if_false] at hw ⊢
        rcases hv : Rd.dictWalk rd (n + 1) n [] (Tlb.Cell.mk false info.bits (tcells cr)) with _ | kv <;> rw [hv] at hw <;>
          simp at hw <;> simp [hw]
      · have hb : (info.kind != -1) = true := by simpa using hk
        simp [hb, hk]

theorem extraCurrencies_rest (sp : Bool) (s : PSlice) :
    (SrcTx.ExtraCurrencyCollection sp (psliceFrag s)).map (·.2) = (readExtraCurrencies s).map psliceFrag := by
  obtain ⟨bits, refs⟩ := s
  have h := loadDict_rest (rd := Rd.loadVarUint 5) (ok := varUintOk 5) loadVarUint5_isSome 32 (by omega) bits refs
  have hL : (SrcTx.ExtraCurrencyCollection sp ⟨bits, tcells refs⟩).map (·.2) =
      (Rd.loadDict 32 (Rd.loadVarUint 5) ⟨bits, tcells refs⟩).map (·.2) := by
    simp only [SrcTx.ExtraCurrencyCollection]
    cases Rd.loadDict 32 (Rd.loadVarUint 5) ⟨bits, tcells refs⟩ <;> rfl
  rw [psliceFrag, hL, h]
  match bits with
  | [] => simp [readExtraCurrencies]
  | false :: r => simp [readExtraCurrencies]
  | true :: r =>
    match refs with
    | [] => simp [readExtraCurrencies]
    | c :: more =>
      simp only [readExtraCurrencies]
      by_cases hk : c.info.kind = -1
      · clear h hL
        rcases hp : parseHashmap c.toCell 32 with _ | kv
        · simp [hk, edgeOk]
        · simp only [hk, edgeOk, ne_eq, not_true_eq_false, if_false]
          by_cases hb : (kv.all fun p => varUintOk 5 p.2.1) = true <;> simp [hb]
      · simp [hk]

theorem currencyCollection_rest (sp : Bool) (s : PSlice) :
    (SrcTx.CurrencyCollection sp (psliceFrag s)).map (·.2) = (readCurrencyCollection s).map psliceFrag := by
  obtain ⟨bits, refs⟩ := s
  simp only [SrcTx.CurrencyCollection, psliceFrag, readCurrencyCollection]
  rcases map_eq_map_cases (loadCoins_rest bits (tcells refs)) with ⟨hc, hm⟩ | ⟨⟨v, s1⟩, rb, hc, hm, e⟩
  · simp [hc, hm]
  simp only at e
  subst e
  have h2 := extraCurrencies_rest sp (rb, refs)
  simp only [psliceFrag] at h2
  rcases map_eq_map_cases h2 with ⟨he, hr⟩ | ⟨⟨v2, s2⟩, sl, he, hr, e⟩
  · simp [hc, hm, he, hr]
  simp only at e
  subst e
  simp [hc, hm, he, hr, psliceFrag]

theorem depthBalance_rest (sp : Bool) (s : PSlice) :
    (SrcBlk.DepthBalanceInfo sp (psliceFrag s)).map (·.2) = (readDepthBalance s).map psliceFrag := by
  obtain ⟨bits, refs⟩ := s
  simp only [SrcBlk.DepthBalanceInfo, psliceFrag, readDepthBalance, Rd.loadUint, Rd.takeBits]
  by_cases hl : bits.length < 5
  · simp [hl]
  · have h2 := currencyCollection_rest sp (bits.drop 5, refs)
    simp only [psliceFrag] at h2
    rcases map_eq_map_cases h2 with ⟨he, hr⟩ | ⟨⟨v2, s2⟩, sl, he, hr, e⟩
    · simp [hl, he, hr]
    simp only at e
    subst e
    simp [hl, he, hr, psliceFrag]

theorem dictRaw_rest (n : Nat) (hn : 0 < n) (s : PSlice) :
    (Rd.loadDictRaw n (psliceFrag s)).map (·.2) = (readDictRaw n s).map psliceFrag := by
  obtain ⟨bits, refs⟩ := s
  have h := loadDict_rest (rd := Rd.rawLeaf) (ok := fun _ => true) (fun _ _ => rfl) n hn bits refs
  rw [psliceFrag, Rd.loadDictRaw, h]
  match bits with
  | [] => simp [readDictRaw]
  | false :: r => simp [readDictRaw]
  | true :: r =>
    match refs with
    | [] => simp [readDictRaw]
    | c :: more =>
      simp only [readDictRaw]
      by_cases hk : c.info.kind = -1
      · rcases hp : parseHashmap c.toCell n with _ | kv <;> simp [hk, edgeOk]
      · simp [hk]

end TonVerif.Proofs.SrcLocate
