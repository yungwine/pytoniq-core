/-
Two programs in step.

A regenerated function and its hand model are programs with the same stages.  A tie between them is a relation that every construct
the translators emit preserves, so that its proof is a walk along the program text, one rule per construct.

* `ite_rel` is the rule for `if`, for ANY relation between a regenerated term and a model term: the two tests need only be
  equivalent, so a proof does not depend on how the source spells a condition.  `ite_pred` is its unary form.
* For two `Option` programs the relation is `SrcBytes.Sim R x y`: the stages `x` and `y` fail together or return results related by
  `R`.  One rule per idiom: `Sim.bind` (a stage, then the continuations on related results), `Sim.bind_same` (the same partial
  call on both sides), `Sim.ite`, `Sim.guard` (`if c: raise`), `Sim.foldlM` / `Sim.foldlM_idx` (two `for` loops over the same
  list).  Ties come in three shapes, `x = y`, `x = y.map g`, `x.map f = y.map g`; each converts to `Sim` (`Sim.of_eq`,
  `Sim.of_map_eq`, `Sim.of_maps`: a callee's tie or an induction hypothesis as a stage) and back (`Sim.eq`, `Sim.to_eq`,
  `Sim.maps`); `Sim.inv` reads a `Sim` back as the two cases.
* One `Option` program: `Post P x` (every value `x` returns satisfies `P`), with `Post.bind`, `Post.map`, `Post.mapM`,
  `Post.foldlM_idx` (an invariant), `if` by `ite_pred`.  Two programs, one direction: `Le x y` (`y` returns whatever `x` returns).
* A `for` loop in closed form: `foldlM_bind_some` (the body raises only on the element).
-/
namespace TonVerif.Proofs

section
variable {α : Sort _} {β : Sort _} {R : α → β → Prop} {P : α → Prop} {c c' : Prop} [Decidable c] [Decidable c'] {x x' : α} {y y' : β}

theorem ite_rel (hc : c ↔ c') (ht : c' → R x y) (he : ¬ c' → R x' y') : R (if c then x else x') (if c' then y else y') := by
  by_cases h : c'
  · rw [if_pos (hc.2 h), if_pos h]; exact ht h
  · rw [if_neg (mt hc.1 h), if_neg h]; exact he h

/-- the same when one side tests the negation: the branches are crossed -/
theorem ite_rel_not (hc : c ↔ ¬ c') (ht : ¬ c' → R x y') (he : c' → R x' y) : R (if c then x else x') (if c' then y else y') :=
  ite_not (p := c') y' y ▸ ite_rel hc ht fun h => he (Decidable.not_not.1 h)

theorem ite_pred (ht : c → P x) (he : ¬ c → P x') : P (if c then x else x') := by
  by_cases h : c
  · rw [if_pos h]; exact ht h
  · rw [if_neg h]; exact he h

end

namespace SrcBytes
variable {α α' β β' γ σ τ ι : Type} {R : α → α' → Prop} {S : β → β' → Prop} {c c' : Prop} [Decidable c] [Decidable c']
  {x x' : Option α} {y y' : Option α'}

/-- `x` and `y` fail together, or return results related by `R`. -/
inductive Sim {α α' : Type} (R : α → α' → Prop) : Option α → Option α' → Prop
  | fail : Sim R none none
  | ret {a : α} {a' : α'} (h : R a a') : Sim R (some a) (some a')

theorem Sim.ite (hc : c ↔ c') (ht : c' → Sim R x y) (he : ¬ c' → Sim R x' y') : Sim R (if c then x else x') (if c' then y else y') :=
  ite_rel hc ht he

theorem Sim.bind {K : α → Option β} {M : α' → Option β'} (h : Sim R x y) (hk : ∀ a a', R a a' → Sim S (K a) (M a')) :
    Sim S (x.bind K) (y.bind M) := by
  cases h with
  | fail => exact .fail
  | ret h => exact hk _ _ h

/-- the same partial call on both sides -/
theorem Sim.bind_same {K : α → Option β} {M : α → Option β'} (hk : ∀ a, x = some a → Sim S (K a) (M a)) :
    Sim S (x.bind K) (x.bind M) := by
  cases x with
  | none => exact .fail
  | some a => exact hk a rfl

/-- `if c: raise` against the model's `if c' then none else ..` -/
theorem Sim.guard (hc : c ↔ c') (h : ¬ c' → Sim R x y) : Sim R (if c then none else x) (if c' then none else y) :=
  ite_rel hc (fun _ => .fail) h

theorem Sim.mono {S : α → α' → Prop} (h : Sim R x y) (hs : ∀ a b, R a b → S a b) : Sim S x y := by
  cases h with
  | fail => exact .fail
  | ret h => exact .ret (hs _ _ h)

/-- a `Sim` between stages that are not variables (where `cases` cannot be used), read back -/
theorem Sim.inv (h : Sim R x y) : x = none ∧ y = none ∨ ∃ a b, x = some a ∧ y = some b ∧ R a b := by
  cases h with
  | fail => exact .inl ⟨rfl, rfl⟩
  | ret h => exact .inr ⟨_, _, rfl, rfl, h⟩

/-! a tie in the form `x.map f = y.map g`, `x = y.map g` or `x = y` is a `Sim`, and back -/

section
variable {f : α → γ} {g : α' → γ}

theorem Sim.maps (h : Sim (fun a b => f a = g b) x y) : x.map f = y.map g := by
  cases h with
  | fail => rfl
  | ret h => exact congrArg some h

theorem Sim.of_maps (h : x.map f = y.map g) : Sim (fun a b => f a = g b) x y := by
  cases x <;> cases y
  · exact .fail
  · cases h
  · cases h
  · exact .ret (Option.some.inj h)

end

theorem Sim.to_eq {g : α' → α} (h : Sim (fun a b => a = g b) x y) : x = y.map g :=
  Option.map_id_apply.symm.trans (Sim.maps (f := id) h)

theorem Sim.of_map_eq {g : α' → α} (h : x = y.map g) : Sim (fun a b => a = g b) x y :=
  Sim.of_maps (f := id) (Option.map_id_apply.trans h)

theorem Sim.eq {y : Option α} (h : Sim Eq x y) : x = y := (Sim.to_eq h).trans Option.map_id_apply

theorem Sim.of_eq {y : Option α} (h : x = y) : Sim Eq x y := Sim.of_map_eq (h.trans Option.map_id_apply.symm)

theorem Sim.rfl' : Sim Eq x x := Sim.of_eq rfl

/-! loops -/

/-- two `for` loops over the same list whose bodies are in step stay in step; the relation may depend on the number of
iterations done -/
theorem Sim.foldlM_idx {R : Nat → σ → τ → Prop} {f : σ → ι → Option σ} {g : τ → ι → Option τ} :
    ∀ (xs : List ι) (k : Nat) {s : σ} {t : τ}, R k s t →
      (∀ i x s t, xs[i]? = some x → R (k + i) s t → Sim (R (k + i + 1)) (f s x) (g t x)) →
      Sim (R (k + xs.length)) (xs.foldlM f s) (xs.foldlM g t)
  | [], _, _, _, h, _ => .ret h
  | x :: xs, k, _, _, h, hb => by
    rw [List.foldlM_cons, List.foldlM_cons, List.length_cons, ← Nat.add_assoc, Nat.add_right_comm]
    exact Sim.bind (hb 0 x _ _ rfl h) fun _ _ h' =>
      Sim.foldlM_idx xs (k + 1) h' fun i y s t hy hr => by
        have := hb (i + 1) y s t hy (by rwa [← Nat.add_assoc, Nat.add_right_comm])
        rwa [← Nat.add_assoc, Nat.add_right_comm k i 1] at this

theorem Sim.foldlM {R : σ → τ → Prop} {f : σ → ι → Option σ} {g : τ → ι → Option τ} (xs : List ι) {s : σ} {t : τ} (h : R s t)
    (hb : ∀ x ∈ xs, ∀ s t, R s t → Sim R (f s x) (g t x)) : Sim R (xs.foldlM f s) (xs.foldlM g t) :=
  Sim.foldlM_idx (R := fun _ => R) xs 0 h fun _ x s t hx => hb x (List.mem_of_getElem? hx) s t

end SrcBytes

variable {α β γ σ ι : Type}

/-! one program: what a returned value satisfies -/

section
variable {P Q : α → Prop} {x y : Option α}

/-- every value `x` returns satisfies `P` -/
def Post (P : α → Prop) (x : Option α) : Prop := ∀ r, x = some r → P r

theorem Post.fail : Post P none := fun _ h => nomatch h

theorem Post.ret {a : α} (h : P a) : Post P (some a) := fun _ e => Option.some.inj e ▸ h

theorem Post.any : Post (fun _ => True) x := fun _ _ => trivial

theorem Post.self : Post (fun r => x = some r) x := fun _ h => h

theorem Post.mono (h : Post Q x) (hq : ∀ a, Q a → P a) : Post P x := fun r hr => hq r (h r hr)

theorem Post.bind {P : β → Prop} {K : α → Option β} (h : Post Q x) (hk : ∀ a, Q a → Post P (K a)) : Post P (x.bind K) := by
  intro r hr
  obtain ⟨a, ha, hr⟩ := Option.bind_eq_some_iff.1 hr
  exact hk a (h a ha) r hr

theorem Post.map {P : β → Prop} {f : α → β} (h : Post (fun a => P (f a)) x) : Post P (x.map f) := by
  intro r hr
  obtain ⟨a, ha, rfl⟩ := Option.map_eq_some_iff.1 hr
  exact h a ha

/-- an invariant indexed by the number of iterations is carried through a `for` loop -/
theorem Post.foldlM_idx (f : σ → ι → Option σ) (Inv : Nat → σ → Prop) (h : ∀ i s x, Inv i s → Post (Inv (i + 1)) (f s x)) :
    ∀ (xs : List ι) (s : σ) (i : Nat), Inv i s → Post (Inv (i + xs.length)) (xs.foldlM f s)
  | [], _, _, hi => .ret hi
  | x :: xs, s, i, hi => by
    rw [List.foldlM_cons, List.length_cons, Nat.add_comm xs.length, ← Nat.add_assoc]
    exact .bind (h i s x hi) fun s1 h1 => Post.foldlM_idx f Inv h xs s1 (i + 1) h1

theorem Post.mapM (g : ι → Option α) (h : ∀ x, Post P (g x)) : ∀ xs : List ι, Post (fun ys => ∀ y ∈ ys, P y) (xs.mapM g)
  | [] => .ret (fun _ hy => nomatch hy)
  | x :: xs => by
    rw [List.mapM_cons]
    exact .bind (h x) fun y hy => .bind (Post.mapM g h xs) fun ys hys => .ret (List.forall_mem_cons.2 ⟨hy, hys⟩)

/-- two programs, one direction: `y` returns whatever `x` returns -/
def Le (x y : Option α) : Prop := Post (fun r => y = some r) x

theorem Le.rfl : Le x x := Post.self

theorem Le.bind {K M : α → Option β} (h : Le x y) (hk : ∀ a, Le (K a) (M a)) : Le (x.bind K) (y.bind M) :=
  Post.bind h fun a ha => by rw [ha]; exact hk a

theorem Le.foldlM (f g : σ → ι → Option σ) (h : ∀ s x, Le (f s x) (g s x)) : ∀ (xs : List ι) (s : σ), Le (xs.foldlM f s) (xs.foldlM g s)
  | [], _ => .rfl
  | x :: xs, s => by
    rw [List.foldlM_cons, List.foldlM_cons]
    exact .bind (h s x) (Le.foldlM f g h xs)

end

/-- a stage shared by a program and the first part of a program cut in two (`y.bind F`): compare what follows the stage -/
theorem bind_eq_bind_bind {x : Option α} {K : α → Option γ} {M : α → Option β} {F : β → Option γ}
    (h : ∀ a, K a = (M a).bind F) : x.bind K = (x.bind M).bind F :=
  (congrArg _ (funext h)).trans (Option.bind_assoc ..).symm

theorem foldlM_congr (f g : σ → ι → Option σ) (h : ∀ s x, f s x = g s x) (xs : List ι) (s : σ) : xs.foldlM f s = xs.foldlM g s := by
  rw [funext fun s => funext (h s)]

/-- a `for` loop whose body computes something that may raise from the element alone and folds it into the state purely: all the
raising can be done first (`mapM`), then the fold -/
theorem foldlM_bind_some (f : ι → Option β) (g : σ → β → σ) : ∀ (xs : List ι) (s : σ),
    xs.foldlM (fun s x => (f x).bind fun y => some (g s y)) s = (xs.mapM f).bind fun ys => some (ys.foldl g s)
  | [], s => rfl
  | x :: xs, s => by
    rw [List.foldlM_cons, List.mapM_cons]
    cases f x with
    | none => rfl
    | some y =>
      refine (foldlM_bind_some f g xs (g s y)).trans ?_
      cases xs.mapM f <;> rfl

theorem foldl_append_flatten (h0 : List α) (hs : List (List α)) : hs.foldl (· ++ ·) h0 = h0 ++ hs.flatten := by
  induction hs generalizing h0 with
  | nil => simp
  | cons a t ih => simp [ih, List.append_assoc]

end TonVerif.Proofs
