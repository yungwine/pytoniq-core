/-
`Cell.order` as REGENERATED from the source (Generated/BocEmitSrc.lean), judged by an INVARIANT of its own loop instead of by
equality with the hand model (Proofs/SrcBocOrderEq.lean `src_order_eq`).  `orderG ch` is the function in canonical form: the
explicit-stack loop with `(cell, expanded)` markers and a visited set, pushing the references of an expanded cell in the order
`ch cell`, followed by the re-insertion loop over `reversed(post_order)`.

* `orderG_valid` — whatever `ch` (any permutation of `cell.refs`), `orderG ch` returns a `ValidOrder`: root first, every distinct
  sub-cell exactly once, references strictly forward.
* `orderG_linear` — the `while stack:` loop ends within `1 + n + e` iterations (`n` distinct cells, `e` references): the
  iteration budget `1 + n + e + 1` (one unit to see the condition fail) always suffices.
* `orderG_nodup` — the keys of the returned dict are pairwise distinct, for every loop body.

`src_order_nf` identifies the regenerated text with `orderG ch` (`shape_nf`, the pieces closed by `rfl`) for `ch` = `cell.refs` or
`reversed(cell.refs)`; marking on push, a wrong pop end, a dropped `reversed(post_order)` or a visited set keyed differently do not
match `stepG` (or break `hs`) and leave the obligation open.
-/
import TonVerif.Generated.BocEmitSrc
import TonVerif.Proofs.SrcDict
import TonVerif.Proofs.BocOrder

namespace TonVerif.Proofs.SrcOrderAny
open TonVerif TonVerif.Model TonVerif.Proofs.SrcDict TonVerif.Proofs.BocOrder

/-- the loop state `(post_order, stack, visited)` (the loop-carried variables, sorted by name) -/
abbrev OState := List PCell × List (PCell × Bool) × Py.KSet PCell

/-- one iteration of `while stack:` in canonical form; the references of an expanded cell are pushed in the order `ch cell` -/
def stepG (ch : PCell → List PCell) (s : OState) : Option OState :=
  (Py.listPop? s.2.1).bind fun x =>
    if x.2.2 = true then some (s.1 ++ [x.2.1], x.1, s.2.2)
    else if Py.setHas PCell.key s.2.2 x.2.1 = true then some (s.1, x.1, s.2.2)
    else some (s.1, x.1 ++ [(x.2.1, true)] ++ (ch x.2.1).map (fun r => (r, false)), Py.setAdd PCell.key s.2.2 x.2.1)

/-! ### predicates on the stack, read from the TOP (`T = stack.reverse`) -/

abbrev ekey (e : PCell × Bool) : Nat := e.1.key

/-- the cell of the nearest expanded (`True`) entry -/
def parentOf (T : List (PCell × Bool)) : Option PCell := (T.find? (·.2)).map (·.1)

/-- every entry is a reference of the nearest expanded entry below it -/
def ParentOK : List (PCell × Bool) → Prop
  | [] => True
  | e :: rest => (∀ a, parentOf rest = some a → e.1 ∈ a.refs) ∧ ParentOK rest

/-- every reference of an expanded entry is finished (key in `pk`) or still on the stack above it (key in `ak`) -/
def WitOK (pk : List Nat) : List (PCell × Bool) → List Nat → Prop
  | [], _ => True
  | (c, true) :: rest, ak => (∀ r ∈ c.refs, r.key ∈ pk ∨ r.key ∈ ak) ∧ WitOK pk rest (c.key :: ak)
  | (c, false) :: rest, ak => WitOK pk rest (c.key :: ak)

/-- keys of the expanded entries (cells being processed) -/
def grayKeys (T : List (PCell × Bool)) : List Nat := (T.filter (·.2)).map ekey

theorem subcellsList_trans : (ps : List PCell) → ∀ c ∈ subcellsList ps, ∀ d ∈ subcells c, d ∈ subcellsList ps :=
  BocOrder.subcellsList_trans

theorem psize_lt_of_mem_refs {x c : PCell} (h : x ∈ c.refs) : psize x < psize c := by
  have h1 := psize_subcellsList c.refs x (mem_subcellsList_of_mem _ _ h)
  cases c with
  | mk i refs => simp only [psize, PCell.refs] at h1 ⊢; omega

theorem parentOf_true (c : PCell) (rest : List (PCell × Bool)) : parentOf ((c, true) :: rest) = some c := by
  simp [parentOf]

theorem parentOf_false (c : PCell) (rest : List (PCell × Bool)) : parentOf ((c, false) :: rest) = parentOf rest := by
  simp [parentOf]

/-- below an entry that hangs under the stack, every expanded cell is strictly bigger: no cell is its own descendant -/
theorem psize_lt_below : ∀ (rest : List (PCell × Bool)) (x : PCell), (∀ a, parentOf rest = some a → x ∈ a.refs) →
    ParentOK rest → ∀ g, (g, true) ∈ rest → psize x < psize g
  | [], _, _, _, g, hg => by simp at hg
  | (c, true) :: rest, x, hx, hp, g, hg => by
    have h1 := psize_lt_of_mem_refs (hx c (parentOf_true c rest))
    rcases List.mem_cons.1 hg with h | h
    · cases h; exact h1
    · exact Nat.lt_trans h1 (psize_lt_below rest c hp.1 hp.2 g h)
  | (c, false) :: rest, x, hx, hp, g, hg => by
    rcases List.mem_cons.1 hg with h | h
    · cases h
    · exact psize_lt_below rest x (by rw [parentOf_false] at hx; exact hx) hp.2 g h

theorem parentOK_push (x : PCell) (rest : List (PCell × Bool)) : ∀ (L : List PCell), (∀ r ∈ L, r ∈ x.refs) →
    ParentOK ((x, true) :: rest) → ParentOK (L.map (fun r => (r, false)) ++ (x, true) :: rest) ∧
      parentOf (L.map (fun r => (r, false)) ++ (x, true) :: rest) = some x
  | [], _, h => ⟨h, parentOf_true x rest⟩
  | r :: L, hL, h => by
    obtain ⟨h1, h2⟩ := parentOK_push x rest L (fun r hr => hL r (by simp [hr])) h
    refine ⟨⟨?_, h1⟩, ?_⟩
    · intro a ha
      have ha' : parentOf (L.map (fun r => (r, false)) ++ (x, true) :: rest) = some a := ha
      rw [h2] at ha'; cases ha'
      exact hL r (by simp)
    · simpa [List.map_cons, parentOf_false] using h2

theorem mem_or_cons {pk pk' ak ak' : List Nat} (c : Nat) (h : ∀ k, k ∈ pk ∨ k ∈ ak → k ∈ pk' ∨ k ∈ ak') :
    ∀ k, k ∈ pk ∨ k ∈ c :: ak → k ∈ pk' ∨ k ∈ c :: ak' := by
  intro k hk
  rcases hk with hk | hk
  · exact (h k (Or.inl hk)).imp_right (List.mem_cons_of_mem _)
  · rcases List.mem_cons.1 hk with rfl | hk
    · exact Or.inr List.mem_cons_self
    · exact (h k (Or.inr hk)).imp_right (List.mem_cons_of_mem _)

/-- `WitOK pk T ak` depends on `pk` and `ak` only through the union of their members, and grows with it -/
theorem witOK_mono (pk pk' : List Nat) : ∀ (T : List (PCell × Bool)) (ak ak' : List Nat),
    (∀ k, k ∈ pk ∨ k ∈ ak → k ∈ pk' ∨ k ∈ ak') → WitOK pk T ak → WitOK pk' T ak'
  | [], _, _, _, _ => trivial
  | (c, true) :: rest, _, _, h, hw => ⟨fun r hr => h _ (hw.1 r hr), witOK_mono pk pk' rest _ _ (mem_or_cons c.key h) hw.2⟩
  | (c, false) :: rest, _, _, h, hw => witOK_mono pk pk' rest _ _ (mem_or_cons c.key h) hw

/-- pushing unexpanded entries only accumulates their keys -/
theorem witOK_push (pk : List Nat) (R : List (PCell × Bool)) : ∀ (L : List PCell) (ak : List Nat),
    WitOK pk (L.map (fun r => (r, false)) ++ R) ak ↔ WitOK pk R ((L.map PCell.key).reverse ++ ak)
  | [], ak => by simp
  | r :: L, ak => by
    simp only [List.map_cons, List.cons_append, WitOK, List.reverse_cons, List.append_assoc]
    exact witOK_push pk R L (r.key :: ak)

theorem grayKeys_true (x : PCell) (T : List (PCell × Bool)) : grayKeys ((x, true) :: T) = x.key :: grayKeys T := by
  simp [grayKeys]

theorem grayKeys_false (x : PCell) (T : List (PCell × Bool)) : grayKeys ((x, false) :: T) = grayKeys T := by
  simp [grayKeys]

theorem grayKeys_push (L : List PCell) (R : List (PCell × Bool)) :
    grayKeys (L.map (fun r => (r, false)) ++ R) = grayKeys R := by
  induction L with
  | nil => rfl
  | cons r L ih => simpa [grayKeys_false] using ih

/-! ### the invariant -/

structure Inv (root : PCell) (s : OState) : Prop where
  sound_stack : ∀ e ∈ s.2.1, e.1 ∈ subcells root
  sound_post : ∀ c ∈ s.1, c ∈ subcells root
  vis_iff : ∀ k, k ∈ s.2.2.map PCell.key ↔ (k ∈ s.1.map PCell.key ∨ k ∈ grayKeys s.2.1.reverse)
  nodup : (grayKeys s.2.1.reverse ++ s.1.map PCell.key).Nodup
  fwd : Fwd s.1.reverse
  parent : ParentOK s.2.1.reverse
  wit : WitOK (s.1.map PCell.key) s.2.1.reverse []
  rootpos : s = ([], [(root, false)], []) ∨ s.2.1.head? = some (root, true) ∨ (s.2.1 = [] ∧ s.1.getLast? = some root)

theorem inv_init (root : PCell) : Inv root ([], [(root, false)], []) where
  sound_stack := by intro e he; simp at he; subst he; exact self_mem_subcells root
  sound_post := by simp
  vis_iff := by simp [grayKeys]
  nodup := by simp [grayKeys]
  fwd := trivial
  parent := by simp [ParentOK, parentOf]
  wit := by simp [WitOK]
  rootpos := Or.inl rfl

theorem setHas_iff (vis : Py.KSet PCell) (c : PCell) : Py.setHas PCell.key vis c = true ↔ c.key ∈ vis.map PCell.key := by
  simp only [Py.setHas, List.any_eq_true, List.mem_map, beq_iff_eq]

theorem fwd_cons_of (x : PCell) (post : List PCell) (h : ∀ r ∈ x.refs, r.key ∈ post.map PCell.key) (hf : Fwd post.reverse) :
    Fwd (post ++ [x]).reverse := by
  simp only [List.reverse_append, List.reverse_cons, List.reverse_nil, List.nil_append, List.singleton_append, Fwd]
  exact ⟨fun r hr => by simpa using h r hr, hf⟩

theorem head_append_of_ne {α : Type} (l m : List α) (h : l ≠ []) : (l ++ m).head? = l.head? := by
  cases l with
  | nil => exact absurd rfl h
  | cons a l => rfl

/-! ### the potential: stack entries + (1 + references) of every cell not yet visited -/

def unvisitedSum (L : List PCell) (vis : Py.KSet PCell) : Nat :=
  ((L.filter (fun y => !Py.setHas PCell.key vis y)).map (fun y => 1 + y.refs.length)).sum

def potential (L : List PCell) (s : OState) : Nat := s.2.1.length + unvisitedSum L s.2.2

theorem setHas_add (vis : Py.KSet PCell) (x y : PCell) (hx : Py.setHas PCell.key vis x = false) :
    Py.setHas PCell.key (Py.setAdd PCell.key vis x) y = (Py.setHas PCell.key vis y || (x.key == y.key)) := by
  unfold Py.setAdd
  rw [hx]
  simp [Py.setHas, List.any_append]

theorem unvisitedSum_add (vis : Py.KSet PCell) (x : PCell) (hx : Py.setHas PCell.key vis x = false) :
    ∀ (L : List PCell), (L.map PCell.key).Nodup → x ∈ L →
      unvisitedSum L (Py.setAdd PCell.key vis x) + (1 + x.refs.length) = unvisitedSum L vis
  | [], _, hm => by simp at hm
  | y :: L, hn, hm => by
    rw [List.map_cons, List.nodup_cons] at hn
    by_cases hxy : x.key = y.key
    · -- the head is `x` itself (keys are distinct in `L`)
      have hyx : y = x := by
        rcases List.mem_cons.1 hm with h | h
        · exact h.symm
        · exact absurd (hxy ▸ List.mem_map_of_mem h) hn.1
      subst hyx
      have htail : ∀ z ∈ L, (!Py.setHas PCell.key (Py.setAdd PCell.key vis y) z) = (!Py.setHas PCell.key vis z) := by
        intro z hz
        rw [setHas_add _ _ _ hx]
        have : (y.key == z.key) = false := by
          simp only [beq_eq_false_iff_ne, ne_eq]
          intro e; exact hn.1 (e ▸ List.mem_map_of_mem hz)
        simp [this]
      have hf : L.filter (fun z => !Py.setHas PCell.key (Py.setAdd PCell.key vis y) z) =
          L.filter (fun z => !Py.setHas PCell.key vis z) := List.filter_congr htail
      simp only [unvisitedSum, List.filter_cons, setHas_add _ _ _ hx, hx, beq_self_eq_true, Bool.or_true, Bool.not_true,
        Bool.false_eq_true, if_false, Bool.not_false, if_true, List.map_cons, List.sum_cons]
      simp only [← setHas_add _ _ _ hx, hf]
      omega
    · have hm' : x ∈ L := by
        rcases List.mem_cons.1 hm with h | h
        · exact absurd (by rw [h]) hxy
        · exact h
      have ih := unvisitedSum_add vis x hx L hn.2 hm'
      have hb : (x.key == y.key) = false := by simpa using hxy
      simp only [unvisitedSum, List.filter_cons, setHas_add _ _ _ hx, hb, Bool.or_false] at ih ⊢
      by_cases hy : Py.setHas PCell.key vis y = true
      · simp only [hy, Bool.not_true, Bool.false_eq_true, if_false]
        exact ih
      · simp only [hy, Bool.not_false, if_true, List.map_cons, List.sum_cons]
        omega

/-! ### one iteration keeps the invariant and lowers the potential -/

/-- with `(x, e)` on top of the stack the root is that entry, alone on the stack, or the expanded entry at the bottom -/
theorem rootpos_top {root x : PCell} {e : Bool} {post : List PCell} {init : List (PCell × Bool)} {vis : Py.KSet PCell}
    (h : ((post, init ++ [(x, e)], vis) : OState) = ([], [(root, false)], []) ∨
      (init ++ [(x, e)]).head? = some (root, true) ∨ (init ++ [(x, e)] = [] ∧ post.getLast? = some root)) :
    (init = [] ∧ x = root ∧ (e = false → post = [])) ∨ init.head? = some (root, true) := by
  cases init with
  | nil =>
    left
    rcases h with h | h | h
    · simp only [List.nil_append, Prod.mk.injEq, List.cons.injEq, and_true] at h
      exact ⟨rfl, h.2.1.1, fun _ => h.1⟩
    · simp only [List.nil_append, List.head?_cons, Option.some.injEq, Prod.mk.injEq] at h
      exact ⟨rfl, h.1, fun he => by simp [h.2] at he⟩
    · simp at h
  | cons a l =>
    right
    rcases h with h | h | h
    · simp at h
    · simpa using h
    · simp at h

/-- a cell met again while it is being processed would be its own descendant -/
theorem not_gray (root : PCell) (nc : NoCollision root) (x : PCell) (hx : x ∈ subcells root) (T : List (PCell × Bool))
    (hT : ∀ e ∈ T, e.1 ∈ subcells root) (hp : ParentOK ((x, false) :: T)) : x.key ∉ grayKeys T := by
  intro h
  simp only [grayKeys, List.mem_map, List.mem_filter] at h
  obtain ⟨⟨g, b⟩, ⟨hg, hb⟩, hk⟩ := h
  cases (show b = true from hb)
  cases nc g (hT _ hg) x hx hk
  exact Nat.lt_irrefl _ (psize_lt_below T x hp.1 hp.2 x hg)

theorem step_inv (ch : PCell → List PCell) (hperm : ∀ c, (ch c).Perm c.refs) (root : PCell) (nc : NoCollision root)
    (s : OState) (inv : Inv root s) (hne : s.2.1 ≠ []) :
    ∃ s', stepG ch s = some s' ∧ Inv root s' ∧
      ∀ (L : List PCell), (L.map PCell.key).Nodup → (∀ d ∈ subcells root, d ∈ L) → potential L s' + 1 ≤ potential L s := by
  obtain ⟨post, stack, vis⟩ := s
  rcases List.eq_nil_or_concat stack with rfl | ⟨init, ⟨x, e⟩, hst⟩
  · exact absurd rfl hne
  rw [List.concat_eq_append] at hst
  subst hst
  obtain ⟨i1, i2, i3, i4, i5, i6, i7, i8⟩ := inv
  dsimp only at i1 i2 i3 i4 i5 i6 i7 i8
  rw [List.reverse_concat] at i3 i4 i6 i7
  have hxroot : x ∈ subcells root := i1 (x, e) (by simp)
  have hinit : ∀ e' ∈ init, e'.1 ∈ subcells root := fun e' he' => i1 e' (by simp [he'])
  have hroot := rootpos_top i8
  cases e with
  | true =>
    -- an expanded entry is finished: `post_order.append(cell)`
    refine ⟨(post ++ [x], init, vis), by simp [stepG, listPop_append], ?_, ?_⟩
    · rw [grayKeys_true] at i3 i4
      refine ⟨hinit, ?_, ?_, ?_, ?_, i6.2, ?_, ?_⟩
      · intro c hc
        rcases List.mem_append.1 hc with h | h
        · exact i2 c h
        · cases List.mem_singleton.1 h; exact hxroot
      · intro k
        simp only [i3 k, List.map_append, List.map_cons, List.map_nil, List.mem_append, List.mem_cons, List.not_mem_nil,
          or_false, false_or, or_assoc, or_comm, or_left_comm]
      · simp only [List.map_append, List.map_cons, List.map_nil, ← List.append_assoc]
        exact List.perm_append_singleton _ _ |>.nodup_iff.2 i4
      · exact fwd_cons_of x post (fun r hr => (i7.1 r hr).resolve_right (by simp)) i5
      · refine witOK_mono _ _ _ _ _ (fun k hk => Or.inl ?_) i7.2
        simpa [or_comm] using hk
      · rcases hroot with ⟨h1, h2, _⟩ | h
        · exact Or.inr (Or.inr ⟨h1, by simp [h2]⟩)
        · exact Or.inr (Or.inl h)
    · intro L _ _
      simp only [potential, List.length_append, List.length_cons, List.length_nil]; omega
  | false =>
    rw [grayKeys_false] at i3 i4
    have hgray : x.key ∉ grayKeys init.reverse :=
      not_gray root nc x hxroot _ (fun e he => hinit e (List.mem_reverse.1 he)) i6
    by_cases hv : Py.setHas PCell.key vis x = true
    · -- already visited, so finished: the entry is dropped
      have hxpost : x.key ∈ post.map PCell.key := ((i3 x.key).1 ((setHas_iff vis x).1 hv)).resolve_right hgray
      refine ⟨(post, init, vis), by simp [stepG, listPop_append, hv], ⟨hinit, i2, i3, i4, i5, i6.2, ?_, ?_⟩, ?_⟩
      · refine witOK_mono _ _ _ _ _ (fun k hk => Or.inl ?_) i7
        rcases hk with hk | hk
        · exact hk
        · cases List.mem_singleton.1 hk; exact hxpost
      · rcases hroot with ⟨_, _, h3⟩ | h
        · rw [h3 rfl] at hxpost; simp at hxpost
        · exact Or.inr (Or.inl h)
      · intro L _ _
        simp only [potential, List.length_append, List.length_cons, List.length_nil]; omega
    · -- first visit: mark, push the `(cell, True)` marker and the references
      have hv' : Py.setHas PCell.key vis x = false := by simpa using hv
      have hmem : ∀ r, r ∈ ch x ↔ r ∈ x.refs := fun r => (hperm x).mem_iff
      have hadd : Py.setAdd PCell.key vis x = vis ++ [x] := by simp [Py.setAdd, hv']
      have hrev : (init ++ [(x, true)] ++ (ch x).map (fun r => (r, false))).reverse =
          (ch x).reverse.map (fun r => (r, false)) ++ (x, true) :: init.reverse := by
        simp [List.map_reverse]
      refine ⟨(post, init ++ [(x, true)] ++ (ch x).map (fun r => (r, false)), Py.setAdd PCell.key vis x),
        by simp [stepG, listPop_append, hv], ⟨?_, i2, ?_, ?_, i5, ?_, ?_, ?_⟩, ?_⟩
      · intro e' he'
        simp only [List.mem_append, List.mem_singleton, List.mem_map] at he'
        rcases he' with (h | rfl) | ⟨r, hr, rfl⟩
        · exact hinit e' h
        · exact hxroot
        · exact ref_mem_subcells hxroot ((hmem r).1 hr)
      · intro k
        simp only [hrev, grayKeys_push, grayKeys_true, hadd, i3 k, List.map_append, List.map_cons, List.map_nil,
          List.mem_append, List.mem_cons, List.not_mem_nil, or_false, false_or, or_assoc, or_comm, or_left_comm]
      · simp only [hrev, grayKeys_push, grayKeys_true, List.cons_append, List.nodup_cons]
        refine ⟨fun h => hv ((setHas_iff vis x).2 ((i3 x.key).2 ?_)), i4⟩
        exact (List.mem_append.1 h).symm
      · simp only [hrev]
        exact (parentOK_push x init.reverse (ch x).reverse (fun r hr => (hmem r).1 (List.mem_reverse.1 hr)) i6).1
      · simp only [hrev, witOK_push]
        refine ⟨fun r hr => Or.inr ?_, witOK_mono _ _ _ _ _ (fun k hk => hk.imp_right fun hk => ?_) i7⟩
        · simpa using ⟨r, (hmem r).2 hr, rfl⟩
        · cases List.mem_singleton.1 hk; simp
      · right; left
        rcases hroot with ⟨h1, h2, _⟩ | h
        · simp [h1, h2]
        · rw [List.append_assoc, head_append_of_ne _ _ (by rintro rfl; simp at h)]; exact h
      · intro L hLn hL
        have hsum := unvisitedSum_add vis x hv' L hLn (hL x hxroot)
        have hlen : (ch x).length = x.refs.length := (hperm x).length_eq
        simp only [potential, List.length_append, List.length_map, List.length_cons, List.length_nil] at hsum ⊢
        omega

/-! ### the loop -/

/-- whenever the loop returns, the invariant holds and the stack is empty (every iteration budget) -/
theorem while_inv (ch : PCell → List PCell) (hperm : ∀ c, (ch c).Perm c.refs) (root : PCell) (nc : NoCollision root) :
    ∀ (fuel : Nat) (s s' : OState), Inv root s →
      Py.while? (fun s : OState => decide (s.2.1 ≠ [])) (stepG ch) fuel s = some s' → Inv root s' ∧ s'.2.1 = []
  | 0, _, _, _, h => by simp [Py.while?] at h
  | fuel + 1, s, s', inv, h => by
    by_cases hne : s.2.1 = []
    · simp only [Py.while?, hne, ne_eq, not_true_eq_false, decide_false, Bool.false_eq_true, if_false,
        Option.some.injEq] at h
      subst h; exact ⟨inv, hne⟩
    · obtain ⟨s1, h1, inv1, _⟩ := step_inv ch hperm root nc s inv hne
      simp only [Py.while?, hne, ne_eq, not_false_eq_true, decide_true, if_true, h1, Option.bind_some] at h
      exact while_inv ch hperm root nc fuel s1 s' inv1 h

/-- the loop ends within `potential` iterations: a budget of `potential + 1` suffices -/
theorem while_terminates (ch : PCell → List PCell) (hperm : ∀ c, (ch c).Perm c.refs) (root : PCell) (nc : NoCollision root)
    (L : List PCell) (hLn : (L.map PCell.key).Nodup) (hL : ∀ d ∈ subcells root, d ∈ L) :
    ∀ (fuel : Nat) (s : OState), Inv root s → potential L s + 1 ≤ fuel →
      ∃ s', Py.while? (fun s : OState => decide (s.2.1 ≠ [])) (stepG ch) fuel s = some s'
  | 0, _, _, h => by omega
  | fuel + 1, s, inv, h => by
    by_cases hne : s.2.1 = []
    · exact ⟨s, by simp [Py.while?, hne]⟩
    · obtain ⟨s1, h1, inv1, hp⟩ := step_inv ch hperm root nc s inv hne
      have := hp L hLn hL
      obtain ⟨s', hs'⟩ := while_terminates ch hperm root nc L hLn hL fuel s1 inv1 (by omega)
      exact ⟨s', by simp only [Py.while?, hne, ne_eq, not_false_eq_true, decide_true, if_true, h1, Option.bind_some, hs']⟩

/-! ### from the invariant at the end of the loop to a valid order -/

/-- a key-closed set of sub-cells contains every sub-cell of its members -/
theorem closed_subcells (root : PCell) (nc : NoCollision root) (P : List PCell) (hs : ∀ c ∈ P, c ∈ subcells root)
    (hc : ∀ c ∈ P, ∀ r ∈ c.refs, r.key ∈ P.map PCell.key) :
    ∀ (n : Nat) (c : PCell), psize c ≤ n → c ∈ P → ∀ d ∈ subcells c, d ∈ P
  | 0, c, hn, _, _, _ => by cases c; simp [psize] at hn
  | n + 1, c, hn, hcP, d, hd => by
    rw [subcells_eq] at hd
    rcases List.mem_cons.1 hd with rfl | hd
    · exact hcP
    · -- `d` is below some reference `r` of `c`
      have : ∃ r ∈ c.refs, d ∈ subcells r := by
        clear hn hc hcP
        generalize c.refs = rs at hd
        induction rs with
        | nil => simp [subcellsList] at hd
        | cons r rs ih =>
          simp only [subcellsList, List.mem_append] at hd
          rcases hd with h | h
          · exact ⟨r, by simp, h⟩
          · obtain ⟨r', hr', h'⟩ := ih h
            exact ⟨r', by simp [hr'], h'⟩
      obtain ⟨r, hr, hdr⟩ := this
      obtain ⟨y, hy, hyk⟩ := List.mem_map.1 (hc c hcP r hr)
      have hyr : y = r := nc y (hs y hy) r (ref_mem_subcells (hs c hcP) hr) hyk
      subst hyr
      have := psize_lt_of_mem_refs hr
      exact closed_subcells root nc P hs hc n y (by omega) hy d hdr

/-- `while stack:` and `while len(stack) > 0:` are the same test -/
theorem cond_len (s : OState) : decide (s.2.1.length > 0) = decide (s.2.1 ≠ []) := by
  rcases s with ⟨a, b, c⟩
  cases b <;> simp

theorem fwd_closed : ∀ (P : List PCell), Fwd P → ∀ c ∈ P, ∀ r ∈ c.refs, r.key ∈ P.map PCell.key
  | [], _, c, hc, _, _ => by simp at hc
  | x :: rest, hf, c, hc, r, hr => by
    rcases List.mem_cons.1 hc with rfl | hc
    · exact List.mem_cons_of_mem _ (hf.1 r hr)
    · exact List.mem_cons_of_mem _ (fwd_closed rest hf.2 c hc r hr)

theorem valid_of_inv (root : PCell) (nc : NoCollision root) (s : OState) (inv : Inv root s) (he : s.2.1 = []) :
    ValidOrder root s.1.reverse := by
  obtain ⟨post, stack, vis⟩ := s
  dsimp only at he; subst he
  obtain ⟨_, i2, _, i4, i5, _, _, i8⟩ := inv
  dsimp only at i2 i4 i5 i8
  have hlast : post.getLast? = some root := by
    rcases i8 with h | h | h
    · simp at h
    · simp at h
    · exact h.2
  have hrootmem : root ∈ post.reverse := by
    rw [List.mem_reverse]; exact List.mem_of_getLast? hlast
  have hs : ∀ c ∈ post.reverse, c ∈ subcells root := fun c hc => i2 c (List.mem_reverse.1 hc)
  have hclosed := closed_subcells root nc post.reverse hs (fwd_closed _ i5) (psize root) root (Nat.le_refl _) hrootmem
  refine ⟨by rw [List.head?_reverse]; exact hlast, ?_, fun d hd => List.mem_map_of_mem (hclosed d hd), hs, Fwd.index _ i5⟩
  simp only [grayKeys, List.reverse_nil, List.filter_nil, List.map_nil, List.nil_append] at i4
  rw [List.map_reverse]
  exact nodup_rev _ i4

/-! ### the re-insertion loop -/

theorem foldl_moveToEnd_nodup : ∀ (xs : List PCell) (d : Py.KDict PCell Unit),
    (d.map (fun e => PCell.key e.1) ++ xs.map PCell.key).Nodup →
    xs.foldl (fun d c => moveToEnd PCell.key d c ()) d = d ++ xs.map (fun c => (c, ()))
  | [], d, _ => by simp
  | x :: xs, d, h => by
    have hx := dictHas_of_nodup_cons PCell.key d x xs h
    rw [List.foldl_cons]
    unfold moveToEnd
    rw [filter_absent PCell.key d x hx]
    have := foldl_moveToEnd_nodup xs (d ++ [(x, ())]) (by simpa [List.map_append, List.append_assoc] using h)
    unfold moveToEnd at this
    rw [this]; simp [List.append_assoc]

/-! ### `Cell.order` in canonical form -/

/-- the `while stack:` loop pushing the references of an expanded cell in the order `ch cell`, then the re-insertion loop over
`reversed(post_order)` -/
def orderG (ch : PCell → List PCell) (fuel : Nat) (p : PCell) : Option (Py.KDict PCell Unit) :=
  (Py.while? (fun s : OState => decide (s.2.1 ≠ [])) (stepG ch) fuel ([], [(p, false)], [])).map fun s =>
    s.1.reverse.foldl (fun d c => moveToEnd PCell.key d c ()) []

/-- what the translator emits for `Cell.order`, with the loop condition, the loop body and the re-insertion body as it spells them,
is `orderG ch` -/
theorem shape_nf (ch : PCell → List PCell) (cond : OState → Bool) (body : OState → Option OState)
    (step : Py.KDict PCell Unit → PCell → Option (Py.KDict PCell Unit)) (hcond : ∀ s, cond s = decide (s.2.1 ≠ []))
    (hb : ∀ s, body s = stepG ch s) (hs : ∀ d c, step d c = moveStep PCell.key () d c) (fuel : Nat) (p : PCell) :
    ((Py.while? cond body fuel ([], [(p, false)], [])).bind fun x => (List.foldlM step [] x.1.reverse).bind fun r => some r) =
      orderG ch fuel p := by
  obtain rfl : cond = _ := funext hcond
  obtain rfl : body = _ := funext hb
  obtain rfl : step = _ := funext fun d => funext (hs d)
  simp only [orderG, foldlM_moveStep, Option.bind_some, Option.map_eq_bind, Function.comp_def]

theorem orderG_some {ch : PCell → List PCell} {fuel : Nat} {p : PCell} {d : Py.KDict PCell Unit} :
    orderG ch fuel p = some d ↔
      ∃ s, Py.while? (fun s : OState => decide (s.2.1 ≠ [])) (stepG ch) fuel ([], [(p, false)], []) = some s ∧
        s.1.reverse.foldl (fun d c => moveToEnd PCell.key d c ()) [] = d :=
  Option.map_eq_some_iff

/-- **any visiting order of the references gives a valid order**: whenever `orderG ch` returns (every iteration budget), the keys of
the returned dict are, in iteration order, a `ValidOrder` of the root -/
theorem orderG_valid (ch : PCell → List PCell) (hperm : ∀ c, (ch c).Perm c.refs) (fuel : Nat) (p : PCell)
    (d : Py.KDict PCell Unit) (nc : NoCollision p) (h : orderG ch fuel p = some d) :
    ValidOrder p (Py.dictKeys d) ∧ d = (Py.dictKeys d).map (fun c => (c, ())) := by
  obtain ⟨s, hW, rfl⟩ := orderG_some.1 h
  obtain ⟨inv, he⟩ := while_inv ch hperm p nc fuel _ s (inv_init p) hW
  have vo := valid_of_inv p nc s inv he
  rw [foldl_moveToEnd_nodup s.1.reverse [] (by simpa using vo.nodup), List.nil_append]
  have hk : Py.dictKeys (s.1.reverse.map (fun c => (c, ()))) = s.1.reverse := by
    simp [Py.dictKeys, Function.comp_def]
  rw [hk]
  exact ⟨vo, rfl⟩

/-- the potential of the initial state is `1 + n + e` for `n` cells carrying `e` references in total -/
theorem potential_init (p : PCell) (cells : List PCell) :
    potential cells ([], [(p, false)], []) = 1 + cells.length + (cells.map (fun c => c.refs.length)).sum := by
  have hfl : cells.filter (fun y => !Py.setHas PCell.key ([] : Py.KSet PCell) y) = cells :=
    List.filter_eq_self.2 (fun a _ => by simp [Py.setHas])
  simp only [potential, unvisitedSum, hfl, List.length_cons, List.length_nil]
  have : ∀ (l : List PCell), (l.map (fun y => 1 + y.refs.length)).sum = l.length + (l.map (fun c => c.refs.length)).sum := by
    intro l
    induction l with
    | nil => rfl
    | cons a l ih => simp only [List.map_cons, List.sum_cons, List.length_cons, ih]; omega
  rw [this]; omega

/-- **the `while stack:` loop ends within `1 + n + e` iterations**: with `cells` = the distinct sub-cells (`n` of them, carrying
`e` references in total) the iteration budget `1 + n + e + 1` suffices and `orderG ch` returns -/
theorem orderG_linear (ch : PCell → List PCell) (hperm : ∀ c, (ch c).Perm c.refs) (fuel : Nat) (p : PCell)
    (nc : NoCollision p) (cells : List PCell) (hn : (cells.map PCell.key).Nodup) (hc : ∀ d ∈ subcells p, d ∈ cells)
    (hf : 1 + cells.length + (cells.map (fun c => c.refs.length)).sum + 1 ≤ fuel) : ∃ d, orderG ch fuel p = some d := by
  obtain ⟨s, hW⟩ := while_terminates ch hperm p nc cells hn hc fuel _ (inv_init p) (by rw [potential_init]; exact hf)
  exact ⟨_, orderG_some.2 ⟨s, hW, rfl⟩⟩

/-- the keys of the returned dict are pairwise distinct whatever the `while` loop does: the re-insertion loop dedups by `__hash__` -/
theorem orderG_nodup (ch : PCell → List PCell) (fuel : Nat) (p : PCell) (d : Py.KDict PCell Unit)
    (h : orderG ch fuel p = some d) : NodupKeys PCell.key d := by
  obtain ⟨s, -, rfl⟩ := orderG_some.1 h
  exact nodupKeys_foldl_moveToEnd PCell.key () _ [] List.nodup_nil

/-! ### applied to the regenerated text -/
section Regenerated
open TonVerif.Generated.BocEmitSrc

/-- the regenerated `Cell.order` is `orderG ch` for a push order `ch` that permutes the references: `cell.refs` or
`reversed(cell.refs)`, under `while stack:` or `while len(stack) > 0:`.  With `src_order_eq` the only place that unfolds `order`. -/
theorem src_order_nf : ∃ ch : PCell → List PCell, (∀ c, (ch c).Perm c.refs) ∧ ∀ fuel p, order fuel p [] = orderG ch fuel p := by
  unfold order
  simp only [foldlM_append]
  first
  | exact ⟨PCell.refs, fun _ => .refl _, shape_nf _ _ _ _ (fun _ => rfl) (fun _ => rfl) (fun _ _ => rfl)⟩
  | exact ⟨fun c => c.refs.reverse, fun c => c.refs.reverse_perm, shape_nf _ _ _ _ (fun _ => rfl) (fun _ => rfl) (fun _ _ => rfl)⟩
  | exact ⟨PCell.refs, fun _ => .refl _, shape_nf _ _ _ _ cond_len (fun _ => rfl) (fun _ _ => rfl)⟩
  | exact ⟨fun c => c.refs.reverse, fun c => c.refs.reverse_perm, shape_nf _ _ _ _ cond_len (fun _ => rfl) (fun _ _ => rfl)⟩

/-- **`Cell.order` as regenerated returns a VALID ORDER** (root first, every distinct sub-cell exactly once, references strictly
forward), for every cell object and every iteration budget for which it returns, under the local no-collision hypothesis — proved
from the loop's own invariant, for whichever order (`cell.refs` or `reversed(cell.refs)`) the references are pushed in. -/
theorem src_order_valid_any (fuel : Nat) (p : PCell) (d : Py.KDict PCell Unit) (nc : NoCollision p)
    (h : order fuel p [] = some d) : ValidOrder p (Py.dictKeys d) ∧ d = (Py.dictKeys d).map (fun c => (c, ())) := by
  obtain ⟨ch, hperm, e⟩ := src_order_nf
  exact orderG_valid ch hperm fuel p d nc (e fuel p ▸ h)

/-- **the regenerated `while stack:` loop ends within `1 + n + e` iterations** on every DAG -/
theorem src_order_linear (fuel : Nat) (p : PCell) (nc : NoCollision p) (cells : List PCell)
    (hn : (cells.map PCell.key).Nodup) (hc : ∀ d ∈ subcells p, d ∈ cells)
    (hf : 1 + cells.length + (cells.map (fun c => c.refs.length)).sum + 1 ≤ fuel) : ∃ d, order fuel p [] = some d := by
  obtain ⟨ch, hperm, e⟩ := src_order_nf
  rw [e]
  exact orderG_linear ch hperm fuel p nc cells hn hc hf

/-- the keys of the dict `Cell.order` returns are pairwise distinct, for every cell object, without any assumption on the hash
function -/
theorem order_nodup (fuel : Nat) (p : PCell) (d : Py.KDict PCell Unit) (h : order fuel p [] = some d) : NodupKeys PCell.key d := by
  obtain ⟨ch, -, e⟩ := src_order_nf
  exact orderG_nodup ch fuel p d (e fuel p ▸ h)

end Regenerated

end TonVerif.Proofs.SrcOrderAny
