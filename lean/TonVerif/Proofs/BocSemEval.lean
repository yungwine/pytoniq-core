/-
Semantic layer of the strict reader over the records of a valid order of cells (second half, see Proofs/BocSem.lean):
`evalRecs` succeeds with the level-mask check passing on every record, `noDup` passes, and the root index denotes the
root cell — `strictParse_order`.
-/
import TonVerif.Proofs.BocSem
namespace TonVerif.Proofs.BocSem
open TonVerif TonVerif.Model TonVerif.Spec.Boc TonVerif.Proofs.BocOrder TonVerif.Proofs.BocEmit

/-- invariant rule for `foldlM` in `Option` -/
theorem foldlM_inv {α β : Type} (f : β → α → Option β) : ∀ (L : List α) (IV : Nat → β → Prop) (init : β), IV 0 init →
    (∀ (m : Nat) (acc : β) (hm : m < L.length), IV m acc → ∃ acc', f acc L[m] = some acc' ∧ IV (m + 1) acc') →
    ∃ fin, L.foldlM f init = some fin ∧ IV L.length fin
  | [], IV, init, h0, _ => ⟨init, by simp, h0⟩
  | x :: xs, IV, init, h0, step => by
    obtain ⟨acc', h1, h2⟩ := step 0 init (by simp) h0
    obtain ⟨fin, h3, h4⟩ := foldlM_inv f xs (fun m b => IV (m + 1) b) acc' h2 (by
      intro m acc hm hi
      have := step (m + 1) acc (by simp; omega) hi
      simpa using this)
    refine ⟨fin, ?_, h4⟩
    simp only [List.getElem_cons_zero] at h1
    simp [List.foldlM_cons, h1, h3]

theorem range5_getD (f : Nat → α) (d : α) (k : Nat) (hk : k ≤ 4) : ((List.range 5).map f).getD k d = f k := by
  have : k = 0 ∨ k = 1 ∨ k = 2 ∨ k = 3 ∨ k = 4 := by omega
  rcases this with rfl | rfl | rfl | rfl | rfl <;> rfl

/-- tabulating a stable spec info loses nothing -/
theorem toSInfo_tabulate (s : Spec.SInfo) (h : Stable s) : (tabulate s).toSInfo = s := by
  cases s with
  | mk mask hashAt depthAt =>
    simp only [tabulate, SVal.toSInfo, Spec.SInfo.mk.injEq, true_and]
    constructor
    · funext l
      rw [range5_getD _ _ _ (Nat.min_le_right l 4)]
      exact ((h l).1).symm
    · funext l
      rw [range5_getD _ _ _ (Nat.min_le_right l 4)]
      exact ((h l).2).symm

theorem tabulate_hash (s : Spec.SInfo) : (tabulate s).hash = s.hashAt 3 := by
  simp only [SVal.hash, tabulate]
  exact range5_getD _ _ 3 (by omega)

theorem sinfosOf_eq_map (H : Bytes → Bytes) : ∀ (cs : List PCell), sinfosOf H cs = cs.map (sinfoOf H)
  | [] => by simp [sinfosOf]
  | c :: cs => by simp [sinfosOf, sinfosOf_eq_map H cs]

theorem scellsOf_eq_map : ∀ (cs : List PCell), scellsOf cs = cs.map scellOf
  | [] => by simp [scellsOf]
  | c :: cs => by simp [scellsOf, scellsOf_eq_map cs]

theorem sinfoOf_eq (H : Bytes → Bytes) (c : PCell) :
    sinfoOf H c = Spec.node H (kindD c.info.kind) c.info.bits (c.refs.map (sinfoOf H)) := by
  cases c with
  | mk i refs => rw [sinfoOf, sinfosOf_eq_map]; rfl

theorem scellOf_eq (c : PCell) : scellOf c = SCell.mk (c.info.kind != kOrdinary) c.info.bits (c.refs.map scellOf) := by
  cases c with
  | mk i refs => rw [scellOf, scellsOf_eq_map]; rfl

/-- what the evaluation of a record produces for a cell -/
def entry (H : Bytes → Bytes) (c : PCell) : SVal × SCell := (tabulate (sinfoOf H c), scellOf c)


theorem kind_cases (H : Bytes → Bytes) (c : PCell) (sem : SemOK H c) :
    c.info.kind = -1 ∨ c.info.kind = 1 ∨ c.info.kind = 2 ∨ c.info.kind = 3 ∨ c.info.kind = 4 := by
  obtain ⟨k, hk⟩ := sem.kind_ok
  by_cases h0 : c.info.kind = -1
  · exact Or.inl h0
  by_cases h1 : c.info.kind = 1
  · exact Or.inr (Or.inl h1)
  by_cases h2 : c.info.kind = 2
  · exact Or.inr (Or.inr (Or.inl h2))
  by_cases h3 : c.info.kind = 3
  · exact Or.inr (Or.inr (Or.inr (Or.inl h3)))
  by_cases h4 : c.info.kind = 4
  · exact Or.inr (Or.inr (Or.inr (Or.inr h4)))
  simp [CellSpec.kindOf, h0, h1, h2, h3, h4] at hk

theorem d1_decode (c : PCell) (ok : CellOK c) :
    (cellD1 c.info.nrefs (c.info.kind != kOrdinary) c.info.mask / 8 % 2 == 1) = (c.info.kind != kOrdinary) ∧
    cellD1 c.info.nrefs (c.info.kind != kOrdinary) c.info.mask / 32 = c.info.mask := by
  have h1 := ok.nrefs; have h2 := ok.refs_le
  obtain ⟨-, e, -, m⟩ := cellD1_digits c.info.nrefs (c.info.kind != kOrdinary) c.info.mask (by omega)
  exact ⟨e, m⟩

theorem recKind_cell (H : Bytes → Bytes) (ord : List PCell) (c : PCell) (ok : CellOK c) (sem : SemOK H c) :
    recKind (cellSRec ord c) = some (kindD c.info.kind) := by
  obtain ⟨he, _⟩ := d1_decode c ok
  unfold recKind SRec.exotic
  simp only [cellSRec, he]
  rcases kind_cases H c sem with h | h | h | h | h
  · simp [h, kOrdinary, kindD, CellSpec.kindOf]
  all_goals
    have ht := (sem.typed (by rw [h]; decide)).2
    rw [h] at ht
    have ht' : natOfBits (List.take 8 c.info.bits) = _ := Int.ofNat.inj ht
    simp [h, kOrdinary, kindD, CellSpec.kindOf, ht']


/-- the facts about an order that the semantic layer uses -/
structure OrdOK (H : Bytes → Bytes) (ord : List PCell) : Prop where
  nodup : (ord.map PCell.key).Nodup
  /-- every referenced cell OBJECT sits at a later position -/
  refsAt : ∀ (i : Nat) (c : PCell), ord[i]? = some c → ∀ r ∈ c.refs, ∃ j, i < j ∧ ord[j]? = some r
  ok : ∀ c ∈ ord, CellOK c
  sem : ∀ c ∈ ord, SemOK H c

theorem posOf_at (ord : List PCell) (nd : (ord.map PCell.key).Nodup) (j : Nat) (r : PCell) (h : ord[j]? = some r) :
    posOf ord r.key = j := by
  unfold posOf
  apply idxOf_of_getElem? _ nd
  simp [h]

theorem evalStep_cell (H : Bytes → Bytes) (ord : List PCell) (h : OrdOK H ord) (m : Nat) (hm : m < ord.length)
    (c : PCell) (hc : ord[ord.length - 1 - m]? = some c) (acc : Array (SVal × SCell))
    (hacc : acc.toList = (ord.reverse.take m).map (entry H)) :
    evalStep H ord.length acc (cellSRec ord c) = some (acc.push (entry H c)) := by
  have hcm : c ∈ ord := List.mem_of_getElem? hc
  have okc := h.ok c hcm
  have semc := h.sem c hcm
  obtain ⟨he, hmask⟩ := d1_decode c okc
  -- children
  have hkids : (c.refs.map (fun r => posOf ord r.key)).mapM
      (fun j => if j < ord.length then acc[ord.length - 1 - j]? else none) = some (c.refs.map (entry H)) := by
    apply BocParse.mapM_map_eq
    intro r hr
    obtain ⟨j, hij, hj⟩ := h.refsAt _ c hc r hr
    have hjn : j < ord.length := by
      apply Nat.lt_of_not_le; intro hle
      rw [List.getElem?_eq_none hle] at hj; cases hj
    rw [posOf_at ord h.nodup j r hj]
    simp only [hjn, if_true]
    rw [← Array.getElem?_toList, hacc, List.getElem?_map, List.getElem?_take]
    have hlt : ord.length - 1 - j < m := by omega
    simp only [hlt, if_true]
    rw [List.getElem?_reverse (by omega)]
    rw [show ord.length - 1 - (ord.length - 1 - j) = j by omega, hj]
    rfl
  have hchild : ∀ r ∈ c.refs, (entry H r).1.toSInfo = sinfoOf H r := by
    intro r hr
    obtain ⟨j, _, hj⟩ := h.refsAt _ c hc r hr
    exact toSInfo_tabulate _ (h.sem r (List.mem_of_getElem? hj)).stable
  have hnode : Spec.node H (kindD c.info.kind) c.info.bits ((c.refs.map (entry H)).map (fun p => p.1.toSInfo)) = sinfoOf H c := by
    rw [sinfoOf_eq, List.map_map]
    congr 1
    apply List.map_congr_left
    intro r hr
    exact hchild r hr
  unfold evalStep
  simp only [show (cellSRec ord c).refs = c.refs.map (fun r => posOf ord r.key) from rfl, hkids, Option.bind_eq_bind,
    Option.bind_some, recKind_cell H ord c okc semc, show (cellSRec ord c).bits = c.info.bits from rfl, hnode]
  have hlm : (cellSRec ord c).levelMask = (sinfoOf H c).mask := by
    simp only [SRec.levelMask, cellSRec, hmask]
    exact semc.mask_eq
  have hex : (cellSRec ord c).exotic = (c.info.kind != kOrdinary) := by
    simp only [SRec.exotic, cellSRec, he]
  simp only [hlm, bne_self_eq_false, Bool.false_eq_true, if_false, hex, List.map_map]
  simp [entry, scellOf_eq c, Function.comp_def]


/-- the semantic evaluation of the emitted records succeeds and yields, for the record of each cell, the tabulated spec
values and the denoted cell of exactly that cell (records are evaluated last to first) -/
theorem evalRecs_order (H : Bytes → Bytes) (ord : List PCell) (h : OrdOK H ord) :
    evalRecs H (ord.map (cellSRec ord)) = some (ord.reverse.map (entry H)).toArray := by
  unfold evalRecs
  rw [List.length_map, ← List.map_reverse]
  obtain ⟨fin, h1, h2⟩ := foldlM_inv (evalStep H ord.length) (ord.reverse.map (cellSRec ord))
    (fun m acc => acc.toList = (ord.reverse.take m).map (entry H)) #[] (by simp) (by
      intro m acc hm hinv
      have hm' : m < ord.length := by simpa using hm
      have hmr : m < ord.reverse.length := by simpa using hm'
      have hc : ord[ord.length - 1 - m]? = some (ord.reverse[m]) := by
        have := List.getElem?_reverse (l := ord) (i := m) hm'
        rw [← this, List.getElem?_eq_getElem hmr]
      refine ⟨acc.push (entry H ord.reverse[m]), ?_, ?_⟩
      · rw [List.getElem_map]
        exact evalStep_cell H ord h m hm' _ hc acc hinv
      · rw [Array.toList_push, hinv, List.take_add_one, List.getElem?_eq_getElem hmr]
        simp)
  rw [h1]
  congr 1
  apply Array.ext'
  rw [h2]
  simp only [List.length_map, List.length_reverse]
  rw [List.take_of_length_le (by simp)]


/-- from the byte-level result to the full strict reader: level masks check, no duplicates, the root denotes `root` -/
theorem strictParse_order (H : Bytes → Bytes) (ord : List PCell) (h : OrdOK H ord) (root : PCell)
    (hroot : ord.head? = some root) (bs : Bytes) (hflat : strictFlat bs = some ⟨ord.map (cellSRec ord), [0]⟩) :
    strictParse H bs = some [scellOf root] := by
  have hkeys : ((ord.reverse.map (entry H)).map (fun p => natOfBE p.1.hash)) = ord.reverse.map PCell.key := by
    rw [List.map_map]
    apply List.map_congr_left
    intro c hc
    have := (h.sem c (by simpa using hc)).key_eq
    simp [entry, tabulate_hash, this]
  have hnd : noDup ((ord.reverse.map (entry H)).map (fun p => natOfBE p.1.hash)) = true := by
    rw [hkeys, noDup_iff, List.map_reverse]
    exact nodup_rev _ h.nodup
  obtain ⟨rest, hord⟩ := List.head?_eq_some_iff.1 hroot
  unfold strictParse strictRun
  simp only [hflat, Option.bind_eq_bind, Option.bind_some, evalRecs_order H ord h, hnd, Bool.not_true, Bool.false_eq_true,
    if_false, Option.pure_def, List.mapM_cons, List.mapM_nil, List.length_map]
  have : (List.map (entry H) ord).reverse[ord.length - 1]? = some (entry H root) := by
    rw [List.getElem?_reverse (by rw [hord]; simp)]
    rw [hord]; simp
  simp only [List.map_reverse, List.getElem?_toArray, Nat.sub_zero] at this ⊢
  simp [this, entry]


theorem subcellsList_trans : (ps : List PCell) → ∀ c ∈ subcellsList ps, ∀ d ∈ subcells c, d ∈ subcellsList ps :=
  BocOrder.subcellsList_trans

/-- a valid order of cells that are `CellOK` and `SemOK` has everything the semantic layer needs -/
theorem ordOK_of_valid (H : Bytes → Bytes) (root : PCell) (ord : List PCell) (vo : ValidOrder root ord) (nc : NoCollision root)
    (ok : ∀ c ∈ subcells root, CellOK c) (sem : ∀ c ∈ subcells root, SemOK H c) : OrdOK H ord := by
  refine ⟨vo.nodup, ?_, fun c hc => ok c (vo.sound c hc), fun c hc => sem c (vo.sound c hc)⟩
  intro i c hc r hr
  obtain ⟨j, hij, hj⟩ := vo.forward i c hc r hr
  cases hq : ord[j]? with
  | none => simp [hq] at hj
  | some q =>
    refine ⟨j, hij, ?_⟩
    have hk : q.key = r.key := by simpa [hq] using hj
    have hqs : q ∈ subcells root := vo.sound q (List.mem_of_getElem? hq)
    have hrs : r ∈ subcells root := ref_mem_subcells (vo.sound c (List.mem_of_getElem? hc)) hr
    rw [hq, nc q hqs r hrs hk]

end TonVerif.Proofs.BocSem
