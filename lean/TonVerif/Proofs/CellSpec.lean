/-
Refinement: the executable model of `Cell.__init__` (Model/Cell.lean) computes exactly the
TON spec values of Spec/Cell.lean, for every well-formed node and hence every well-formed tree (`tree_agrees`), and
raises on an ordinary node deeper than 1023 (`construct_depth_limit`).  In the middle, in `namespace TonVerif.Proofs.Prune`,
stands `sigList` (the values of the significant levels), which the level loop here and Proofs/Prune.lean share.
-/
import TonVerif.Model.Cell
import TonVerif.Spec.Cell
import TonVerif.Proofs.Bits

namespace TonVerif.Proofs.CellSpec
open TonVerif TonVerif.Model

def kindCode : Spec.Kind → Int
  | .ordinary => -1
  | .pruned => 1
  | .library => 2
  | .merkleProof => 3
  | .merkleUpdate => 4

def kindOf (k : Int) : Option Spec.Kind :=
  if k = -1 then some .ordinary else if k = 1 then some .pruned else if k = 2 then some .library
  else if k = 3 then some .merkleProof else if k = 4 then some .merkleUpdate else none

/-- a model cell-info and a spec cell-info describe the same cell -/
def Agrees (i : CellInfo) (s : Spec.SInfo) : Prop :=
  i.mask = s.mask ∧ ∀ l, i.getHash l = some (s.hashAt l) ∧ i.getDepth l = some (s.depthAt l)

def AllAgree : List CellInfo → List Spec.SInfo → Prop
  | [], [] => True
  | i :: is, s :: ss => Agrees i s ∧ AllAgree is ss
  | _, _ => False

/-- spec-validity of one node, given the spec values of its children -/
structure NodeWF (H : Bytes → Bytes) (k : Spec.Kind) (bits : Bits) (kids : List Spec.SInfo) : Prop where
  bitsLen : bits.length ≤ 1023
  nrefs : kids.length ≤ 4
  kidsMask : ∀ c ∈ kids, c.mask ≤ 7
  depthOk : k ≠ .pruned → ∀ l, (Spec.node H k bits kids).depthAt l ≤ 1023
  pruned : k = .pruned → kids = [] ∧ 16 ≤ bits.length ∧ 1 ≤ Spec.nodeMask k bits kids ∧ Spec.nodeMask k bits kids ≤ 7
  library : k = .library → kids = []
  mproof : k = .merkleProof → kids.length = 1
  mupdate : k = .merkleUpdate → kids.length = 2

set_option linter.unusedSimpArgs false

/-! ### popcount, data bytes -/

theorem popcount_eq (n : Nat) : Model.popcount n = Spec.popcount n := by
  induction n using Nat.strongRecOn with
  | _ n ih =>
    cases n with
    | zero => simp [Model.popcount, Spec.popcount]
    | succ n =>
      rw [Model.popcount, Spec.popcount, ih _ (by omega)]

theorem bitsToBytes_pad (n : Nat) : ∀ (xs : Bits) (k : Nat), xs.length = n →
    (xs.length % 8 = 0 → k = 0) → (xs.length % 8 ≠ 0 → k + xs.length % 8 ≤ 8) →
    bitsToBytes (xs ++ List.replicate k false) = bitsToBytes xs := by
  induction n using Nat.strongRecOn with
  | _ n ih =>
    intro xs k hn h0 h1
    by_cases hk : k = 0
    · subst hk; simp
    have hpos : 0 < xs.length := by
      apply Nat.pos_of_ne_zero; intro hz; exact hk (h0 (by rw [hz]))
    rw [Bits.bitsToBytes_of_pos _ (by rw [List.length_append]; omega), Bits.bitsToBytes_of_pos xs hpos]
    by_cases hlen : xs.length < 8
    · -- the last byte: the padding only makes explicit some of the zeros `tobytes()` adds anyway
      have hk8 : xs.length + k ≤ 8 := by have := h1 (by omega); rw [Nat.mod_eq_of_lt hlen] at this; omega
      rw [List.take_of_length_le (by simp; omega), List.take_of_length_le (Nat.le_of_lt hlen),
        List.drop_of_length_le (by simp; omega), List.drop_of_length_le (Nat.le_of_lt hlen),
        List.append_assoc, List.replicate_append_replicate]
      simp only [List.length_append, List.length_replicate]
      rw [show k + (8 - (xs.length + k)) = 8 - xs.length by omega]
    · -- a full first byte is untouched; the rest is shorter
      have hlen' : 8 ≤ xs.length := by omega
      rw [List.take_append_of_le_length hlen', List.drop_append_of_le_length hlen']
      congr 1
      have hl : (xs.drop 8).length = xs.length - 8 := List.length_drop
      apply ih (xs.length - 8) (by omega) _ _ hl
      · rw [hl]; intro h; apply h0; omega
      · rw [hl]; intro h; have := h1 (by omega); omega
/-- completion-tag padding: the model's `append(1); fill()` is the spec's explicit padding -/
theorem dataBytes_eq (bits : Bits) : Model.dataBytes bits = Spec.dataBytes bits := by
  unfold Model.dataBytes Spec.dataBytes Spec.padBits
  by_cases h : bits.length % 8 = 0
  · simp [h]
  · simp only [h, bne_iff_ne, ne_eq, not_false_eq_true, if_true, if_false]
    symm
    apply bitsToBytes_pad _ _ _ rfl
    · simp only [List.length_append, List.length_singleton]; omega
    · simp only [List.length_append, List.length_singleton]; omega

theorem padBits_length (bits : Bits) : (Spec.padBits bits).length = (bits.length + 7) / 8 * 8 := by
  unfold Spec.padBits
  split
  · omega
  · simp only [List.length_append, List.length_singleton, List.length_replicate]; omega

theorem dataBytes_length (bits : Bits) : (Spec.dataBytes bits).length = (bits.length + 7) / 8 := by
  unfold Spec.dataBytes
  rw [Bits.bitsToBytes_length, padBits_length]; omega

/-- the padded bit string is recovered from the data bytes -/
theorem padBits_eq (bits : Bits) : Spec.padBits bits = bytesToBits (Spec.dataBytes bits) :=
  (Bits.bytesToBits_bitsToBytes _ (by rw [padBits_length]; omega)).symm

/-! ### bytes, descriptors, children -/

theorem toBytesBE_one (x : Nat) (h : x < 256) : toBytesBE? 1 x = some [x] := by
  simp [toBytesBE?, h, natToBE, Nat.mod_eq_of_lt h]

theorem toBytesBE_two (x : Nat) (h : x < 65536) : toBytesBE? 2 x = some (Spec.be2 x) := by
  have : x < 256 ^ 2 := by omega
  simp [toBytesBE?, this, natToBE, Spec.be2]

theorem d2_eq (b : Nat) : (b / 8) * 2 + (if b % 8 != 0 then 1 else 0) = Spec.d2 b := by
  unfold Spec.d2
  by_cases h : b % 8 = 0 <;> simp only [h, bne_self_eq_false, bne_iff_ne, ne_eq, not_false_eq_true, if_true, if_false,
    Bool.false_eq_true] <;> omega

theorem descriptors_spec (r : Nat) (e : Bool) (b m : Nat) :
    descriptors r e b m = (toBytesBE? 1 (Spec.d1 r e m)).bind fun x => (toBytesBE? 1 (Spec.d2 b)).bind fun y => some (x ++ y) := by
  rw [descriptors, d2_eq]
  rfl

theorem descriptors_eq (r : Nat) (e : Bool) (b m : Nat) (hr : r ≤ 4) (hb : b ≤ 1023) (hm : m ≤ 7) :
    descriptors r e b m = some [Spec.d1 r e m, Spec.d2 b] := by
  have h1 : Spec.d1 r e m < 256 := by unfold Spec.d1; split <;> omega
  have h3 : Spec.d2 b < 256 := by unfold Spec.d2; omega
  rw [descriptors_spec, toBytesBE_one _ h1, toBytesBE_one _ h3]
  rfl
theorem AllAgree.length_eq : ∀ {kis kss}, AllAgree kis kss → kis.length = kss.length
  | [], [], _ => rfl
  | _ :: _, _ :: _, h => by simp [AllAgree.length_eq h.2]
  | [], _ :: _, h => h.elim
  | _ :: _, [], h => h.elim

theorem AllAgree.hashes : ∀ {kis kss}, AllAgree kis kss → ∀ l,
    kis.mapM (fun r => r.getHash l) = some (kss.map (fun c => c.hashAt l))
  | [], [], _, _ => rfl
  | i :: is, s :: ss, h, l => by
    simp [List.mapM_cons, (h.1.2 l).1, AllAgree.hashes h.2 l]
  | [], _ :: _, h, _ => h.elim
  | _ :: _, [], h, _ => h.elim

theorem AllAgree.depths : ∀ {kis kss}, AllAgree kis kss → ∀ l,
    kis.mapM (fun r => r.getDepth l) = some (kss.map (fun c => c.depthAt l))
  | [], [], _, _ => rfl
  | i :: is, s :: ss, h, l => by
    simp [List.mapM_cons, (h.1.2 l).2, AllAgree.depths h.2 l]
  | [], _ :: _, h, _ => h.elim
  | _ :: _, [], h, _ => h.elim

theorem AllAgree.masks : ∀ {kis kss}, AllAgree kis kss → ∀ a,
    kis.foldl (fun m r => m ||| r.mask) a = kss.foldl (fun m c => m ||| c.mask) a
  | [], [], _, _ => rfl
  | i :: is, s :: ss, h, a => by
    simp only [List.foldl_cons, h.1.1]; exact AllAgree.masks h.2 _
  | [], _ :: _, h, _ => h.elim
  | _ :: _, [], h, _ => h.elim

theorem foldl_max_eq (xs : List Nat) : ∀ a, xs.foldl (fun d x => if x > d then x else d) a = xs.foldl Nat.max a := by
  induction xs with
  | nil => intro a; rfl
  | cons x xs ih =>
    intro a
    simp only [List.foldl_cons, ih]
    congr 1
    show _ = max a x
    rw [Nat.max_def]
    split <;> split <;> omega

theorem foldl_max_ge (xs : List Nat) : ∀ a, a ≤ xs.foldl Nat.max a ∧ ∀ x ∈ xs, x ≤ xs.foldl Nat.max a := by
  induction xs with
  | nil => intro a; simp
  | cons y ys ih =>
    intro a
    simp only [List.foldl_cons, List.mem_cons]
    have := ih (a.max y)
    have h1 : a ≤ a.max y := Nat.le_max_left a y
    have h2 : y ≤ a.max y := Nat.le_max_right a y
    refine ⟨by omega, ?_⟩
    rintro x (rfl | hx)
    · omega
    · exact this.2 x hx

theorem le_maxList {xs : List Nat} {x : Nat} (h : x ∈ xs) : x ≤ Spec.maxList xs :=
  (foldl_max_ge xs 0).2 x h

theorem mapM_be2 (ds : List Nat) (h : ∀ d ∈ ds, d < 65536) :
    ds.mapM (toBytesBE? 2) = some (ds.map Spec.be2) := by
  induction ds with
  | nil => rfl
  | cons d ds ih =>
    simp only [List.mem_cons, forall_eq_or_imp] at h
    simp [List.mapM_cons, toBytesBE_two d h.1, ih h.2]

theorem foldl_or_le (xs : List Nat) : ∀ a, a ≤ 7 → (∀ x ∈ xs, x ≤ 7) → xs.foldl (· ||| ·) a ≤ 7 := by
  induction xs with
  | nil => intro a ha _; simpa
  | cons x xs ih =>
    intro a ha h
    simp only [List.mem_cons, forall_eq_or_imp] at h
    simp only [List.foldl_cons]
    apply ih _ _ h.2
    have : a ||| x < 2 ^ 3 := Nat.or_lt_two_pow (by omega) (by omega)
    omega

theorem foldl_mask_le (kss : List Spec.SInfo) : ∀ a, a ≤ 7 → (∀ c ∈ kss, c.mask ≤ 7) →
    kss.foldl (fun m c => m ||| c.mask) a ≤ 7 := by
  intro a ha h
  have := foldl_or_le (kss.map (·.mask)) a ha (List.forall_mem_map.mpr h)
  rwa [List.foldl_map] at this

theorem popcount_unfold (x : Nat) : popcount x = x % 2 + popcount (x / 2) := by
  cases x with
  | zero => simp [popcount]
  | succ n => rw [popcount]

theorem popcount_mod_succ (n : Nat) : ∀ m, popcount (m % 2 ^ (n+1)) = popcount (m % 2 ^ n) + (if m.testBit n then 1 else 0) := by
  induction n with
  | zero =>
    intro m
    rw [Nat.testBit_zero]
    have h : m % 2 = 0 ∨ m % 2 = 1 := by omega
    rcases h with h | h <;> simp [h, Nat.mod_one, popcount]
  | succ n ih =>
    intro m
    rw [popcount_unfold (m % 2 ^ (n+1+1)), popcount_unfold (m % 2 ^ (n+1))]
    have e1 : ∀ j, m % 2 ^ (j+1) % 2 = m % 2 := by
      intro j; rw [Nat.pow_succ, Nat.mul_comm, Nat.mod_mul_right_mod]
    have e2 : ∀ j, m % 2 ^ (j+1) / 2 = m / 2 % 2 ^ j := by
      intro j; rw [Nat.pow_succ, Nat.mul_comm, Nat.mod_mul_right_div_self]
    rw [e1, e1, e2, e2, ih (m / 2), Nat.testBit_succ]
    omega

theorem popcount_mod_mono (m : Nat) {l n : Nat} (h : l ≤ n) : popcount (m % 2 ^ l) ≤ popcount (m % 2 ^ n) := by
  induction n with
  | zero => have : l = 0 := by omega
            subst this; exact Nat.le_refl _
  | succ n ih =>
    by_cases hl : l = n + 1
    · subst hl; exact Nat.le_refl _
    · have := ih (by omega)
      rw [popcount_mod_succ]; omega

theorem isSignificant_succ (m n : Nat) : isSignificant m (n+1) = m.testBit n := by
  simp only [isSignificant, Nat.add_sub_cancel, Nat.shiftRight_eq_div_pow, Nat.testBit_eq_decide_div_mod_eq]
  have h : m / 2 ^ n % 2 = 0 ∨ m / 2 ^ n % 2 = 1 := by omega
  rcases h with h | h <;> simp [h]

/-- `bitLength m` is the least `k` with `m < 2 ^ k` -/
theorem bitLength_le_iff (m : Nat) : ∀ k, bitLength m ≤ k ↔ m < 2 ^ k := by
  induction m using Nat.strongRecOn with
  | _ m ih =>
    intro k
    cases m with
    | zero => simp [bitLength, Nat.two_pow_pos]
    | succ m =>
      rw [bitLength]
      cases k with
      | zero => simp
      | succ k =>
        have := ih ((m + 1) / 2) (by omega) k
        rw [Nat.pow_succ]
        omega

theorem lt_two_pow_bitLength (m : Nat) : m < 2 ^ bitLength m := (bitLength_le_iff m _).1 (Nat.le_refl _)

theorem testBit_ge_bitLength (m : Nat) {l : Nat} (h : bitLength m ≤ l) : m.testBit l = false :=
  Nat.testBit_lt_two_pow ((bitLength_le_iff m l).1 h)

theorem mod_ge_bitLength (m : Nat) {l : Nat} (h : bitLength m ≤ l) : m % 2 ^ l = m :=
  Nat.mod_eq_of_lt ((bitLength_le_iff m l).1 h)

theorem bitLength_pos (m : Nat) (h : 1 ≤ m) : 1 ≤ bitLength m :=
  Nat.lt_of_not_le fun hc => by have := (bitLength_le_iff m 0).1 hc; omega

theorem two_pow_le_of_bitLength (m : Nat) (h : 1 ≤ m) : 2 ^ (bitLength m - 1) ≤ m :=
  Nat.le_of_not_lt fun hc => by have := (bitLength_le_iff m _).2 hc; have := bitLength_pos m h; omega

theorem testBit_bitLength_pred (m : Nat) (h : 1 ≤ m) : m.testBit (bitLength m - 1) = true := by
  apply Nat.testBit_of_two_pow_le_and_two_pow_add_one_gt (two_pow_le_of_bitLength m h)
  rw [Nat.sub_add_cancel (bitLength_pos m h)]
  exact lt_two_pow_bitLength m

theorem popcount_mod_le_n (m : Nat) : ∀ n, popcount (m % 2 ^ n) ≤ n := by
  intro n
  induction n with
  | zero => simp [Nat.mod_one, popcount]
  | succ n ih =>
    rw [popcount_mod_succ]
    split <;> omega

theorem popcount_two_pow_add (k : Nat) : ∀ x, x < 2 ^ k → popcount (2 ^ k + x) = popcount x + 1 := by
  induction k with
  | zero => intro x hx; have : x = 0 := by simpa using hx
            subst this; simp [popcount]
  | succ k ih =>
    intro x hx
    rw [Nat.pow_succ] at hx ⊢
    rw [popcount_unfold (2 ^ k * 2 + x), popcount_unfold x, show (2 ^ k * 2 + x) % 2 = x % 2 by omega,
      show (2 ^ k * 2 + x) / 2 = 2 ^ k + x / 2 by omega, ih (x / 2) (by omega)]
    omega

theorem spopcount_mod_le (m l : Nat) : Spec.popcount (m % 2 ^ l) ≤ Spec.popcount m := by
  rw [← popcount_eq, ← popcount_eq]
  by_cases h : l ≤ bitLength m
  · have := popcount_mod_mono m h
    rwa [mod_ge_bitLength m (Nat.le_refl _)] at this
  · rw [mod_ge_bitLength m (by omega)]
    exact Nat.le_refl _

theorem testBit_of_mod_eq_lt {a b n j : Nat} (h : a % 2 ^ n = b % 2 ^ n) (hj : j < n) : a.testBit j = b.testBit j := by
  have h1 := Nat.testBit_mod_two_pow a n j
  have h2 := Nat.testBit_mod_two_pow b n j
  simp only [hj, decide_true, Bool.true_and] at h1 h2
  rw [← h1, ← h2, h]

/-- `f` changes only at the significant levels of `mask` (level `j+1` is significant iff bit `j` is set): so do the hash and the
depth of every cell (`node_stepwise`) -/
def Stepwise {α : Type} (mask : Nat) (f : Nat → α) : Prop := ∀ j, mask.testBit j = false → f (j+1) = f j

theorem Stepwise.const {α : Type} {f : Nat → α} {mask : Nat} (skip : Stepwise mask f) (a : Nat) :
    ∀ b, a ≤ b → (∀ x, a ≤ x → x < b → mask.testBit x = false) → f b = f a := by
  intro b
  induction b with
  | zero => intro h _; rw [show a = 0 by omega]
  | succ b ih =>
    intro h hc
    by_cases hab : a = b + 1
    · rw [hab]
    · rw [skip b (hc b (by omega) (by omega))]
      exact ih (by omega) (fun x h1 h2 => hc x h1 (by omega))

/-- above the level of the mask nothing changes any more -/
theorem Stepwise.ge {α : Type} {f : Nat → α} {mask : Nat} (skip : Stepwise mask f) {a l : Nat} (ha : bitLength mask ≤ a) (h : a ≤ l) :
    f l = f a :=
  skip.const a l h (fun _ hx _ => testBit_ge_bitLength mask (Nat.le_trans ha hx))

theorem plainHashAt_skip (H : Bytes → Bytes) (k bits kids) (mask : Nat) : Stepwise mask (Spec.plainHashAt H k bits kids mask) :=
  fun j h => by rw [Spec.plainHashAt, h]; rfl

theorem plainDepthAt_skip (k kids) (mask : Nat) : Stepwise mask (Spec.plainDepthAt k kids mask) :=
  fun j h => by rw [Spec.plainDepthAt, h]; rfl

theorem plainHashAt_ge (H : Bytes → Bytes) (k bits kids) (mask : Nat) {l : Nat} (h : bitLength mask ≤ l) :
    Spec.plainHashAt H k bits kids mask l = Spec.plainHashAt H k bits kids mask (bitLength mask) :=
  (plainHashAt_skip H k bits kids mask).ge (Nat.le_refl _) h

theorem plainDepthAt_ge (k kids) (mask : Nat) {l : Nat} (h : bitLength mask ≤ l) :
    Spec.plainDepthAt k kids mask l = Spec.plainDepthAt k kids mask (bitLength mask) :=
  (plainDepthAt_skip k kids mask).ge (Nat.le_refl _) h

theorem node_mask (H : Bytes → Bytes) (k : Spec.Kind) (bits : Bits) (ss : List Spec.SInfo) :
    (Spec.node H k bits ss).mask = Spec.nodeMask k bits ss := by
  cases k <;> rfl

/-- a pruned branch answers by the number of significant levels below, every other cell by the recursion on the level -/
theorem node_stepwise (H : Bytes → Bytes) (k : Spec.Kind) (bits : Bits) (ss : List Spec.SInfo) :
    Stepwise (Spec.node H k bits ss).mask (Spec.node H k bits ss).hashAt ∧
    Stepwise (Spec.node H k bits ss).mask (Spec.node H k bits ss).depthAt := by
  rw [node_mask]
  cases k
  case pruned =>
    have key : ∀ j, (Spec.nodeMask .pruned bits ss).testBit j = false →
        Spec.popcount (Spec.nodeMask .pruned bits ss % 2 ^ (j+1)) = Spec.popcount (Spec.nodeMask .pruned bits ss % 2 ^ j) := by
      intro j hj
      rw [← popcount_eq, ← popcount_eq, popcount_mod_succ, hj]; rfl
    exact ⟨fun j hj => by simp only [Spec.node, Spec.prunedHashAt, key j hj],
           fun j hj => by simp only [Spec.node, Spec.prunedDepthAt, key j hj]⟩
  all_goals exact ⟨plainHashAt_skip H _ bits ss _, plainDepthAt_skip _ ss _⟩

theorem kind_facts (k : Spec.Kind) (hnp : k ≠ .pruned) :
    (kindCode k != kOrdinary) = k.isExotic ∧ (kindCode k == kPruned) = false ∧ (kindCode k != kPruned) = true ∧
    ∀ li, (if isMerkle (kindCode k) = true then li + 1 else li) = li + k.mu := by
  cases k <;> first | exact absurd rfl hnp | (refine ⟨by decide, by decide, by decide, ?_⟩; intro li; simp [isMerkle, kindCode, kMerkleProof, kMerkleUpdate, Spec.Kind.mu])

/-- what one significant, non-skipped level appends to the state, given `x` = descriptors ++ payload and the level `lvl` at
which the children are read: the depth bytes and hashes of the children are fed after `x`, the depth is one more than theirs -/
def levelTail (H : Bytes → Bytes) (refs : List CellInfo) (lvl : Nat) (st : HashState) (x : Bytes) : Option HashState :=
  (refs.mapM (fun r : CellInfo => r.getDepth lvl)).bind fun refDepths =>
  (refDepths.mapM (toBytesBE? 2)).bind fun depthBytes =>
  let depth0 := refDepths.foldl (fun d x => if x > d then x else d) 0
  (if refs.length > 0 then (if depth0 + 1 >= 1024 then none else some (depth0 + 1)) else some depth0).bind fun depth =>
  (refs.mapM (fun r : CellInfo => r.getHash lvl)).bind fun refHashes =>
  some { hashIndex := st.hashIndex + 1, hashes := st.hashes ++ [H (x ++ depthBytes.flatten ++ refHashes.flatten)],
         depths := st.depths ++ [depth] }

theorem hashStep_eq (H : Bytes → Bytes) (kind : Int) (bits : Bits) (refs : List CellInfo) (mask offset : Nat)
    (st : HashState) (li : Nat) :
    hashStep H kind bits refs mask offset st li =
      if !isSignificant mask li then some st
      else if st.hashIndex < offset then some { st with hashIndex := st.hashIndex + 1 }
      else (descriptors refs.length (kind != kOrdinary) bits.length (maskApply mask li)).bind fun dsc =>
        (if st.hashIndex == offset then (if li != 0 && kind != kPruned then none else some (dataBytes bits))
          else (if li == 0 || kind == kPruned then none else st.hashes[st.hashIndex - offset - 1]?)).bind fun payload =>
        levelTail H refs (if isMerkle kind then li + 1 else li) st (dsc ++ payload) := by
  unfold hashStep levelTail
  by_cases he : (st.hashIndex == offset) = true <;> simp only [he, if_true, if_false, Bool.false_eq_true] <;> rfl

theorem hashStep_skip (H : Bytes → Bytes) (kind : Int) (bits : Bits) (kis : List CellInfo) (mask off : Nat)
    (st : HashState) (li : Nat) (hs : isSignificant mask li = true) (hlt : st.hashIndex < off) :
    hashStep H kind bits kis mask off st li = some { st with hashIndex := st.hashIndex + 1 } := by
  simp [hashStep, hs, hlt]

/-- the tail of one loop iteration (everything after the payload) -/
theorem step_tail (kss : List Spec.SInfo) (cl : Nat) (hd : Spec.depthOver kss cl ≤ 1023) :
    List.mapM (toBytesBE? 2) (kss.map (fun c => c.depthAt cl)) = some (kss.map (fun c => Spec.be2 (c.depthAt cl))) ∧
    (if kss.length > 0 then
        if List.foldl (fun d x => if x > d then x else d) 0 (kss.map (fun c => c.depthAt cl)) + 1 ≥ 1024 then none
        else some (List.foldl (fun d x => if x > d then x else d) 0 (kss.map (fun c => c.depthAt cl)) + 1)
      else some (List.foldl (fun d x => if x > d then x else d) 0 (kss.map (fun c => c.depthAt cl))))
      = some (Spec.depthOver kss cl) := by
  rw [foldl_max_eq]
  cases kss with
  | nil => simp [Spec.depthOver]
  | cons c cs =>
    have hd' : 1 + Spec.maxList (List.map (fun c => c.depthAt cl) (c :: cs)) ≤ 1023 := by
      simpa [Spec.depthOver] using hd
    constructor
    · rw [mapM_be2, List.map_map]; rfl
      intro d hd2
      have := le_maxList hd2
      omega
    · have hl : (c :: cs).length > 0 := by simp
      simp only [hl, if_true, Spec.depthOver, List.isEmpty_cons, Bool.false_eq_true, if_false]
      unfold Spec.maxList at hd'
      rw [if_neg (by omega)]
      unfold Spec.maxList
      congr 1; omega

theorem hashStep_plain (H : Bytes → Bytes) (k : Spec.Kind) (bits : Bits) (kis : List CellInfo) (kss : List Spec.SInfo)
    (mask : Nat) (st : HashState) (li : Nat) (p : Bytes)
    (hk : AllAgree kis kss) (hnp : k ≠ .pruned)
    (hbits : bits.length ≤ 1023) (hn : kss.length ≤ 4) (hm : mask ≤ 7)
    (hsig : isSignificant mask li = true)
    (hpay : (st.hashIndex = 0 ∧ li = 0 ∧ p = dataBytes bits) ∨
            (st.hashIndex ≠ 0 ∧ li ≠ 0 ∧ st.hashes[st.hashIndex - 1]? = some p))
    (hd : Spec.depthOver kss (li + k.mu) ≤ 1023) :
    hashStep H (kindCode k) bits kis mask 0 st li = some
      { hashIndex := st.hashIndex + 1,
        hashes := st.hashes ++ [H ([Spec.d1 kss.length k.isExotic (mask % 2 ^ li), Spec.d2 bits.length] ++ p ++ Spec.childPart kss (li + k.mu))],
        depths := st.depths ++ [Spec.depthOver kss (li + k.mu)] } := by
  obtain ⟨f1, f2, f3, f4⟩ := kind_facts k hnp
  have hlen := hk.length_eq
  have hml : mask % 2 ^ li ≤ 7 := Nat.le_trans (Nat.mod_le _ _) hm
  obtain ⟨t1, t2⟩ := step_tail kss (li + k.mu) hd
  simp only [hashStep, hsig, Bool.not_true, Bool.false_eq_true, if_false, Nat.not_lt_zero, f1, f2, f3, f4,
      maskApply, Nat.sub_zero, Bool.and_true, Bool.or_false, hlen,
      descriptors_eq kss.length k.isExotic bits.length _ hn hbits hml, hk.depths, hk.hashes, t1, t2,
      Option.bind_eq_bind, Option.bind_some, Option.pure_def]
  rcases hpay with ⟨h1, h2, h3⟩ | ⟨h1, h2, h3⟩ <;> simp [h1, h2, h3, Spec.childPart]

theorem hashStep_insig (H : Bytes → Bytes) (kind : Int) (bits : Bits) (kis : List CellInfo) (mask off : Nat)
    (st : HashState) (li : Nat) (h : isSignificant mask li = false) :
    hashStep H kind bits kis mask off st li = some st := by
  simp [hashStep, h]

theorem foldlM_range_succ {β : Type} (f : β → Nat → Option β) (b : β) (n : Nat) :
    (List.range (n+1)).foldlM f b = ((List.range n).foldlM f b).bind (fun s => f s n) := by
  rw [List.range_succ, List.foldlM_append]
  simp [List.foldlM]

end TonVerif.Proofs.CellSpec

namespace TonVerif.Proofs.Prune
open TonVerif TonVerif.Model TonVerif.Proofs.CellSpec

/-! ### the values of the significant levels below `n`

What the level loop of the constructor leaves in `_hashes` / `_depths` (`loop_plain_sig` below) and what a pruned branch
stores (`Prune.prunedData`); `sigList_get` is the one place where a level is turned into an index of such a list. -/

/-- `[f l | l < n, l significant for mask]` (level 0 is always significant; level l+1 iff bit l of the mask) -/
def sigList {α : Type} (f : Nat → α) (mask : Nat) : Nat → List α
  | 0 => []
  | 1 => [f 0]
  | n+2 => sigList f mask (n+1) ++ (if mask.testBit n then [f (n+1)] else [])

theorem sigList_length {α : Type} (f : Nat → α) (mask : Nat) : ∀ n, (sigList f mask (n+1)).length = popcount (mask % 2 ^ n) + 1 := by
  intro n
  induction n with
  | zero => simp [sigList, Nat.mod_one, popcount]
  | succ n ih =>
    rw [sigList, List.length_append, ih, popcount_mod_succ]
    split <;> simp

theorem sigList_get {α : Type} (f : Nat → α) (mask : Nat) (mono : Stepwise mask f) :
    ∀ n l, l ≤ n → (sigList f mask (n+1))[popcount (mask % 2 ^ l)]? = some (f l) := by
  intro n
  induction n with
  | zero =>
    intro l hl
    have : l = 0 := by omega
    subst this
    simp [sigList, Nat.mod_one, popcount]
  | succ n ih =>
    intro l hl
    rw [sigList]
    have hlen := sigList_length f mask n
    by_cases hl' : l ≤ n
    · have hmono := popcount_mod_mono mask hl'
      rw [List.getElem?_append_left (by omega)]
      exact ih l hl'
    · have : l = n + 1 := by omega
      subst this
      have hpc := popcount_mod_succ n mask
      by_cases htb : mask.testBit n = true
      · rw [if_pos htb] at hpc ⊢
        rw [List.getElem?_append_right (by omega)]
        have : popcount (mask % 2 ^ (n + 1)) - (sigList f mask (n + 1)).length = 0 := by omega
        rw [this]; rfl
      · have htb' : mask.testBit n = false := by simpa using htb
        rw [if_neg htb] at hpc
        rw [if_neg htb, List.append_nil, hpc, Nat.add_zero, mono n htb']
        exact ih n (Nat.le_refl _)

theorem sigList_get_any {α : Type} (f : Nat → α) (mask : Nat) (skip : Stepwise mask f) (l : Nat) :
    (sigList f mask (bitLength mask + 1))[popcount (mask % 2 ^ l)]? = some (f l) := by
  by_cases hl : l ≤ bitLength mask
  · exact sigList_get f mask skip _ l hl
  · have hl' : bitLength mask ≤ l := by omega
    rw [mod_ge_bitLength mask hl', skip.ge (Nat.le_refl _) hl']
    have := sigList_get f mask skip _ _ (Nat.le_refl (bitLength mask))
    rwa [mod_ge_bitLength mask (Nat.le_refl _)] at this

theorem sigList_mem {α : Type} (f : Nat → α) (mask : Nat) (P : α → Prop) :
    ∀ n, (∀ l < n, P (f l)) → ∀ x ∈ sigList f mask n, P x := by
  intro n
  induction n using Nat.strongRecOn with
  | _ n ih =>
    match n with
    | 0 => intro _ x hx; simp [sigList] at hx
    | 1 => intro h x hx; simp [sigList] at hx; subst hx; exact h 0 (by omega)
    | n+2 =>
      intro h x hx
      rw [sigList, List.mem_append] at hx
      rcases hx with hx | hx
      · exact ih (n+1) (by omega) (fun l hl => h l (by omega)) x hx
      · split at hx
        · simp at hx; subst hx; exact h (n+1) (by omega)
        · simp at hx

theorem sigList_congr {α : Type} (f : Nat → α) (m m' : Nat) :
    ∀ n, (∀ j, j + 1 < n → m.testBit j = m'.testBit j) → sigList f m n = sigList f m' n := by
  intro n
  induction n using Nat.strongRecOn with
  | _ n ih =>
    match n with
    | 0 => intro _; rfl
    | 1 => intro _; rfl
    | n+2 =>
      intro h
      rw [sigList, sigList, ih (n+1) (by omega) (fun j hj => h j (by omega)), h n (by omega)]

end TonVerif.Proofs.Prune

namespace TonVerif.Proofs.CellSpec
open TonVerif TonVerif.Model

open TonVerif.Proofs.Prune in
/-- the level loop of a non-pruned cell leaves the hashes and depths of the significant levels, in order -/
theorem loop_plain_sig (H : Bytes → Bytes) (k : Spec.Kind) (bits : Bits) (kis : List CellInfo) (kss : List Spec.SInfo)
    (mask : Nat) (hk : AllAgree kis kss) (hnp : k ≠ .pruned)
    (hbits : bits.length ≤ 1023) (hn : kss.length ≤ 4) (hm : mask ≤ 7)
    (hdepth : ∀ l, Spec.plainDepthAt k kss mask l ≤ 1023) (n : Nat) :
    (List.range (n+1)).foldlM (hashStep H (kindCode k) bits kis mask 0) ⟨0, [], []⟩ =
      some ⟨popcount (mask % 2 ^ n) + 1, sigList (Spec.plainHashAt H k bits kss mask) mask (n+1),
        sigList (Spec.plainDepthAt k kss mask) mask (n+1)⟩ := by
  induction n with
  | zero =>
    have hd : Spec.depthOver kss (0 + k.mu) ≤ 1023 := by simpa [Spec.plainDepthAt] using hdepth 0
    rw [foldlM_range_succ, List.range_zero, List.foldlM_nil]
    simp only [Option.pure_def, Option.bind_some]
    rw [hashStep_plain H k bits kis kss mask ⟨0, [], []⟩ 0 (dataBytes bits) hk hnp hbits hn hm (by simp [isSignificant])
      (Or.inl ⟨rfl, rfl, rfl⟩) hd]
    simp [Nat.mod_one, popcount, sigList, Spec.plainHashAt, Spec.plainDepthAt, dataBytes_eq]
  | succ n ih =>
    rw [foldlM_range_succ, ih, Option.bind_some]
    have hpc := popcount_mod_succ n mask
    by_cases htb : mask.testBit n = true
    · rw [if_pos htb] at hpc
      have hd : Spec.depthOver kss (n + 1 + k.mu) ≤ 1023 := by
        have := hdepth (n+1); rwa [Spec.plainDepthAt, if_pos htb] at this
      -- the previous hash is the last entry so far
      have hprev := sigList_get _ mask (plainHashAt_skip H k bits kss mask) n n (Nat.le_refl _)
      rw [hashStep_plain H k bits kis kss mask _ (n+1) _ hk hnp hbits hn hm (by rw [isSignificant_succ]; exact htb)
        (Or.inr ⟨Nat.succ_ne_zero _, Nat.succ_ne_zero _, by simpa using hprev⟩) hd]
      simp only [sigList, hpc, htb, if_true, Spec.plainHashAt, Spec.plainDepthAt]
    · have htb' : mask.testBit n = false := by simpa using htb
      rw [if_neg htb, Nat.add_zero] at hpc
      rw [hashStep_insig _ _ _ _ _ _ _ _ (by rw [isSignificant_succ]; exact htb'), hpc]
      simp only [sigList, htb', Bool.false_eq_true, if_false, List.append_nil]
open TonVerif.Proofs.Prune in
theorem loop_plain (H : Bytes → Bytes) (k : Spec.Kind) (bits : Bits) (kis : List CellInfo) (kss : List Spec.SInfo)
    (mask : Nat) (hk : AllAgree kis kss) (hnp : k ≠ .pruned)
    (hbits : bits.length ≤ 1023) (hn : kss.length ≤ 4) (hm : mask ≤ 7)
    (hdepth : ∀ l, Spec.plainDepthAt k kss mask l ≤ 1023) (n : Nat) :
    ∃ st, (List.range (n+1)).foldlM (hashStep H (kindCode k) bits kis mask 0) ⟨0, [], []⟩ = some st ∧
      st.hashIndex = popcount (mask % 2 ^ n) + 1 ∧ st.hashes.length = st.hashIndex ∧ st.depths.length = st.hashIndex ∧
      ∀ l, l ≤ n → st.hashes[popcount (mask % 2 ^ l)]? = some (Spec.plainHashAt H k bits kss mask l) ∧
                   st.depths[popcount (mask % 2 ^ l)]? = some (Spec.plainDepthAt k kss mask l) :=
  ⟨_, loop_plain_sig H k bits kis kss mask hk hnp hbits hn hm hdepth n, rfl, sigList_length _ mask n, sigList_length _ mask n,
    fun l hl => ⟨sigList_get _ mask (plainHashAt_skip H k bits kss mask) n l hl,
                 sigList_get _ mask (plainDepthAt_skip k kss mask) n l hl⟩⟩
theorem bitLength_vals : bitLength 0 = 0 ∧ bitLength 1 = 1 ∧ bitLength 2 = 2 ∧ bitLength 3 = 2 ∧ bitLength 4 = 3 ∧
    bitLength 5 = 3 ∧ bitLength 6 = 3 ∧ bitLength 7 = 3 := by
  simp [bitLength]

/-- a pruned branch skips every significant level but the last: only the hash at its own level is computed -/
theorem loop_pruned (H : Bytes → Bytes) (bits : Bits) (mask : Nat) (h1 : 1 ≤ mask) (h7 : mask ≤ 7)
    (hbits : bits.length ≤ 1023) :
    (List.range (bitLength mask + 1)).foldlM (hashStep H kPruned bits [] mask (popcount mask)) ⟨0, [], []⟩
      = some ⟨popcount mask + 1, [H ([Spec.d1 0 true mask, Spec.d2 bits.length] ++ dataBytes bits)], [0]⟩ := by
  obtain ⟨n0, hL⟩ : ∃ n0, bitLength mask = n0 + 1 := ⟨_, (Nat.sub_add_cancel (bitLength_pos mask h1)).symm⟩
  have htop : mask.testBit n0 = true := by simpa [hL] using testBit_bitLength_pred mask h1
  have hpc : popcount mask = popcount (mask % 2 ^ n0) + 1 := by
    have := popcount_mod_succ n0 mask
    rwa [← hL, mod_ge_bitLength mask (Nat.le_refl _), if_pos htop] at this
  -- the levels below the top one only count
  have hlow : ∀ n, n ≤ n0 → (List.range (n + 1)).foldlM (hashStep H kPruned bits [] mask (popcount mask)) ⟨0, [], []⟩
      = some ⟨popcount (mask % 2 ^ n) + 1, [], []⟩ := by
    intro n
    induction n with
    | zero =>
      intro _
      rw [foldlM_range_succ, List.range_zero, List.foldlM_nil]
      simp only [Option.pure_def, Option.bind_some]
      rw [hashStep_skip _ _ _ _ _ _ _ _ (by simp [isSignificant]) (by simp only; omega)]
      simp [Nat.mod_one, popcount]
    | succ n ih =>
      intro hn
      rw [foldlM_range_succ, ih (by omega), Option.bind_some]
      have hstep := popcount_mod_succ n mask
      have hmono := popcount_mod_mono mask hn
      by_cases htb : mask.testBit n = true
      · rw [if_pos htb] at hstep
        rw [hashStep_skip _ _ _ _ _ _ _ _ (by rw [isSignificant_succ]; exact htb) (by simp only; omega), hstep]
      · rw [if_neg htb] at hstep
        rw [hashStep_insig _ _ _ _ _ _ _ _ (by rw [isSignificant_succ]; simpa using htb), hstep]
  rw [hL, foldlM_range_succ, hlow n0 (Nat.le_refl _), Option.bind_some, ← hpc, hashStep_eq]
  have hsig : isSignificant mask (n0 + 1) = true := by rw [isSignificant_succ]; exact htop
  have hmask : maskApply mask (n0 + 1) = mask := by rw [maskApply, ← hL]; exact mod_ge_bitLength mask (Nat.le_refl _)
  simp [hsig, hmask, descriptors_eq 0 true bits.length mask (by omega) hbits h7, kPruned, kOrdinary, levelTail]
theorem node_plain (H : Bytes → Bytes) (k : Spec.Kind) (bits : Bits) (kss : List Spec.SInfo) (hnp : k ≠ .pruned) :
    Spec.node H k bits kss = { mask := Spec.nodeMask k bits kss,
                               hashAt := Spec.plainHashAt H k bits kss (Spec.nodeMask k bits kss),
                               depthAt := Spec.plainDepthAt k kss (Spec.nodeMask k bits kss) } := by
  cases k <;> first | exact absurd rfl hnp | rfl

theorem node_pruned (H : Bytes → Bytes) (bits : Bits) : Spec.node H .pruned bits [] =
    { mask := Spec.nodeMask .pruned bits [], hashAt := Spec.prunedHashAt H bits (Spec.nodeMask .pruned bits []),
      depthAt := Spec.prunedDepthAt bits (Spec.nodeMask .pruned bits []) } := rfl

theorem getLast?_isSome {α : Type} (xs : List α) (h : 0 < xs.length) : ∃ x, xs.getLast? = some x := by
  cases xs with
  | nil => simp at h
  | cons a as => exact ⟨_, List.getLast?_eq_some_getLast (by simp)⟩

theorem nodeWF_mask_le {H : Bytes → Bytes} {k : Spec.Kind} {bits : Bits} {ss : List Spec.SInfo}
    (wf : NodeWF H k bits ss) : Spec.nodeMask k bits ss ≤ 7 := by
  have hfold := foldl_mask_le ss 0 (by omega) wf.kidsMask
  cases k with
  | ordinary => exact hfold
  | pruned => exact (wf.pruned rfl).2.2.2
  | library => simp [Spec.nodeMask]
  | merkleProof | merkleUpdate => simp only [Spec.nodeMask]; omega

theorem resolveMask_eq (H : Bytes → Bytes) (k : Spec.Kind) (bits : Bits)
    (kis : List CellInfo) (kss : List Spec.SInfo)
    (hk : AllAgree kis kss) (wf : NodeWF H k bits kss) :
    resolveMask (kindCode k) bits kis = some (Spec.nodeMask k bits kss) ∧ Spec.nodeMask k bits kss ≤ 7 := by
  refine ⟨?_, nodeWF_mask_le wf⟩
  cases k with
  | ordinary => simp [resolveMask, kindCode, kOrdinary, Spec.nodeMask, hk.masks]
  | pruned =>
    obtain ⟨h1, h2, _, _⟩ := wf.pruned rfl
    subst h1
    have : kis = [] := List.eq_nil_of_length_eq_zero hk.length_eq
    subst this
    have hs : pySlice bits 8 16 = (bits.drop 8).take 8 := by simp [pySlice, List.drop_take]
    have hne : ((bits.drop 8).take 8).isEmpty = false := by simp; omega
    simp [resolveMask, kindCode, kOrdinary, kPruned, Spec.nodeMask, hs, hne]
  | library =>
    simp [resolveMask, kindCode, kOrdinary, kPruned, kMerkleProof, kMerkleUpdate, kLibrary, Spec.nodeMask]
  | merkleProof =>
    obtain ⟨s, rfl⟩ := List.length_eq_one_iff.mp (wf.mproof rfl)
    obtain ⟨i, rfl⟩ := List.length_eq_one_iff.mp (hk.length_eq.trans rfl)
    simp [resolveMask, kindCode, kOrdinary, kPruned, kMerkleProof, Spec.nodeMask, hk.1.1, Nat.shiftRight_eq_div_pow]
  | merkleUpdate =>
    match kss, kis, hk, wf.mupdate rfl with
    | [s, t], [i, j], hk, _ =>
      simp [resolveMask, kindCode, kOrdinary, kPruned, kMerkleProof, kMerkleUpdate, Spec.nodeMask, hk.1.1, hk.2.1.1,
        Nat.shiftRight_eq_div_pow]
    | [s, t], [], hk, _ => exact hk.elim
    | [s, t], [_], hk, _ => exact hk.2.elim
    | [s, t], _ :: _ :: _ :: _, hk, _ => exact hk.2.2.elim

open TonVerif.Proofs.Prune in
theorem construct_plain_eq (H : Bytes → Bytes) (k : Spec.Kind) (bits : Bits)
    (kis : List CellInfo) (kss : List Spec.SInfo)
    (hk : AllAgree kis kss) (wf : NodeWF H k bits kss) (hnp : k ≠ .pruned) :
    construct H (kindCode k) bits kis = some
      { kind := kindCode k, bits := bits, nrefs := kis.length, mask := Spec.nodeMask k bits kss,
        hashes := sigList (Spec.plainHashAt H k bits kss (Spec.nodeMask k bits kss)) (Spec.nodeMask k bits kss)
          (bitLength (Spec.nodeMask k bits kss) + 1),
        depths := sigList (Spec.plainDepthAt k kss (Spec.nodeMask k bits kss)) (Spec.nodeMask k bits kss)
          (bitLength (Spec.nodeMask k bits kss) + 1) } := by
  obtain ⟨hres, hm⟩ := resolveMask_eq H k bits kis kss hk wf
  obtain ⟨f1, f2, f3, f4⟩ := kind_facts k hnp
  have hdepth := wf.depthOk hnp
  rw [node_plain H k bits kss hnp] at hdepth
  simp only at hdepth
  generalize Spec.nodeMask k bits kss = mask at *
  have hfold := loop_plain_sig H k bits kis kss mask hk hnp wf.bitsLen wf.nrefs hm hdepth (bitLength mask)
  obtain ⟨x, hx⟩ := getLast?_isSome (sigList (Spec.plainHashAt H k bits kss mask) mask (bitLength mask + 1))
    (by rw [sigList_length]; omega)
  simp only [construct, hres, Option.bind_eq_bind, Option.bind_some, f2, Bool.false_eq_true, if_false, Nat.sub_self,
    hfold, f1, hk.length_eq, descriptors_eq kss.length k.isExotic bits.length mask wf.nrefs wf.bitsLen hm, hx, Option.pure_def]

open TonVerif.Proofs.Prune in
theorem construct_plain (H : Bytes → Bytes) (k : Spec.Kind) (bits : Bits)
    (kis : List CellInfo) (kss : List Spec.SInfo)
    (hk : AllAgree kis kss) (wf : NodeWF H k bits kss) (hnp : k ≠ .pruned) :
    ∃ i, construct H (kindCode k) bits kis = some i ∧ Agrees i (Spec.node H k bits kss)
      ∧ i.kind = kindCode k ∧ i.bits = bits ∧ i.nrefs = kis.length := by
  refine ⟨_, construct_plain_eq H k bits kis kss hk wf hnp, ⟨by rw [node_plain H k bits kss hnp], ?_⟩, rfl, rfl, rfl⟩
  obtain ⟨_, f2, _, _⟩ := kind_facts k hnp
  rw [node_plain H k bits kss hnp]
  intro l
  simp only [CellInfo.getHash, CellInfo.getDepth, f2, Bool.false_eq_true, if_false, hashIndexAt, maskApply]
  exact ⟨sigList_get_any _ _ (plainHashAt_skip H k bits kss _) l, sigList_get_any _ _ (plainDepthAt_skip k kss _) l⟩

/-- the object built for a spec-valid pruned branch: one hash, of its own representation, and depth 0 -/
theorem construct_pruned_eq (H : Bytes → Bytes) (bits : Bits) (wf : NodeWF H .pruned bits []) :
    construct H kPruned bits [] = some
      { kind := kPruned, bits := bits, nrefs := 0, mask := Spec.nodeMask .pruned bits [],
        hashes := [H ([Spec.d1 0 true (Spec.nodeMask .pruned bits []), Spec.d2 bits.length] ++ dataBytes bits)], depths := [0] } := by
  obtain ⟨hres, hm⟩ := resolveMask_eq H .pruned bits [] [] trivial wf
  obtain ⟨_, _, h3, h4⟩ := wf.pruned rfl
  have e1 : (kPruned == kPruned) = true := by decide
  have e2 : (kPruned != kOrdinary) = true := by decide
  rw [show kindCode .pruned = kPruned from rfl] at hres
  simp only [construct, hres, Option.bind_eq_bind, Option.bind_some, e1, e2, if_true, Nat.add_sub_cancel,
    loop_pruned H bits _ h3 h4 wf.bitsLen, List.length_nil, descriptors_eq 0 true bits.length _ (by omega) wf.bitsLen hm,
    List.getLast?_singleton, Option.pure_def]

theorem construct_pruned (H : Bytes → Bytes) (bits : Bits)
    (kis : List CellInfo) (kss : List Spec.SInfo)
    (hk : AllAgree kis kss) (wf : NodeWF H .pruned bits kss) :
    ∃ i, construct H (kindCode .pruned) bits kis = some i ∧ Agrees i (Spec.node H .pruned bits kss)
      ∧ i.kind = kindCode .pruned ∧ i.bits = bits ∧ i.nrefs = kis.length := by
  have h1 := (wf.pruned rfl).1
  subst h1
  have : kis = [] := List.eq_nil_of_length_eq_zero hk.length_eq
  subst this
  refine ⟨_, construct_pruned_eq H bits wf, ⟨rfl, ?_⟩, rfl, rfl, rfl⟩
  intro l
  have e1 : (kPruned == kPruned) = true := by decide
  rw [node_pruned]
  simp only [CellInfo.getHash, CellInfo.getDepth, e1, if_true, hashIndexAt, maskApply,
    Spec.prunedHashAt, Spec.prunedDepthAt, ← popcount_eq, ← dataBytes_eq, pySlice]
  by_cases hp : popcount (Spec.nodeMask .pruned bits [] % 2 ^ l) = popcount (Spec.nodeMask .pruned bits [])
  · simp [hp]
  · simp [hp, Nat.mul_comm]

/-- MAIN NODE LEMMA: constructing a well-formed node from children that agree with their specs
succeeds and agrees with the spec of the node. -/
theorem construct_agrees (H : Bytes → Bytes) (k : Spec.Kind) (bits : Bits)
    (kis : List CellInfo) (kss : List Spec.SInfo)
    (hk : AllAgree kis kss) (wf : NodeWF H k bits kss) :
    ∃ i, construct H (kindCode k) bits kis = some i ∧ Agrees i (Spec.node H k bits kss)
      ∧ i.kind = kindCode k ∧ i.bits = bits ∧ i.nrefs = kis.length := by
  by_cases hp : k = .pruned
  · subst hp; exact construct_pruned H bits kis kss hk wf
  · exact construct_plain H k bits kis kss hk wf hp

open TonVerif.Proofs.Prune in
/-- `Cell.hash` (`_hashes[-1]`) of a constructed spec-valid node is the spec's representation hash (the hash at level 3) -/
theorem construct_hash (H : Bytes → Bytes) (k : Spec.Kind) (bits : Bits) (kis : List CellInfo) (kss : List Spec.SInfo)
    (hk : AllAgree kis kss) (wf : NodeWF H k bits kss) (i : CellInfo)
    (hc : construct H (kindCode k) bits kis = some i) : i.hash = (Spec.node H k bits kss).hashAt 3 := by
  have hm := nodeWF_mask_le wf
  by_cases hp : k = .pruned
  · -- one cached hash, and with mask ≤ 7 level 3 is not answered by a stored hash
    subst hp
    obtain rfl := (wf.pruned rfl).1
    obtain rfl : kis = [] := List.eq_nil_of_length_eq_zero hk.length_eq
    rw [show kindCode .pruned = kPruned from rfl, construct_pruned_eq H bits wf] at hc
    cases hc
    simp [CellInfo.hash, node_pruned, Spec.prunedHashAt, Nat.mod_eq_of_lt (show Spec.nodeMask .pruned bits [] < 2 ^ 3 by omega), dataBytes_eq]
  · -- `_hashes` has `popcount mask + 1` entries, so the last one is the entry of level 3
    rw [construct_plain_eq H k bits kis kss hk wf hp] at hc
    cases hc
    rw [node_plain H k bits kss hp]
    generalize Spec.nodeMask k bits kss = mask at *
    have h3 := sigList_get_any (Spec.plainHashAt H k bits kss mask) mask (plainHashAt_skip H k bits kss mask) 3
    rw [Nat.mod_eq_of_lt (show mask < 2 ^ 3 by omega)] at h3
    simp only [CellInfo.hash, List.getLast?_eq_getElem?, sigList_length, mod_ge_bitLength mask (Nat.le_refl _), Nat.add_sub_cancel,
      h3, Option.getD_some]

theorem foldlM_none_of_mem {β α : Type} (f : β → α → Option β) (x : α) (hx : ∀ s, f s x = none) :
    ∀ (xs : List α), x ∈ xs → ∀ s, xs.foldlM f s = none := by
  intro xs
  induction xs with
  | nil => intro h; simp at h
  | cons y ys ih =>
    intro h s
    simp only [List.foldlM_cons, Option.bind_eq_bind]
    cases hy : f s y with
    | none => rfl
    | some s' =>
      simp only [Option.bind_some]
      rcases List.mem_cons.mp h with rfl | h'
      · rw [hx] at hy; cases hy
      · exact ih h' s'

theorem deep_level (k : Spec.Kind) (kss : List Spec.SInfo) (mask : Nat) :
    ∀ l, 1023 < Spec.plainDepthAt k kss mask l →
      ∃ li, li ≤ bitLength mask ∧ isSignificant mask li = true ∧ 1023 < Spec.depthOver kss (li + k.mu) := by
  intro l
  induction l with
  | zero =>
    intro h
    exact ⟨0, Nat.zero_le _, by simp [isSignificant], by simpa [Spec.plainDepthAt] using h⟩
  | succ l ih =>
    intro h
    rw [Spec.plainDepthAt] at h
    by_cases htb : mask.testBit l = true
    · rw [if_pos htb] at h
      refine ⟨l + 1, ?_, by rw [isSignificant_succ]; exact htb, h⟩
      apply Classical.byContradiction
      intro hc
      have := testBit_ge_bitLength mask (l := l) (by omega)
      rw [this] at htb; cases htb
    · rw [if_neg htb] at h
      exact ih h

theorem hashStep_deep (H : Bytes → Bytes) (bits : Bits) (kis : List CellInfo) (kss : List Spec.SInfo)
    (mask : Nat) (li : Nat) (hk : AllAgree kis kss)
    (hsig : isSignificant mask li = true) (hd : 1023 < Spec.depthOver kss li) (st : HashState) :
    hashStep H (-1) bits kis mask 0 st li = none := by
  have hne : 0 < kis.length := by
    rw [hk.length_eq]
    cases kss with
    | nil => simp [Spec.depthOver] at hd
    | cons c cs => simp
  have hd' : 1023 < 1 + Spec.maxList (kss.map (fun c => c.depthAt li)) := by
    cases kss with
    | nil => simp [Spec.depthOver] at hd
    | cons c cs => simpa [Spec.depthOver] using hd
  -- the depth test raises, whatever was hashed in front
  have htail : ∀ x, levelTail H kis li st x = none := by
    intro x
    unfold Spec.maxList at hd'
    simp only [levelTail, hk.depths, Option.bind_some, foldl_max_eq, if_pos hne]
    rw [if_pos (by omega)]
    cases List.mapM (toBytesBE? 2) (kss.map (fun c => c.depthAt li)) <;> rfl
  rw [hashStep_eq, hsig]
  simp only [Bool.not_true, Bool.false_eq_true, if_false, Nat.not_lt_zero, show isMerkle (-1) = false from rfl, htail,
    Option.bind_fun_none]
/-- depth limit: an ordinary node whose spec depth exceeds 1023 cannot be constructed -/
theorem construct_depth_limit (H : Bytes → Bytes) (bits : Bits)
    (kis : List CellInfo) (kss : List Spec.SInfo)
    (hk : AllAgree kis kss)
    (hdeep : ∃ l, 1023 < (Spec.node H .ordinary bits kss).depthAt l) :
    construct H (-1) bits kis = none := by
  obtain ⟨l, hl⟩ := hdeep
  rw [node_plain H .ordinary bits kss (by decide)] at hl
  simp only at hl
  obtain ⟨li, hle, hsig, hd⟩ := deep_level _ _ _ l hl
  have hmu : li + Spec.Kind.mu .ordinary = li := rfl
  rw [hmu] at hd
  have hres : resolveMask (-1) bits kis = some (Spec.nodeMask .ordinary bits kss) := by
    simp [resolveMask, kOrdinary, Spec.nodeMask, hk.masks]
  generalize Spec.nodeMask .ordinary bits kss = mask at *
  have hfold := foldlM_none_of_mem (hashStep H (-1) bits kis mask 0) li
    (hashStep_deep H bits kis kss mask li hk hsig hd) (List.range (bitLength mask + 1))
    (by simp; omega) ⟨0, [], []⟩
  have e1 : ((-1 : Int) == kPruned) = false := by decide
  simp only [construct, hres, Option.bind_eq_bind, Option.bind_some, e1, Bool.false_eq_true, if_false, Nat.sub_self,
    hfold, Option.bind_none]

/-! ### trees -/

mutual
  /-- spec values of a tree (`none` only for an unknown cell type) -/
  def specInfo (H : Bytes → Bytes) : Cell → Option Spec.SInfo
    | .mk kind bits refs => do
      let k ← kindOf kind
      let ks ← specInfos H refs
      pure (Spec.node H k bits ks)
  def specInfos (H : Bytes → Bytes) : List Cell → Option (List Spec.SInfo)
    | [] => some []
    | c :: cs => do
      let i ← specInfo H c
      let is ← specInfos H cs
      pure (i :: is)
end

theorem specInfo_eq (H : Bytes → Bytes) {kind : Int} {k : Spec.Kind} {bits : Bits} {refs : List Cell} {ss : List Spec.SInfo}
    (hk : kindOf kind = some k) (hss : specInfos H refs = some ss) :
    specInfo H (.mk kind bits refs) = some (Spec.node H k bits ss) := by
  simp [specInfo, hk, hss]

theorem specInfos_cons_eq (H : Bytes → Bytes) {c : Cell} {cs : List Cell} {s : Spec.SInfo} {ss : List Spec.SInfo}
    (hs : specInfo H c = some s) (hss : specInfos H cs = some ss) : specInfos H (c :: cs) = some (s :: ss) := by
  simp [specInfos, hs, hss]

theorem specInfo_mk (H : Bytes → Bytes) (kind : Int) (bits : Bits) (refs : List Cell) (s : Spec.SInfo)
    (h : specInfo H (.mk kind bits refs) = some s) :
    ∃ k ss, kindOf kind = some k ∧ specInfos H refs = some ss ∧ s = Spec.node H k bits ss := by
  simp only [specInfo, Option.bind_eq_bind] at h
  cases hk : kindOf kind with
  | none => rw [hk] at h; cases h
  | some k =>
    cases hss : specInfos H refs with
    | none => rw [hk, hss] at h; cases h
    | some ss =>
      rw [hk, hss] at h
      simp only [Option.bind_some, Option.pure_def, Option.some.injEq] at h
      exact ⟨k, ss, rfl, rfl, h.symm⟩

theorem specInfos_cons (H : Bytes → Bytes) (c : Cell) (cs : List Cell) (ss : List Spec.SInfo)
    (h : specInfos H (c :: cs) = some ss) :
    ∃ s ss0, specInfo H c = some s ∧ specInfos H cs = some ss0 ∧ ss = s :: ss0 := by
  simp only [specInfos, Option.bind_eq_bind] at h
  cases h1 : specInfo H c with
  | none => rw [h1] at h; cases h
  | some s =>
    cases h2 : specInfos H cs with
    | none => rw [h1, h2] at h; cases h
    | some ss0 =>
      rw [h1, h2] at h
      simp only [Option.bind_some, Option.pure_def, Option.some.injEq] at h
      exact ⟨s, ss0, rfl, rfl, h.symm⟩

/-- a fact about the spec values of every cell of a list, from the fact about one cell (`Q` is the list form of `Qc`) -/
theorem specInfos_forall (H : Bytes → Bytes) {Qc : Cell → Prop} {Q : List Cell → Prop} {P : Spec.SInfo → Prop}
    (hcons : ∀ c cs, Q (c :: cs) → Qc c ∧ Q cs) (hP : ∀ c s, Qc c → specInfo H c = some s → P s) :
    ∀ (cs : List Cell) (ss : List Spec.SInfo), Q cs → specInfos H cs = some ss → ∀ s ∈ ss, P s := by
  intro cs
  induction cs with
  | nil => intro ss _ hs; simp only [specInfos, Option.some.injEq] at hs; subst hs; simp
  | cons c cs ih =>
    intro ss hq hs
    obtain ⟨s, ss0, h1, h2, rfl⟩ := specInfos_cons H c cs ss hs
    obtain ⟨q1, q2⟩ := hcons c cs hq
    intro x hx
    rcases List.mem_cons.mp hx with rfl | hx
    · exact hP c x q1 h1
    · exact ih ss0 q2 h2 x hx

theorem specInfo_stepwise (H : Bytes → Bytes) : ∀ (c : Cell) (s : Spec.SInfo), specInfo H c = some s →
    Stepwise s.mask s.hashAt ∧ Stepwise s.mask s.depthAt
  | .mk kind bits refs, s, h => by
    obtain ⟨k, ss, _, _, rfl⟩ := specInfo_mk H kind bits refs s h
    exact node_stepwise H k bits ss

theorem specInfos_stepwise (H : Bytes → Bytes) (cs : List Cell) (ss : List Spec.SInfo) (hs : specInfos H cs = some ss) :
    ∀ s ∈ ss, Stepwise s.mask s.hashAt ∧ Stepwise s.mask s.depthAt :=
  specInfos_forall H (Q := fun _ => True) (fun _ _ _ => ⟨trivial, trivial⟩) (fun c s _ h => specInfo_stepwise H c s h) cs ss trivial hs

mutual
  /-- every node of the tree is spec-valid -/
  def TreeWF (H : Bytes → Bytes) : Cell → Prop
    | .mk kind bits refs =>
      TreesWF H refs ∧ ∃ k ks, kindOf kind = some k ∧ specInfos H refs = some ks ∧ NodeWF H k bits ks
  def TreesWF (H : Bytes → Bytes) : List Cell → Prop
    | [] => True
    | c :: cs => TreeWF H c ∧ TreesWF H cs
end

theorem kindCode_of_kindOf {kind : Int} {k : Spec.Kind} (h : kindOf kind = some k) : kindCode k = kind := by
  have hv : kind = -1 ∨ kind = 1 ∨ kind = 2 ∨ kind = 3 ∨ kind = 4 := by
    apply Classical.byContradiction
    intro hn
    simp only [not_or] at hn
    simp [kindOf, hn] at h
  rcases hv with rfl | rfl | rfl | rfl | rfl <;> cases h <;> rfl
mutual
  theorem tree_agrees_aux (H : Bytes → Bytes) : ∀ (c : Cell), TreeWF H c →
      ∃ i s, Cell.info H c = some i ∧ specInfo H c = some s ∧ Agrees i s
    | .mk kind bits refs, wf => by
      rw [TreeWF] at wf
      obtain ⟨wfs, k, ks, hkind, hks, nwf⟩ := wf
      obtain ⟨is, ss, hi, hs, hag⟩ := trees_agree_aux H refs wfs
      rw [hks] at hs
      cases hs
      obtain ⟨i, hc, hagree, _⟩ := construct_agrees H k bits is ks hag nwf
      rw [kindCode_of_kindOf hkind] at hc
      refine ⟨i, Spec.node H k bits ks, ?_, specInfo_eq H hkind hks, hagree⟩
      simp [Cell.info, hi, hc]
  theorem trees_agree_aux (H : Bytes → Bytes) : ∀ (cs : List Cell), TreesWF H cs →
      ∃ is ss, Cell.infos H cs = some is ∧ specInfos H cs = some ss ∧ AllAgree is ss
    | [], _ => ⟨[], [], by simp [Cell.infos], by simp [specInfos], trivial⟩
    | c :: cs, wf => by
      rw [TreesWF] at wf
      obtain ⟨i, s, hi, hs, ha⟩ := tree_agrees_aux H c wf.1
      obtain ⟨is, ss, his, hss, has⟩ := trees_agree_aux H cs wf.2
      exact ⟨i :: is, s :: ss, by simp [Cell.infos, hi, his], specInfos_cons_eq H hs hss, ⟨ha, has⟩⟩
end

/-- MAIN TREE THEOREM: every spec-valid tree (any exotic types, any nesting, any masks) can be
constructed, and the model reports the spec's mask, hashes and depths at every level. -/
theorem tree_agrees (H : Bytes → Bytes) (c : Cell) (wf : TreeWF H c) :
    ∃ i s, Cell.info H c = some i ∧ specInfo H c = some s ∧ Agrees i s :=
  tree_agrees_aux H c wf

end TonVerif.Proofs.CellSpec
