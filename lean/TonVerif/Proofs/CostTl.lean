/-
C19, TL parser: total work of `Tl.deser` (`TlSchemas.deserialize`) — the summation over the call tree.

Accounting.  `n` = length of the data of the current call, `N` = length of the top-level input, `w` = a weight per
consumed byte (`w ≥ (N+1)·(1+a)`), `a` = constant part of a nested call.  Every call satisfies
      steps ≤ a + w · consumed,         consumed = min(advance, n)   (all of `n` if the call raised)
because
* fixed fields cost nothing; a sub-object consumes what its call consumed;
* a vector passes the guard only if 4 + (declared length) real bytes are there: its `length` iterations are paid by the
  4 bytes of the length word (`length·(1+a) ≤ w`), its elements by what they consume (elements may consume nothing);
* a bytes field with content of `m` bytes consumes ≥ m + 1; the first parse and the ≤ m + 1 re-parse iterations consume
  disjoint parts of the content (`j` only grows); the constant parts of the re-parse iterations, `(m+1)(1+a) ≤ w`, are paid by
  the length byte;
* a recognised boxed object consumed its 4-byte id, which pays for its own field loop; a bare object that consumes
  nothing costs at most `tlA M k` (M fields per schema, k levels of bare nesting).
Depth: a boxed level passes data shorter by ≥ 4 to its callees; a bare level passes at most its own data, but the
bare-nesting index `k` drops — fuel `(n/4)(R+2) + 1 + k` suffices.

Last section: `NoBareCycle` of a table given as pieces of equal length may be checked with rows looked up piece first
(`noBareCycle_flatten`); the bundled table of 829 rows is checked that way.
-/
import TonVerif.Model.Cost
import TonVerif.Proofs.Cost

namespace TonVerif.Proofs.CostTl
open TonVerif TonVerif.Model TonVerif.Model.Cost TonVerif.Model.Cost.Tl TonVerif.Proofs.Cost

/-! ### arithmetic helpers -/

/-- weights: a bound between consumed bytes (`x`, `y` consumed by two parts, `z` by the whole) becomes one between what they pay
at `w` per byte; stated with explicit arguments so that the products can be given to `omega` as atoms. -/
theorem wle (w x y z : Nat) (h : x + y ≤ z) : w * x + w * y ≤ w * z := by
  rw [← Nat.mul_add]; exact Nat.mul_le_mul_left w h

theorem wmono (w x z : Nat) (h : x ≤ z) : w * x ≤ w * z := Nat.mul_le_mul_left w h

theorem tlA_pos (M k : Nat) : 1 ≤ tlA M k := by
  cases k <;> simp [tlA] <;> omega

theorem tlA_step (M k : Nat) : tlA M k ≤ tlA M (k + 1) := by
  induction k with
  | zero => simp [tlA]
  | succ j ih =>
    have h := Nat.mul_le_mul_left M (Nat.add_le_add_left ih 1)
    simp only [tlA] at h ⊢
    omega

theorem tlA_mono (M : Nat) {k k' : Nat} (h : k ≤ k') : tlA M k ≤ tlA M k' := by
  induction k' with
  | zero => have : k = 0 := by omega
            subst this; exact Nat.le_refl _
  | succ j ih =>
    by_cases hk : k = j + 1
    · subst hk; exact Nat.le_refl _
    · exact Nat.le_trans (ih (by omega)) (tlA_step M j)

/-! ### what a call must satisfy -/

/-- bytes of its data a call consumed: `min advance n`; everything if it raised -/
def cons (r : Res) (n : Nat) : Nat :=
  match r with
  | .ok adv _ => min adv n
  | _ => n

/-- the bound of the head comment, `steps ≤ a + w · consumed`, and no exhaustion of fuel. -/
def Spec (w a : Nat) (r : Res) (n : Nat) : Prop := r ≠ .oof ∧ r.steps ≤ a + w * cons r n

/-- modes a level with bare-nesting index `k` may call: boxed, or bare `t` with `bareOK tbl k t` -/
def Allowed (tbl : Table) (k : Nat) : Option Nat → Prop
  | none => True
  | some t => bareOK tbl k t = true

/-- hypothesis on the next level `rec`, for data of at most `L` bytes -/
structure RecOK (tbl : Table) (rec : Bytes → Option Nat → Res) (w a L k : Nat) : Prop where
  spec : ∀ b m, b.length ≤ L → Allowed tbl k m → Spec w a (rec b m) b.length
  empty0 : ∀ adv s, rec [] none = .ok adv s → adv = 0

/-- a loop / field that started at offset `i` with budget `c` for its constant parts -/
def StepOK (w n i c : Nat) (r : Res) : Prop :=
  match r with
  | .oof => False
  | .ok i' s => i ≤ i' ∧ s + w * min i n ≤ c + w * min i' n
  | .raised s _ => s + w * min i n ≤ c + w * n

theorem sl_len (bs : Bytes) (a b : Nat) : (sl bs a b).length = min b bs.length - a := by
  simp [sl, List.length_drop, List.length_take]

theorem stepOK_weaken (w n i i' c c' : Nat) (r : Res) (h : StepOK w n i' c' r) (hi : i ≤ i')
    (hc : c' + w * min i n ≤ c + w * min i' n) : StepOK w n i c r := by
  cases r with
  | oof => exact h
  | raised s g => simp only [StepOK] at h ⊢; omega
  | ok i'' s => simp only [StepOK] at h ⊢; omega

/-- The next level called on `data.drop i`, its result re-based to offset `i` of the caller (what a `.sub` field does):
never out of fuel, and what it consumed of its own data it consumed of the caller's
(`min i n + min j (n - i) ≤ min (i + j) n`). -/
theorem RecOK.call {tbl : Table} {rec : Bytes → Option Nat → Res} {w a L k : Nat} (hrec : RecOK tbl rec w a L k)
    (data : Bytes) (i : Nat) (hL : data.length - i ≤ L) (m : Option Nat) (hm : Allowed tbl k m) :
    StepOK w data.length i a (fieldStep rec data i (.sub m)) := by
  obtain ⟨hne, hst⟩ := hrec.spec (data.drop i) m (by simp only [List.length_drop]; omega) hm
  simp only [fieldStep]
  cases hc : rec (data.drop i) m with
  | oof => exact hne hc
  | raised s g =>
    rw [hc] at hst
    simp only [Res.steps, cons, List.length_drop] at hst
    simp only [StepOK]
    have := wle w (min i data.length) (data.length - i) data.length (by omega)
    omega
  | ok j s =>
    rw [hc] at hst
    simp only [Res.steps, cons, List.length_drop] at hst
    simp only [StepOK]
    have := wle w (min i data.length) (min j (data.length - i)) (min (i + j) data.length) (by omega)
    omega

/-! ### vector loop -/

theorem vecLoop_ok (tbl : Table) (rec : Bytes → Option Nat → Res) (w a L k : Nat) (hrec : RecOK tbl rec w a L k)
    (data : Bytes) (elem : Option Nat) (hel : Allowed tbl k elem) (i0 : Nat) (hL : data.length - i0 ≤ L) :
    ∀ (cnt i s0 : Nat), i0 ≤ i →
      StepOK w data.length i (s0 + cnt * (1 + a)) (vecLoop (fun b => rec b elem) data cnt i s0) := by
  intro cnt
  induction cnt with
  | zero =>
    intro i s0 _
    simp only [vecLoop, StepOK]
    omega
  | succ c ih =>
    intro i s0 hi
    have hcall := hrec.call data i (by omega) elem hel
    simp only [fieldStep] at hcall
    simp only [vecLoop]
    rw [Nat.succ_mul]
    cases hc : rec (data.drop i) elem with
    | oof => rw [hc] at hcall; exact hcall
    | raised s g =>
      rw [hc] at hcall
      simp only [StepOK] at hcall ⊢
      omega
    | ok j s =>
      rw [hc] at hcall
      simp only [StepOK] at hcall
      exact stepOK_weaken w data.length i (i + j) _ _ _ (ih (i + j) (s0 + 1 + s) (by omega)) (by omega) (by omega)

/-! ### bytes field: first parse + re-parse loop -/

theorem reparse_ok (tbl : Table) (rec : Bytes → Option Nat → Res) (w a L k : Nat) (hrec : RecOK tbl rec w a L k)
    (c : Bytes) (hc : c.length ≤ L) (bl : Nat) :
    ∀ (lf j s0 : Nat), c.length - j + 1 ≤ lf →
      reparseLoop (fun b => rec b none) c bl lf j s0 ≠ .oof ∧
      (reparseLoop (fun b => rec b none) c bl lf j s0).steps + w * min j c.length ≤ s0 + lf * (1 + a) + w * c.length := by
  intro lf
  induction lf with
  | zero => intro j s0 h; omega
  | succ f ih =>
    intro j s0 h
    have hcall := hrec.call c j (by omega) none trivial
    simp only [fieldStep] at hcall
    have hm := wmono w (min j c.length) c.length (by omega)
    simp only [reparseLoop]
    rw [Nat.succ_mul]
    split
    · cases hr : rec (c.drop j) none with
      | oof => rw [hr] at hcall; exact hcall.elim
      | raised s g =>
        rw [hr] at hcall
        simp only [StepOK] at hcall
        simp only [Res.steps]
        exact ⟨by simp, by omega⟩
      | ok jj s =>
        rw [hr] at hcall
        simp only [StepOK] at hcall
        have hm' := wmono w (min (j + jj) c.length) c.length (by omega)
        simp only []
        split
        · simp only [Res.steps]
          exact ⟨by simp, by omega⟩
        · rename_i hjj
          have hjj' : jj ≠ 0 := by simpa using hjj
          have hjlt : j < c.length := by
            apply Classical.byContradiction
            intro hge
            have : c.drop j = [] := List.drop_eq_nil_of_le (by omega)
            rw [this] at hr
            exact hjj' (hrec.empty0 _ _ hr)
          obtain ⟨i1, i2⟩ := ih (j + jj) (s0 + 1 + s) (by omega)
          exact ⟨i1, by omega⟩
    · simp only [Res.steps]
      exact ⟨by simp, by omega⟩

/-- content `c` of a bytes field: never out of fuel; an `ok` result is `iEnd`; steps ≤ a + w·|c| (+ (|c|+1)(1+a) if the
declared length is non-zero, i.e. the re-parse loop can be entered) -/
theorem bytesContent_ok (tbl : Table) (rec : Bytes → Option Nat → Res) (w a L k : Nat) (hrec : RecOK tbl rec w a L k)
    (c : Bytes) (hc : c.length ≤ L) (bl iEnd : Nat) :
    bytesContent (fun b => rec b none) c bl iEnd ≠ .oof ∧
    (∀ adv s, bytesContent (fun b => rec b none) c bl iEnd = .ok adv s → adv = iEnd) ∧
    (bytesContent (fun b => rec b none) c bl iEnd).steps ≤
      a + w * c.length + (if bl = 0 then 0 else (c.length + 1) * (1 + a)) := by
  obtain ⟨hne, hst⟩ := hrec.spec c none hc trivial
  cases hr : rec c none with
  | oof => exact absurd hr hne
  | raised s g =>
    rw [hr] at hst
    simp only [Res.steps, cons] at hst
    simp only [bytesContent, hr, Res.steps]
    refine ⟨by simp, by simp, by omega⟩
  | ok j s =>
    rw [hr] at hst
    simp only [Res.steps, cons] at hst
    have hm := wmono w (min j c.length) c.length (by omega)
    simp only [bytesContent, hr]
    by_cases hjb : j < bl
    · have hbl : bl ≠ 0 := by omega
      obtain ⟨l1, l2⟩ := reparse_ok tbl rec w a L k hrec c hc bl (c.length + 1) j s (by omega)
      simp only [hjb, hbl, if_true, if_false]
      cases hx : reparseLoop (fun b => rec b none) c bl (c.length + 1) j s with
      | oof => exact absurd hx l1
      | raised s' g' =>
        rw [hx] at l2
        simp only [Res.steps] at l2 ⊢
        refine ⟨by simp, by simp, by omega⟩
      | ok x s' =>
        rw [hx] at l2
        simp only [Res.steps] at l2 ⊢
        refine ⟨by simp, ?_, by omega⟩
        intro adv s'' h
        cases h; rfl
    · simp only [hjb, if_false, Res.steps]
      refine ⟨by simp, ?_, ?_⟩
      · intro adv s'' h
        cases h; rfl
      · split <;> omega

/-! ### one field, the field loop -/

theorem natOfLE_nil : natOfLE [] = 0 := rfl

theorem fieldStep_ok (tbl : Table) (rec : Bytes → Option Nat → Res) (w a L k : Nat) (hrec : RecOK tbl rec w a L k)
    (data : Bytes) (hw : (data.length + 1) * (1 + a) ≤ w) (i0 : Nat) (hL : data.length - i0 ≤ L)
    (i : Nat) (hi : i0 ≤ i) (ty : Ty) (hty : ∀ t, bareRef ty = some t → bareOK tbl k t = true) :
    StepOK w data.length i a (fieldStep rec data i ty) := by
  cases ty with
  | fixed kk fl =>
    simp only [fieldStep, StepOK]
    have := wmono w (min i data.length) (min (i + kk) data.length) (by omega)
    omega
  | sub sm =>
    have hal : Allowed tbl k sm := by
      cases sm with
      | none => trivial
      | some t => exact hty t rfl
    exact hrec.call data i (by omega) sm hal
  | vec elem =>
    have hal : Allowed tbl k elem := by
      cases elem with
      | none => trivial
      | some t => exact hty t rfl
    simp only [fieldStep]
    split
    · simp only [StepOK]
      have := wmono w (min i data.length) data.length (by omega)
      omega
    · rename_i hg
      generalize natOfLE (sl data i (i + 4)) = len at hg
      have hv := vecLoop_ok tbl rec w a L k hrec data elem hal i0 hL len (i + 4) 0 (by omega)
      -- the `len` iterations are paid by the 4 bytes of the length word
      have hlen : len * (1 + a) ≤ w := by
        have h1 : len * (1 + a) ≤ (data.length + 1) * (1 + a) := Nat.mul_le_mul_right _ (by omega)
        omega
      have hmin : min (i + 4) data.length = i + 4 := by omega
      have hmin' : min i data.length = i := by omega
      have hw4 : w * (i + 4) = w * i + w * 4 := Nat.mul_add _ _ _
      cases hr : vecLoop (fun b => rec b elem) data len (i + 4) 0 with
      | oof => rw [hr] at hv; exact hv
      | raised s g =>
        rw [hr] at hv
        simp only [StepOK, hmin, hmin'] at hv ⊢
        omega
      | ok i' s =>
        rw [hr] at hv
        simp only [StepOK, hmin, hmin'] at hv ⊢
        omega
  | bytes auto =>
    simp only [fieldStep]
    generalize hlong : (sl data i (i + 1) == [0xFE]) = long
    generalize hbl : (if long = true then natOfLE (sl data (i + 1) (i + 4)) else natOfLE (sl data i (i + 1))) = bl
    generalize hatt : (if long = true then 4 else 1) = att
    have hatt1 : 1 ≤ att := by subst hatt; split <;> omega
    generalize hend : (if ((bl + att) % 4 != 0) = true then i + att + bl + (4 - (bl + att) % 4) else i + att + bl) = iEnd
    have hend1 : i + att + bl ≤ iEnd := by subst hend; split <;> omega
    split
    · simp only [StepOK]
      have := wmono w (min i data.length) (min iEnd data.length) (by omega)
      omega
    · have hclen := sl_len data (i + att) (i + att + bl)
      have hcL : (sl data (i + att) (i + att + bl)).length ≤ L := by omega
      obtain ⟨b1, b2, b3⟩ := bytesContent_ok tbl rec w a L k hrec (sl data (i + att) (i + att + bl)) hcL bl iEnd
      generalize (sl data (i + att) (i + att + bl)).length = m at hclen b3
      generalize bytesContent (fun b => rec b none) (sl data (i + att) (i + att + bl)) bl iEnd = res at b1 b2 b3
      by_cases hin : i < data.length
      · -- the field consumes ≥ m + 1 real bytes; (m+1)(1+a) ≤ w
        have hm1 : (m + 1) * (1 + a) ≤ w := by
          have h1 : (m + 1) * (1 + a) ≤ (data.length + 1) * (1 + a) := Nat.mul_le_mul_right _ (by omega)
          omega
        have hb3 : res.steps ≤ a + w * m + (m + 1) * (1 + a) := by
          split at b3 <;> omega
        have hmin' : min i data.length = i := by omega
        have hwm : w * (i + (m + 1)) = w * i + (w * m + w) := by
          rw [Nat.mul_add, Nat.mul_add, Nat.mul_one]
        cases res with
        | oof => exact absurd rfl b1
        | raised s g =>
          simp only [Res.steps] at hb3
          simp only [StepOK, hmin']
          have := wmono w (i + (m + 1)) data.length (by omega)
          omega
        | ok adv s =>
          simp only [Res.steps] at hb3
          have hadv := b2 adv s rfl
          subst hadv
          simp only [StepOK, hmin']
          have := wmono w (i + (m + 1)) (min adv data.length) (by omega)
          exact ⟨by omega, by omega⟩
      · -- data exhausted: the length byte reads as 0, the content is empty, the inner call sees `b''`
        have hs1 : sl data i (i + 1) = [] := by
          apply List.eq_nil_of_length_eq_zero; rw [sl_len]; omega
        have hlf : long = false := by rw [← hlong, hs1]; rfl
        have hbl0 : bl = 0 := by rw [← hbl, hlf]; simp [hs1, natOfLE_nil]
        have hm0 : m = 0 := by omega
        have hb3 : res.steps ≤ a := by
          simp only [hbl0, hm0, if_true] at b3; omega
        cases res with
        | oof => exact absurd rfl b1
        | raised s g =>
          simp only [Res.steps] at hb3
          simp only [StepOK]
          have := wmono w (min i data.length) data.length (by omega)
          omega
        | ok adv s =>
          simp only [Res.steps] at hb3
          have hadv := b2 adv s rfl
          subst hadv
          simp only [StepOK]
          have := wmono w (min i data.length) (min adv data.length) (by omega)
          exact ⟨by omega, by omega⟩

theorem fieldsLoop_ok (tbl : Table) (rec : Bytes → Option Nat → Res) (w a L k : Nat) (hrec : RecOK tbl rec w a L k)
    (data : Bytes) (hw : (data.length + 1) * (1 + a) ≤ w) (i0 : Nat) (hL : data.length - i0 ≤ L) :
    ∀ (fs : List Field) (i : Nat) (fl : Option Int) (s0 : Nat), i0 ≤ i →
      (∀ fld ∈ fs, ∀ t, bareRef fld.ty = some t → bareOK tbl k t = true) →
      StepOK w data.length i (s0 + fs.length * (1 + a)) (fieldsLoop rec data fs i fl s0) := by
  intro fs
  induction fs with
  | nil =>
    intro i fl s0 _ _
    simp only [fieldsLoop, StepOK]
    omega
  | cons fld rest ih =>
    intro i fl s0 hi hfs
    have hrest : ∀ f ∈ rest, ∀ t, bareRef f.ty = some t → bareOK tbl k t = true :=
      fun f hf => hfs f (List.mem_cons_of_mem _ hf)
    simp only [fieldsLoop, List.length_cons]
    rw [Nat.succ_mul]
    split
    · simp only [StepOK]
      have := wmono w (min i data.length) data.length (by omega)
      omega
    · exact stepOK_weaken w data.length i i _ _ _ (ih i fl (s0 + 1) hi hrest) (Nat.le_refl _) (by omega)
    · have h1 := fieldStep_ok tbl rec w a L k hrec data hw i0 hL i hi fld.ty (hfs fld (List.mem_cons_self ..))
      cases hc : fieldStep rec data i fld.ty with
      | oof => rw [hc] at h1; exact h1
      | raised s g =>
        rw [hc] at h1
        simp only [StepOK] at h1 ⊢
        omega
      | ok i' s =>
        rw [hc] at h1
        simp only [StepOK] at h1
        simp only []
        exact stepOK_weaken w data.length i i' _ _ _ (ih i' _ (s0 + 1 + s) (by omega) hrest) h1.1 (by omega)

/-! ### table facts -/

theorem byId_short (tbl : Table) (h : Ids4 tbl) (data : Bytes) (hd : data.length < 4) : byId tbl (data.take 4) = none := by
  unfold byId
  rw [List.findIdx?_eq_none_iff]
  intro s hs
  have h4 := h s hs
  have : s.id ≠ data.take 4 := by
    intro he
    have : (data.take 4).length = s.id.length := by rw [he]
    simp only [List.length_take] at this
    omega
  simpa using this

theorem foldr_max_le (l : List Nat) (x : Nat) (hx : x ∈ l) : x ≤ l.foldr max 0 := by
  induction l with
  | nil => cases hx
  | cons y r ih =>
    simp only [List.foldr_cons]
    rcases List.mem_cons.mp hx with rfl | h
    · omega
    · have := ih h; omega

theorem fieldsOf_len (tbl : Table) (s : Nat) : (fieldsOf tbl s).length ≤ maxFields tbl := by
  unfold fieldsOf
  cases hs : tbl[s]? with
  | none => simp
  | some sc =>
    simp only [maxFields]
    apply foldr_max_le
    have hm : sc ∈ tbl := List.mem_of_getElem? hs
    exact List.mem_map.mpr ⟨sc, hm, rfl⟩

theorem bareOK_all (tbl : Table) (R : Nat) (h : NoBareCycle tbl R) (s : Nat) : bareOK tbl (R + 1) s = true := by
  cases hs : tbl[s]? with
  | none => simp [bareOK, fieldsOf, hs]
  | some sc =>
    have hm : sc ∈ tbl := List.mem_of_getElem? hs
    simp only [NoBareCycle, List.all_eq_true] at h
    have := h sc hm
    simp only [bareOK, fieldsOf, hs, List.all_eq_true]
    exact this

theorem bareOK_fields (tbl : Table) (k s : Nat) (h : bareOK tbl (k + 1) s = true) :
    ∀ fld ∈ fieldsOf tbl s, ∀ t, bareRef fld.ty = some t → bareOK tbl k t = true := by
  intro fld hf t ht
  simp only [bareOK, List.all_eq_true] at h
  have := h fld hf
  rw [ht] at this
  exact this

theorem bareFields_len (fs : List Field) : (bareFields fs).length = fs.length := by simp [bareFields]

theorem bareFields_refs (tbl : Table) (k : Nat) (fs : List Field)
    (h : ∀ fld ∈ fs, ∀ t, bareRef fld.ty = some t → bareOK tbl k t = true) :
    ∀ fld ∈ bareFields fs, ∀ t, bareRef fld.ty = some t → bareOK tbl k t = true := by
  intro fld hf t ht
  simp only [bareFields, List.mem_map] at hf
  obtain ⟨f0, hf0, rfl⟩ := hf
  apply h f0 hf0 t
  cases hty : f0.ty <;> simp only [hty] at ht ⊢ <;> first | exact ht | (simp [bareRef] at ht)

/-! ### one level, then all levels -/

/-- the invariant of depth `f`: a call whose need `(n/4)(R+2) + 1 + k` is within `f` meets `Spec` -/
def Inv (tbl : Table) (R N w f : Nat) : Prop :=
  (∀ b, b.length ≤ N → b.length / 4 * (R + 2) + 1 ≤ f → Spec w 1 (deser tbl f b none) b.length) ∧
  (∀ b s k, b.length ≤ N → k ≤ R + 1 → bareOK tbl k s = true → b.length / 4 * (R + 2) + 1 + k ≤ f →
      Spec w (tlA (maxFields tbl) k) (deser tbl f b (some s)) b.length)

theorem recOK_of_inv (tbl : Table) (hid : Ids4 tbl) (R N w f : Nat) (hinv : Inv tbl R N w f) (L k : Nat) (hLN : L ≤ N)
    (hk : k ≤ R + 1) (hf : L / 4 * (R + 2) + 1 + k ≤ f) :
    RecOK tbl (deser tbl f) w (tlA (maxFields tbl) k) L k := by
  constructor
  · intro b m hb hal
    have hdiv : b.length / 4 * (R + 2) ≤ L / 4 * (R + 2) := Nat.mul_le_mul_right _ (Nat.div_le_div_right hb)
    cases m with
    | none =>
      obtain ⟨h1, h2⟩ := hinv.1 b (by omega) (by omega)
      exact ⟨h1, by have := tlA_pos (maxFields tbl) k; omega⟩
    | some t => exact hinv.2 b t k (by omega) hk hal (by omega)
  · exact emptyZero_deser tbl (fun s hs he => by have := hid s hs; rw [he] at this; simp at this) f

theorem inv_succ (tbl : Table) (hid : Ids4 tbl) (R : Nat) (hc : NoBareCycle tbl R) (N w : Nat)
    (hw : (N + 1) * (1 + tlA (maxFields tbl) (R + 2)) ≤ w) (f : Nat) (hinv : Inv tbl R N w f) : Inv tbl R N w (f + 1) := by
  have hA1 : tlA (maxFields tbl) (R + 1) ≤ tlA (maxFields tbl) (R + 2) := tlA_step _ _
  -- `w` dominates `(n+1)(1+a)` for every level
  have hwk : ∀ (n k : Nat), n ≤ N → k ≤ R + 1 → (n + 1) * (1 + tlA (maxFields tbl) k) ≤ w := by
    intro n k hn hk
    have h1 := tlA_mono (maxFields tbl) (k := k) (k' := R + 2) (by omega)
    have : (n + 1) * (1 + tlA (maxFields tbl) k) ≤ (N + 1) * (1 + tlA (maxFields tbl) (R + 2)) :=
      Nat.mul_le_mul (by omega) (by omega)
    omega
  -- the field loop of a recognised boxed object is paid by its 4-byte id
  have hw2 : maxFields tbl * (1 + tlA (maxFields tbl) (R + 1)) ≤ w := by
    have h1 : 1 + maxFields tbl * (1 + tlA (maxFields tbl) (R + 1)) = tlA (maxFields tbl) (R + 2) := rfl
    have h2 : 1 * (1 + tlA (maxFields tbl) (R + 2)) ≤ (N + 1) * (1 + tlA (maxFields tbl) (R + 2)) :=
      Nat.mul_le_mul_right _ (by omega)
    omega
  constructor
  · -- boxed
    intro b hb hf
    simp only [deser, deserLevel]
    cases hs : byId tbl (b.take 4) with
    | none =>
      refine ⟨by simp, ?_⟩
      simp only [Res.steps, cons, Nat.min_self]
      omega
    | some s =>
      have h4 : 4 ≤ b.length := by
        apply Classical.byContradiction
        intro hlt
        rw [byId_short tbl hid b (by omega)] at hs
        cases hs
      have hrec := recOK_of_inv tbl hid R N w f hinv (b.length - 4) (R + 1) (by omega) (Nat.le_refl _) (by
        have : (b.length - 4) / 4 = b.length / 4 - 1 := by omega
        rw [this]
        have h1 : 1 ≤ b.length / 4 := by omega
        obtain ⟨q, hq⟩ : ∃ q, b.length / 4 = q + 1 := ⟨b.length / 4 - 1, by omega⟩
        rw [hq] at hf ⊢
        simp only [Nat.add_sub_cancel]
        rw [Nat.succ_mul] at hf
        omega)
      have hfl := fieldsLoop_ok tbl (deser tbl f) w _ _ _ hrec b (hwk b.length (R + 1) hb (Nat.le_refl _)) 4 (Nat.le_refl _)
        (fieldsOf tbl s) 4 none 1 (Nat.le_refl _) (fun fld _ t _ => bareOK_all tbl R hc t)
      have hM : (fieldsOf tbl s).length * (1 + tlA (maxFields tbl) (R + 1)) ≤ w :=
        Nat.le_trans (Nat.mul_le_mul_right _ (fieldsOf_len tbl s)) hw2
      have hmin : min 4 b.length = 4 := by omega
      simp only []
      cases hr : fieldsLoop (deser tbl f) b (fieldsOf tbl s) 4 none 1 with
      | oof => rw [hr] at hfl; exact hfl.elim
      | raised st g =>
        rw [hr] at hfl
        simp only [StepOK, hmin] at hfl
        refine ⟨by simp, ?_⟩
        simp only [Res.steps, cons]
        omega
      | ok adv st =>
        rw [hr] at hfl
        simp only [StepOK, hmin] at hfl
        refine ⟨by simp, ?_⟩
        simp only [Res.steps, cons]
        omega
  · -- bare
    intro b s k hb hk hok hf
    cases k with
    | zero => simp [bareOK] at hok
    | succ k' =>
      have hrec := recOK_of_inv tbl hid R N w f hinv b.length k' hb (by omega) (by omega)
      have hfl := fieldsLoop_ok tbl (deser tbl f) w _ _ _ hrec b (hwk b.length k' hb (by omega)) 0 (by omega)
        (bareFields (fieldsOf tbl s)) 0 none 1 (Nat.le_refl _) (bareFields_refs tbl k' _ (bareOK_fields tbl k' s hok))
      rw [bareFields_len] at hfl
      have hM : (fieldsOf tbl s).length * (1 + tlA (maxFields tbl) k') ≤ maxFields tbl * (1 + tlA (maxFields tbl) k') :=
        Nat.mul_le_mul_right _ (fieldsOf_len tbl s)
      have hA : tlA (maxFields tbl) (k' + 1) = 1 + maxFields tbl * (1 + tlA (maxFields tbl) k') := rfl
      simp only [deser, deserLevel]
      cases hr : fieldsLoop (deser tbl f) b (bareFields (fieldsOf tbl s)) 0 none 1 with
      | oof => rw [hr] at hfl; exact hfl.elim
      | raised st g =>
        rw [hr] at hfl
        simp only [StepOK, Nat.zero_min, Nat.mul_zero] at hfl
        refine ⟨by simp, ?_⟩
        simp only [Res.steps, cons]
        omega
      | ok adv st =>
        rw [hr] at hfl
        simp only [StepOK, Nat.zero_min, Nat.mul_zero] at hfl
        refine ⟨by simp, ?_⟩
        simp only [Res.steps, cons]
        omega

theorem inv_all (tbl : Table) (hid : Ids4 tbl) (R : Nat) (hc : NoBareCycle tbl R) (N w : Nat)
    (hw : (N + 1) * (1 + tlA (maxFields tbl) (R + 2)) ≤ w) : ∀ f, Inv tbl R N w f := by
  intro f
  induction f with
  | zero =>
    constructor
    · intro b _ h; omega
    · intro b s k _ _ _ h; omega
  | succ n ih => exact inv_succ tbl hid R hc N w hw n ih

/-- total work of `deserialize`: with depth fuel `tlFuel R len` (or more) the model never runs out of fuel and its step
count is at most `tlK tbl R · (len+1)²`, for every table without bare cycles, every byte string, boxed or bare start -/
theorem deser_total (tbl : Table) (hid : Ids4 tbl) (R : Nat) (hc : NoBareCycle tbl R) (data : Bytes) (mode : Option Nat)
    (f : Nat) (hf : tlFuel R data.length ≤ f) :
    deser tbl f data mode ≠ .oof ∧ (deser tbl f data mode).steps ≤ tlK tbl R * ((data.length + 1) * (data.length + 1)) := by
  have hinv := inv_all tbl hid R hc data.length ((data.length + 1) * (1 + tlA (maxFields tbl) (R + 2))) (Nat.le_refl _) f
  have hfu : data.length / 4 * (R + 2) + 1 + (R + 1) ≤ f := by
    simp only [tlFuel] at hf
    rw [Nat.succ_mul] at hf
    omega
  have hA1 : tlA (maxFields tbl) (R + 1) ≤ tlA (maxFields tbl) (R + 2) := tlA_step _ _
  have key : ∀ r : Res, Spec ((data.length + 1) * (1 + tlA (maxFields tbl) (R + 2))) (tlA (maxFields tbl) (R + 1)) r data.length →
      r ≠ .oof ∧ r.steps ≤ tlK tbl R * ((data.length + 1) * (data.length + 1)) := by
    intro r ⟨h1, h2⟩
    refine ⟨h1, ?_⟩
    have hc' : cons r data.length ≤ data.length := by
      cases r <;> simp only [cons] <;> omega
    have h3 := wmono ((data.length + 1) * (1 + tlA (maxFields tbl) (R + 2))) _ _ hc'
    simp only [tlK]
    generalize tlA (maxFields tbl) (R + 2) = A2 at *
    generalize tlA (maxFields tbl) (R + 1) = A1 at *
    generalize data.length = n at *
    have e1 : (n + 1) * (1 + A2) * n + (n + 1) * (1 + A2) = (1 + A2) * ((n + 1) * (n + 1)) := by
      rw [← Nat.mul_succ, Nat.mul_comm (n + 1) (1 + A2), Nat.mul_assoc]
    have e2 : 1 + A2 ≤ (n + 1) * (1 + A2) := Nat.le_mul_of_pos_left _ (by omega)
    omega
  cases mode with
  | none =>
    obtain ⟨h1, h2⟩ := hinv.1 data (Nat.le_refl _) (by omega)
    exact key _ ⟨h1, by have := tlA_pos (maxFields tbl) (R + 1); omega⟩
  | some s =>
    exact key _ (hinv.2 data s (R + 1) (Nat.le_refl _) (Nat.le_refl _) (bareOK_all tbl R hc s) hfu)

/-- all pieces but the last have length `k`, the last at most `k`. -/
def uniform {α} (k : Nat) : List (List α) → Bool
  | [] => true
  | [c] => Nat.ble c.length k
  | c :: cs => Nat.beq c.length k && uniform k cs

theorem getElem?_flatten_uniform {α} {k : Nat} (hk : 0 < k) (css : List (List α)) (h : uniform k css = true) (i : Nat) :
    css.flatten[i]? = (css[i / k]?).bind (·[i % k]?) := by
  induction css generalizing i with
  | nil => simp
  | cons c cs ih =>
    by_cases hi : i < k
    · rw [Nat.div_eq_of_lt hi, Nat.mod_eq_of_lt hi]
      cases cs with
      | nil => simp
      | cons d ds =>
        have hc : c.length = k := Nat.eq_of_beq_eq_true (Bool.and_eq_true_iff.mp h).1
        simp [List.getElem?_append_left (hc ▸ hi)]
    · have hik : k ≤ i := Nat.le_of_not_lt hi
      cases cs with
      | nil =>
        have hc : c.length ≤ k := Nat.le_of_ble_eq_true h
        obtain ⟨j, hj⟩ := Nat.exists_eq_succ_of_ne_zero (Nat.ne_of_gt (Nat.div_pos hik hk))
        simp [List.getElem?_eq_none (Nat.le_trans hc hik), hj]
      | cons d ds =>
        have hc : c.length = k := Nat.eq_of_beq_eq_true (Bool.and_eq_true_iff.mp h).1
        have hd : i / k = (i - k) / k + 1 := by
          conv => lhs; rw [← Nat.sub_add_cancel hik]
          exact Nat.add_div_right _ hk
        have hm : i % k = (i - k) % k := by
          conv => lhs; rw [← Nat.sub_add_cancel hik]
          exact Nat.add_mod_right _ _
        rw [List.flatten_cons, List.getElem?_append_right (hc ▸ hik), hc, ih (Bool.and_eq_true_iff.mp h).2, hd, hm]
        rfl

def bareOKBy (look : Nat → Option Schema) : Nat → Nat → Bool
  | 0, _ => false
  | k+1, s =>
    match look s with
    | some sc => sc.fields.all (fun fld => match bareRef fld.ty with | none => true | some t => bareOKBy look k t)
    | none => true

theorem bareOKBy_eq (tbl : Table) (look : Nat → Option Schema) (h : ∀ i, look i = tbl[i]?) (k s : Nat) :
    bareOKBy look k s = bareOK tbl k s := by
  induction k generalizing s with
  | zero => rfl
  | succ k ih =>
    simp only [bareOKBy, bareOK, fieldsOf, h, ih]
    cases tbl[s]? <;> rfl

theorem noBareCycle_flatten (css : List (List Schema)) (k : Nat) (hk : 0 < k) (hu : uniform k css = true) (R : Nat)
    (h : css.all (fun cs => cs.all fun sc => sc.fields.all fun fld =>
      match bareRef fld.ty with
      | none => true
      | some t => bareOKBy (fun i => (css[i / k]?).bind (·[i % k]?)) R t) = true) : NoBareCycle css.flatten R := by
  unfold NoBareCycle
  rw [List.all_flatten]
  simp only [bareOKBy_eq css.flatten _ (fun i => (getElem?_flatten_uniform hk css hu i).symm)] at h
  exact h

end TonVerif.Proofs.CostTl
