/-
Generation-independent lemmas for the function translator (harness/translate/pyfunc.py): loops (`List.foldlM` in `Option`)
against the `foldl` forms of the hand models, loops whose state carries extra (dead) components, and the two loops of
`check_block_signatures` with the loop BODY as a parameter (the regenerated body is found by unification, never written here).
Nothing here mentions a `Generated.*` definition: a source change can never break this file.
-/
import TonVerif.Model.Sig
import TonVerif.Proofs.SrcSim

namespace TonVerif.Proofs.SrcFunc
open TonVerif

/-- a loop over an encoded state: if every step commutes with the encoding, so does the loop -/
theorem foldlM_sim {σ τ α : Type} (enc : τ → σ) (f : σ → α → Option σ) (g : τ → α → Option τ)
    (h : ∀ t x, f (enc t) x = (g t x).map enc) (xs : List α) (t : τ) :
    List.foldlM f (enc t) xs = (List.foldlM g t xs).map enc :=
  (SrcBytes.Sim.foldlM (R := fun s t => s = enc t) xs rfl fun x _ _ t e => by subst e; exact .of_map_eq (h t x)).to_eq

/-- a loop whose body never raises is a `foldl` -/
theorem foldlM_pure {σ α : Type} (f : σ → α → σ) (xs : List α) (s : σ) :
    List.foldlM (m := Option) (fun s x => some (f s x)) s xs = some (xs.foldl f s) :=
  List.foldlM_pure

/-- a `foldl` over an `Option` state whose step keeps `none` is the monadic loop -/
theorem foldl_absorb {σ α : Type} (g : Option σ → α → Option σ) (hn : ∀ x, g none x = none) (xs : List α) (s : Option σ) :
    xs.foldl g s = s.bind fun t => List.foldlM (fun t x => g (some t) x) t xs := by
  induction xs generalizing s with
  | nil => cases s <;> simp
  | cons x xs ih =>
    simp only [List.foldl_cons, ih]
    cases s with
    | none => simp [hn]
    | some t => simp [List.foldlM_cons]

namespace Sig
open TonVerif.Model.Sig

theorem sigStep_none (verify : Bytes → Bytes → Bytes → Bool) (map : NodeMap) (msg : Bytes) (x : SigEntry) :
    sigStep verify map msg none x = none := rfl

/-- first loop of `check_block_signatures`, state `(i, node_map, total_weight)`: any body that adds the weight and binds the node id -/
theorem nodes_loop (H : Bytes → Bytes) (f : Nat × NodeMap × Nat → Validator → Option (Nat × NodeMap × Nat))
    (hf : ∀ i m t v, f (i, m, t) v = some (i + 1, (nodeIdShort H v.key, v) :: m, t + v.weight))
    (nodes : List Validator) (i : Nat) (m : NodeMap) (t : Nat) :
    List.foldlM f (i, m, t) nodes =
      some (i + nodes.length, (nodes.foldl (nodeStep H) (t, m)).2, (nodes.foldl (nodeStep H) (t, m)).1) := by
  induction nodes generalizing i m t with
  | nil => simp
  | cons v vs ih =>
    have : i + 1 + vs.length = i + (vs.length + 1) := by omega
    simp [hf, ih, nodeStep, this]

/-- second loop, state `(i, seen, signed_weight)`: any body that is `sigStep` on `(seen, signed_weight)` and counts `i` -/
theorem sigs_loop (verify : Bytes → Bytes → Bytes → Bool) (map : NodeMap) (msg : Bytes)
    (f : Nat × List Bytes × Nat → SigEntry → Option (Nat × List Bytes × Nat))
    (hf : ∀ i seen signed sig, f (i, seen, signed) sig =
      (sigStep verify map msg (some (seen, signed)) sig).map fun r => (i + 1, r.1, r.2))
    (sigs : List SigEntry) (i : Nat) (seen : List Bytes) (signed : Nat) :
    List.foldlM f (i, seen, signed) sigs =
      (sigs.foldl (sigStep verify map msg) (some (seen, signed))).map fun r => (i + sigs.length, r.1, r.2) := by
  induction sigs generalizing i seen signed with
  | nil => simp
  | cons s ss ih =>
    simp only [List.foldlM_cons, hf, List.foldl_cons, List.length_cons]
    cases hs : sigStep verify map msg (some (seen, signed)) s with
    | none =>
      rw [foldl_absorb _ (sigStep_none verify map msg)]; simp
    | some r =>
      obtain ⟨seen', signed'⟩ := r
      have : i + 1 + ss.length = i + (ss.length + 1) := by omega
      simp [ih, this]

/-- the verdict of the hand model without `match` (so that rewriting reaches every copy of it) -/
theorem check_eq_getD (H : Bytes → Bytes) (verify : Bytes → Bytes → Bytes → Bool) (nodes : List Validator) (sigs : List SigEntry) (blk : Blk) :
    checkBlockSignatures H verify nodes sigs blk =
      ((runSigs verify (buildNodes H nodes).2 (toSign blk) sigs).map fun r => decide (r.2 * 3 > (buildNodes H nodes).1 * 2)).getD false := by
  unfold checkBlockSignatures
  rcases buildNodes H nodes with ⟨t, m⟩
  simp only []
  cases runSigs verify m (toSign blk) sigs with
  | none => rfl
  | some r => cases r; rfl

/-- what follows the second loop: any continuation that applies the strict two-thirds test to the accumulated weights -/
theorem verdict_eq (r : SigState) (n total : Nat) (k : Nat × List Bytes × Nat → Option Unit)
    (hk : ∀ i seen signed, k (i, seen, signed) = if signed * 3 > total * 2 then some () else none) :
    ((r.map fun r => (n, r.1, r.2)).bind k) =
      if ((r.map fun r => decide (r.2 * 3 > total * 2)).getD false) = true then some () else none := by
  cases r with
  | none => rfl
  | some r => simp [hk]

end Sig
end TonVerif.Proofs.SrcFunc
