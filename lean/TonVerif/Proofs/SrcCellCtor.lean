/-
The regenerated Cell constructor (`Generated/CellCtor.lean`, re-translated from cell.py on every run by
harness/translate/cellctor.py + pyobj.py) equals the hand model `Model.construct`, for ALL inputs.
Generation dependent: a change of the Python source changes the definitions these proofs unfold.
The proofs case-split on the decisions of the hand model and let `simp` evaluate the regenerated term under them, so
they depend on what the source computes, not on how it spells it.
-/
import TonVerif.Generated.CellCtor
import TonVerif.Model.CellCtorView
import TonVerif.Proofs.SrcObj
import TonVerif.Proofs.SrcArith

namespace TonVerif.Proofs.SrcCellCtor
open TonVerif TonVerif.Model TonVerif.Generated TonVerif.Generated.CellCtor TonVerif.Proofs.SrcObj TonVerif.Proofs.SrcArith

set_option linter.unusedSimpArgs false

/-! ### the regenerated LevelMask methods (Generated/LevelMask.lean) are the hand model's -/

theorem lm_hashIndex (m : Nat) : lmHashIndex m = popcount m := by
  simp only [lmHashIndex, py_popcount_eq]

theorem lm_level (m : Nat) : lmLevel m = bitLength m := by
  simp only [lmLevel, py_bitLength_eq]

theorem lm_apply (m l : Nat) : lmApply m l = maskApply m l := by
  simp only [lmApply, maskApply, shiftLeft_lit, Nat.one_mul, and_mask]

theorem lm_isSignificant (m l : Nat) : lmIsSignificant m l = isSignificant m l := by
  rw [Bool.eq_iff_iff]
  simp only [lmIsSignificant, isSignificant, and_one, decide_eq_true_eq, Bool.or_eq_true, beq_iff_eq, bne_iff_ne]

/-! ### the small methods -/

/-- `Cell.get_data_bytes` never raises and returns the model's padded data -/
theorem get_data_bytes_eq (bits : Bits) : get_data_bytes (self_bits := bits) = some (dataBytes bits) := by
  unfold get_data_bytes dataBytes
  by_cases h : bits.length % 8 = 0 <;> simp [h, bitsToBytes_fill]

/-- `Cell.get_descriptors(mask)` = the model's two descriptor bytes (`none` = `to_bytes(1)` overflows) -/
theorem get_descriptors_eq (mask : Nat) (refs : List CellInfo) (exotic : Bool) (bits : Bits) :
    get_descriptors mask (self_refs := refs) (self_is_exotic := exotic) (self_bits := bits) =
      descriptors refs.length exotic bits.length mask := by
  unfold get_descriptors get_refs_descriptor get_bits_descriptor descriptors
  cases exotic <;> simp <;> first | rfl | grind

/-- `child.get_depth(l)` on a constructed cell = the model's `getDepth` -/
theorem get_depth_eq (l : Nat) (c : CellInfo) :
    get_depth l (self_level_mask := c.mask) (self_type_ := c.kind) (self_bits := c.bits) (self__depths := c.depths) = c.getDepth l := by
  unfold get_depth CellInfo.getDepth
  simp only [lm_hashIndex, lm_apply, get_data_bytes_eq, hashIndexAt, kPruned, Py.slice, pySlice]
  have e : ∀ p h : Nat, 2 + 32 * p + h * 2 = 2 + 32 * p + 2 * h := by intro p h; omega
  by_cases hk : c.kind = 1 <;> by_cases hh : popcount (maskApply c.mask l) = popcount c.mask <;> simp [hk, hh, e]

/-- `child.get_hash(l)` on a constructed cell = the model's `getHash` -/
theorem get_hash_eq (l : Nat) (c : CellInfo) :
    get_hash l (self_level_mask := c.mask) (self_type_ := c.kind) (self_bits := c.bits) (self__hashes := c.hashes) = c.getHash l := by
  unfold get_hash CellInfo.getHash
  simp only [lm_hashIndex, lm_apply, get_data_bytes_eq, hashIndexAt, kPruned, Py.slice, pySlice]
  have e : ∀ h : Nat, 2 + h * 32 = 2 + 32 * h ∧ 2 + (h + 1) * 32 = 2 + 32 * (h + 1) := by intro h; omega
  by_cases hk : c.kind = 1 <;> by_cases hh : popcount (maskApply c.mask l) = popcount c.mask <;> simp [hk, hh, e]

/-- `Cell.resolve_mask` = the model's `resolveMask` -/
theorem resolve_mask_eq (kind : Int) (bits : Bits) (refs : List CellInfo) :
    resolve_mask (self_type_ := kind) (self_refs := refs) (self_bits := bits) = resolveMask kind bits refs := by
  unfold resolve_mask resolveMask
  simp only [kOrdinary, kPruned, kMerkleProof, kMerkleUpdate, kLibrary, intOfBits_eq, Py.slice, pySlice]
  by_cases h1 : kind = -1
  · simp [h1, foldlM_pure]
  by_cases h2 : kind = 1
  · cases refs <;> simp [h2]
  by_cases h3 : kind = 3
  · cases refs <;> simp [h3]
  by_cases h4 : kind = 4
  · rcases refs with _ | ⟨a, _ | ⟨b, t⟩⟩ <;> simp [h4]
  by_cases h5 : kind = 2 <;> simp [h1, h2, h3, h4, h5]

/-- `self.is_exotic` as the constructor sets it is the model's exotic flag -/
theorem exotic_flag (kind : Int) : decide (kind ≠ -1) = (kind != kOrdinary) := by
  by_cases h : kind = -1 <;> simp [h, kOrdinary]

/-- the loop state `(hash_index, self._depths, self._hashes)` of `calculate_hashes` -/
def encSt (st : HashState) : Nat × List Nat × List Bytes := (st.hashIndex, st.depths, st.hashes)

theorem calculate_hashes_eq (H : Bytes → Bytes) (mask : Nat) (kind : Int) (refs : List CellInfo) (bits : Bits) :
    calculate_hashes H (self_level_mask := mask) (self_type_ := kind) (self__depths := []) (self__hashes := []) (self_refs := refs)
        (self_is_exotic := decide (kind ≠ -1)) (self_bits := bits) =
      ((List.range (bitLength mask + 1)).foldlM
          (hashStep H kind bits refs mask (popcount mask + 1 - (if kind == kPruned then 1 else popcount mask + 1))) ⟨0, [], []⟩).map
        (fun st => (st.depths, st.hashes)) := by
  unfold calculate_hashes
  simp only [lm_hashIndex, lm_level, lm_apply, lm_isSignificant, get_descriptors_eq, get_data_bytes_eq, get_depth_eq, get_hash_eq,
    Nat.sub_zero, ← List.range_eq_range', Option.bind_some]
  -- the offset: an exact Python int in the source, a truncated Nat difference in the model; they agree
  generalize hoff : (popcount mask + 1 - if (kind == kPruned) = true then 1 else popcount mask + 1) = off
  have hx : ∀ {β : Type} (k : Nat → Option β), ((if kind = 1 then some 1 else some (popcount mask + 1)).bind k)
      = k (if kind = 1 then 1 else popcount mask + 1) := by
    intro β k; split <;> rfl
  rw [hx]
  have hoffI : ((popcount mask + 1 : Nat) : Int) - ((if kind = 1 then 1 else popcount mask + 1 : Nat) : Int) = (off : Int) := by
    subst hoff; simp only [kPruned, beq_iff_eq]; split <;> omega
  simp only [hoffI]
  rw [show ((0 : Nat), ([] : List Nat), ([] : List Bytes)) = encSt ⟨0, [], []⟩ from rfl]
  have hoff0 : kind = 1 ∨ off = 0 := by
    by_cases hk : kind = 1
    · exact Or.inl hk
    · right; subst hoff; simp [kPruned, hk]
  -- the step only has to agree on reachable states: `hash_index = 0` exactly before level 0 (`levelInv`)
  rw [foldlM_sim_range encSt _ (hashStep H kind bits refs mask off) levelInv (levelInv_step H kind bits refs mask off) ?step _ _
    (Or.inl ⟨rfl, rfl⟩)]
  · cases List.foldlM (hashStep H kind bits refs mask off) ⟨0, [], []⟩ (List.range (bitLength mask + 1)) <;> simp [encSt]
  case step =>
    rintro li ⟨hi, hs, ds⟩ hP
    have hP' : (li = 0 ∧ hi = 0) ∨ (0 < li ∧ 0 < hi) := hP
    rw [CellSpec.hashStep_eq]
    simp only [encSt]
    by_cases hsig : isSignificant mask li = true
    case neg => simp [hsig, encSt]
    by_cases hlt : hi < off
    case pos => simp [hsig, hlt, encSt]
    simp only [hsig, hlt, exotic_flag, Int.ofNat_lt, not_true_eq_false, Bool.not_true, Bool.false_eq_true, if_false]
    cases descriptors refs.length (kind != kOrdinary) (List.length bits) (maskApply mask li) with
    | none => simp
    | some dsc =>
    simp only [Option.bind_some]
    -- first what is hashed in front (descriptors, then the data or the previous hash), then the children
    refine bind_sim encSt (dsc ++ ·) ?pay ?tail
    case pay =>
      -- `omega` closes the combinations that contradict the invariant before the regenerated `raise` tests are looked at
      by_cases heq : hi = off
      · by_cases h0 : li = 0 <;> by_cases hp : kind = 1 <;>
          first | (exfalso; omega) | simp [heq, h0, hp, kPruned]
      · have heq' : ¬ (hi : Int) = off := by omega
        rw [getI_nonneg hs _ (hi - off - 1) (by omega)]
        by_cases h0 : li = 0 <;> by_cases hp : kind = 1 <;>
          first | (exfalso; omega) | simp [heq, heq', h0, hp, kPruned]
        cases hs[hi - off - 1]? <;> rfl
    case tail =>
      intro p
      generalize dsc ++ p = x
      -- Merkle cells read their children one level up
      have hM : (kind = 3 ∨ kind = 4) = (isMerkle kind = true) := by simp [isMerkle, kMerkleProof, kMerkleUpdate]
      simp only [hM, CellSpec.levelTail]
      generalize hl : (if isMerkle kind = true then li + 1 else li) = lvl
      rw [foldlM_congr _ (depthStep (fun r => r.getDepth lvl)) (by
            rintro ⟨d, h⟩ r
            subst hl
            simp only [depthStep]
            split <;> simp only [Option.bind_assoc, Option.bind_some] <;>
              exact Option.bind_congr fun d' _ => Option.bind_congr fun db _ => by split <;> rfl), depthLoop]
      cases List.mapM (fun r => CellInfo.getDepth r lvl) refs <;> simp only [Option.bind_some, Option.bind_none, Option.map_none]
      rename_i rd
      cases List.mapM (toBytesBE? 2) rd <;> simp only [Option.bind_some, Option.bind_none, Option.map_none]
      generalize List.foldl (fun d x => if x > d then x else d) 0 rd = d0
      cases (if refs.length > 0 then if d0 + 1 ≥ 1024 then none else some (d0 + 1) else some d0) <;>
        simp only [Option.bind_some, Option.bind_none, Option.map_none]
      rw [foldlM_congr _ (hashFeed (fun r => r.getHash lvl)) (by
            intro h r
            subst hl
            simp only [hashFeed]
            split <;> rfl), hashLoop]
      cases List.mapM (fun r => CellInfo.getHash r lvl) refs <;> simp [encSt, List.append_assoc]

/-- THE TIE: the regenerated `Cell.__init__` equals the hand model's constructor, for ALL cell types, bit strings and lists of
child infos: the same decision to raise, and on success the same level mask, per-level hashes and depths, `_hash` = the model's
`CellInfo.hash`, `_descriptors` = the model's descriptor bytes, `_data_bytes` = the model's padded data. -/
theorem src_construct_eq_model (H : Bytes → Bytes) (kind : Int) (bits : Bits) (refs : List CellInfo) :
    init H bits refs kind = (construct H kind bits refs).map CtorOut.ofModel := by
  unfold init NullCell_init construct
  simp only [Option.bind_some, resolve_mask_eq]
  cases resolveMask kind bits refs with
  | none => simp
  | some mask =>
    simp only [Option.bind_some, calculate_hashes_eq, get_descriptors_eq, get_data_bytes_eq, getI_neg_one, getI_length_sub_one, Option.bind_eq_bind, Option.pure_def]
    rw [exotic_flag]
    generalize List.foldlM (hashStep H kind bits refs mask _) _ _ = r
    cases r with
    | none => simp
    | some st =>
      cases hd : descriptors refs.length (kind != kOrdinary) bits.length mask with
      | none => simp
      | some d =>
        cases hl : st.hashes.getLast? with
        | none => simp [hl]
        | some h => simp [CtorOut.ofModel, CellInfo.hash, hd, hl]

/-- the `CellInfo` of the regenerated constructor's result is the hand model's result -/
theorem src_construct_info (H : Bytes → Bytes) (kind : Int) (bits : Bits) (refs : List CellInfo) :
    (init H bits refs kind).map CtorOut.toInfo = construct H kind bits refs := by
  rw [src_construct_eq_model]
  cases construct H kind bits refs <;> simp [CtorOut.ofModel, CtorOut.toInfo]

/-! ### whole trees: the regenerated constructor applied bottom-up -/

mutual
  /-- what the REGENERATED `Cell.__init__` computes for a tree of cells, children first (`none` = some constructor raises) -/
  def srcInfo (H : Bytes → Bytes) : Cell → Option CellInfo
    | .mk kind bits refs => do
      let rs ← srcInfos H refs
      (init H bits rs kind).map CtorOut.toInfo
  def srcInfos (H : Bytes → Bytes) : List Cell → Option (List CellInfo)
    | [] => some []
    | c :: cs => do
      let i ← srcInfo H c
      let is ← srcInfos H cs
      pure (i :: is)
end

mutual
  theorem srcInfo_eq (H : Bytes → Bytes) : ∀ c : Cell, srcInfo H c = Cell.info H c
    | .mk kind bits refs => by
      rw [srcInfo, Cell.info, srcInfos_eq H refs]
      simp only [src_construct_info]
  theorem srcInfos_eq (H : Bytes → Bytes) : ∀ cs : List Cell, srcInfos H cs = Cell.infos H cs
    | [] => by rw [srcInfos, Cell.infos]
    | c :: cs => by rw [srcInfos, Cell.infos, srcInfo_eq H c, srcInfos_eq H cs]
end

end TonVerif.Proofs.SrcCellCtor
