/-
Semantic layer, first half: every cell object built (`Cell.build`) from a spec-valid (`CellSpec.TreeWF`), typed
(`Typed`) tree satisfies `SemOK`, and the cell it denotes (`scellOf`) is the tree's (`toSCell`).

Node level (`node_sem`): on top of C02's `construct_agrees`, the constructed info's cached representation hash
`_hashes[-1]` is the spec's hash at level 3 (`CellSpec.construct_hash`), the spec mask is ≤ 7 and the spec values are `Stable`.
Tree level (`build_sem` / `builds_sem`): mutual induction over `Cell.build` / `Cell.builds`.
-/
import TonVerif.Proofs.BocSem
import TonVerif.Proofs.OrdCell

namespace TonVerif.Proofs.BocSem
open TonVerif TonVerif.Model TonVerif.Spec.Boc TonVerif.Proofs.BocOrder TonVerif.Proofs.BocEmit
open TonVerif.Proofs.CellSpec

set_option linter.unusedSimpArgs false

/-! ### one node -/

theorem bitLength_le3 (m : Nat) (h : m ≤ 7) : bitLength m ≤ 3 := (bitLength_le_iff m 3).2 (by omega)

/-- the spec values of a node with level mask ≤ 7 do not change above level 3 (a fortiori above level 4) -/
theorem node_stable (H : Bytes → Bytes) (k : Spec.Kind) (bits : Bits) (kss : List Spec.SInfo)
    (hm : Spec.nodeMask k bits kss ≤ 7) : Stable (Spec.node H k bits kss) := by
  obtain ⟨sh, sd⟩ := node_stepwise H k bits kss
  have hb : bitLength (Spec.node H k bits kss).mask ≤ 3 := by rw [node_mask]; exact bitLength_le3 _ hm
  intro l
  by_cases hl : l ≤ 4
  · rw [Nat.min_eq_left hl]; exact ⟨rfl, rfl⟩
  · rw [Nat.min_eq_right (by omega)]
    exact ⟨sh.ge (by omega) (by omega), sd.ge (by omega) (by omega)⟩

/-- everything the semantic layer needs of ONE constructed node over children that agree with their specs -/
theorem node_sem (H : Bytes → Bytes) (k : Spec.Kind) (bits : Bits)
    (kis : List CellInfo) (kss : List Spec.SInfo)
    (hk : AllAgree kis kss) (wf : NodeWF H k bits kss) (i : CellInfo)
    (hc : construct H (kindCode k) bits kis = some i) :
    Agrees i (Spec.node H k bits kss) ∧ i.kind = kindCode k ∧ i.bits = bits ∧
      (Spec.node H k bits kss).mask ≤ 7 ∧ Stable (Spec.node H k bits kss) ∧
      i.hash = (Spec.node H k bits kss).hashAt 3 := by
  obtain ⟨i', hc', hag, hkind, hbits, _⟩ := construct_agrees H k bits kis kss hk wf
  rw [hc] at hc'
  cases hc'
  have hm := nodeWF_mask_le wf
  exact ⟨hag, hkind, hbits, by rw [node_mask]; exact hm, node_stable H k bits kss hm, construct_hash H k bits kis kss hk wf i hc⟩

/-! ### trees -/

theorem kindD_of {kind : Int} {k : Spec.Kind} (h : kindOf kind = some k) : kindD kind = k := by
  simp [kindD, h]

mutual
  /-- the invariant of `Cell.build` on a spec-valid, typed tree: the object caches the model info of the tree, its
  spec values are the spec values of the tree and agree with the cached info, it denotes the tree, and every cell
  object below (and including) it is `SemOK` -/
  theorem build_sem (H : Bytes → Bytes) : ∀ (t : Cell) (p : PCell), TreeWF H t → Typed t → Cell.build H t = some p →
      Cell.info H t = some p.info ∧ specInfo H t = some (sinfoOf H p) ∧ Agrees p.info (sinfoOf H p) ∧
      scellOf p = toSCell t ∧ ∀ c ∈ subcells p, SemOK H c
    | .mk kind bits refs, p, wf, ty, hb => by
      rw [TreeWF] at wf
      obtain ⟨wfs, k, ks, hkind, hks, nwf⟩ := wf
      rw [Typed] at ty
      obtain ⟨rs, i, hrs, hi, rfl⟩ := build_some hb
      obtain ⟨ih1, ih2, ih3, ih4, ih5⟩ := builds_sem H refs rs wfs ty.2 hrs
      have hkseq : ks = sinfosOf H rs := by rw [hks] at ih2; exact Option.some.inj ih2
      subst hkseq
      have hkc := kindCode_of_kindOf hkind
      have hi' : construct H (kindCode k) bits (rs.map PCell.info) = some i := by rw [hkc]; exact hi
      obtain ⟨hag, hik, hib, hmle, hst, hh⟩ := node_sem H k bits _ _ ih3 nwf i hi'
      have hik' : i.kind = kind := by rw [hik, hkc]
      have hs : sinfoOf H (.mk i rs) = Spec.node H k bits (sinfosOf H rs) := by
        rw [sinfoOf, hik', kindD_of hkind, hib]
      refine ⟨?_, ?_, ?_, ?_, ?_⟩
      · simp [Cell.info, ih1, hi, PCell.info]
      · simp [specInfo, hkind, hks, hs]
      · rw [hs]; exact hag
      · rw [scellOf, toSCell, hik', hib, ih4]
      · intro c hc
        rw [subcells] at hc
        rcases List.mem_cons.1 hc with rfl | hc
        · refine ⟨⟨k, ?_⟩, ?_, ?_, ?_, ?_, ?_⟩
          · show kindOf i.kind = some k
            rw [hik']; exact hkind
          · show i.kind ≠ kOrdinary → 8 ≤ i.bits.length ∧ (natOfBits (i.bits.take 8) : Int) = i.kind
            rw [hik', hib]; exact ty.1
          · rw [hs]; exact hag.1
          · rw [hs]; exact hmle
          · show natOfBE i.hash = _
            rw [hs, hh]
          · rw [hs]; exact hst
        · exact ih5 c hc
  theorem builds_sem (H : Bytes → Bytes) : ∀ (ts : List Cell) (ps : List PCell), TreesWF H ts → TypedL ts →
      Cell.builds H ts = some ps →
      Cell.infos H ts = some (ps.map PCell.info) ∧ specInfos H ts = some (sinfosOf H ps) ∧
      AllAgree (ps.map PCell.info) (sinfosOf H ps) ∧ scellsOf ps = toSCells ts ∧ ∀ c ∈ subcellsList ps, SemOK H c
    | [], ps, _, _, hb => by
      rw [Cell.builds] at hb; cases hb
      refine ⟨by simp [Cell.infos], by simp [specInfos, sinfosOf], by simp [sinfosOf, AllAgree], by simp [scellsOf, toSCells], ?_⟩
      intro c hc; simp [subcellsList] at hc
    | t :: ts, ps, wf, ty, hb => by
      rw [TreesWF] at wf
      rw [TypedL] at ty
      obtain ⟨p, ps', hp, hps, rfl⟩ := builds_cons_some hb
      obtain ⟨a1, a2, a3, a4, a5⟩ := build_sem H t p wf.1 ty.1 hp
      obtain ⟨b1, b2, b3, b4, b5⟩ := builds_sem H ts ps' wf.2 ty.2 hps
      refine ⟨by simp [Cell.infos, a1, b1], by simp [specInfos, sinfosOf, a2, b2], ?_, ?_, ?_⟩
      · rw [sinfosOf]; exact ⟨a3, b3⟩
      · rw [scellsOf, toSCells, a4, b4]
      · intro c hc
        rw [subcellsList] at hc
        rcases List.mem_append.1 hc with hc | hc
        · exact a5 c hc
        · exact b5 c hc
end

/-- **cells built from a spec-valid, typed tree**: every cell object reachable from the built root satisfies `SemOK`
(known kind, type byte, the cached level mask is the spec's and ≤ 7, the dict key is the number of the spec's
representation hash, the spec values are stable above level 4), and the root denotes the tree. -/
theorem sem_of_tree (H : Bytes → Bytes) (t : Cell) (p : PCell) (wf : CellSpec.TreeWF H t) (ty : Typed t)
    (hb : Cell.build H t = some p) :
    (∀ c ∈ subcells p, SemOK H c) ∧ scellOf p = toSCell t := by
  obtain ⟨_, _, _, h4, h5⟩ := build_sem H t p wf ty hb
  exact ⟨h5, h4⟩

/-- the full invariant, for users that also need the cached info / spec values of the root -/
theorem sem_of_tree_full (H : Bytes → Bytes) (t : Cell) (p : PCell) (wf : CellSpec.TreeWF H t) (ty : Typed t)
    (hb : Cell.build H t = some p) :
    Cell.info H t = some p.info ∧ specInfo H t = some (sinfoOf H p) ∧ Agrees p.info (sinfoOf H p) ∧
    scellOf p = toSCell t ∧ ∀ c ∈ subcells p, SemOK H c :=
  build_sem H t p wf ty hb

/-! ### the hypotheses are satisfiable: building never fails on a spec-valid tree; ordinary trees -/

mutual
  theorem build_of_info (H : Bytes → Bytes) : ∀ (t : Cell) (i : CellInfo), Cell.info H t = some i →
      ∃ p, Cell.build H t = some p ∧ p.info = i
    | .mk kind bits refs, i, h => by
      rw [Cell.info] at h
      simp only [Option.bind_eq_bind, Option.bind_eq_some_iff] at h
      obtain ⟨rs, hrs, hc⟩ := h
      obtain ⟨ps, hps, hmap⟩ := builds_of_infos H refs rs hrs
      refine ⟨.mk i ps, ?_, rfl⟩
      rw [Cell.build]
      simp [hps, hmap, hc]
  theorem builds_of_infos (H : Bytes → Bytes) : ∀ (ts : List Cell) (is : List CellInfo), Cell.infos H ts = some is →
      ∃ ps, Cell.builds H ts = some ps ∧ ps.map PCell.info = is
    | [], is, h => by
      rw [Cell.infos] at h; cases h
      exact ⟨[], by rw [Cell.builds], rfl⟩
    | t :: ts, is, h => by
      rw [Cell.infos] at h
      simp only [Option.bind_eq_bind, Option.bind_eq_some_iff] at h
      obtain ⟨i, hi, is', his, hq⟩ := h
      cases hq
      obtain ⟨p, hp, hpi⟩ := build_of_info H t i hi
      obtain ⟨ps, hps, hmap⟩ := builds_of_infos H ts is' his
      refine ⟨p :: ps, ?_, by simp [hpi, hmap]⟩
      rw [Cell.builds]
      simp [hp, hps]
end

/-- a spec-valid tree can always be built (C02 constructibility, lifted to cell objects) -/
theorem tree_builds (H : Bytes → Bytes) (t : Cell) (wf : TreeWF H t) : ∃ p, Cell.build H t = some p := by
  obtain ⟨i, _, hi, _⟩ := tree_agrees H t wf
  obtain ⟨p, hp, _⟩ := build_of_info H t i hi
  exact ⟨p, hp⟩

theorem sem_of_tree_exists (H : Bytes → Bytes) (t : Cell) (wf : TreeWF H t) (ty : Typed t) :
    ∃ p, Cell.build H t = some p ∧ (∀ c ∈ subcells p, SemOK H c) ∧ scellOf p = toSCell t := by
  obtain ⟨p, hp⟩ := tree_builds H t wf
  exact ⟨p, hp, sem_of_tree H t p wf ty hp⟩

open TonVerif.Proofs.OrdCell in
mutual
  /-- every tree of ordinary cells within the limits (C01's domain) is spec-valid and typed -/
  theorem ord_treeWF (H : Bytes → Bytes) : ∀ (c : Cell), OrdWF c → ordDepth c ≤ 1023 →
      TreeWF H c ∧ Typed c ∧ ∃ s, specInfo H c = some s ∧ SGood H c s
    | .mk kind bits refs, wf, hd => by
      rw [OrdWF] at wf
      obtain ⟨hkind, hb, hr, wfs⟩ := wf
      subst hkind
      obtain ⟨t1, t2, ss, hss, hrel⟩ := ords_treesWF H refs wfs (ordDepthMax_le _ bits refs hd)
      refine ⟨?_, ?_, _, ?_, node_good H (-1) bits refs ss hrel⟩
      · rw [TreeWF]
        exact ⟨t1, .ordinary, ss, rfl, hss, node_wf H (-1) bits refs ss hrel hb hr hd⟩
      · rw [Typed]
        exact ⟨fun h => absurd rfl h, t2⟩
      · simp [specInfo, kindOf, hss]
  theorem ords_treesWF (H : Bytes → Bytes) : ∀ (cs : List Cell), OrdWFs cs → ordDepthMax cs ≤ 1023 →
      TreesWF H cs ∧ TypedL cs ∧ ∃ ss, specInfos H cs = some ss ∧ Rel H cs ss
    | [], _, _ => ⟨by simp [TreesWF], by simp [TypedL], [], by simp [specInfos], trivial⟩
    | c :: cs, wf, hd => by
      rw [OrdWFs] at wf
      simp only [ordDepthMax, natmax_eq] at hd
      obtain ⟨a1, a2, s, hs, hg⟩ := ord_treeWF H c wf.1 (by omega)
      obtain ⟨b1, b2, ss, hss, hrel⟩ := ords_treesWF H cs wf.2 (by omega)
      refine ⟨?_, ?_, s :: ss, by simp [specInfos, hs, hss], ⟨hg, hrel⟩⟩
      · rw [TreesWF]; exact ⟨a1, b1⟩
      · rw [TypedL]; exact ⟨a2, b2⟩
end

/-! Non-vacuity: a 5-bit ordinary cell over two ordinary leaves is spec-valid and typed for EVERY `H`; it builds, all
its cell objects are `SemOK`, and the root denotes the tree. -/
def sampleTree : Cell := .mk (-1) [true, false, true, true, false] [.mk (-1) [] [], .mk (-1) [true] []]

theorem sampleTree_ok (H : Bytes → Bytes) : TreeWF H sampleTree ∧ Typed sampleTree := by
  have h := ord_treeWF H sampleTree (by simp [sampleTree, OrdCell.OrdWF, OrdCell.OrdWFs])
    (by simp [sampleTree, OrdCell.ordDepth, OrdCell.ordDepthMax])
  exact ⟨h.1, h.2.1⟩

example (H : Bytes → Bytes) : TreeWF H sampleTree ∧ Typed sampleTree := sampleTree_ok H

example (H : Bytes → Bytes) :
    ∃ p, Cell.build H sampleTree = some p ∧ (∀ c ∈ subcells p, SemOK H c) ∧ scellOf p = toSCell sampleTree :=
  sem_of_tree_exists H sampleTree (sampleTree_ok H).1 (sampleTree_ok H).2

/-- exotic non-vacuity: C02's pruned branch with the gap mask 0b110 is spec-valid and typed (first byte = type 1) -/
def prunedMask6 : Cell := .mk 1 (bytesToBits ([1, 6] ++ List.replicate 68 0)) []

example (H : Bytes → Bytes) : TreeWF H prunedMask6 ∧ Typed prunedMask6 := by
  constructor
  · unfold prunedMask6 TreeWF
    refine ⟨by simp [TreesWF], .pruned, [], by decide, by simp [specInfos], ?_⟩
    refine ⟨by decide +kernel, by decide, by simp, by simp, ?_, by simp, by simp, by simp⟩
    intro _
    refine ⟨rfl, by decide +kernel, ?_, ?_⟩ <;> decide +kernel
  · unfold prunedMask6 Typed
    refine ⟨fun _ => ⟨by decide +kernel, by decide +kernel⟩, by simp [TypedL]⟩

end TonVerif.Proofs.BocSem
