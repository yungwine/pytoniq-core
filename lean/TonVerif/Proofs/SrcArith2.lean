/-
Generation-independent lemmas for the source theorems (`cXX_src_*` of C09, C11, C12, C13, C14, C15, C17, C19):
the translator's `bytes` built-ins (`PyBytes.lean`, `PyBytes2.lean`) expressed through the functions the hand models use.
Nothing here mentions a `Generated.*` definition: a source change can never break this file.
-/
import TonVerif.PyBytes2
import TonVerif.Model.Cell
import TonVerif.Proofs.SrcArith

namespace TonVerif.Proofs.SrcArith2
open TonVerif

/-- the translator's reading of `xs[a:b]` is the models' `pySlice`. -/
theorem py_slice_eq {α : Type} (xs : List α) (a b : Nat) : Py.slice xs a b = Model.pySlice xs a b := rfl

theorem py_toBytes_big (w v : Nat) : Py.toBytes true w v = natToBE w v := by simp [Py.toBytes]

theorem py_toBytes_little (w v : Nat) : Py.toBytes false w v = (natToBE w v).reverse := by simp [Py.toBytes]

theorem py_fromBytes_big (bs : Bytes) : Py.fromBytes true bs = natOfBE bs := by simp [Py.fromBytes]

theorem py_fromBytes_little (bs : Bytes) : Py.fromBytes false bs = natOfBE bs.reverse := by simp [Py.fromBytes]

/-- `int.to_bytes(w, 'big')` of the models (`none` = OverflowError) against the translator's total reading + side condition. -/
theorem toBytesBE?_eq (w v : Nat) : toBytesBE? w v = if v < 256 ^ w then some (Py.toBytes true w v) else none := by
  simp [toBytesBE?, Py.toBytes]

/-- Bool-valued `decide (a ≠ b)` is the models' `a != b`. -/
theorem decide_ne_eq_bne {α : Type} [BEq α] [LawfulBEq α] [DecidableEq α] (a b : α) : decide (a ≠ b) = (a != b) := by
  by_cases h : a = b <;> simp [h]

/-- closes a propositional goal about a regenerated Boolean test (unfolded) and the model's expression (`test = false ↔ bound`,
side conditions): Boolean connectives (`decide`, `!=`, `||`, `&&`, `!`) are turned into propositions, the translator's bytes
built-ins into the models' functions, literal arithmetic is evaluated, and `grind` decides the propositional / equational /
linear-arithmetic rest.  It is about the value computed, not the spelling: reordered operands, De Morgan forms, `1 + 32` for
`33`, swapped sides of `!=` still prove. -/
macro "src_prop" : tactic =>
  `(tactic| ((try simp only [decide_eq_true_eq, Bool.or_eq_true, Bool.and_eq_true, Bool.not_eq_true', Bool.not_eq_eq_eq_not,
               Bool.not_true, Bool.not_false, decide_eq_false_iff_not, bne_iff_ne, beq_iff_eq, ne_eq, py_slice_eq, py_toBytes_big,
               py_toBytes_little, py_fromBytes_big, py_fromBytes_little, List.append_assoc, Nat.reduceAdd, Nat.reduceMul,
               Nat.reducePow, Nat.reduceSub, Bool.true_eq_false, Bool.false_eq_true, if_true, if_false])
             first | done | grind))

/-- the same for `b₁ = b₂` between two Boolean expressions: first read as `b₁ = true ↔ b₂ = true`. -/
macro "src_bool" : tactic => `(tactic| (rw [Bool.eq_iff_iff]; src_prop))

/-- finisher after the regenerated definition has been unfolded and the translator's built-ins rewritten: nothing left, or a
goal that `grind` / `omega` decide (different but equivalent spelling of a test, reordered sums, nested `if`s). -/
macro "src_close" : tactic =>
  `(tactic| first | done | rfl | omega | grind | (split <;> first | rfl | omega | grind) | (split <;> split <;> first | rfl | omega | grind))

end TonVerif.Proofs.SrcArith2
