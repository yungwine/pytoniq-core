/-
C16 source tie, second part — per class of tlb/transaction.py: the regenerated reader (Generated/TlbParsersTx.lean) refines the
spec decoder of its block.tlb type (Spec/Tlb/Block.lean) under the declared view (Spec/Tlb/PyViewTx.lean).
Method: Proofs/SrcTlbTx.lean (tactic `tx_refine`) on top of Proofs/SrcTlb.lean and the theorems of Proofs/SrcTlbParsers.lean.
-/
import TonVerif.Proofs.SrcTlbTx
import TonVerif.Proofs.SrcTlbParsers
import TonVerif.Generated.TlbParsersTx

namespace TonVerif.Tlb.Tx
open TonVerif TonVerif.Tlb

attribute [local congr] bind_congr_read optionBind_congr_read

/-! ### `Slice.load_address` against MsgAddressExt / MsgAddressInt -/

theorem bitsC_loadUint (m : Nat) (s : Frag) (v : Val) (s' : Frag) (h : (bitsC m).dec s = some (v, s')) :
    (m ≠ 0 → Rd.loadUint m s = some (bitsInt v, s')) ∧ (m = 0 → bitsInt v = .int 0 ∧ s' = s) := by
  simp only [bitsC] at h
  split at h
  · cases h
  · rename_i hl
    simp only [Option.some.injEq, Prod.mk.injEq] at h
    obtain ⟨rfl, rfl⟩ := h
    constructor
    · intro hm
      simp [Rd.loadUint, hm, Rd.takeBits, hl, bitsInt]
    · rintro rfl
      simp [bitsInt, natOfBits]

theorem uint_dec_nat (n : Nat) (s : Frag) (v : Val) (s' : Frag) (h : (uint n).dec s = some (v, s')) :
    ∃ k : Nat, v = .int k := by
  simp only [uint] at h
  split at h
  · cases h
  · cases h; exact ⟨_, rfl⟩

theorem refines_MsgAddressExt : Refines Rd.loadAddress msgAddressExt view_MsgAddressExt := by
  rintro ⟨bits, refs⟩ v s'
  tx_struct [msgAddressExt, msgAddressExtAlts, addrNoneAlt, addrExternAlt]
  intro _
  refine ⟨?_, ?_⟩
  · rintro t rs rfl rfl _ rfl rfl rfl
    simp [Rd.loadAddress, loadUint_cons, takeBits_succ, takeBits_zero, natOfBits, view_MsgAddressExt]
  · rintro _ t rs rfl rfl _ _ len s1 hlen _ ea s2 hea _ rfl rfl rfl rfl rfl rfl
    obtain ⟨k, rfl⟩ := uint_dec_nat _ _ _ _ hlen
    have hl := (uint_keep 9 _ _ _).1 hlen
    have hl2 := hl.2 (by decide)
    have hb := bitsC_loadUint _ _ _ _ hea
    simp only [Env.nat, List.lookup, beq_self_eq_true, Int.toNat_natCast] at hb
    simp only [Rd.loadAddress, loadUint_cons, takeBits_succ, takeBits_zero, natOfBits, view_MsgAddressExt]
    simp only [Nat.reduceEqDiff, if_false, Option.map, Rd.natOfVal, Int.toNat_natCast]
    by_cases hk : k = 0
    · subst hk
      obtain ⟨h1, h2⟩ := hb.2 rfl
      simp [hl2, h1, h2, Val.get, List.lookup, Rd.obj]
    · have := hb.1 hk
      simp [hl2, hk, this, Val.get, List.lookup, Rd.obj]

theorem loadAnycast_of (s : Frag) (v : Val) (s' : Frag) (h : (maybe anycast).dec s = some (v, s')) :
    Rd.loadAnycast s = some (viewMaybe view_Anycast v, s') := by
  rcases (maybe_dec _ _ _ _).1 h with ⟨r, rs, rfl, rfl, rfl⟩ | ⟨r, rs, rfl, h2⟩
  · simp [Rd.loadAnycast, loadBool_cons, viewMaybe]
  · revert h2
    tx_struct [anycast]
    rintro _ depth s1 hd n rfl h1 h30 _ pfx s2 hp _ rfl rfl rfl rfl rfl
    have hl := ((uint_keep 5 _ _ _).1 hd).2 (by decide)
    have hb := bitsC_loadUint _ _ _ _ hp
    simp only [Env.nat, List.lookup, beq_self_eq_true, Int.toNat_natCast] at hb
    have hn : n ≠ 0 := by omega
    have := hb.1 hn
    have hlt : ¬ n < 1 := by omega
    simp [Rd.loadAnycast, loadBool_cons, hl, Rd.natOfVal, hlt, this, viewMaybe, view_Anycast, Val.get, List.lookup, Rd.obj]

theorem refines_MsgAddressInt : RefinesP PV Rd.loadAddress msgAddressInt view_MsgAddressInt := by
  rintro ⟨bits, refs⟩ v s'
  tx_struct [msgAddressInt, msgAddressIntAlts, addrStdAlt, addrVarAlt]
  intro _
  refine ⟨?_, ?_⟩
  · rintro t rs rfl rfl _ _ ac s1 hac _ wc s2 hwc _ addr s3 haddr _ rfl rfl rfl rfl rfl rfl rfl _
    have h1 := loadAnycast_of _ _ _ hac
    have h2 := ((sint_keep 8 _ _ _).1 hwc).2
    have h3 := ((bitsC_keep 256 _ _ _).1 haddr).2.2 (by decide)
    simp [Rd.loadAddress, loadUint_cons, takeBits_succ, takeBits_zero, natOfBits, h1, h2, h3, view_MsgAddressInt, Val.get,
      List.lookup, Rd.obj]
  · intro _ t rs _ _ x
    intros
    subst_vars
    simp_all [PV, Val.noVar]

/-! ### currencies, phases -/

local macro "kOptGrams" : term => `(optK refines_grams (nonUnit_varUInt 16))
local macro "kOptInt32" : term => `(optK (refines_sint 32) (nonUnit_sint 32))
local macro "kOptUint64" : term => `(optK (refines_uint 64 (by decide)) (nonUnit_uint 64))

theorem refines_ExtraCurrencyCollection :
    Refines (SrcTx.ExtraCurrencyCollection false) extraCurrencyCollection view_ExtraCurrencyCollection := by
  apply RefinesP.toRefines
  tx_refine [extraCurrencyCollection, SrcTx.ExtraCurrencyCollection, view_ExtraCurrencyCollection,
    dictK (refines_varUInt 32 5 (by decide) (by decide)) 32]

theorem refines_CurrencyCollection :
    Refines (SrcTx.CurrencyCollection false) currencyCollection view_CurrencyCollection := by
  apply RefinesP.toRefines
  tx_refine [currencyCollection, SrcTx.CurrencyCollection, view_CurrencyCollection, refines_ExtraCurrencyCollection.keep]

theorem refines_TrActionPhase : Refines (SrcTx.TrActionPhase false) trActionPhase view_TrActionPhase := by
  apply RefinesP.toRefines
  tx_refine [trActionPhase, SrcTx.TrActionPhase, view_TrActionPhase, refines_AccStatusChange.keep, refines_StorageUsedShort.keep,
    kOptGrams, kOptInt32]

theorem refines_TrCreditPhase : Refines (SrcTx.TrCreditPhase false) trCreditPhase view_TrCreditPhase := by
  apply RefinesP.toRefines
  tx_refine [trCreditPhase, SrcTx.TrCreditPhase, view_TrCreditPhase, refines_CurrencyCollection.keep, kOptGrams]

theorem refines_ImportFees : Refines (SrcTx.ImportFees false) importFees view_ImportFees := by
  apply RefinesP.toRefines
  tx_refine [importFees, SrcTx.ImportFees, view_ImportFees, refines_CurrencyCollection.keep]

theorem nonUnit_trStoragePhase : NonUnit trStoragePhase := by unfold trStoragePhase; tlb_nonunit
theorem nonUnit_trCreditPhase : NonUnit trCreditPhase := by unfold trCreditPhase; tlb_nonunit
theorem nonUnit_trActionPhase : NonUnit trActionPhase := by unfold trActionPhase; tlb_nonunit
theorem nonUnit_trBouncePhase : NonUnit trBouncePhase := by unfold trBouncePhase; tlb_nonunit

local macro "kOptStorage" : term => `(optK refines_TrStoragePhase nonUnit_trStoragePhase)
local macro "kOptCredit" : term => `(optK refines_TrCreditPhase nonUnit_trCreditPhase)
local macro "kOptBounce" : term => `(optK refines_TrBouncePhase nonUnit_trBouncePhase)
local macro "kOptAction" : term => `(optRefK (r := SrcTx.TrActionPhase) refines_TrActionPhase nonUnit_trActionPhase)

/-! ### the five descriptions without a nested transaction -/

theorem refines_TransactionOrdinary : Refines (SrcTx.TransactionOrdinary false) transOrd view_TransactionOrdinary := by
  apply RefinesP.toRefines
  tx_refine [transOrd, SrcTx.TransactionOrdinary, view_TransactionOrdinary, refines_TrComputePhase.keep, kOptStorage, kOptCredit,
    kOptBounce, kOptAction]

theorem refines_TransactionStorage : Refines (SrcTx.TransactionStorage false) transStorage view_TransactionStorage := by
  apply RefinesP.toRefines
  tx_refine [transStorage, SrcTx.TransactionStorage, view_TransactionStorage, refines_TrStoragePhase.keep]

theorem refines_TransactionTickTock : Refines (SrcTx.TransactionTickTock false) transTickTock view_TransactionTickTock := by
  apply RefinesP.toRefines
  tx_refine [transTickTock, SrcTx.TransactionTickTock, view_TransactionTickTock, refines_TrStoragePhase.keep,
    refines_TrComputePhase.keep, kOptAction]

theorem refines_TransactionSplitPrepare :
    Refines (SrcTx.TransactionSplitPrepare false) transSplitPrepare view_TransactionSplitPrepare := by
  apply RefinesP.toRefines
  tx_refine [transSplitPrepare, SrcTx.TransactionSplitPrepare, view_TransactionSplitPrepare, refines_SplitMergeInfo.keep,
    refines_TrComputePhase.keep, kOptStorage, kOptAction]

theorem refines_TransactionMergePrepare :
    Refines (SrcTx.TransactionMergePrepare false) transMergePrepare view_TransactionMergePrepare := by
  apply RefinesP.toRefines
  tx_refine [transMergePrepare, SrcTx.TransactionMergePrepare, view_TransactionMergePrepare, refines_SplitMergeInfo.keep,
    refines_TrStoragePhase.keep]

/-! ### message infos, messages -/

theorem refines_InternalMsgInfo :
    RefinesP PV (SrcTx.InternalMsgInfo false) (ctag (tag 1 0) intMsgInfo) view_InternalMsgInfo := by
  tx_refine [intMsgInfo, SrcTx.InternalMsgInfo, view_InternalMsgInfo, refines_MsgAddressInt.keepV, refines_CurrencyCollection.keep]

theorem refines_ExternalMsgInfo :
    RefinesP PV (SrcTx.ExternalMsgInfo false) (ctag (tag 2 2) extInMsgInfo) view_ExternalMsgInfo := by
  tx_refine [extInMsgInfo, SrcTx.ExternalMsgInfo, view_ExternalMsgInfo, refines_MsgAddressInt.keepV, refines_MsgAddressExt.keep]

theorem refines_ExternalOutMsgInfo :
    RefinesP PV (SrcTx.ExternalOutMsgInfo false) (ctag (tag 2 3) extOutMsgInfo) view_ExternalOutMsgInfo := by
  tx_refine [extOutMsgInfo, SrcTx.ExternalOutMsgInfo, view_ExternalOutMsgInfo, refines_MsgAddressInt.keepV, refines_MsgAddressExt.keep]

theorem noVar_con (n : String) (x : Val) (h : (Val.con n x).noVar = true) : x.noVar = true := by
  simp only [Val.noVar, Bool.and_eq_true] at h; exact h.2

theorem refines_CommonMsgInfo : RefinesP PV (SrcTx.CommonMsgInfo false) commonMsgInfo view_CommonMsgInfo := by
  rintro ⟨bits, refs⟩ v s'
  simp only [commonMsgInfo, typ_dec, commonMsgInfoAlts_eq, tagged_dec, decAlts_cons, decAlts_nil, tag, natToBits,
    Nat.reduceDiv, Nat.reduceMod, Nat.reduceBEq, Nat.reduceBNe, List.cons_append, List.nil_append, Frag.mk.injEq]
  rintro ⟨_, h⟩ hv
  rcases h with ⟨t, rs, ⟨rfl, rfl⟩, x, hx, rfl⟩ | ⟨_, ⟨t, rs, ⟨rfl, rfl⟩, x, hx, rfl⟩ | ⟨_, ⟨t, rs, ⟨rfl, rfl⟩, x, hx, rfl⟩ | ⟨_, hf⟩⟩⟩
  · have := refines_InternalMsgInfo ⟨false :: t, refs⟩ x s'
      ((ctag_dec _ _ _ _ _).2 ⟨t, refs, by simp [tag, natToBits], hx⟩) (noVar_con _ _ hv)
    simp [SrcTx.CommonMsgInfo, preloadBit_cons, Rd.truthy, this, view_CommonMsgInfo]
  · have := refines_ExternalMsgInfo ⟨true :: false :: t, refs⟩ x s'
      ((ctag_dec _ _ _ _ _).2 ⟨t, refs, by simp [tag, natToBits], hx⟩) (noVar_con _ _ hv)
    simp [SrcTx.CommonMsgInfo, preloadBit_cons, preloadBits_cons, takeBits_succ, takeBits_zero, Rd.truthy, Rd.veq, Rd.bits01, this,
      view_CommonMsgInfo]
  · have := refines_ExternalOutMsgInfo ⟨true :: true :: t, refs⟩ x s'
      ((ctag_dec _ _ _ _ _).2 ⟨t, refs, by simp [tag, natToBits], hx⟩) (noVar_con _ _ hv)
    simp [SrcTx.CommonMsgInfo, preloadBit_cons, preloadBits_cons, takeBits_succ, takeBits_zero, Rd.truthy, Rd.veq, Rd.bits01, this,
      view_CommonMsgInfo]
  · exact hf.elim

/-- `MessageAny.deserialize` (value only: the type closes its cell; an inline body is not consumed by the parser) -/
theorem refines_Message : RefinesEP PV (SrcTx.MessageAny false) message view_Message := by
  tx_refine [message, SrcTx.MessageAny, view_Message, viewInit, viewBody, refines_CommonMsgInfo.keepV, maybe_dec, either_dec,
    rest_dec, ref_rest_dec, refines_StateInit.keep, refK (r := Src.StateInit) refines_StateInit, Rd.toCell]
  all_goals exact ⟨_, rfl⟩

theorem nonUnit_message : NonUnit message := by unfold message; tlb_nonunit

theorem refines_MsgMetadata : RefinesP PV (SrcTx.MsgMetadata false) msgMetadata view_MsgMetadata :=
  .of_reads fun s => .typ <| .ctagUint (natToBits_length 4 _) (by decide) fun s => .ifFalse rfl <| .recdV <|
    .cons (refines_uint 32 (by decide)) fun depth s =>
    .consP refines_MsgAddressInt fun initiator_addr s =>
    .cons (refines_uint 64 (by decide)) fun initiator_lt s =>
    .nil <| .pure (by tlb_view [view_MsgMetadata])

theorem nonUnit_msgMetadata : NonUnit msgMetadata := by unfold msgMetadata; tlb_nonunit

theorem refines_MsgEnvelope : RefinesP PV (SrcTx.MsgEnvelope false) msgEnvelope view_MsgEnvelope := by
  tx_refine [msgEnvelope, msgEnvelopeAlts, SrcTx.MsgEnvelope, view_MsgEnvelope, refines_IntermediateAddress.keep,
    refKP (r := SrcTx.MessageAny) refines_Message, kOptUint64, optKP refines_MsgMetadata nonUnit_msgMetadata]

/-! ### descriptions with a nested transaction; `TransactionDescr`; `Transaction` for every nesting budget -/

section Nested
variable {rtx : Bool → Frag → Rd.R} {tx : Codec} {wtx : Val → Val}

theorem refines_TransactionSplitInstall (htx : RefinesEP PV (rtx false) tx wtx) :
    RefinesP PV (SrcTx.TransactionSplitInstall rtx false) (transSplitInstall tx) (view_TransactionSplitInstall wtx) := by
  tx_refine [transSplitInstall, SrcTx.TransactionSplitInstall, view_TransactionSplitInstall, refines_SplitMergeInfo.keep,
    refKP (r := rtx) htx]

theorem refines_TransactionMergeInstall (htx : RefinesEP PV (rtx false) tx wtx) :
    RefinesP PV (SrcTx.TransactionMergeInstall rtx false) (transMergeInstall tx) (view_TransactionMergeInstall wtx) := by
  tx_refine [transMergeInstall, SrcTx.TransactionMergeInstall, view_TransactionMergeInstall, refines_SplitMergeInfo.keep,
    refKP (r := rtx) htx, refines_TrComputePhase.keep, kOptStorage, kOptCredit, kOptAction]

theorem refines_TransactionDescr (htx : RefinesEP PV (rtx false) tx wtx) :
    RefinesP PV (SrcTx.TransactionDescr rtx false) (transactionDescrF tx) (view_TransactionDescr wtx) := by
  tx_refine [transactionDescrF, transactionDescrFAlts_eq, SrcTx.TransactionDescr, view_TransactionDescr,
    refines_TransactionOrdinary.keep, refines_TransactionStorage.keep, refines_TransactionTickTock.keep,
    refines_TransactionSplitPrepare.keep, refines_TransactionMergePrepare.keep,
    (refines_TransactionSplitInstall htx).keepV, (refines_TransactionMergeInstall htx).keepV]

end Nested


/-- one level of `Transaction.deserialize`, given the reader / view / theorem of the nested level -/
theorem refines_Transaction_step (b : Nat)
    (ih : RefinesP PV (SrcTx.Transaction b false) (transactionF b) (view_Transaction b)) :
    RefinesP PV (SrcTx.Transaction (b + 1) false) (transactionF (b + 1)) (view_Transaction (b + 1)) := by
  have hd := (refines_TransactionDescr ih.toE).toE
  clear ih
  tlb_decompose [ref_recd_dec, transactionF, refines_AccountStatus.keep, refines_CurrencyCollection.keep,
    maybe_dec, refKPM (r := SrcTx.MessageAny) refines_Message nonUnit_message,
    dictKVS (rd := Rd.viaRef SrcTx.MessageAny) (refines_Message.viaRef).toE 15,
    refK (r := Src.HashUpdate) refines_HashUpdate, refKP (r := SrcTx.TransactionDescr (SrcTx.Transaction b)) hd]
  all_goals clear hd
  all_goals tx_eval_dict [SrcTx.Transaction, view_Transaction, viewMaybe_id, Val.noVar, noVarFs, Bool.and_eq_true, noVar_unit, PT, PV,
    viewDict, viewDictValues]
  -- left: `viewDictValues` of an empty dictionary, a `match` on the constructor name
  all_goals rfl

/-- `Transaction.deserialize` for EVERY nesting budget `b` of `prepare_transaction:^Transaction` -/
theorem refines_Transaction : ∀ b, RefinesP PV (SrcTx.Transaction b false) (transactionF b) (view_Transaction b)
  | 0 => by intro s v s' h; simp [transactionF, failC] at h
  | b+1 => refines_Transaction_step b (refines_Transaction b)

/-! ### message descriptors (the budget of the spec's `transaction` is 3) -/

theorem refines_InMsg : RefinesP PV (SrcTx.InMsg 3 false) inMsg (view_InMsg (view_Transaction 3)) := by
  have htx : RefinesEP PV (SrcTx.Transaction 3 false) transaction (view_Transaction 3) := (refines_Transaction 3).toE
  tx_refine [inMsg, inMsgAlts, SrcTx.InMsg, view_InMsg, refKP (r := SrcTx.MessageAny) refines_Message,
    refKP (r := SrcTx.MsgEnvelope) refines_MsgEnvelope.toE, refKP (r := SrcTx.Transaction 3) htx]

theorem refines_OutMsg : RefinesP PV (SrcTx.OutMsg 3 false) outMsg (view_OutMsg (view_Transaction 3)) := by
  have htx : RefinesEP PV (SrcTx.Transaction 3 false) transaction (view_Transaction 3) := (refines_Transaction 3).toE
  tx_refine [outMsg, outMsgAlts, SrcTx.OutMsg, view_OutMsg, refKP (r := SrcTx.MessageAny) refines_Message,
    refKP (r := SrcTx.MsgEnvelope) refines_MsgEnvelope.toE, refKP (r := SrcTx.Transaction 3) htx,
    refKP (r := SrcTx.InMsg 3) refines_InMsg.toE]

end TonVerif.Tlb.Tx
