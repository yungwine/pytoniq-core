/-
C14: "fuel suffices".  For a table without a cycle of bare references (`NoBareCycle T R`) the recursion depth of
`deserialize` on ANY input of `n` bytes is at most `tlFuel R n = (n/4 + 1)(R + 2)`: with that budget or more the
result (value, consumed count, or "raises") no longer depends on the budget.  Total-work argument as in C19
(`c19_tl_total`): a recognised boxed object uses up 4 bytes of its input for the id, bare objects nest at most `R`
deep in between, a re-parsed content is shorter than the field that holds it.
-/
import TonVerif.Model.TlNorm
import TonVerif.Proofs.TlMono

namespace TonVerif.Proofs.Tl
open TonVerif TonVerif.Spec.Tl TonVerif.Model.Tl

theorem tyOK_of_bareArgsOK (T : Table) (k : Nat) (args : List Arg) (h : bareArgsOK T (k + 1) args = true) :
    ∀ a ∈ args, TyOK T (fun as => bareArgsOK T k as = true) a.ty := by
  intro a ha n c hn hc
  have := List.all_eq_true.mp h a ha
  simpa only [hn, hc] using this

theorem opt_antisymm {α} {a b : Option α} (h1 : ∀ r, a = some r → b = some r) (h2 : ∀ r, b = some r → a = some r) : a = b := by
  cases a with
  | some x => exact (h1 x rfl).symm
  | none =>
    cases b with
    | none => rfl
    | some y => exact h2 y rfl

theorem autoParse_congr (top top' : Bytes → Option (Val × Nat)) (L : Nat) (h : ∀ x, x.length ≤ L → top x = top' x)
    (content : Bytes) (hc : content.length ≤ L) (n : Nat) : autoParse top content n = autoParse top' content n :=
  opt_antisymm (autoParse_mono (fun x r hx hr => by rw [← h x hx]; exact hr) hc n)
    (autoParse_mono (fun x r hx hr => by rw [h x hx]; exact hr) hc n)

/-- Two next levels that agree on the calls a level may make give the same result: monotonicity in both directions. -/
theorem recLe_of_eq {L : Nat} {ok : List Arg → Prop} {rec rec' : Bytes → Option (List Arg) → Option (Val × Nat)}
    (h : ∀ x, x.length ≤ L → ∀ m, (∀ as, m = some as → ok as) → rec x m = rec' x m) : RecLe L ok rec rec' :=
  ⟨fun x r hx hr => by rw [← h x hx none (fun _ e => by cases e)]; exact hr,
   fun x args r hx hk hr => by rw [← h x hx (some args) (fun _ e => by cases e; exact hk)]; exact hr⟩

theorem deserBody_congr (T : Table) (auto : Bool) {L : Nat} {ok : List Arg → Prop}
    {rec rec' : Bytes → Option (List Arg) → Option (Val × Nat)}
    (h : ∀ x, x.length ≤ L → ∀ m, (∀ as, m = some as → ok as) → rec x m = rec' x m) (schema : Option Nat) {args : List Arg}
    (hty : ∀ a ∈ args, TyOK T ok a.ty) (acc : Fields) (d : Bytes) (hd : d.length ≤ L) :
    deserBody T auto rec schema args acc d = deserBody T auto rec' schema args acc d :=
  opt_antisymm (fun r => deserBody_mono (recLe_of_eq h) schema args hty acc d r hd)
    (fun r => deserBody_mono (recLe_of_eq fun x hx m hm => (h x hx m hm).symm) schema args hty acc d r hd)

/-- the invariant of depth budget `f`: a call whose need `(n/4)(R+2) + 1` (boxed) / `(n/4)(R+2) + 1 + k` (bare, nesting
index `k`) is within `f` gives the same result with every larger budget. -/
def Stable (T : Table) (auto : Bool) (R f : Nat) : Prop :=
  (∀ d : Bytes, d.length / 4 * (R + 2) + 1 ≤ f → ∀ f', f ≤ f' → deserObj T auto f' d none = deserObj T auto f d none) ∧
  (∀ (d : Bytes) (args : List Arg) (k : Nat), bareArgsOK T k args = true → d.length / 4 * (R + 2) + 1 + k ≤ f →
    ∀ f', f ≤ f' → deserObj T auto f' d (some args) = deserObj T auto f d (some args))

theorem div4_mul_le (a b R : Nat) (h : a ≤ b) : a / 4 * (R + 2) ≤ b / 4 * (R + 2) :=
  Nat.mul_le_mul_right _ (Nat.div_le_div_right h)

theorem div4_mul_lt (a b R : Nat) (h : a + 4 ≤ b) : a / 4 * (R + 2) + (R + 2) ≤ b / 4 * (R + 2) := by
  have : a / 4 + 1 ≤ b / 4 := by omega
  have := Nat.mul_le_mul_right (R + 2) this
  rw [Nat.succ_mul] at this
  exact this

theorem Stable.agree {T : Table} {auto : Bool} {R f g L k : Nat} (ih : Stable T auto R f) (hg : f ≤ g)
    (hneed : ∀ x : Bytes, x.length ≤ L → x.length / 4 * (R + 2) + 1 + k ≤ f) (x : Bytes) (hx : x.length ≤ L)
    (m : Option (List Arg)) (hm : ∀ as, m = some as → bareArgsOK T k as = true) :
    deserObj T auto g x m = deserObj T auto f x m := by
  have := hneed x hx
  cases m with
  | none => exact ih.1 x (by omega) g hg
  | some as => exact ih.2 x as k (hm as rfl) this g hg

theorem stable_all (T : Table) (auto : Bool) (R : Nat) (hR : NoBareCycle T R) : ∀ f, Stable T auto R f := by
  intro f
  induction f with
  | zero =>
    exact ⟨fun d h => by omega, fun d args k _ h => by omega⟩
  | succ f ih =>
    refine ⟨fun d hneed f' hf' => ?_, fun d args k hk hneed f' hf' => ?_⟩
    · obtain ⟨g, rfl, hg⟩ := succ_of_le hf'
      cases hid : byIdLE T d with
      | none => simp only [deserObj, hid]
      | some c =>
        obtain ⟨hc, hlen⟩ := mem_of_byIdLE hid
        have hb := hR c hc
        obtain ⟨R', rfl⟩ : ∃ R', R = R' + 1 := by
          cases R with
          | zero => simp [bareArgsOK] at hb
          | succ R' => exact ⟨R', rfl⟩
        simp only [deserObj, hid]
        rw [deserBody_congr T auto (L := d.length - 4) (ih.agree hg fun x hx => by
          have := div4_mul_lt x.length d.length (R' + 1) (by omega); omega)
          (some c.name) (tyOK_of_bareArgsOK T R' _ hb) [] (d.drop 4) (by simp)]
    · obtain ⟨g, rfl, hg⟩ := succ_of_le hf'
      obtain ⟨k', rfl⟩ : ∃ k', k = k' + 1 := by
        cases k with
        | zero => simp [bareArgsOK] at hk
        | succ k' => exact ⟨k', rfl⟩
      simp only [deserObj]
      rw [deserBody_congr T auto (ih.agree hg fun x hx => by have := div4_mul_le x.length d.length R hx; omega)
        none (tyOK_of_bareArgsOK T k' _ hk) [] d (Nat.le_refl _)]

theorem tlFuel_need (R n : Nat) : n / 4 * (R + 2) + 1 ≤ tlFuel R n := by
  unfold tlFuel
  rw [Nat.succ_mul]
  omega

/-- depth `tlFuel R |d|` suffices for ANY input `d`: every larger budget gives the same answer (value and consumed
count, or "raises"). -/
theorem fuel_suffices (T : Table) (R : Nat) (hR : NoBareCycle T R) (auto : Bool) (d : Bytes) (fuel : Nat)
    (hf : tlFuel R d.length ≤ fuel) : deserialize T auto fuel d = deserialize T auto (tlFuel R d.length) d :=
  (stable_all T auto R hR _).1 d (tlFuel_need R d.length) fuel hf

/-- the same for the re-parse of a content. -/
theorem reparse_fuel_suffices (T : Table) (R : Nat) (hR : NoBareCycle T R) (b : Bytes) (fuel : Nat)
    (hf : tlFuel R b.length ≤ fuel) : reparse T fuel b = reparse T (tlFuel R b.length) b := by
  unfold reparse
  refine autoParse_congr _ _ b.length (fun x hx => ?_) b (Nat.le_refl _) _
  have h1 := div4_mul_le x.length b.length R hx
  have h2 := tlFuel_need R b.length
  exact (stable_all T true R hR _).1 x (by omega) fuel hf

/-- explicit budget for the auto round trip: under `NoBareCycle T R` the normal form no longer depends on the budget from
some point on, and `deserialize` returns that limit with EVERY budget of at least `tlFuel R` (length of its input). -/
theorem normalized_explicit (T : Table) (hT : TableOK T) (R : Nat) (hR : NoBareCycle T R) (c : Ctor) (hc : c ∈ T.ctors)
    (fs : Fields) (body : Bytes) (hb : Enc T (fun _ => True) (.body c.args fs) body) :
    ∃ w : Option Val, (∃ N, ∀ fuel, N ≤ fuel → normalize T fuel c (.obj (some c.name) fs) = w) ∧
      ∀ rest fuel, tlFuel R (natToLE 4 c.id ++ body ++ rest).length ≤ fuel →
        deserialize T true fuel (natToLE 4 c.id ++ body ++ rest) = w.map (fun x => (x, (natToLE 4 c.id ++ body).length)) := by
  obtain ⟨N, hN⟩ := normalized_top T hT c hc fs body hb
  generalize hser : natToLE 4 c.id ++ body = ser at hN ⊢
  have hinj : ∀ a b : Option Val, a.map (fun x => (x, ser.length)) = b.map (fun x => (x, ser.length)) → a = b := by
    intro a b h
    cases a <;> cases b <;> simp_all
  have hconst : ∀ fuel, max N (tlFuel R ser.length) ≤ fuel →
      normalize T fuel c (.obj (some c.name) fs) = normalize T (max N (tlFuel R ser.length)) c (.obj (some c.name) fs) := by
    intro fuel hf
    apply hinj
    have a := hN fuel (by omega) []
    have b := hN (max N (tlFuel R ser.length)) (by omega) []
    simp only [List.append_nil] at a b
    rw [← a, ← b, fuel_suffices T R hR true ser fuel (by omega),
      fuel_suffices T R hR true ser (max N (tlFuel R ser.length)) (by omega)]
  refine ⟨normalize T (max N (tlFuel R ser.length)) c (.obj (some c.name) fs), ⟨_, hconst⟩, fun rest fuel hf => ?_⟩
  have a := hN (max fuel (max N (tlFuel R ser.length))) (by omega) rest
  rw [hconst _ (by omega)] at a
  rw [← a, fuel_suffices T R hR true _ fuel hf, fuel_suffices T R hR true _ (max fuel (max N (tlFuel R ser.length))) (by omega)]

end TonVerif.Proofs.Tl
