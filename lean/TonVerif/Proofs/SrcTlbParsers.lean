/-
C16 source tie — per class: the regenerated reader (Generated/TlbParsers.lean) refines the spec decoder of its block.tlb
type (Spec/Tlb/Block.lean) under the declared view (Spec/Tlb/PyView.lean).  Method: Proofs/SrcTlb.lean.
-/
import TonVerif.Proofs.SrcTlb
import TonVerif.Generated.TlbParsers

namespace TonVerif.Tlb
open TonVerif

attribute [local congr] bind_congr_read optionBind_congr_read

theorem refines_HashUpdate : Refines (Src.HashUpdate false) hashUpdate view_HashUpdate :=
  .of_reads fun s => .typ <| .ctagBytes (natToBits_length 8 _) fun s => .pureLet rfl <| .ifFalse rfl <| .recd <|
    .cons (refines_bits 256) fun old_hash s =>
    .cons (refines_bits 256) fun new_hash s =>
    .nil <| .pure (by tlb_view [view_HashUpdate])

theorem refines_TickTock : Refines (Src.TickTock false) tickTock view_TickTock :=
  .of_reads fun s => .typ <| .recd <|
    .cons refines_bool fun tick s =>
    .cons refines_bool fun tock s =>
    .nil <| .pure (by tlb_view [view_TickTock])

theorem refines_varUInt7 : Refines (Rd.loadVarUint 3) (varUInt 7) id := refines_varUInt 7 3 (by decide) (by decide)

theorem refines_StorageUsed : Refines (Src.StorageUsed false) storageUsed view_StorageUsed :=
  .of_reads fun s => .typ <| .recd <|
    .cons refines_varUInt7 fun cells s =>
    .cons refines_varUInt7 fun bits s =>
    .cons refines_varUInt7 fun public_cells s =>
    .nil <| .pure (by tlb_view [view_StorageUsed])

theorem refines_StorageUsedShort : Refines (Src.StorageUsedShort false) storageUsedShort view_StorageUsedShort :=
  .of_reads fun s => .typ <| .recd <|
    .cons refines_varUInt7 fun cells s =>
    .cons refines_varUInt7 fun bits s =>
    .nil <| .pure (by tlb_view [view_StorageUsedShort])

theorem refines_StorageInfo : Refines (Src.StorageInfo false) storageInfo view_StorageInfo :=
  .of_reads fun s => .typ <| .recd <|
    .cons refines_StorageUsed fun used s =>
    .cons (refines_uint 32 (by decide)) fun last_paid s =>
    .field <| .maybeBit fun b s => .opt (truthy_bit b) refines_grams (nonUnit_varUInt 16) fun due_payment s =>
    .nil <| .pure (by tlb_view [view_StorageInfo])

theorem refines_AccountStatus : Refines (Src.AccountStatus false) accountStatus view_AccountStatus := by
  tlb_refine [accountStatus, accountStatusAlts, Src.AccountStatus, view_AccountStatus]

theorem nonUnit_tickTock : NonUnit tickTock := by unfold tickTock; tlb_nonunit

theorem refines_StateInit : Refines (Src.StateInit false) stateInit view_StateInit :=
  .of_reads fun s => .typ <| .recd <|
    .field <| .maybeBit fun b s => .opt (truthy_bit b) (refines_uint 5 (by decide)) (nonUnit_uint 5) fun split_depth s =>
    .field <| .maybeBit fun b s => .opt (truthy_bit b) refines_TickTock nonUnit_tickTock fun special s =>
    .field <| .maybeBit fun b s => .opt (truthy_bit b) refines_cellRef nonUnit_cellRef fun code s =>
    .field <| .maybeBit fun b s => .opt (truthy_bit b) refines_cellRef nonUnit_cellRef fun data s =>
    .field <| .maybeBit fun b s => .opt (truthy_bit b) refines_cellRef nonUnit_cellRef fun library s =>
    .nil <| .pure (by tlb_view [view_StateInit])

theorem refines_AccountState : Refines (Src.AccountState false) accountState view_AccountState := by
  tlb_refine [accountState, accountStateAlts, Src.AccountState, view_AccountState, refines_StateInit.keep]

theorem refines_ExtBlkRef : Refines (Src.ExtBlkRef false) extBlkRef view_ExtBlkRef :=
  .of_reads fun s => .typ <| .recd <|
    .cons (refines_uint 64 (by decide)) fun end_lt s =>
    .cons (refines_uint 32 (by decide)) fun seq_no s =>
    .cons (refines_bits 256) fun root_hash s =>
    .cons (refines_bits 256) fun file_hash s =>
    .nil <| .pure (by tlb_view [view_ExtBlkRef])

theorem refines_BlkMasterInfo : Refines (Src.BlkMasterInfo false) blkMasterInfo view_BlkMasterInfo :=
  .of_reads fun s => .typ <| .recd <|
    .cons refines_ExtBlkRef fun master s =>
    .nil <| .pure (by tlb_view [view_BlkMasterInfo])

theorem refines_KeyExtBlkRef : Refines (Src.KeyExtBlkRef false) keyExtBlkRef view_KeyExtBlkRef :=
  .of_reads fun s => .typ <| .recd <|
    .cons refines_bool fun key s =>
    .cons refines_ExtBlkRef fun blk_ref s =>
    .nil <| .pure (by tlb_view [view_KeyExtBlkRef])

theorem refines_KeyMaxLt : Refines (Src.KeyMaxLt false) keyMaxLt view_KeyMaxLt :=
  .of_reads fun s => .typ <| .recd <|
    .cons refines_bool fun key s =>
    .cons (refines_uint 64 (by decide)) fun max_end_lt s =>
    .nil <| .pure (by tlb_view [view_KeyMaxLt])

theorem refines_Counters : Refines (Src.Counters false) counters view_Counters :=
  .of_reads fun s => .typ <| .recd <|
    .cons (refines_uint 32 (by decide)) fun last_updated s =>
    .cons (refines_uint 64 (by decide)) fun total s =>
    .cons (refines_uint 64 (by decide)) fun cnt2048 s =>
    .cons (refines_uint 64 (by decide)) fun cnt65536 s =>
    .nil <| .pure (by tlb_view [view_Counters])

theorem refines_CreatorStats : Refines (Src.CreatorStats false) creatorStats view_CreatorStats :=
  .of_reads fun s => .typ <| .ctagUint (natToBits_length 4 _) (by decide) fun s => .ifFalse rfl <| .recd <|
    .cons refines_Counters fun mc_blocks s =>
    .cons refines_Counters fun shard_blocks s =>
    .nil <| .pure (by tlb_view [view_CreatorStats])

theorem refines_ValidatorInfo : Refines (Src.ValidatorInfo false) validatorInfo view_ValidatorInfo :=
  .of_reads fun s => .typ <| .recd <|
    .cons (refines_uint 32 (by decide)) fun validator_list_hash_short s =>
    .cons (refines_uint 32 (by decide)) fun catchain_seqno s =>
    .cons refines_bool fun nx_cc_updated s =>
    .nil <| .pure (by tlb_view [view_ValidatorInfo])

theorem refines_ShardIdent : Refines (Src.ShardIdent false) shardIdent view_ShardIdent :=
  .of_reads fun s => .typ <| .ctagBits (natToBits_length 2 _) fun s => .ifFalse rfl <| .recd <|
    .cons (.uintRange 6 0 60 (by decide)) fun shard_pfx_bits s =>
    .cons (refines_sint 32) fun workchain_id s =>
    .cons (refines_uint 64 (by decide)) fun shard_prefix s =>
    .nil <| .pure (by tlb_view [view_ShardIdent])

theorem refines_GlobalVersion : Refines (Src.GlobalVersion false) globalVersion view_GlobalVersion :=
  .of_reads fun s => .typ <| .ctagBytes (natToBits_length 8 _) fun s => .pureLet rfl <| .ifFalse rfl <| .recd <|
    .cons (refines_uint 32 (by decide)) fun version s =>
    .cons (refines_uint 64 (by decide)) fun capabilities s =>
    .nil <| .pure (by tlb_view [view_GlobalVersion])

theorem refines_SplitMergeInfo : Refines (Src.SplitMergeInfo false) splitMergeInfo view_SplitMergeInfo :=
  .of_reads fun s => .typ <| .recd <|
    .cons (refines_uint 6 (by decide)) fun cur_shard_pfx_len s =>
    .cons (refines_uint 6 (by decide)) fun acc_split_depth s =>
    .cons (refines_bits 256) fun this_addr s =>
    .cons (refines_bits 256) fun sibling_addr s =>
    .nil <| .pure (by tlb_view [view_SplitMergeInfo])

theorem refines_SigPubKey : Refines (Src.SigPubKey false) sigPubKey view_SigPubKey :=
  .of_reads fun s => .typ <| .ctagBytes (natToBits_length 32 _) fun s => .ifFalse rfl <| .recd <|
    .cons (refines_bits 256) fun pubkey s =>
    .nil <| .pure (by tlb_view [view_SigPubKey])

theorem refines_AccStatusChange : Refines (Src.AccStatusChange false) accStatusChange view_AccStatusChange := by
  tlb_refine [accStatusChange, accStatusChangeAlts, Src.AccStatusChange, view_AccStatusChange]

theorem refines_ComputeSkipReason : Refines (Src.ComputeSkipReason false) computeSkipReason view_ComputeSkipReason := by
  tlb_refine [computeSkipReason, computeSkipReasonAlts, Src.ComputeSkipReason, view_ComputeSkipReason]

theorem refines_TrStoragePhase : Refines (Src.TrStoragePhase false) trStoragePhase view_TrStoragePhase := by
  tlb_refine [trStoragePhase, Src.TrStoragePhase, view_TrStoragePhase, refines_AccStatusChange.keep]

theorem refines_TrComputePhase : Refines (Src.TrComputePhase false) trComputePhase view_TrComputePhase := by
  tlb_refine [trComputePhase, trComputePhaseAlts, Src.TrComputePhase, view_TrComputePhase, refines_ComputeSkipReason.keep,
    (refines_varUInt 3 2 (by decide) (by decide)).maybeK (nonUnit_varUInt 3)]

theorem refines_TrBouncePhase : Refines (Src.TrBouncePhase false) trBouncePhase view_TrBouncePhase := by
  tlb_refine [trBouncePhase, trBouncePhaseAlts, Src.TrBouncePhase, view_TrBouncePhase, refines_StorageUsedShort.keep]

theorem refines_FutureSplitMerge : Refines (Src.FutureSplitMerge false) futureSplitMerge view_FutureSplitMerge := by
  tlb_refine [futureSplitMerge, futureSplitMergeAlts, Src.FutureSplitMerge, view_FutureSplitMerge]

theorem refines_IntermediateAddress :
    Refines (Src.IntermediateAddress false) intermediateAddress view_IntermediateAddress := by
  tlb_refine [intermediateAddress, intermediateAddressAlts, Src.IntermediateAddress, view_IntermediateAddress]

theorem refines_ValidatorDescr : Refines (Src.ValidatorDescr false) validatorDescr view_ValidatorDescr := by
  tlb_refine [validatorDescr, validatorDescrAlts, Src.ValidatorDescr, view_ValidatorDescr, refines_SigPubKey.keep]

theorem refines_CatchainConfig : Refines (Src.CatchainConfig false) catchainConfig view_CatchainConfig := by
  tlb_refine [catchainConfig, catchainConfigAlts, Src.CatchainConfig, view_CatchainConfig]

theorem refines_BlkPrevInfo0 :
    Refines (fun s => Src.BlkPrevInfo false s (.int 0)) (blkPrevInfo 0) view_BlkPrevInfo :=
  .of_reads fun s => .typ <| .iteTrue rfl <| .ifTrue rfl <| .named <| .recd <|
    .cons refines_ExtBlkRef fun prev s =>
    .nil <| .pure (by tlb_view [view_BlkPrevInfo])

theorem refines_BlkPrevInfo1 :
    Refines (fun s => Src.BlkPrevInfo false s (.int 1)) (blkPrevInfo 1) view_BlkPrevInfo :=
  .of_reads fun s => .typ <| .iteFalse (by decide) <| .ifFalse rfl <| .named <| .recd <|
    .field <| .ref fun b r s => .call refines_ExtBlkRef fun prev1 _ _ =>
    .field <| .ref fun b r s => .call refines_ExtBlkRef fun prev2 _ _ =>
    .nil <| .pure (by tlb_view [view_BlkPrevInfo])

end TonVerif.Tlb
