/-
The dictionary parser REGENERATED from the source (Generated/HashmapSrc.lean, translator harness/translate/pyrec.py +
hashmapsrc.py) equals the hand model Model/Hashmap.lean — for all inputs.  (The serialiser: Proofs/SrcHashmapSer.lean.)

Part 1 (label reader): `deserialize_unary`, `deserialize_hml`.
Part 2 (parse recursion): `parse` / `deserialize_hashmap_node`, `parse_aug` / `deserialize_hashmap_aug_node`, `parse_hashmap`;
        for EVERY fuel ≥ 2·key_length + 2.

Conventions: a regenerated function returns its result together with the final values of the parameters it mutates; the
theorems project to the components a caller of the Python function can observe.
-/
import TonVerif.Generated.HashmapSrc
import TonVerif.Proofs.Hashmap
import TonVerif.Proofs.SrcArith
import TonVerif.Proofs.SrcSim

namespace TonVerif.Proofs.SrcHashmap
open TonVerif TonVerif.Model TonVerif.Model.Hashmap TonVerif.Spec.Hashmap TonVerif.Proofs.Hashmap
open TonVerif.Generated.HashmapSrc

/-! ### Part 1: the label reader -/

/-- the slice after its bits were replaced -/
def withBits (s : Py.Slice) (b : Bits) : Py.Slice := { s with bits := b }

@[simp] theorem withBits_kind (s : Py.Slice) (b : Bits) : (withBits s b).kind = s.kind := rfl
@[simp] theorem withBits_bits (s : Py.Slice) (b : Bits) : (withBits s b).bits = b := rfl
@[simp] theorem withBits_refs (s : Py.Slice) (b : Bits) : (withBits s b).refs = s.refs := rfl
@[simp] theorem withBits_withBits (s : Py.Slice) (a b : Bits) : withBits (withBits s a) b = withBits s b := rfl
@[simp] theorem withBits_self (s : Py.Slice) : withBits s s.bits = s := rfl

theorem loadBit_eq (s : Py.Slice) :
    s.loadBit? = match s.bits with | [] => none | b :: r => some (b, withBits s r) := by
  unfold Py.Slice.loadBit?; cases s.bits <;> rfl

theorem loadBits_eq (s : Py.Slice) (n : Nat) :
    s.loadBits? n = (loadBits n s.bits).map fun p => (p.1, withBits s p.2) := by
  unfold Py.Slice.loadBits? loadBits; split <;> rfl

theorem loadUint_eq (s : Py.Slice) (l : Nat) :
    s.loadUint? l = (loadUint l s.bits).map fun p => (p.1, withBits s p.2) := by
  unfold Py.Slice.loadUint? loadUint; split <;> rfl

/-- the `while r:` loop of `deserialize_unary`, for every loop fuel that is at least the number of remaining bits -/
theorem unary_loop (lf : Nat) : ∀ (n : Nat) (r : Bool) (ser : Py.Slice), ser.bits.length ≤ lf →
    deserialize_unary_while1 lf (n, r, ser) =
      if r then (readUnary ser.bits).map fun p => (n + 1 + p.1, false, withBits ser p.2) else some (n, false, ser) := by
  induction lf with
  | zero =>
    intro n r ser h
    have hb : ser.bits = [] := List.eq_nil_of_length_eq_zero (by omega)
    cases r <;> simp [deserialize_unary_while1, hb, readUnary]
  | succ lf ih =>
    intro n r ser h
    cases r with
    | false => simp [deserialize_unary_while1]
    | true =>
      simp only [deserialize_unary_while1, if_true, loadBit_eq]
      cases hb : ser.bits with
      | nil => simp [readUnary]
      | cons b rest =>
        have hl : (withBits ser rest).bits.length ≤ lf := by simp [hb] at h; simpa using h
        simp only [bind, Option.bind, ih (n + 1) b (withBits ser rest) hl]
        cases b with
        | false => simp [readUnary]
        | true =>
          simp only [if_true, readUnary, withBits_bits, withBits_withBits, Option.map_map]
          congr 1; funext p; simp; omega

/-- the declared loop variant loses nothing: every larger loop fuel gives the same result -/
theorem unary_loop_fuel_indep (lf n : Nat) (r : Bool) (ser : Py.Slice) (h : ser.bits.length ≤ lf) :
    deserialize_unary_while1 lf (n, r, ser) = deserialize_unary_while1 ser.bits.length (n, r, ser) := by
  rw [unary_loop lf n r ser h, unary_loop _ n r ser (Nat.le_refl _)]

/-- `deserialize_unary(ser)` = `readUnary` on the remaining bits -/
theorem deserialize_unary_eq (ser : Py.Slice) :
    deserialize_unary ser = (readUnary ser.bits).map fun p => (p.1, withBits ser p.2) := by
  unfold deserialize_unary
  simp only [loadBit_eq, bind, Option.bind, pure]
  cases hb : ser.bits with
  | nil => simp [readUnary]
  | cons b rest =>
    simp only [unary_loop _ 0 b (withBits ser rest) (Nat.le_refl _)]
    cases b with
    | false => simp [readUnary]
    | true =>
      simp only [if_true, withBits_bits, readUnary, Option.map_map]
      cases readUnary rest with
      | none => rfl
      | some p => simp; omega

theorem loadLen_py (m : Int) (bits : Bits) :
    loadLen m bits = if Py.bitLength m.natAbs ≠ 0 then loadUint (Py.bitLength m.natAbs) bits else some (0, bits) := by
  unfold loadLen; rw [SrcArith.py_bitLength_eq]; by_cases h : bitLength m.natAbs = 0 <;> simp [h]

/-- the length field of `hml_long` / `hml_same` as the source reads it (`load_uint(l)` unless `l = 0`) is the model's `loadLen` -/
theorem load_len_eq (ser : Py.Slice) (m : Int) :
    (if Py.bitLength m.natAbs ≠ 0 then (ser.loadUint? (Py.bitLength m.natAbs)).bind fun x => some (x.1, x.2) else some (0, ser)) =
      (loadLen m ser.bits).map fun p => (p.1, withBits ser p.2) := by
  rw [loadLen_py, loadUint_eq]
  split
  · cases loadUint (Py.bitLength m.natAbs) ser.bits <;> rfl
  · rfl

/-- REGENERATED `deserialize_hml(ser, m)` = the hand model's `deserializeHml` on the remaining bits, for EVERY slice and EVERY
int `m`: same decision to raise (out of bits, `load_uint` of a missing field, label longer than the remaining key), same length,
same label bits, same remaining bits. -/
theorem deserialize_hml_eq (ser : Py.Slice) (m : Int) :
    deserialize_hml ser m = (deserializeHml ser.bits m).map fun t => ((t.1, t.2.1), withBits ser t.2.2) := by
  obtain ⟨kind, bits, refs⟩ := ser
  unfold deserialize_hml deserializeHml
  rcases bits with _ | ⟨_ | _, r0⟩
  · rfl
  · simp only [↓reduceIte, loadBit_eq, deserialize_unary_eq, loadBits_eq, Option.bind_eq_bind, Option.pure_def,
      readHml, Option.bind_some, Bool.false_eq_true, withBits]
    rcases readUnary r0 with _ | ⟨n, r1⟩
    · rfl
    simp only [Option.map_some, Option.bind_some]
    rcases loadBits n r1 with _ | ⟨s, r2⟩
    · rfl
    simp only [Option.map_some, Option.bind_some]
    split <;> rfl
  · rcases r0 with _ | ⟨_ | _, r1⟩
    · rfl
    · simp only [↓reduceIte, loadBit_eq, loadBits_eq, Option.bind_eq_bind, Option.pure_def,
        readHml, Option.bind_some, Bool.false_eq_true, String.reduceEq, withBits, load_len_eq]
      rcases loadLen m r1 with _ | ⟨n, r2⟩
      · rfl
      simp only [Option.map_some, Option.bind_some]
      rcases loadBits n r2 with _ | ⟨s, r3⟩
      · rfl
      simp only [Option.map_some, Option.bind_some]
      split <;> rfl
    · rcases r1 with _ | ⟨v, r2⟩
      · rfl
      simp only [↓reduceIte, loadBit_eq, Option.bind_eq_bind, Option.pure_def,
        readHml, Option.bind_some, String.reduceEq, withBits, load_len_eq]
      rcases loadLen m r2 with _ | ⟨n, r3⟩
      · rfl
      simp only [Option.map_some, Option.bind_some]
      split <;> rfl

/-! ### Part 2: the parse recursion -/

/-- the slice `ret_dict` holds for a leaf: ordinary, positioned behind the label -/
def valSlice (v : Val) : Py.Slice := ⟨-1, v.1, v.2⟩

/-- `ret_dict[key] = slice` for the entries the model's parser returns, in order -/
def addAll (d : List (Bits × Py.Slice)) (kv : List (Bits × Val)) : List (Bits × Py.Slice) :=
  kv.foldl (fun d p => Py.dset p.1 (valSlice p.2) d) d

theorem addAll_append (d : List (Bits × Py.Slice)) (a b : List (Bits × Val)) : addAll d (a ++ b) = addAll (addAll d a) b := by
  simp [addAll, List.foldl_append]

theorem loadRef_eq (s : Py.Slice) :
    s.loadRef? = match s.refs with | [] => none | c :: r => some (c, { s with refs := r }) := by
  unfold Py.Slice.loadRef?; cases s.refs <;> rfl

/-- the references `parse` leaves in the caller's slice: below an ordinary cell with key bits left the two children are gone -/
def afterEdge (kind : Int) (refs : List Cell) (m : Int) : List Cell := if kind = -1 ∧ m ≠ 0 then refs.drop 2 else refs

/-- `parseEdge` behind the label (the model's side of `deserialize_hashmap_node`) -/
def nodeTail (kind : Int) (bits : Bits) (refs : List Cell) (m : Int) (pfx : Bits) : Option (List (Bits × Val)) :=
  if kind ≠ -1 then some []
  else if m = 0 then (if pfx.isEmpty then some [] else some [(pfx, (bits, refs))])
  else parseFork refs (m - 1) pfx

/-- all that `parse(slice, k, ret_dict, prefix)` returns, `ret_dict` as the entries added: the slice left behind, the entries of
`parseEdge`, the prefix extended by the label -/
def parseFull : Cell → Int → Bits → Option (Py.Slice × List (Bits × Val) × Bits)
  | .mk kind bits refs, k, pfx =>
    (deserializeHml bits k).bind fun t =>
      (nodeTail kind t.2.2 refs (k - t.1) (pfx ++ t.2.1)).map fun kv =>
        (⟨kind, t.2.2, afterEdge kind refs (k - t.1)⟩, kv, pfx ++ t.2.1)

theorem parseFull_kv (c : Cell) (k : Int) (pfx : Bits) : (parseFull c k pfx).map (·.2.1) = parseEdge c k pfx := by
  obtain ⟨kind, bits, refs⟩ := c
  rw [parseFull, parseEdge]
  rcases deserializeHml bits k with _ | ⟨n, s, rest⟩
  · rfl
  · exact (Option.map_map _ _ _).trans Option.map_id'

/-- the slice and the prefix returned are fixed by the label alone -/
theorem parseFull_eq (kind : Int) (bits : Bits) (refs : List Cell) (k : Int) (pfx : Bits) :
    parseFull (.mk kind bits refs) k pfx = (deserializeHml bits k).bind fun t =>
      (parseEdge (.mk kind bits refs) k pfx).map fun kv => (⟨kind, t.2.2, afterEdge kind refs (k - t.1)⟩, kv, pfx ++ t.2.1) := by
  rw [parseFull, parseEdge]
  cases deserializeHml bits k <;> rfl

/-- `parse` and `deserialize_hashmap_node` call each other, so they are described together, each with all it returns -/
theorem parse_node_full (fuel : Nat) :
    (∀ (c : Cell) (k : Int) (d : List (Bits × Py.Slice)) (pfx : Bits), 2 * k.toNat + 2 ≤ fuel →
      parse fuel (Py.beginParse c) k d pfx = (parseFull c k pfx).map fun r => (r.1, addAll d r.2.1, r.2.2)) ∧
    (∀ (kind : Int) (bits : Bits) (refs : List Cell) (m : Int) (d : List (Bits × Py.Slice)) (pfx : Bits), 0 ≤ m →
      2 * m.toNat + 1 ≤ fuel →
      deserialize_hashmap_node fuel ⟨kind, bits, refs⟩ m d pfx =
        (nodeTail kind bits refs m pfx).map fun kv => (⟨kind, bits, afterEdge kind refs m⟩, addAll d kv)) := by
  induction fuel with
  | zero => exact ⟨fun _ _ _ _ h => by omega, fun _ _ _ _ _ _ _ h => by omega⟩
  | succ fuel ih =>
    obtain ⟨ihA, ihB⟩ := ih
    constructor
    · intro c k d pfx hf
      obtain ⟨kind, bits, refs⟩ := c
      rw [parse, parseFull]
      simp only [Py.beginParse, deserialize_hml_eq, Option.bind_eq_bind, Option.pure_def]
      rcases hh : deserializeHml bits k with _ | ⟨n, s, rest⟩
      · rfl
      have hle := deserializeHml_le hh
      simp only [Option.map_some, Option.bind_some, withBits, ihB kind rest refs (k - n) d (pfx ++ s) (by omega) (by omega)]
      cases nodeTail kind rest refs (k - n) (pfx ++ s) <;> rfl
    · intro kind bits refs m d pfx hm hf
      rw [deserialize_hashmap_node, nodeTail, afterEdge]
      by_cases h1 : kind ≠ -1
      · simp [h1, addAll]
      obtain rfl : kind = -1 := Decidable.not_not.1 h1
      by_cases h2 : m = 0
      · by_cases h3 : pfx.isEmpty <;> simp [h2, h3, addAll, valSlice]
      simp only [ne_eq, not_true_eq_false, h2, if_false, Option.bind_eq_bind, Option.pure_def, loadRef_eq, true_and, not_false_eq_true,
        if_true]
      rcases refs with _ | ⟨l, _ | ⟨r, more⟩⟩
      · rfl
      · simp only [Option.bind_some, parseFork, ihA l (m - 1) d (pfx ++ [false]) (by omega)]
        cases parseFull l (m - 1) (pfx ++ [false]) <;> rfl
      · -- both recursive calls rewritten by the induction hypothesis; the second starts from the dict the first returns
        simp only [Option.bind_some, parseFork, ← parseFull_kv, ihA _ (m - 1) _ _ (show 2 * (m - 1).toNat + 2 ≤ fuel by omega)]
        rcases parseFull l (m - 1) (pfx ++ [false]) with _ | ⟨sl, a, p⟩
        · rfl
        rcases parseFull r (m - 1) (pfx ++ [true]) with _ | ⟨sl2, b, p2⟩
        · rfl
        simp [addAll_append]

/-- the keys `parse` adds all extend the prefix it was called with, are non-empty (a root leaf of a 0-bit dictionary is not
stored) and pairwise different -/
theorem parseEdge_keys : ∀ (N : Nat) (c : Cell) (k : Int) (pfx : Bits) (kv : List (Bits × Val)), k.toNat < N →
    parseEdge c k pfx = some kv → ((∀ p ∈ kv, pfx <+: p.1) ∧ (kv.map (·.1)).Nodup) ∧ ∀ p ∈ kv, p.1 ≠ [] := by
  intro N
  induction N with
  | zero => intro _ _ _ _ hN; omega
  | succ N ih =>
    intro c k pfx kv hN h
    obtain ⟨kind, bits, refs⟩ := c
    rw [parseEdge] at h
    rcases hh : deserializeHml bits k with _ | ⟨n, s, rest⟩
    · simp [hh] at h
    have hle := deserializeHml_le hh
    simp only [hh] at h
    by_cases h1 : kind ≠ -1
    · simp [h1] at h; subst h; simp
    by_cases h2 : k - (n : Int) = 0
    · by_cases h3 : (pfx ++ s).isEmpty
      · simp [h1, h2, h3] at h; subst h; simp
      · simp [h1, h2, h3] at h; subst h; simpa using h3
    simp only [h1, h2, if_false] at h
    rcases refs with _ | ⟨l, _ | ⟨r, more⟩⟩
    · simp [parseFork] at h
    · simp [parseFork] at h
    simp only [parseFork] at h
    rcases ha : parseEdge l (k - n - 1) (pfx ++ s ++ [false]) with _ | a
    · simp [-List.append_assoc, ha] at h
    rcases hb : parseEdge r (k - n - 1) (pfx ++ s ++ [true]) with _ | b
    · simp [-List.append_assoc, ha, hb] at h
    simp only [ha, hb, Option.some.injEq] at h
    subst h
    obtain ⟨ka, ea⟩ := ih l _ _ a (by omega) ha
    obtain ⟨kb, eb⟩ := ih r _ _ b (by omega) hb
    exact ⟨keys_fork (List.prefix_append pfx s) ka kb, fun p hp => (List.mem_append.1 hp).elim (ea p) (eb p)⟩

theorem addAll_fresh (kv : List (Bits × Val)) (d : List (Bits × Py.Slice)) (hn : (kv.map (·.1)).Nodup)
    (hd : ∀ p ∈ kv, p.1 ∉ d.map Prod.fst) : addAll d kv = d ++ kv.map (fun p => (p.1, valSlice p.2)) :=
  foldl_dset_fresh (fun p : Bits × Val => p.1) (fun p => valSlice p.2) kv d hn hd

/-- REGENERATED `parse(slice, key_length, ret_dict, prefix)`: what it leaves in `ret_dict`, for every fuel ≥ 2·key_length + 2 -/
theorem src_parse_eq (fuel : Nat) (c : Cell) (k : Int) (d : List (Bits × Py.Slice)) (pfx : Bits) (hf : 2 * k.toNat + 2 ≤ fuel) :
    (parse fuel (Py.beginParse c) k d pfx).map (·.2.1) = (parseEdge c k pfx).map (addAll d) := by
  rw [(parse_node_full fuel).1 c k d pfx hf, ← parseFull_kv, Option.map_map, Option.map_map]
  rfl

/-- REGENERATED `parse_hashmap(cell.begin_parse(), key_len)` returns exactly the entries of the hand model's `parseHashmap`, in the
same order (a Python dict keeps insertion order; the keys are pairwise different), each value being the ordinary slice positioned
behind the leaf's label — or raises exactly when the model does; for every fuel ≥ 2·key_len + 2. -/
theorem src_parse_hashmap_eq (fuel : Nat) (c : Cell) (n : Nat) (hf : 2 * n + 2 ≤ fuel) :
    (parse_hashmap fuel (Py.beginParse c) (n : Int)).map (·.1) =
      (parseHashmap c n).map fun kv => kv.map fun p => (p.1, valSlice p.2) := by
  unfold parse_hashmap parseHashmap
  simp only [(parse_node_full fuel).1 c n [] [] (by simpa using hf), Option.bind_eq_bind, Option.pure_def]
  rcases hp : parseFull c n [] with _ | ⟨sl, kv, p⟩
  · rw [← parseFull_kv, hp]; rfl
  · have hq : parseEdge c n [] = some kv := by rw [← parseFull_kv, hp]; rfl
    obtain ⟨⟨_, hn⟩, _⟩ := parseEdge_keys _ c n [] kv (Nat.lt_succ_self _) hq
    simp [hq, addAll_fresh kv [] hn (by simp)]


/-! #### augmented dictionaries -/

/-- the callback `y_deserializer(cs)` for a decoder pair `D`: reads the extra, leaves the slice behind it -/
def ydOf {X Y : Type} (D : AugDec X Y) (sl : Py.Slice) : Option (Y × Py.Slice) :=
  (D.decY (sl.bits, sl.refs)).map fun r => (r.1, { sl with bits := r.2.1, refs := r.2.2 })

/-- the callback `x_deserializer(cs)`: reads the value (what it leaves of the slice is not used afterwards) -/
def xdOf {X Y : Type} (D : AugDec X Y) (sl : Py.Slice) : Option (X × Py.Slice) :=
  (D.decX (sl.bits, sl.refs)).map fun x => (x, sl)

def addAllX {X : Type} (d : List (Bits × X)) (kv : List (Bits × X)) : List (Bits × X) :=
  kv.foldl (fun d p => Py.dset p.1 p.2 d) d

theorem addAllX_append {X : Type} (d a b : List (Bits × X)) : addAllX d (a ++ b) = addAllX (addAllX d a) b := by
  simp [addAllX, List.foldl_append]

/-- `ret_dict` and `extras` after the model's parse returned `r` -/
def augOut {X Y : Type} (d : List (Bits × X)) (ex : List Y) (r : List (Bits × X) × List Y) : List (Bits × X) × List Y :=
  (addAllX d r.1, ex ++ r.2)

theorem parse_aug_node_eq {X Y : Type} (D : AugDec X Y) (fuel : Nat) :
    (∀ (c : Cell) (k : Int) (d : List (Bits × X)) (ex : List Y) (pfx : Bits), 2 * k.toNat + 2 ≤ fuel →
      (parse_aug (xdOf D) (ydOf D) fuel (Py.beginParse c) k d ex pfx).map (fun r => (r.2.1, r.2.2.1)) =
        (parseAugEdge D c k pfx).map (augOut d ex)) ∧
    (∀ (kind : Int) (bits : Bits) (refs : List Cell) (m : Int) (d : List (Bits × X)) (ex : List Y) (pfx : Bits), 0 ≤ m →
      2 * m.toNat + 1 ≤ fuel →
      (deserialize_hashmap_aug_node (xdOf D) (ydOf D) fuel ⟨kind, bits, refs⟩ m d ex pfx).map (fun r => (r.2.1, r.2.2)) =
        (if m = 0 then
          match D.decY (bits, refs) with
          | none => none
          | some (y, sl) =>
            match D.decX sl with
            | none => none
            | some x => some ([(pfx, x)], [y])
         else parseAugFork D refs bits (m - 1) pfx).map (augOut d ex)) := by
  induction fuel with
  | zero => exact ⟨fun _ _ _ _ _ h => by omega, fun _ _ _ _ _ _ _ _ h => by omega⟩
  | succ fuel ih =>
    obtain ⟨ihA, ihB⟩ := ih
    constructor
    · intro c k d ex pfx hf
      obtain ⟨kind, bits, refs⟩ := c
      rw [parse_aug, parseAugEdge]
      by_cases h1 : kind ≠ -1
      · simp [Py.beginParse, h1, augOut, addAllX]
      simp only [Py.beginParse, h1, if_false, deserialize_hml_eq, Option.bind_eq_bind, Option.pure_def]
      rcases hh : deserializeHml bits k with _ | ⟨n, s, rest⟩
      · rfl
      have hle := deserializeHml_le hh
      refine Eq.trans ?_ (ihB kind rest refs (k - n) d ex (pfx ++ s) (by omega) (by omega))
      simp only [Option.map_some, Option.bind_some, withBits]
      cases deserialize_hashmap_aug_node (xdOf D) (ydOf D) fuel ⟨kind, rest, refs⟩ (k - n) d ex (pfx ++ s) <;> rfl
    · intro kind bits refs m d ex pfx hm hf
      rw [deserialize_hashmap_aug_node]
      by_cases h2 : m = 0
      · rw [if_pos h2, if_pos h2]
        simp only [Option.bind_eq_bind, Option.pure_def, ydOf, xdOf]
        rcases D.decY (bits, refs) with _ | ⟨y, b', r'⟩
        · rfl
        simp only [Option.map_some, Option.bind_some]
        cases D.decX (b', r') <;> rfl
      rw [if_neg h2, if_neg h2]
      simp only [Option.bind_eq_bind, Option.pure_def, loadRef_eq]
      rcases refs with _ | ⟨l, _ | ⟨r, more⟩⟩
      · rfl
      · simp only [Option.bind_some, parseAugFork]
        cases parse_aug (xdOf D) (ydOf D) fuel (Py.beginParse l) (m - 1) d ex (pfx ++ [false]) <;> rfl
      · simp only [Option.bind_some, parseAugFork]
        obtain ⟨hp, hq⟩ | ⟨⟨sl, d1, e1, p1⟩, ⟨a, ea⟩, hp, hq, e⟩ :=
          (SrcBytes.Sim.of_maps (ihA l (m - 1) d ex (pfx ++ [false]) (by omega))).inv
        · simp [hp, hq]
        obtain ⟨rfl, rfl⟩ : d1 = addAllX d a ∧ e1 = ex ++ ea := Prod.mk.inj e
        obtain ⟨hp2, hq2⟩ | ⟨⟨sl2, d2, e2, p2⟩, ⟨b, eb⟩, hp2, hq2, e'⟩ :=
          (SrcBytes.Sim.of_maps (ihA r (m - 1) (addAllX d a) (ex ++ ea) (pfx ++ [true]) (by omega))).inv
        · simp [hp, hq, hp2, hq2]
        obtain ⟨rfl, rfl⟩ : d2 = addAllX (addAllX d a) b ∧ e2 = ex ++ ea ++ eb := Prod.mk.inj e'
        simp only [hp, hq, hp2, hq2, Option.bind_some, ydOf]
        rcases D.decY (bits, more) with _ | ⟨y, v⟩
        · rfl
        · simp [augOut, addAllX_append]

/-- REGENERATED `parse_aug(…)`: what it leaves in `ret_dict` and `extras`, for every decoder pair and every fuel ≥ 2·key_length + 2 -/
theorem src_parse_aug_eq {X Y : Type} (D : AugDec X Y) (fuel : Nat) (c : Cell) (k : Int) (d : List (Bits × X)) (ex : List Y) (pfx : Bits)
    (hf : 2 * k.toNat + 2 ≤ fuel) :
    (parse_aug (xdOf D) (ydOf D) fuel (Py.beginParse c) k d ex pfx).map (fun r => (r.2.1, r.2.2.1)) =
      (parseAugEdge D c k pfx).map (augOut d ex) :=
  (parse_aug_node_eq D fuel).1 c k d ex pfx hf


end TonVerif.Proofs.SrcHashmap
