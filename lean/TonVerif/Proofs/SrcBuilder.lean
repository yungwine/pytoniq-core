/-
The `store_*` methods of builder.py and `TvmBitarray.extend / append / frombytes / check_overflow`, regenerated from the source
(Generated/BuilderOps.lean, translator harness/translate/pymeth.py), equal the hand model `Model.BOp.*` for ALL arguments and ALL
builder states: same decision to raise (value range of `int2ba`, `check_overflow`, the reference tests), same builder afterwards
(partial writes of a raising call included), and `return self`.

`ofFlag r` reads a model result (state, returned normally?) in the shape of a regenerated method (state, `some ()` / `none`).
-/
import TonVerif.Generated.BuilderOps
import TonVerif.Proofs.SrcArith
import TonVerif.Proofs.SrcSim

namespace TonVerif.Proofs.SrcBuilder
open TonVerif TonVerif.Model TonVerif.Generated.BuilderOps TonVerif.Proofs.SrcArith
variable {R : Type}
set_option linter.unusedSimpArgs false
set_option linter.unusedVariables false

/-- a model result `(state, returned normally?)` in the shape of a regenerated method -/
def ofFlag {σ : Type} (r : σ × Bool) : σ × Option Unit := (r.1, if r.2 then some () else none)

theorem ofFlag_fst {σ : Type} (r : σ × Bool) : (ofFlag r).1 = r.1 := rfl
theorem ofFlag_none {σ : Type} (r : σ × Bool) : (ofFlag r).2 = none ↔ r.2 = false := by
  rcases r with ⟨s, _ | _⟩ <;> simp [ofFlag]
theorem ofFlag_some {σ : Type} (r : σ × Bool) : (ofFlag r).2 = some () ↔ r.2 = true := by
  rcases r with ⟨s, _ | _⟩ <;> simp [ofFlag]
theorem ofFlag_ok {σ : Type} {r : σ × Bool} {s : σ} (h : ofFlag r = (s, some ())) : r = (s, true) :=
  Prod.ext (congrArg Prod.fst h :) ((ofFlag_some r).mp (congrArg Prod.snd h))

/-! ### generation independent: the sequencing combinators -/

@[simp] theorem bindS_ret {σ α : Type} (r : σ × Option α) : Py.bindS r (fun s a => (s, some a)) = r := by
  rcases r with ⟨s, _ | a⟩ <;> rfl

@[simp] theorem bindS_retU {σ : Type} (r : σ × Option Unit) : Py.bindS r (fun s _ => (s, some ())) = r := by
  rcases r with ⟨s, _ | a⟩ <;> rfl

theorem bindS_assoc {σ α β γ : Type} (r : σ × Option α) (k : σ → α → σ × Option β) (k' : σ → β → σ × Option γ) :
    Py.bindS (Py.bindS r k) k' = Py.bindS r (fun s a => Py.bindS (k s a) k') := by
  rcases r with ⟨s, _ | a⟩ <;> rfl

theorem bindS_ofFlag {σ β : Type} (r : σ × Bool) (k : σ → Unit → σ × Option β) :
    Py.bindS (ofFlag r) k = if r.2 then k r.1 () else (r.1, none) := by
  rcases r with ⟨s, _ | _⟩ <;> rfl

/-- `f ⊳ g` of the model is sequencing of the regenerated code -/
theorem andThen_ofFlag (f g : BOp R) (b : Builder R) :
    ofFlag ((f ⊳ g) b) = Py.bindS (ofFlag (f b)) fun s _ => ofFlag (g s) := by
  unfold BOp.andThen; rw [bindS_ofFlag]; cases h : (f b).2 <;> simp [ofFlag, h]

theorem ofFlag_fail (b : Builder R) : ofFlag (BOp.fail b) = (b, none) := rfl
theorem ofFlag_skip (b : Builder R) : ofFlag (BOp.skip b) = (b, some ()) := rfl

theorem natAbs_mag (v : Int) : (if v ≥ (0 : Int) then v else (-v - 1)).natAbs = if v ≥ 0 then v.toNat else (-v - 1).toNat := by
  split <;> omega

/-! ### the trusted readings of `int2ba` are the model's -/

theorem int2ba_unsigned (v : Int) (n : Nat) : Py.int2ba? v n false = BOp.int2baU v n := by
  unfold Py.int2ba? BOp.int2baU
  by_cases h : n = 0 <;> simp [h]
  by_cases h2 : v < 0 <;> simp [h2]

theorem int2ba_signed (v : Int) (n : Nat) : Py.int2ba? v n true = BOp.int2baS v n := by
  unfold Py.int2ba? BOp.int2baS
  by_cases h : n = 0 <;> simp [h]

/-! ### TvmBitarray: `extend`, `append`, `frombytes` are `BOp.extend` on the builder's bit list -/

theorem src_check_overflow (n : Nat) (bits : Bits) :
    TvmBitarray_check_overflow n bits = (bits, if bits.length + n > 1023 then none else some ()) :=
  (apply_ite (Prod.mk bits) _ _ _).symm

/-- the shape of every `TvmBitarray` write: `check_overflow(n)`, then append the `n` bits `xs` -/
theorem src_checked_append (n : Nat) (xs : Bits) (hn : xs.length = n) (b : Builder R) :
    Py.zoom (Py.bindS (TvmBitarray_check_overflow n b.bits) fun self _ => (self ++ xs, some ()))
      (fun v => { b with bits := v }) = ofFlag (BOp.extend xs b) := by
  rw [src_check_overflow, BOp.extend, hn]
  exact ite_rel (R := fun x y => Py.zoom (Py.bindS (b.bits, x) _) _ = ofFlag y) Iff.rfl (fun _ => rfl) fun _ => rfl

theorem src_extend_eq (x : Bits) (b : Builder R) :
    Py.zoom (TvmBitarray_extend x b.bits) (fun v => { b with bits := v }) = ofFlag (BOp.extend x b) :=
  src_checked_append _ x rfl b

theorem src_frombytes_eq (x : Bytes) (b : Builder R) :
    Py.zoom (TvmBitarray_frombytes x b.bits) (fun v => { b with bits := v }) = ofFlag (BOp.storeBytes x b) :=
  src_checked_append _ (bytesToBits x) (by rw [TonVerif.Proofs.Bits.bytesToBits_length, Nat.mul_comm]) b

theorem src_append_bool_eq (v : Bool) (b : Builder R) :
    Py.zoom (TvmBitarray_append_bool v b.bits) (fun w => { b with bits := w }) = ofFlag (BOp.storeBit v b) := by
  have e : BOp.storeBit v b = BOp.extend [decide (v = true)] b := by rw [Bool.decide_eq_true]; rfl
  rw [e]
  exact src_checked_append 1 _ rfl b

/-- an int bit: `0` / `1` are the bits, anything else is refused by `bitarray.append` (ValueError), after the capacity check;
the builder is unchanged by a refused call. -/
theorem src_append_nat_eq (v : Nat) (b : Builder R) :
    Py.zoom (TvmBitarray_append_nat v b.bits) (fun w => { b with bits := w }) =
      if v < 2 then ofFlag (BOp.storeBit (decide (v = 1)) b) else (b, none) := by
  unfold TvmBitarray_append_nat BOp.storeBit BOp.extend ofFlag Py.zoom Py.bindS Py.bindO Py.bitOfNat?
  rw [src_check_overflow]
  have hv : v = 0 ∨ v = 1 ∨ 2 ≤ v := by omega
  by_cases h : b.bits.length + 1 > 1023
  · rcases hv with rfl | rfl | hv
    · simp [h]
    · simp [h]
    · have : ¬ v < 2 := by omega
      simp [h, this]
  · rcases hv with rfl | rfl | hv
    · simp [h]
    · simp [h]
    · have h2 : ¬ v < 2 := by omega
      have h0 : v ≠ 0 := by omega
      have h1 : v ≠ 1 := by omega
      simp [h, h2, h0, h1]

/-! ### Builder: fixed-width integers, bits, bytes -/

theorem src_store_uint_eq (v : Int) (n : Nat) (b : Builder R) : store_uint v n b = ofFlag (BOp.storeUint v n b) := by
  unfold store_uint BOp.storeUint
  rw [int2ba_unsigned]
  cases BOp.int2baU v n with
  | none => rfl
  | some bs => simp only [Py.bindO, src_extend_eq, bindS_retU]

theorem src_store_int_eq (v : Int) (n : Nat) (b : Builder R) : store_int v n b = ofFlag (BOp.storeInt v n b) := by
  unfold store_int BOp.storeInt
  rw [int2ba_signed]
  cases BOp.int2baS v n with
  | none => rfl
  | some bs => simp only [Py.bindO, src_extend_eq, bindS_retU]

theorem src_store_bits_eq (bs : Bits) (b : Builder R) : store_bits bs b = ofFlag (BOp.storeBits bs b) := by
  unfold store_bits BOp.storeBits; simp only [src_extend_eq, bindS_retU]

theorem src_store_bytes_eq (bs : Bytes) (b : Builder R) : store_bytes bs b = ofFlag (BOp.storeBytes bs b) := by
  unfold store_bytes; simp only [src_frombytes_eq, bindS_retU]

theorem src_store_bool_eq (v : Bool) (b : Builder R) : store_bool v b = ofFlag (BOp.storeBit v b) := by
  unfold store_bool
  have : decide (v = true) = v := by cases v <;> rfl
  simp only [this, src_append_bool_eq, bindS_retU]

theorem src_store_bit_eq (v : Nat) (b : Builder R) :
    store_bit v b = if v < 2 then ofFlag (BOp.storeBit (decide (v = 1)) b) else (b, none) := by
  unfold store_bit; simp only [src_append_nat_eq, bindS_retU]

theorem src_store_bit_int_eq (v : Nat) (b : Builder R) :
    store_bit_int v b = if v < 2 then ofFlag (BOp.storeBit (decide (v = 1)) b) else (b, none) := by
  unfold store_bit_int; simp only [src_append_nat_eq, bindS_retU]

/-- `store_bit(0)` / `store_bit(1)` -/
theorem src_store_bit_bool (v : Bool) (b : Builder R) : store_bit (if v then 1 else 0) b = ofFlag (BOp.storeBit v b) := by
  rw [src_store_bit_eq]; cases v <;> simp

/-! ### references -/

theorem src_store_ref_eq (r : R) (b : Builder R) : store_ref r b = ofFlag (BOp.storeRef r b) :=
  ite_rel (R := fun x y => x = ofFlag y) Iff.rfl (fun _ => rfl) fun _ => rfl

theorem src_store_maybe_ref_eq (r : Option R) (b : Builder R) : store_maybe_ref r b = ofFlag (BOp.storeMaybeRef r b) := by
  unfold store_maybe_ref BOp.storeMaybeRef
  cases r with
  | none =>
    have := src_store_bit_bool false b
    simp only [Bool.false_eq_true, if_false] at this
    simp only [this, bindS_retU]
  | some c =>
    have := src_store_bit_bool true b
    simp only [if_true] at this
    simp only [this, bindS_retU, andThen_ofFlag, src_store_ref_eq]

theorem src_store_dict_eq (r : Option R) (b : Builder R) : store_dict r b = ofFlag (BOp.storeDict r b) := by
  unfold store_dict BOp.storeDict; simp only [src_store_maybe_ref_eq, bindS_retU]

/-! ### variable-length integers, coins -/

theorem src_store_var_uint_eq (v : Int) (k : Nat) (b : Builder R) :
    store_var_uint v k b = ofFlag (BOp.storeVarUint v k b) := by
  refine ite_rel (R := fun x (y : BOp R) => x = ofFlag (y b)) Iff.rfl (fun _ => ?_) fun _ => ?_
  · simp only [src_store_uint_eq, bindS_retU]
  · simp only [src_store_uint_eq, bindS_retU, andThen_ofFlag, ceilDiv8, py_bitLength_eq_bitLen]

theorem src_store_var_int_eq (v : Int) (k : Nat) (b : Builder R) :
    store_var_int v k b = ofFlag (BOp.storeVarInt v k b) := by
  refine ite_rel (R := fun x (y : BOp R) => x = ofFlag (y b)) Iff.rfl (fun _ => ?_) fun _ => ?_
  · simp only [src_store_uint_eq, bindS_retU]
  · simp only [src_store_uint_eq, src_store_int_eq, bindS_retU, andThen_ofFlag, ceilDiv8, py_bitLength_eq_bitLen,
      natAbs_mag, Nat.add_assoc]

theorem src_store_coins_eq (v : Int) (b : Builder R) : store_coins v b = ofFlag (BOp.storeCoins v b) := by
  unfold store_coins BOp.storeCoins; simp only [src_store_var_uint_eq, bindS_retU]

/-! ### cells and slices -/

theorem src_store_cell_eq (c : Py.CellV R) (b : Builder R) : store_cell c b = ofFlag (BOp.storeCell c.bits c.refs b) := by
  refine ite_rel (R := fun x y => x = ofFlag y) Iff.rfl (fun _ => rfl) fun _ => ?_
  rw [src_store_bits_eq, BOp.storeBits, bindS_ofFlag]
  exact ite_rel (R := fun x y => x = ofFlag y) Iff.rfl (fun _ => rfl) fun h => by simp [ofFlag, h]

/-- the loop of `store_slice` over the remaining references is the model's `storeRefs` -/
theorem src_forS_refs (refs : List R) (off k : Nat) (hk : off + k = refs.length) (b : Builder R) :
    Py.forS (List.range' off k) b (fun i self =>
        Py.bindO (refs[i]?) self fun item => store_ref item self) =
      ofFlag (BOp.storeRefs (refs.drop off) b) := by
  induction k generalizing off b with
  | zero =>
    have : refs.drop off = [] := List.drop_eq_nil_of_le (by omega)
    simp [List.range', Py.forS, this, BOp.storeRefs, ofFlag_skip]
  | succ k ih =>
    have hlt : off < refs.length := by omega
    have hd : refs.drop off = refs[off] :: refs.drop (off + 1) := (List.drop_eq_getElem_cons hlt)
    rw [hd, List.range'_succ, Py.forS]
    show Py.bindS (Py.bindO (refs[off]?) b fun item => store_ref item b) _ = _
    rw [List.getElem?_eq_getElem hlt]
    show Py.bindS (store_ref refs[off] b) _ = _
    rw [src_store_ref_eq, BOp.storeRefs, andThen_ofFlag]
    congr 1
    funext s _
    exact ih (off + 1) (by omega) s

theorem src_store_slice_eq (s : Py.SliceSt R) (hs : s.ref_offset ≤ s.refs.length) (b : Builder R) :
    store_slice s b = ofFlag (BOp.storeSlice s.bits (s.refs.drop s.ref_offset) b) := by
  refine ite_rel (R := fun x y => x = ofFlag y) (by rw [List.length_drop]; omega) (fun _ => rfl) fun _ => ?_
  simp only [src_store_bits_eq, bindS_retU, andThen_ofFlag, BOp.storeBits]
  congr 1
  funext s' _
  exact src_forS_refs s.refs s.ref_offset (s.refs.length - s.ref_offset) (by omega) s'

/-! ### strings, addresses -/

/-- `store_string(value)`: the argument is `value.encode()` (a str travels as its UTF-8 bytes) -/
theorem src_store_string_eq (bs : Bytes) (b : Builder R) : store_string bs b = ofFlag (BOp.storeString bs b) := by
  refine ite_rel_not (R := fun x (y : BOp R) => x = ofFlag (y b)) (by omega) (fun _ => ?_) fun _ => rfl
  simp only [src_frombytes_eq, bindS_retU]

/-- an internal address as the hand model writes it -/
def addrOf (a : Py.AddrV) : Addr := .std (a.anycast.map fun c => (c.depth, c.rewrite_pfx)) a.wc a.hash_part

theorem src_store_address_none_eq (u : Unit) (b : Builder R) : store_address_none u b = ofFlag (BOp.storeAddress .none b) := by
  unfold store_address_none BOp.storeAddress
  simp only [src_store_bits_eq, bindS_retU]

theorem src_store_address_std_eq (a : Py.AddrV) (b : Builder R) :
    store_address_address a b = ofFlag (BOp.storeAddress (addrOf a) b) := by
  obtain ⟨wc, h, any⟩ := a
  unfold store_address_address BOp.storeAddress addrOf
  have h0 := fun (x : Builder R) => src_store_bit_bool false x
  have h1 := fun (x : Builder R) => src_store_bit_bool true x
  simp only [Bool.false_eq_true, if_false, if_true] at h0 h1
  cases any with
  | none =>
    simp only [Option.map, andThen_ofFlag, src_store_bits_eq, src_store_int_eq, src_store_bytes_eq, h0, bindS_retU, bindS_assoc]
  | some c =>
    simp only [Option.map, andThen_ofFlag, src_store_bits_eq, src_store_int_eq, src_store_uint_eq, src_store_bytes_eq, h1, bindS_retU, bindS_assoc]

/-! ### `store_address(ExternalAddress)`: `ExternalAddress.to_cell()` builds a cell in a fresh builder, `end_cell`, then `store_cell`

`mk` = `Cell(bits, refs, type_)` as `end_cell` calls it, a parameter of the translation (`none` = the constructor raises). The
theorem assumes what the constructor guarantees for a reference-free cell: it is built (depth 0) and keeps its bits. -/

theorem bindL_ofFlag {σ τ β : Type} (r : τ × Bool) (self : σ) (k : τ → Unit → σ × Option β) :
    Py.bindL (ofFlag r) self k = if r.2 then k r.1 () else (self, none) := by
  rcases r with ⟨s, _ | _⟩ <;> rfl

theorem extend_refs (xs : Bits) (b : Builder R) : (BOp.extend xs b).1.refs = b.refs := by
  unfold BOp.extend; split <;> rfl

theorem storeUint_refs (v : Int) (n : Nat) (b : Builder R) : (BOp.storeUint v n b).1.refs = b.refs := by
  unfold BOp.storeUint; cases BOp.int2baU v n <;> simp [extend_refs, BOp.fail]

/-- the cell `ExternalAddress.to_cell()` builds -/
def extInner (len : Nat) (val : Int) : Builder R × Bool :=
  (BOp.storeBits [false, true] ⊳ BOp.storeUint len 9 ⊳ (if len = 0 ∧ val = 0 then BOp.skip else BOp.storeUint val len))
    (Builder.empty : Builder R)

theorem storeBits_refs (xs : Bits) (b : Builder R) : (BOp.storeBits xs b).1.refs = b.refs := extend_refs xs b

theorem src_end_cell_snd (mk : Bits → List R → Option (Py.CellV R)) (hmk : ∀ bits, mk bits [] = some ⟨bits, []⟩)
    (a : Py.ExtAddrV) (b : Builder R) (hb : b.refs = []) :
    (Py.bindL (end_cell mk b) a fun _ r => (a, some r)).2 = some ⟨b.bits, []⟩ := by
  unfold end_cell Py.bindL Py.bindO
  rw [hb, hmk]

theorem src_to_cell_eq (mk : Bits → List R → Option (Py.CellV R)) (hmk : ∀ bits, mk bits [] = some ⟨bits, []⟩) (a : Py.ExtAddrV) :
    (ExternalAddress_to_cell mk a).2 =
      if (extInner (R := R) a.len a.external_address).2 then some ⟨(extInner (R := R) a.len a.external_address).1.bits, []⟩ else none := by
  obtain ⟨val, len⟩ := a
  unfold ExternalAddress_to_cell extInner BOp.andThen
  simp only [src_store_bits_eq, src_store_uint_eq, bindL_ofFlag]
  have hb : (({ bits := [], refs := [] } : Builder R)) = Builder.empty := rfl
  rw [hb]
  have e1 : (BOp.storeBits [false, true] (Builder.empty : Builder R)).1.refs = [] := by rw [storeBits_refs]; rfl
  have e2 : (BOp.storeUint (len : Int) 9 (BOp.storeBits [false, true] (Builder.empty : Builder R)).1).1.refs = [] := by
    rw [storeUint_refs, e1]
  have e3 : (BOp.storeUint val len (BOp.storeUint (len : Int) 9 (BOp.storeBits [false, true] (Builder.empty : Builder R)).1).1).1.refs = [] := by
    rw [storeUint_refs, e2]
  cases h1 : (BOp.storeBits [false, true] (Builder.empty : Builder R)).2
  · simp [h1]
  · cases h2 : (BOp.storeUint (len : Int) 9 (BOp.storeBits [false, true] (Builder.empty : Builder R)).1).2
    · simp [h1, h2]
    · by_cases hz : len = 0 ∧ val = 0
      · obtain ⟨hl, hv⟩ := hz
        subst hl; subst hv
        simp only [h1, h2, and_self, if_true, BOp.skip]
        rw [if_neg (by omega)]
        exact src_end_cell_snd mk hmk _ _ e2
      · simp only [h1, h2, hz, if_true, if_false]
        rw [if_pos (by omega)]
        cases h3 : (BOp.storeUint val len (BOp.storeUint (len : Int) 9 (BOp.storeBits [false, true] (Builder.empty : Builder R)).1).1).2
        · simp [h3]
        · simp only [h3, if_true]
          exact src_end_cell_snd mk hmk _ _ e3

theorem src_store_address_ext_eq (mk : Bits → List R → Option (Py.CellV R)) (hmk : ∀ bits, mk bits [] = some ⟨bits, []⟩)
    (a : Py.ExtAddrV) (b : Builder R) :
    store_address_externaladdress mk a b = ofFlag (BOp.storeAddress (.ext a.len a.external_address) b) := by
  unfold store_address_externaladdress BOp.storeAddress
  rw [src_to_cell_eq mk hmk a]
  show _ = ofFlag (if (extInner (R := R) a.len a.external_address).2 then
      BOp.storeCell (extInner (R := R) a.len a.external_address).1.bits [] b else (b, false))
  split
  · simp only [Py.bindO, src_store_cell_eq, bindS_retU]
  · rfl

end TonVerif.Proofs.SrcBuilder
