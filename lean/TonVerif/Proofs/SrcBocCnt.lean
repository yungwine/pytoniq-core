/-
C19, BoC parser: the iteration-counting copy of the regenerated `Boc.deserialize` (Generated/BocCnt.lean) returns what the
regenerated function returns (`*_erase`), and its loop counters are those of the cost model `Cost.bocCost` (`src_boc_bridge`):
never more, and equal when the parse returns.
-/
import TonVerif.Generated.BocCnt
import TonVerif.Proofs.SrcW
import TonVerif.Proofs.SrcBocDeser
import TonVerif.Proofs.Cost
import TonVerif.Proofs.BocHeaderPath

set_option linter.unusedSimpArgs false
namespace TonVerif.Proofs.SrcBocCnt
open TonVerif TonVerif.Py TonVerif.Model TonVerif.Model.BocParse TonVerif.Generated.BocHeader TonVerif.Generated.BocCells TonVerif.Generated.BocCnt
open TonVerif.Proofs.SrcW TonVerif.Proofs.SrcLoops
open TonVerif.Model.Cost (cellLoop cellNeed cellAbsent bocCost)
open TonVerif.Proofs.BocHeaderPath

/-! ## erasure: the counting copy computes the value of the regenerated function -/

theorem rest2c_erase {R : Type} (data : Bytes) (rs tr ex i : Nat) (bits : Bits) (e : Option Int) :
    (deserialize_cell_rest2_cnt (R := R) data rs tr ex i bits e).1 = deserialize_cell_rest2 data rs tr ex i bits e := by
  unfold deserialize_cell_rest2_cnt deserialize_cell_rest2
  simp only [bnd_opt_fst, bnd_w_fst, ite_fst, ret_fst, raise_fst, loopW_fst]

theorem restc_erase {R : Type} (data : Bytes) (rs tr ex au ds i : Nat) :
    (deserialize_cell_rest_cnt (R := R) data rs tr ex au ds i).1 = deserialize_cell_rest data rs tr ex au ds i := by
  unfold deserialize_cell_rest_cnt deserialize_cell_rest
  simp only [bnd_opt_fst, bnd_w_fst, ite_fst, ret_fst, raise_fst, loopW_fst, rest2c_erase]

theorem cellc_erase {R : Type} (data : Bytes) (rs : Nat) :
    (deserialize_cell_cnt (R := R) data rs).1 = deserialize_cell data rs := by
  unfold deserialize_cell_cnt deserialize_cell
  simp only [bnd_opt_fst, bnd_w_fst, ite_fst, ret_fst, raise_fst, loopW_fst, restc_erase]

theorem drest2c_erase {R : Type} (data : Bytes) (cls : Bits → List (Option R) → Int → Option R) (h : HeaderOut) (arr : List (CellOut R)) :
    (deserialize_rest2_cnt data cls h arr).1 = deserialize_rest2 data cls h arr := by
  unfold deserialize_rest2_cnt deserialize_rest2
  simp only [bnd_opt_fst, bnd_w_fst, ite_fst, ret_fst, raise_fst, loopW_fst]

theorem drestc_erase {R : Type} (data : Bytes) (cls : Bits → List (Option R) → Int → Option R) (h : HeaderOut) (arr : List (CellOut R)) :
    (deserialize_rest_cnt data cls h arr).1 = deserialize_rest data cls h arr := by
  unfold deserialize_rest_cnt deserialize_rest
  simp only [bnd_opt_fst, bnd_w_fst, ite_fst, ret_fst, raise_fst, loopW_fst, drest2c_erase]

/-- ERASURE: the counting copy of `Boc.deserialize` computes exactly the value of the regenerated function -/
theorem deserialize_cnt_erase {R : Type} (data : Bytes) (cls : Bits → List (Option R) → Int → Option R) :
    (deserialize_cnt data cls).1 = Generated.BocCells.deserialize data cls := by
  unfold deserialize_cnt Generated.BocCells.deserialize
  simp only [bnd_opt_fst, bnd_w_fst, ite_fst, ret_fst, raise_fst, loopW_fst, drestc_erase, cellc_erase]

/-! ## ticks of `deserialize_cell`: the reference loop (counter 0) runs `total_refs` times exactly when the call returns -/

theorem rest2c_pays {R : Type} (data : Bytes) (rs tr ex i : Nat) (bits : Bits) (e : Option Int) (j : Nat) :
    Pays (deserialize_cell_rest2_cnt (R := R) data rs tr ex i bits e) j (if j = 0 then tr else 0) := by
  unfold deserialize_cell_rest2_cnt
  refine Pays.opt _ fun bits _ => Pays.bnd _ ?_ fun ct _ => ?_
  · simp only [ite_snd, raise_snd, bnd_opt_snd, ret_snd, match_zero, ite_self]
  · simp only [Pays, range?_zero_one, bnd_opt_snd, bnd_opt_fst, bnd_w_snd, bnd_w_fst, loopW_fold_snd, loopW_fst, ret_fst, ret_snd,
      loop?_foldl, Option.bind_some, Option.isSome_some, if_true, List.length_range, Nat.add_zero]

theorem restc_pays {R : Type} (data : Bytes) (rs tr ex au ds i : Nat) (k : Nat) (hk : k ≠ 1) :
    Pays (deserialize_cell_rest_cnt (R := R) data rs tr ex au ds i) k (if k = 0 then tr else 0) := by
  unfold deserialize_cell_rest_cnt
  refine Pays.bnd _ ?_ fun e _ => rest2c_pays ..
  simp only [ite_snd, bnd_opt_snd, bnd_w_snd, ret_snd, match_zero, ite_self, Nat.add_zero, loopW_other, hk, ne_eq,
    not_false_eq_true, implies_true]

theorem cellc_pays {R : Type} (data : Bytes) (rs : Nat) (k : Nat) (hk : k ≠ 1) :
    Pays (deserialize_cell_cnt (R := R) data rs) k (if k = 0 then (data[0]?.getD 0) &&& 7 else 0) := by
  unfold deserialize_cell_cnt
  refine Pays.opt _ fun d1 h1 => ?_
  rw [h1]
  refine Pays.ite Pays.raise (Pays.opt _ fun d2 _ => Pays.ite Pays.raise (Pays.bnd _ ?_ fun i _ => restc_pays _ _ _ _ _ _ _ k hk))
  split <;> rfl

theorem cellc_ticks {R : Type} (data : Bytes) (rs : Nat) (k : Nat) (hk : k ≠ 1) :
    (deserialize_cell_cnt (R := R) data rs).2 k = 
      if k = 0 ∧ ((deserialize_cell (R := R) data rs).isSome) then (data[0]?.getD 0) &&& 7 else 0 := by
  rw [cellc_pays data rs k hk, cellc_erase]
  by_cases h : k = 0 <;> simp [h]
/-! ## the first loop against `Cost.cellLoop` -/

theorem cell_shape {R : Type} (d1 d2 : Nat) (rest : Bytes) (rs : Nat) :
    (Cost.cellAbsent d1 = true ∨ rest.length < Cost.cellNeed rs d1 d2 → deserialize_cell (R := R) (d1 :: d2 :: rest) rs = none) ∧
    (∀ v, deserialize_cell (R := R) (d1 :: d2 :: rest) rs = some v →
      v.2 = 2 + Cost.cellNeed rs d1 d2 ∧ v.1.refs.length = d1 % 8) := by
  rw [TonVerif.Proofs.SrcBocCells.src_deserialize_cell_eq]
  unfold cellOfModel deserializeCell
  simp only [List.getElem?_cons_zero, List.getElem?_cons_succ, Option.bind_some, Cost.cellAbsent, Cost.cellNeed, List.length_cons]
  generalize Model.popcount (d1 / 32) = P
  generalize (d1 / 16 % 2 == 1) = hh
  -- stored hashes and depths: the model's two conditionals are the cost model's single one
  have e : ((if hh = true then (P + 1) * 32 else 0) + if ((if hh = true then (P + 1) * 32 else 0) != 0) = true then (P + 1) * 2 else 0) =
      if hh = true then (P + 1) * 32 + (P + 1) * 2 else 0 := by
    cases hh
    · rfl
    · simp
  rw [e]
  generalize hX : (if hh = true then (P + 1) * 32 + (P + 1) * 2 else 0) = X
  have hX' : (if hh = true then X else 0) = X := by rw [← hX]; cases hh <;> rfl
  by_cases ha : (d1 % 8 == 7 && hh) = true
  · simp [ha]
  simp only [ha, Bool.false_eq_true, if_false, false_or]
  by_cases hs : rest.length + 1 + 1 < 2 + (X + (d2 / 2 + d2 % 2) + rs * (d1 % 8))
  · simp [hs]
  simp only [hs, if_false]
  refine ⟨fun h => absurd h (by omega), fun v hv => ?_⟩
  simp only [Option.map_eq_some_iff, Option.bind_eq_some_iff] at hv
  obtain ⟨p, ⟨ty, _, hp⟩, rfl⟩ := hv
  simp only [Option.some.injEq] at hp
  subst hp
  simp only [CellOut.ofModel, uintsAt_length]
  rw [hX', Nat.mul_comm (d1 % 8) rs]
  exact ⟨by omega, trivial⟩

/-- sum of the reference counts of the records read so far -/
def refSum {R : Type} (arr : List (CellOut R)) : Nat := (arr.map (·.refs.length)).sum

theorem cellLoop_done (sb : Nat) : ∀ (n : Nat) (d : Bytes), (cellLoop sb n d).2.2 = true → (cellLoop sb n d).1 = n := by
  intro n
  induction n with
  | zero => intro d _; rfl
  | succ n ih =>
    intro d h
    match d with
    | [] => simp [cellLoop] at h
    | [_] => simp [cellLoop] at h
    | d1 :: d2 :: rest =>
      simp only [cellLoop] at h ⊢
      split at h
      · simp at h
      · split at h
        · simp at h
        · rename_i h1 h2
          simp only [h1, h2, Bool.false_eq_true, if_false] 
          simp only at h
          rw [ih _ h]

theorem cellLoop_pos (sb n : Nat) (d : Bytes) : 1 ≤ (cellLoop sb (n + 1) d).1 := by
  match d with
  | [] => exact Nat.le_refl 1
  | [_] => exact Nat.le_refl 1
  | d1 :: d2 :: rest =>
    simp only [cellLoop]
    split
    · exact Nat.le_refl 1
    · split
      · exact Nat.le_refl 1
      · exact Nat.le_add_left 1 _

/-- a cell that the regenerated `deserialize_cell` reads is one step of the cost model's `cellLoop` -/
theorem cellLoop_step {R : Type} (sb n : Nat) (d : Bytes) (v : CellOut R × Nat) (h : deserialize_cell (R := R) d sb = some v) :
    cellLoop sb (n + 1) d = ((cellLoop sb n (d.drop v.2)).1 + 1, (cellLoop sb n (d.drop v.2)).2.1 + v.1.refs.length,
      (cellLoop sb n (d.drop v.2)).2.2) ∧ (d[0]?.getD 0) &&& 7 = v.1.refs.length := by
  match d, h with
  | [], h => simp [deserialize_cell] at h
  | [d1], h => unfold deserialize_cell at h; simp at h
  | d1 :: d2 :: rest, h =>
    obtain ⟨hbad, hgood⟩ := cell_shape (R := R) d1 d2 rest sb
    obtain ⟨hv2, hrefs⟩ := hgood v h
    have hA : cellAbsent d1 = false := by
      cases hA : cellAbsent d1 with
      | false => rfl
      | true => rw [hbad (Or.inl hA)] at h; cases h
    have hS : ¬ rest.length < cellNeed sb d1 d2 := fun hS => by rw [hbad (Or.inr hS)] at h; cases h
    simp only [cellLoop, hA, hS, Bool.false_eq_true, if_false, hv2, hrefs, List.getElem?_cons_zero, Option.getD_some,
      TonVerif.Proofs.SrcBytes.and7]
    exact ⟨by rw [Nat.add_comm 2]; rfl, trivial⟩

/-- counters 5 (the first loop) and 0 (the reference loop of `deserialize_cell`) as `cellLoop` gives them -/
def firstLoop (sb n : Nat) (d : Bytes) : Ticks :=
  fun j => if j = 5 then (cellLoop sb n d).1 else if j = 0 then (cellLoop sb n d).2.1 else 0

/-- FIRST LOOP: `for ci in range(cells_num)` with the reference loop of `deserialize_cell` inside is covered by `cellLoop`; when it
returns, `cellLoop` has completed and the array holds one record per cell, with the references `cellLoop` counted. -/
theorem loop1_covers {R : Type} (cd : Bytes) (sb n : Nat)
    (body : Nat → Nat × List (CellOut R) → W ((Nat × List (CellOut R)) × Bool))
    (hbody : ∀ x i acc, body x (i, acc) =
      (deserialize_cell_cnt (R := R) (cd.drop i) sb >>== fun r => W.ret ((i + r.2, acc ++ [r.1]), false))) :
    Covers True (· ≠ 1) (loopW? 5 (List.range n) (0, []) body) (firstLoop sb n cd)
      fun st => (cellLoop sb n cd).2.2 = true ∧ st.2.length = n ∧ refSum st.2 = (cellLoop sb n cd).2.1 := by
  -- with `xs` still to read from the state `s`, `cellLoop` on the bytes left accounts for the rest of the model
  have h := Covers.loop (e := True) (p := (· ≠ 1)) 5 body
    (fun xs s => (cellLoop sb xs.length (cd.drop s.1)).2.2 = (cellLoop sb n cd).2.2 ∧ s.2.length + xs.length = n ∧
      refSum s.2 + (cellLoop sb xs.length (cd.drop s.1)).2.1 = (cellLoop sb n cd).2.1)
    (fun xs s => firstLoop sb xs.length (cd.drop s.1)) (fun s _ j => by simp [firstLoop, cellLoop]) ?_ (List.range n) (0, [])
    (by simp only [List.length_range, List.drop_zero, List.length_nil, refSum, List.map_nil, List.sum_nil, Nat.zero_add, and_self])
  · refine (h.cast fun j _ => by rw [List.length_range]; rfl).imp fun st ⟨a, b, c⟩ => ⟨a.symm, b, c⟩
  rintro x xs ⟨i, acc⟩ ⟨hd, hl, hr⟩
  rw [hbody]
  -- a read that returns `v` is a step of `cellLoop` over the bytes of `v`
  have step : ∀ v, (deserialize_cell_cnt (R := R) (cd.drop i) sb).1 = some v →
      cellLoop sb (xs.length + 1) (cd.drop i) = ((cellLoop sb xs.length (cd.drop (i + v.2))).1 + 1,
        (cellLoop sb xs.length (cd.drop (i + v.2))).2.1 + v.1.refs.length, (cellLoop sb xs.length (cd.drop (i + v.2))).2.2) ∧
      ∀ j, firstLoop sb (xs.length + 1) (cd.drop i) j = (if j = 5 then 1 else 0) +
        ((if j = 0 then (cd.drop i)[0]?.getD 0 &&& 7 else 0) + firstLoop sb xs.length (cd.drop (i + v.2)) j) := by
    intro v hv
    rw [cellc_erase] at hv
    obtain ⟨hstep, hrefs⟩ := cellLoop_step sb xs.length (cd.drop i) v hv
    rw [List.drop_drop] at hstep
    refine ⟨hstep, fun j => ?_⟩
    simp only [firstLoop, hstep, hrefs]
    by_cases j5 : j = 5
    · subst j5; simp; omega
    · by_cases j0 : j = 0
      · subst j0; simp; omega
      · simp [j5, j0]
  refine ⟨_, (Covers.of_pays fun j hj => cellc_pays (cd.drop i) sb j hj).bind_ret fun v hv => ⟨rfl, ?_, fun j _ => ?_⟩, fun j _ => ?_⟩
  · simp only [List.length_cons, (step v hv).1] at hd hr hl
    refine ⟨hd, by simp only [List.length_append, List.length_singleton]; omega, ?_⟩
    simp only [refSum, List.map_append, List.sum_append, List.map_cons, List.map_nil, List.sum_cons, List.sum_nil] at hr ⊢
    omega
  · simp only [hv, Option.isSome_some, if_true]
    exact (step v hv).2 j
  · cases hc : (deserialize_cell_cnt (R := R) (cd.drop i) sb).1 with
    | none =>
      simp only [Option.isSome_none, Bool.false_eq_true, if_false, firstLoop, List.length_cons]
      split
      · exact cellLoop_pos sb xs.length _
      · exact Nat.zero_le _
    | some v =>
      simp only [Option.isSome_some, if_true, List.length_cons, (step v hc).2 j]
      omega

/-! ## the third loop, the second loop with its inner reference loop -/

/-- reference count of record `ci` of an array given by its reference lists -/
def refsAt (rl : List (List Nat)) (ci : Nat) : Nat := ((rl[ci]?).map List.length).getD 0

theorem refsAt_map {R : Type} (arr : List (CellOut R)) (ci : Nat) :
    refsAt (arr.map (·.refs)) ci = ((arr[ci]?).map (·.refs.length)).getD 0 := by
  simp [refsAt, List.getElem?_map, Option.map_map, Function.comp_def]

theorem sum_refsAt (rl : List (List Nat)) : ((List.range rl.length).reverse.map (refsAt rl)).sum = (rl.map List.length).sum := by
  rw [List.map_reverse, List.sum_reverse]
  congr 1
  apply List.ext_getElem
  · simp
  · intro i h1 h2
    simp at h1
    simp [refsAt, List.getElem?_eq_getElem h1]

theorem refSum_eq {R : Type} (arr : List (CellOut R)) : refSum arr = ((arr.map (·.refs)).map List.length).sum := by
  simp [refSum, List.map_map, Function.comp_def]

theorem setAt_refs {R : Type} (arr arr' : List (CellOut R)) (ci : Nat) (v : R)
    (h : Py.setAt? arr ci (fun c => { c with result := some v }) = some arr') : arr'.map (·.refs) = arr.map (·.refs) := by
  unfold Py.setAt? at h
  cases hc : arr[ci]? with
  | none => simp [hc] at h
  | some c =>
    simp only [hc, Option.map_some, Option.some.injEq] at h
    subst h
    apply List.ext_getElem?
    intro i
    simp only [List.getElem?_map, List.getElem?_set]
    split
    · rename_i hi; subst hi
      split
      · simp [hc]
      · rename_i hl; simp [List.getElem?_eq_none (Nat.le_of_not_lt hl)]
    · rfl

/-- THIRD LOOP (counter 2): one iteration per root index -/
theorem drest2_covers {R : Type} {p : Nat → Prop} (data : Bytes) (cls : Bits → List (Option R) → Int → Option R) (h : HeaderOut)
    (arr : List (CellOut R)) :
    Covers True p (deserialize_rest2_cnt data cls h arr) (fun j => if j = 2 then h.root_list.length else 0) fun _ => True := by
  unfold deserialize_rest2_cnt
  refine (Covers.loop_len 2 _ (fun _ => True) (fun ri st _ => ?_) h.root_list [] trivial).bind_ret fun _ _ => trivial
  exact Covers.opt _ fun e _ => Covers.ret ⟨rfl, trivial⟩

/-- SECOND LOOP (counter 3) with its reference loop (4), then the third: one iteration per record, one per reference, one per root -/
theorem drest_covers {R : Type} {p : Nat → Prop} (data : Bytes) (cls : Bits → List (Option R) → Int → Option R) (h : HeaderOut)
    (arr : List (CellOut R)) (hn : arr.length = h.cells_num) :
    Covers True p (deserialize_rest_cnt data cls h arr)
      (fun j => (if j = 3 then h.cells_num else 0) + (if j = 4 then refSum arr else 0) + (if j = 2 then h.root_list.length else 0))
      fun _ => True := by
  unfold deserialize_rest_cnt
  rw [range?_zero_one]
  refine Covers.opt _ fun rg hrg => ?_
  cases hrg
  -- the `'refs'` entries never change, so iteration `ci` costs the references of record `ci` of the array the loop starts from
  refine ((Covers.loop_inv 3 _ (fun a => a.map (·.refs) = arr.map (·.refs)) (fun ci j => if j = 4 then refsAt (arr.map (·.refs)) ci else 0)
    (fun ci a ha => ?_) (List.range h.cells_num).reverse arr rfl).bind fun st _ => drest2_covers data cls h st).cast fun j _ => ?_
  · refine Covers.opt _ fun c hc => ?_
    rw [range?_zero_one]
    refine Covers.opt _ fun rg hrg => ?_
    cases hrg
    have hc' : refsAt (arr.map (·.refs)) ci = c.refs.length := by rw [← ha, refsAt_map, hc]; rfl
    refine ((Covers.loop_len 4 _ (fun _ => True) (fun ri st _ => ?_) (List.range c.refs.length) [] trivial).bind fun refs _ =>
      Covers.opt _ fun e _ => Covers.opt _ fun v _ => Covers.opt _ fun a' ha' =>
        Covers.ret ⟨rfl, (setAt_refs a a' ci v ha').trans ha⟩).cast fun j _ => by simp [hc']
    exact Covers.opt _ fun r _ => Covers.ite (fun _ => Covers.raise) fun _ => Covers.opt _ fun e _ => Covers.ret ⟨rfl, trivial⟩
  · have hs : ((List.range h.cells_num).reverse.map (refsAt (arr.map (·.refs)))).sum = refSum arr := by
      rw [refSum_eq, ← sum_refsAt]; simp [hn]
    by_cases j4 : j = 4
    · subst j4; simpa using hs
    · simp [j4, List.map_const', List.sum_replicate_nat]

/-! ## the whole parser -/

/-- what the cost model predicts for the loop counters once the header is accepted (`m` = length of the root list):
5 = first loop, 0 = its reference loop, 3 = second loop, 4 = its reference loop, 2 = third loop -/
def predicted (sb n : Nat) (cd : Bytes) (m : Nat) (k : Nat) : Nat :=
  if k = 5 then (cellLoop sb n cd).1 else if k = 0 then (cellLoop sb n cd).2.1
  else if k = 3 then (if (cellLoop sb n cd).2.2 then n else 0)
  else if k = 4 then (if (cellLoop sb n cd).2.2 then (cellLoop sb n cd).2.1 else 0)
  else if k = 2 then (if (cellLoop sb n cd).2.2 then m else 0) else 0

/-- the whole parser behind an accepted header: the first loop as far as `cellLoop` gets, the other loops if it completes -/
theorem deser_covers {R : Type} (data : Bytes) (cls : Bits → List (Option R) → Int → Option R) (h : HeaderOut) (hh : header data = some h) :
    Covers True (· ≠ 1) (deserialize_cnt data cls) (predicted h.size_bytes h.cells_num h.cells_data h.root_list.length) fun _ => True := by
  unfold deserialize_cnt
  rw [hh]
  refine Covers.opt _ fun h' e => ?_
  cases e
  dsimp only
  rw [range?_zero_one]
  refine Covers.opt _ fun rg e => ?_
  cases e
  refine ((loop1_covers h.cells_data h.size_bytes h.cells_num _ fun x i acc => rfl).bind
    (T2 := fun j => if (cellLoop h.size_bytes h.cells_num h.cells_data).2.2 = true then
      (if j = 3 then h.cells_num else 0) + (if j = 4 then (cellLoop h.size_bytes h.cells_num h.cells_data).2.1 else 0) +
        (if j = 2 then h.root_list.length else 0) else 0)
    fun st ⟨hdone, hlen, hsum⟩ => (drest_covers data cls h st.2 hlen).cast fun j _ => by rw [if_pos hdone, hsum]).cast fun j _ => ?_
  simp only [predicted, firstLoop]
  by_cases j5 : j = 5
  · subst j5; simp
  by_cases j0 : j = 0
  · subst j0; simp
  by_cases j3 : j = 3
  · subst j3; simp
  by_cases j4 : j = 4
  · subst j4; simp
  by_cases j2 : j = 2 <;> simp [j5, j0, j3, j4, j2]

/-! ## the cost model on an accepted header; the bridge -/

theorem bocCost_of_flags (data : Bytes) (fl : Flags) (hfl : readFlags data = some fl) (hl5 : ¬ data.length < 5) :
    bocCost data = Cost.bocGuarded data fl.generic fl.hasIdx fl.hasCrc fl.sizeBytes (data.getD 5 0) := by
  have hm : ∀ m, pySlice data 0 4 = m → data.take 4 = m := fun m h => by simpa only [pySlice, List.drop_zero] using h
  have hb : ∀ x, data[4]? = some x → data.getD 4 0 = x := fun x h => by simp [List.getD, h]
  have hne : (Cost.magicIdx == Cost.magicGen) = false ∧ (Cost.magicIdx == Cost.magicIdxCrc) = false ∧
      (Cost.magicIdxCrc == Cost.magicGen) = false := by decide
  unfold bocCost
  cases flagsAt_of_readFlags hfl with
  | generic fb hmg h4 =>
    simp only [(hm _ hmg : data.take 4 = Cost.magicGen), hb _ h4, beq_self_eq_true, hl5, decide_false, Bool.true_or, Bool.not_true, Bool.or_false,
      Bool.false_eq_true, if_false, if_true]
    rw [show (128 : Nat) = 2 ^ 7 from rfl, show (64 : Nat) = 2 ^ 6 from rfl, ← testBit_div, ← testBit_div]
  | idx s _ hmg h4 =>
    simp only [(hm _ hmg : data.take 4 = Cost.magicIdx), hb _ h4, hne, beq_self_eq_true, hl5, decide_false, Bool.true_or, Bool.or_true, Bool.not_true,
      Bool.or_false, Bool.false_eq_true, if_false, if_true]
  | idxCrc s _ _ hmg h4 =>
    simp only [(hm _ hmg : data.take 4 = Cost.magicIdxCrc), hb _ h4, hne, beq_self_eq_true, hl5, decide_false, Bool.true_or, Bool.or_true, Bool.not_true,
      Bool.or_false, Bool.false_eq_true, if_false, if_true]

theorem bocCost_eq_body (data : Bytes) (fl : Flags) (off cells roots absent tot : Nat) (hx : Fixed data fl off cells roots absent tot) :
    bocCost data = Cost.bocBody data fl.generic fl.hasIdx fl.hasCrc fl.sizeBytes off cells roots tot := by
  obtain ⟨hfl, hpre, hs, h5, hcells, hroots, habsent, htot⟩ := hx
  have h5' : data.getD 5 0 = off := by simp [List.getD, h5]
  have e2 : 6 + 2 * fl.sizeBytes = 6 + fl.sizeBytes + fl.sizeBytes := by omega
  have hpre' : ¬ data.length - 5 < 1 + 3 * fl.sizeBytes := by omega
  have hs' : (fl.sizeBytes == 0) = false := by simpa using hs
  rw [bocCost_of_flags data fl hfl (by omega), h5']
  unfold Cost.bocGuarded
  simp only [hpre', hs', if_false, Bool.false_eq_true]
  rw [e2]; unfold Cost.sl; unfold pySlice at hcells hroots htot; rw [hcells, hroots, htot]

/-- `predicted` read off the cost record that `Cost.bocBody` returns after the first loop `r` -/
theorem pick (r : Nat × Nat × Bool) (cells roots hdr crc k : Nat) :
    let c : Cost.BocCost :=
      if (!r.2.2) = true then { hdr := hdr, crc := crc, loop1 := r.1, refs1 := r.2.1 }
      else { hdr := hdr, crc := crc, loop1 := r.1, refs1 := r.2.1, loop2 := cells, refs2 := r.2.1, loop3 := roots }
    (if k = 5 then r.1 else if k = 0 then r.2.1 else if k = 3 then (if r.2.2 = true then cells else 0)
      else if k = 4 then (if r.2.2 = true then r.2.1 else 0) else if k = 2 then (if r.2.2 = true then roots else 0) else 0) =
    (if k = 5 then c.loop1 else if k = 0 then c.refs1 else if k = 3 then c.loop2 else if k = 4 then c.refs2
      else if k = 2 then c.loop3 else 0) := by
  rcases r with ⟨a, b, c⟩
  cases c <;> simp

theorem bocCost_accept (data : Bytes) (h : HeaderOut) (hh : header data = some h) (k : Nat) :
    predicted h.size_bytes h.cells_num h.cells_data h.root_list.length k =
      (if k = 5 then (bocCost data).loop1 else if k = 0 then (bocCost data).refs1 else if k = 3 then (bocCost data).loop2
       else if k = 4 then (bocCost data).refs2 else if k = 2 then (bocCost data).loop3 else 0) := by
  rw [TonVerif.Proofs.SrcBocHeader.src_header_eq_model] at hh
  obtain ⟨m, hd, rfl⟩ := Option.map_eq_some_iff.1 hh
  obtain ⟨hF, hlen, hleg, hrl, ho0, -, hcd, -⟩ := (header_iff data m).1 hd
  obtain ⟨fl, off, cells, roots, absent, tot, rl, ix, cd⟩ := m
  dsimp only [Header.fields, Fields.expectedLen, Fields.cellsStart, Fields.hdrEnd, Fields.rootsLen, Fields.indexLen, Fields.crcLen,
    HeaderOut.ofModel] at *
  rw [bocCost_eq_body data fl off cells roots absent tot ((readFields_eq_some ..).1 hF), hcd]
  have hrl1 : rl.length = roots := by
    rw [hrl]; by_cases hg : fl.generic = true
    · rw [if_pos hg, uintsAt_length]
    · rw [if_neg hg, hleg (by simpa using hg)]; rfl
  have g1 : (!fl.generic && roots != 1) = false := by
    cases hg : fl.generic
    · simp [hleg hg]
    · rfl
  have g2 : (fl.hasIdx && off == 0) = false := by
    cases hi : fl.hasIdx
    · rfl
    · simpa using ho0 hi
  simp only [predicted]
  unfold Cost.bocBody Cost.short
  simp only [g1, g2, Bool.false_eq_true, if_false]
  generalize (if fl.generic = true then roots * fl.sizeBytes else 0) = rlen at hlen ⊢
  generalize (if fl.hasIdx = true then cells * off else 0) = ilen at hlen ⊢
  generalize (if fl.hasCrc = true then 4 else 0) = clen at hlen ⊢
  have c1 : ¬ data.length < 6 + 3 * fl.sizeBytes + off + rlen := by omega
  have c2 : ¬ data.length < 6 + 3 * fl.sizeBytes + off + rlen + ilen := by omega
  have c3 : ¬ data.length < 6 + 3 * fl.sizeBytes + off + rlen + ilen + tot := by omega
  have c4 : ¬ data.length < 6 + 3 * fl.sizeBytes + off + rlen + ilen + tot + clen := by omega
  have c5 : (data.length != 6 + 3 * fl.sizeBytes + off + rlen + ilen + tot + clen) = false := by simp [hlen]
  simp only [c1, c2, c3, c4, c5, decide_false, Bool.false_eq_true, if_false]
  show _ = _
  simp only [Cost.sl, pySlice, hrl1]
  exact pick _ _ _ _ _ _

/-- BRIDGE: the loop counters of the counting copy of the regenerated `Boc.deserialize` never exceed the counters of the cost model
`bocCost` on the same bytes, no other counter but the completion-tag search (1) ticks, and when the parse RETURNS they are equal. -/
theorem src_boc_bridge {R : Type} (data : Bytes) (cls : Bits → List (Option R) → Int → Option R) :
    ((deserialize_cnt data cls).2 5 ≤ (bocCost data).loop1 ∧ (deserialize_cnt data cls).2 0 ≤ (bocCost data).refs1 ∧
     (deserialize_cnt data cls).2 3 ≤ (bocCost data).loop2 ∧ (deserialize_cnt data cls).2 4 ≤ (bocCost data).refs2 ∧
     (deserialize_cnt data cls).2 2 ≤ (bocCost data).loop3 ∧ ∀ k, 6 ≤ k → (deserialize_cnt data cls).2 k = 0) ∧
    ((Generated.BocCells.deserialize data cls).isSome →
     (deserialize_cnt data cls).2 5 = (bocCost data).loop1 ∧ (deserialize_cnt data cls).2 0 = (bocCost data).refs1 ∧
     (deserialize_cnt data cls).2 3 = (bocCost data).loop2 ∧ (deserialize_cnt data cls).2 4 = (bocCost data).refs2 ∧
     (deserialize_cnt data cls).2 2 = (bocCost data).loop3) := by
  rw [← deserialize_cnt_erase]
  cases hh : header data with
  | none =>
    have z : deserialize_cnt data cls = W.raise := by unfold deserialize_cnt; rw [hh]; rfl
    rw [z]
    exact ⟨⟨Nat.zero_le _, Nat.zero_le _, Nat.zero_le _, Nat.zero_le _, Nat.zero_le _, fun _ _ => rfl⟩, fun hs => nomatch hs⟩
  | some h =>
    have key := deser_covers data cls h hh
    have kle := fun k (hk : k ≠ 1) => bocCost_accept data h hh k ▸ key.le hk
    refine ⟨⟨kle 5 (by decide), kle 0 (by decide), kle 3 (by decide), kle 4 (by decide), kle 2 (by decide), fun k hk => ?_⟩, fun hs => ?_⟩
    · have := kle k (by omega)
      rw [if_neg (by omega), if_neg (by omega), if_neg (by omega), if_neg (by omega), if_neg (by omega)] at this
      omega
    · have keq := fun k (hk : k ≠ 1) => bocCost_accept data h hh k ▸ key.exact hs hk
      exact ⟨keq 5 (by decide), keq 0 (by decide), keq 3 (by decide), keq 4 (by decide), keq 2 (by decide)⟩

/-- the completion-tag search of `deserialize_cell` (counter 1) is not in the cost model: at most 7 iterations per call (a `range(-1, -8, -1)`). -/
theorem tag_range : Py.rangeI? (-1) (-8) (-1) = some [-1, -2, -3, -4, -5, -6, -7] := by decide

end TonVerif.Proofs.SrcBocCnt
