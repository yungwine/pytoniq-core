/-
`Address.to_str`, `is_b64`, `is_hex`, `__init__` (tuple / Address / str argument), `__eq__`, `__hash__` regenerated from boc/address.py (Generated/AddrFull.lean) equal the hand model
(Model/Address.lean) for ALL addresses, flag combinations and texts.  Generation dependent.
-/
import TonVerif.Generated.AddrFull
import TonVerif.Proofs.SrcB64

set_option linter.unusedSimpArgs false
namespace TonVerif.Proofs.SrcAddr
open TonVerif TonVerif.Model TonVerif.Model.Address TonVerif.Generated.AddrFull

/-- `wc.to_bytes(1, 'big', signed=True)` is the model's `wcByte?` -/
theorem toBytesSigned_one (z : Int) : Py.toBytesSigned? 1 z = (wcByte? z).map fun b => [b] := by
  unfold Py.toBytesSigned? wcByte?
  by_cases h : -128 ≤ z ∧ z ≤ 127
  · have h' : -((256 ^ 1 : Nat) : Int) ≤ 2 * z ∧ 2 * z < ((256 ^ 1 : Nat) : Int) := by simp; omega
    rw [if_pos h', if_pos h]
    simp only [natToBE, List.nil_append, Option.map_some, Option.some.injEq, List.cons.injEq, and_true]
    have : ((256 ^ 1 : Nat) : Int) = 256 := by simp
    rw [this]; omega
  · have h' : ¬ (-((256 ^ 1 : Nat) : Int) ≤ 2 * z ∧ 2 * z < ((256 ^ 1 : Nat) : Int)) := by simp; omega
    rw [if_neg h', if_neg h]; rfl

/-- `int.from_bytes(bs, 'big', signed=True)` on at most one byte is the model's `signedByte` -/
theorem fromBytesSigned_le_one (bs : Bytes) (hl : bs.length ≤ 1) (hw : Bytes.WF bs) : Py.fromBytesSigned bs = signedByte bs := by
  match bs, hl, hw with
  | [], _, _ => simp [Py.fromBytesSigned, signedByte, natOfBE]
  | [b], _, hw =>
    have hb : b < 256 := hw b (by simp)
    have e : natOfBE [b] = b := by simp [natOfBE]
    unfold Py.fromBytesSigned signedByte
    by_cases h : 128 ≤ b <;> simp [h, e] <;> omega
  | _ :: _ :: _, hl, _ => simp at hl

theorem tag_byte (t : Nat) (h : t < 256) : toBytesBE? 1 t = some [t] := by
  unfold toBytesBE?
  rw [if_pos (by simpa using h)]
  simp [natToBE]; omega

/-- `to_str(is_user_friendly, is_url_safe, is_bounceable, is_test_only)` regenerated = `Model.Address.toStr` -/
theorem src_to_str_eq (a : Addr) (uf url b t : Bool) :
    to_str (is_user_friendly := uf) (is_url_safe := url) (is_bounceable := b) (is_test_only := t)
      (self_wc := a.wc) (self_hash_part := a.hash) = toStr a uf url b t := by
  unfold to_str toStr
  cases uf
  · cases pyStrInt a.wc <;> simp
  · cases b <;> cases t <;>
      simp (disch := decide) only [Bool.not_true, Bool.false_eq_true, not_false_eq_true, not_true_eq_false, if_false, if_true,
        Option.bind_some, Bool.true_eq_false, toBytesSigned_one, tag_byte, Nat.reduceOr] <;>
      cases wcByte? a.wc <;> simp <;>
      rename_i w <;>
      cases Model.crc16 (_ :: w :: a.hash) <;> cases url <;> simp

/-- `is_b64(text)` on a fresh object (both flags `False`) regenerated = `Model.Address.isB64` (the attributes left behind) -/
theorem src_is_b64_eq (s : List Char) :
    is_b64 (addr := s) (self_is_bounceable := false) (self_is_test_only := false) =
      (isB64 s).map fun a => (a.hash, a.bounceable, a.testOnly, a.wc) := by
  unfold is_b64 isB64
  cases hd : Base64.decodeUrlsafe s with
  | none => rfl
  | some d =>
    cases d with
    | nil => rfl
    | cons tag0 rest =>
      have hwf := Proofs.SrcB64.decodeUrlsafe_wf s _ hd
      have hsb : Py.fromBytesSigned (Py.slice (tag0 :: rest) 1 2) = signedByte (((tag0 :: rest).drop 1).take 1) := by
        have e : Py.slice (tag0 :: rest) 1 2 = ((tag0 :: rest).drop 1).take 1 := by simp [Py.slice, List.drop_take]
        rw [e]
        apply fromBytesSigned_le_one
        · simp [List.length_take]; omega
        · intro x hx; exact hwf x (List.mem_of_mem_drop (List.mem_of_mem_take hx))
      have hh : Py.slice (tag0 :: rest) 2 34 = ((tag0 :: rest).drop 2).take 32 := by simp [Py.slice, List.drop_take]
      have hc : Py.slice (tag0 :: rest) 0 34 = (tag0 :: rest).take 34 := by simp [Py.slice]
      simp only [Option.bind_some, List.getElem?_cons_zero, hsb, hh, hc, ← apply_ite some, decide_true]
      cases Model.crc16 (List.take 34 (tag0 :: rest)) with
      | none => rfl
      | some crc =>
        have hb : ∀ x : Nat, decide (x = 17) = (x == 17) := fun x => by by_cases h : x = 17 <;> simp [h]
        by_cases h1 : tag0 &&& 128 = 0
        · simp [h1, hb]
        · simp [h1, hb, bne_iff_ne.mpr h1]

/-- `is_hex(text)` regenerated = `Model.Address.isHex` (`none` = returns False; the attributes assigned on True) -/
theorem src_is_hex_eq (s : List Char) :
    is_hex (addr := s) = (isHex s).map fun a => (a.hash, a.wc) := by
  unfold is_hex isHex
  rcases hsp : splitColon s with _ | ⟨w, _ | ⟨h, _ | ⟨x, r⟩⟩⟩ <;> simp only [Py.unpack2?, Option.bind_none, Option.bind_some, Option.map_none]
  cases pyInt 16 h <;> cases pyInt 10 w <;> cases pyFromHex h <;> rfl

/-- what `is_hex` leaves behind never carries a flag -/
theorem isHex_flags (s : List Char) (a : Addr) (h : isHex s = some a) : a.bounceable = false ∧ a.testOnly = false := by
  unfold isHex at h
  rcases hsp : splitColon s with _ | ⟨w, _ | ⟨hh, _ | ⟨x, r⟩⟩⟩ <;> rw [hsp] at h <;> simp only at h <;> try cases h
  cases h1 : pyInt 16 hh <;> cases h2 : pyInt 10 w <;> cases h3 : pyFromHex hh <;> rw [h1, h2, h3] at h <;> simp only at h <;> try cases h
  exact ⟨rfl, rfl⟩

/-- `Address(text)` regenerated (`__init__` for a `str` argument: flags reset, `is_hex`, else `is_b64`, else raise) = `Model.Address.parse` -/
theorem src_init_str_eq (s : List Char) :
    init_str (address := s) = (parse s).map fun a => (a.hash, a.bounceable, a.testOnly, a.wc) := by
  unfold init_str parse
  simp only [decide_false, decide_true, src_is_hex_eq, src_is_b64_eq]
  cases hh : isHex s with
  | none => cases isB64 s <;> rfl
  | some a =>
    obtain ⟨h1, h2⟩ := isHex_flags s a hh
    simp [h1, h2]

/-- `Address((wc, hash_part))` regenerated = `Model.Address.ofTuple` -/
theorem src_init_tuple_eq (wc : Int) (h : Bytes) :
    init_tuple (address := (wc, h)) = some (h, false, false, wc) ∧ ofTuple wc h = { wc := wc, hash := h, bounceable := false, testOnly := false } := by
  refine ⟨?_, rfl⟩
  unfold init_tuple
  simp

/-- `Address(other)` regenerated = `Model.Address.ofAddr`: workchain and hash copied, the flags NOT -/
theorem src_init_addr_eq (a : Addr) :
    init_addr (address := a) = some (a.hash, false, false, a.wc) ∧ ofAddr a = { wc := a.wc, hash := a.hash, bounceable := false, testOnly := false } := by
  refine ⟨?_, rfl⟩
  unfold init_addr
  simp

/-- `a == b` and `a.__hash__()` regenerated = the model's -/
theorem src_eq_eq (a b : Addr) : Generated.AddrFull.eq (self_wc := a.wc) (self_hash_part := a.hash) (other := b) = some (Address.eq a b) := by
  unfold Generated.AddrFull.eq Address.eq
  by_cases h1 : a.wc = b.wc <;> by_cases h2 : a.hash = b.hash <;> simp [h1, h2]

theorem src_hash_eq (a : Addr) : Generated.AddrFull.hash (self_wc := a.wc) (self_hash_part := a.hash) = some (pyHash a) := by
  unfold Generated.AddrFull.hash pyHash
  first
    | rfl
    | (simp only [Option.some.injEq]; omega)

end TonVerif.Proofs.SrcAddr
