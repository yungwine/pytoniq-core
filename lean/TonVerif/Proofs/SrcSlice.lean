/-
The `load_* / preload_* / skip_bits` methods of slice.py and `TvmBitarray.__delitem__ / check_underflow`, regenerated from the
source (Generated/SliceOps.lean, translator harness/translate/pymeth.py), equal the hand model `Model.SOp.*` for ALL arguments and
ALL slice states: same decision to raise, same slice afterwards (also after a raise half-way), same returned value.

The source keeps ALL references of the cell and an offset; the model keeps the remaining references: `view s` drops the consumed
ones.  `viewR f r` reads a regenerated result through `view`, with the returned value mapped by `f` (an unsigned number is a
`Nat` in the regenerated code and an `Int` in the model; a bit is `0 / 1` there and a `Bool` here).
-/
import TonVerif.Generated.SliceOps
import TonVerif.Proofs.Slice
import TonVerif.Proofs.SrcSim
import TonVerif.Proofs.SrcSOp

namespace TonVerif.Proofs.SrcSlice
open TonVerif TonVerif.Model TonVerif.Generated.SliceOps TonVerif.Proofs.Slice
variable {R : Type} {α β γ δ : Type}
set_option linter.unusedSimpArgs false
set_option linter.unusedVariables false

/-- the model's slice: remaining bits, remaining references -/
def view (s : Py.SliceSt R) : Slice R := ⟨s.bits, s.refs.drop s.ref_offset⟩

/-- a regenerated result read as a model result -/
def viewR (f : α → β) (r : Py.SliceSt R × Option α) : Slice R × Option β := (view r.1, r.2.map f)

/-! ### generation independent: sequencing -/

/-- sequencing: `Py.bindS` of the regenerated code is `SOp.bind` of the model -/
theorem viewR_bindS (f : α → β) (f' : γ → δ) (r : Py.SliceSt R × Option α) (k : Py.SliceSt R → α → Py.SliceSt R × Option γ)
    (m : SOp R β) (k' : β → SOp R δ) (s0 : Slice R)
    (h1 : viewR f r = m s0) (h2 : ∀ s a, viewR f' (k s a) = k' (f a) (view s)) :
    viewR f' (Py.bindS r k) = SOp.bind m k' s0 := by
  rcases r with ⟨s, _ | a⟩
  · simp only [SOp.bind, ← h1, viewR, Py.bindS, Option.map]
  · simp only [SOp.bind, ← h1, viewR, Py.bindS, Option.map]
    exact h2 s a

/-- branching: an `if` of the regenerated code is the model's, however each spells the test -/
theorem viewR_ite' {f : α → β} {p q : Prop} [Decidable p] [Decidable q] {a b : Py.SliceSt R × Option α} {a' b' : Slice R × Option β}
    (hpq : p ↔ q) (ha : q → viewR f a = a') (hb : ¬ q → viewR f b = b') :
    viewR f (if p then a else b) = if q then a' else b' :=
  ite_rel (R := fun x y => viewR f x = y) hpq ha hb

theorem viewR_ite {f : α → β} {p q : Prop} [Decidable p] [Decidable q] {a b : Py.SliceSt R × Option α} {a' b' : SOp R β}
    {s0 : Slice R} (hpq : p ↔ q) (ha : q → viewR f a = a' s0) (hb : ¬ q → viewR f b = b' s0) :
    viewR f (if p then a else b) = (if q then a' else b') s0 :=
  ite_rel (R := fun x (y : SOp R β) => viewR f x = y s0) hpq ha hb

@[simp] theorem bindS_retU {σ : Type} (r : σ × Option Unit) : Py.bindS r (fun s _ => (s, some ())) = r := by
  rcases r with ⟨s, _ | a⟩ <;> rfl

@[simp] theorem bindS_ret {σ : Type} (r : σ × Option α) : Py.bindS r (fun s a => (s, some a)) = r := by
  rcases r with ⟨s, _ | a⟩ <;> rfl

theorem bitAt_zero (bits : Bits) :
    Py.bitAt? bits ((0 : Nat) : Int) = match bits with | [] => none | b :: _ => some (if b then 1 else 0) := by
  unfold Py.bitAt? Py.getI?
  cases bits <;> simp

theorem viewR_ret (f : α → β) (s : Py.SliceSt R) (a : α) : viewR f (s, some a) = SOp.pure (f a) (view s) := rfl

theorem viewR_bindO (f : α → β) (o : Option α) (s : Py.SliceSt R) :
    viewR f (Py.bindO o s fun x => (s, some x)) = SOp.ofOption (o.map f) (view s) := by
  cases o <;> rfl

theorem ba2intU_eq (bs : Bits) : (Py.ba2intU? bs).map (fun (n : Nat) => (n : Int)) = SOp.ba2intU bs := by
  unfold Py.ba2intU? SOp.ba2intU
  cases bs <;> simp

theorem ba2intS_eq (bs : Bits) : Py.ba2intS? bs = SOp.ba2intS bs := by
  unfold Py.ba2intS? SOp.ba2intS
  cases bs <;> rfl

/-! ### TvmBitarray.__delitem__ with its underflow check is `delBits` -/

theorem src_check_underflow (n : Int) (bits : Bits) :
    TvmBitarray_check_underflow n bits = (bits, if ((bits.length : Nat) : Int) < n then none else some ()) := by
  unfold TvmBitarray_check_underflow
  (repeat' split) <;> first | rfl | (exfalso; omega)

theorem src_delitem_slice (n : Nat) (bits : Bits) :
    TvmBitarray_delitem_slice none (some n) bits =
      if n = 0 then (bits, some ()) else if bits.length < n then (bits, none) else (bits.drop n, some ()) := by
  unfold TvmBitarray_delitem_slice Py.optOr Py.delSlice Py.bindS
  simp only [src_check_underflow]
  by_cases h0 : n = 0
  · subst h0; simp
  · by_cases h : bits.length < n
    · have h' : ((bits.length : Nat) : Int) < ((n : Nat) : Int) - ((0 : Nat) : Int) := by omega
      simp [h0, h, h']
    · have h' : ¬ ((bits.length : Nat) : Int) < ((n : Nat) : Int) - ((0 : Nat) : Int) := by omega
      simp [h0, h, h']

theorem src_del_eq (n : Nat) (s : Py.SliceSt R) :
    viewR id (Py.zoom (TvmBitarray_delitem_slice none (some n) s.bits) (fun v => { s with bits := v })) =
      SOp.delBits n (view s) := by
  rw [src_delitem_slice]
  unfold SOp.delBits viewR view Py.zoom
  by_cases h0 : n = 0
  · simp [h0]
  · by_cases h : s.bits.length < n <;> simp [h0, h]

theorem src_delitem_nat (bits : Bits) :
    TvmBitarray_delitem_nat 0 bits = match bits with | [] => ([], none) | _ :: rest => (rest, some ()) := by
  unfold TvmBitarray_delitem_nat Py.delAt? Py.bindS Py.bindO
  simp only [src_check_underflow]
  cases bits with
  | nil => simp
  | cons b rest =>
    have h1 : ¬ (((b :: rest).length : Nat) : Int) < 1 := by simp; omega
    rw [if_neg h1]
    simp

/-! ### the primitive reads -/

theorem src_skip_bits_eq (n : Nat) (s : Py.SliceSt R) : viewR id (skip_bits n s) = SOp.skipBits n (view s) := by
  unfold skip_bits SOp.skipBits
  rw [bindS_retU]
  exact src_del_eq n s

/-- the consuming reads: `x = self.preload_…(..); del self.bits[:n]; return x` -/
theorem src_thenDel (f : α → β) (r : Py.SliceSt R × Option α) (m : SOp R β) (s0 : Slice R) (n : Nat) (h : viewR f r = m s0) :
    viewR f (Py.bindS r fun self x =>
        Py.bindS (Py.zoom (TvmBitarray_delitem_slice none (some n) self.bits) fun v => { self with bits := v }) fun self _ =>
        (self, some x)) =
      SOp.bind m (fun v => SOp.bind (SOp.delBits n) fun _ => SOp.pure v) s0 :=
  viewR_bindS f f _ _ _ _ _ h fun s1 x => viewR_bindS id f _ _ _ _ _ (src_del_eq n s1) fun _ _ => rfl

theorem src_preload_bits_eq (n : Nat) (s : Py.SliceSt R) : viewR id (preload_bits n s) = SOp.peekBits n (view s) := by
  unfold preload_bits SOp.peekBits viewR view; simp

theorem src_load_bits_eq (n : Nat) (s : Py.SliceSt R) : viewR id (load_bits n s) = SOp.loadBits n (view s) :=
  src_thenDel id _ _ _ n (src_preload_bits_eq n s)

theorem src_preload_uint_eq (n : Nat) (s : Py.SliceSt R) :
    viewR (fun (v : Nat) => (v : Int)) (preload_uint n s) = SOp.preloadUint n (view s) := by
  unfold preload_uint SOp.preloadUint
  simp only [bind_eq, SOp.bind, SOp.peekBits]
  rw [viewR_bindO, ba2intU_eq]
  simp [view]

theorem src_load_uint_eq (n : Nat) (s : Py.SliceSt R) :
    viewR (fun (v : Nat) => (v : Int)) (load_uint n s) = SOp.loadUint n (view s) :=
  src_thenDel _ _ _ _ n (src_preload_uint_eq n s)

theorem src_preload_int_eq (n : Nat) (s : Py.SliceSt R) : viewR id (preload_int n s) = SOp.preloadInt n (view s) := by
  unfold preload_int SOp.preloadInt
  simp only [bind_eq, SOp.bind, SOp.peekBits]
  rw [viewR_bindO, ba2intS_eq]
  simp [view]

theorem src_load_int_eq (n : Nat) (s : Py.SliceSt R) : viewR id (load_int n s) = SOp.loadInt n (view s) :=
  src_thenDel id _ _ _ n (src_preload_int_eq n s)

theorem src_preload_bytes_eq (n : Nat) (s : Py.SliceSt R) : viewR id (preload_bytes n s) = SOp.preloadBytes n (view s) := by
  unfold preload_bytes SOp.preloadBytes
  simp [bind_eq, pure_eq, SOp.bind, SOp.peekBits, SOp.pure, viewR, view]

theorem src_load_bytes_eq (n : Nat) (s : Py.SliceSt R) : viewR id (load_bytes n s) = SOp.loadBytes n (view s) :=
  src_thenDel id _ _ _ (n * 8) (src_preload_bytes_eq n s)

/-- a bit: the regenerated code returns the int `0 / 1`, the model the Bool -/
def bitB (v : Nat) : Bool := decide (v ≠ 0)

theorem bitB_iff (v : Nat) : v ≠ 0 ↔ bitB v = true := by simp [bitB]

/-- `self.bits[0]`, returned as the int (`g = id`) or as `bool(..)` -/
theorem src_peek_bit (g : Nat → α) (f : α → Bool) (h : ∀ v, f (g v) = bitB v) (s : Py.SliceSt R) :
    viewR f (Py.bindO (Py.bitAt? s.bits ((0 : Nat) : Int)) s fun bit => (s, some (g bit))) = SOp.preloadBit (view s) := by
  obtain ⟨bits, refs, off⟩ := s
  simp only [SOp.preloadBit, viewR, view, Py.bindO, bitAt_zero]
  cases bits with
  | nil => rfl
  | cons b rest => cases b <;> simp only [Option.map, h] <;> rfl

/-- `bit = self.preload_bit(); del self.bits[0]`, returned as the int or as `bool(bit)` -/
theorem src_take_bit (g : Nat → α) (f : α → Bool) (h : ∀ v, f (g v) = bitB v) (s : Py.SliceSt R) :
    viewR f (Py.bindS (preload_bit s) fun self bit =>
        Py.bindS (Py.zoom (TvmBitarray_delitem_nat 0 self.bits) fun v => { self with bits := v }) fun self _ =>
        (self, some (g bit))) = SOp.loadBit (view s) := by
  obtain ⟨bits, refs, off⟩ := s
  simp only [preload_bit, SOp.loadBit, viewR, view, Py.bindO, Py.bindS, Py.zoom, bitAt_zero, src_delitem_nat]
  cases bits with
  | nil => rfl
  | cons b rest => cases b <;> simp only [Option.map, h] <;> rfl

theorem src_preload_bit_eq (s : Py.SliceSt R) : viewR bitB (preload_bit s) = SOp.preloadBit (view s) :=
  src_peek_bit id bitB (fun _ => rfl) s

theorem src_load_bit_eq (s : Py.SliceSt R) : viewR bitB (load_bit s) = SOp.loadBit (view s) :=
  src_take_bit id bitB (fun _ => rfl) s

theorem src_preload_bool_eq (s : Py.SliceSt R) : viewR id (preload_bool s) = SOp.preloadBit (view s) :=
  src_peek_bit bitB id (fun _ => rfl) s

theorem src_load_bool_eq (s : Py.SliceSt R) : viewR id (load_bool s) = SOp.loadBit (view s) :=
  src_take_bit bitB id (fun _ => rfl) s

/-! ### references -/

/-- reading the next reference and advancing `ref_offset`, followed by a pure result -/
theorem src_next_ref (g : R → β) (s : Py.SliceSt R) :
    viewR id (Py.bindO (s.refs[s.ref_offset]?) s fun ref => ({ s with ref_offset := s.ref_offset + 1 }, some (g ref))) =
      SOp.bind SOp.loadRef (fun r => SOp.pure (g r)) (view s) := by
  unfold SOp.bind SOp.loadRef viewR view Py.bindO SOp.pure
  rw [← List.head?_drop]
  cases h : s.refs.drop s.ref_offset <;> simp [h, List.drop_add_one_eq_tail_drop]

/-- peeking the next reference -/
theorem src_peek_ref (g : R → β) (s : Py.SliceSt R) :
    viewR id (Py.bindO (s.refs[s.ref_offset]?) s fun ref => (s, some (g ref))) =
      SOp.bind SOp.preloadRef (fun r => SOp.pure (g r)) (view s) := by
  unfold SOp.bind SOp.preloadRef viewR view Py.bindO SOp.pure
  rw [← List.head?_drop]
  cases h : s.refs.drop s.ref_offset <;> simp [h]

theorem src_load_ref_eq (s : Py.SliceSt R) : viewR id (load_ref s) = SOp.loadRef (view s) := by
  rw [show load_ref s = Py.bindO (s.refs[s.ref_offset]?) s
    (fun ref => ({ s with ref_offset := s.ref_offset + 1 }, some (id ref))) from rfl, src_next_ref id s]
  unfold SOp.bind SOp.pure
  cases h : SOp.loadRef (view s) with
  | mk s1 o => cases o <;> rfl

theorem src_load_maybe_ref_eq (s : Py.SliceSt R) : viewR id (load_maybe_ref s) = SOp.loadMaybeRef (view s) := by
  unfold load_maybe_ref SOp.loadMaybeRef
  simp only [bind_eq, pure_eq]
  refine viewR_bindS bitB id _ _ _ _ _ (src_load_bit_eq s) fun s1 v => ?_
  exact viewR_ite (bitB_iff v) (fun _ => src_next_ref some s1) fun _ => rfl

theorem src_preload_maybe_ref_eq (s : Py.SliceSt R) : viewR id (preload_maybe_ref s) = SOp.preloadMaybeRef (view s) := by
  unfold preload_maybe_ref SOp.preloadMaybeRef
  simp only [bind_eq, pure_eq]
  refine viewR_bindS id id _ _ _ _ _ (src_preload_bool_eq s) fun s1 v => ?_
  exact viewR_ite Iff.rfl (fun _ => src_peek_ref some s1) fun _ => rfl

/-! ### variable-length integers, coins -/

/-- the branch on the length prefix `len` that the variable-length reads share: `zero` when it is 0 (`isZero` = the
test as the source spells it), otherwise the rest `K` of the method, which reads `len` bytes as the model's `rd` does -/
theorem src_len_branch (f : γ → δ) (zero : γ) (zero' : δ) (h0 : f zero = zero') (s : Py.SliceSt R) (len : Nat)
    (isZero : Prop) [Decidable isZero] (hz : isZero ↔ len = 0) (K : Py.SliceSt R × Option γ) (rd : Nat → SOp R δ)
    (hK : viewR f K = rd (len * 8) (view s)) :
    viewR f (if isZero then (s, some zero) else K) =
      (if ((len : Nat) : Int) = 0 then SOp.pure zero' else rd (((len : Nat) : Int).toNat * 8)) (view s) := by
  by_cases h : len = 0
  · rw [if_pos (hz.mpr h), if_pos (by omega), ← h0]; rfl
  · rw [if_neg (fun c => h (hz.mp c)), if_neg (by omega), Int.toNat_natCast]; exact hK

theorem src_load_var_uint_eq (k : Nat) (s : Py.SliceSt R) :
    viewR (fun (v : Nat) => (v : Int)) (load_var_uint k s) = SOp.loadVarUint k (view s) := by
  unfold load_var_uint SOp.loadVarUint
  simp only [bind_eq, pure_eq]
  refine viewR_bindS _ _ _ _ _ _ _ (src_load_uint_eq k s) fun s1 len => ?_
  refine src_len_branch (fun (v : Nat) => (v : Int)) 0 0 rfl s1 len _ ?_ _ SOp.loadUint ?_
  · omega
  · rw [bindS_ret]; exact src_load_uint_eq (len * 8) s1

theorem src_load_var_int_eq (k : Nat) (s : Py.SliceSt R) : viewR id (load_var_int k s) = SOp.loadVarInt k (view s) := by
  unfold load_var_int SOp.loadVarInt
  simp only [bind_eq, pure_eq]
  refine viewR_bindS (fun (v : Nat) => (v : Int)) id _ _ _ _ _ (src_load_uint_eq k s) fun s1 len => ?_
  refine src_len_branch id _ 0 rfl s1 len _ ?_ _ SOp.loadInt ?_
  · omega
  · rw [bindS_ret]; exact src_load_int_eq (len * 8) s1

/-- `load_coins` is the code of `load_var_uint` at width 4 -/
theorem src_load_coins_eq (s : Py.SliceSt R) :
    viewR (fun (v : Nat) => (v : Int)) (load_coins s) = SOp.loadCoins (view s) :=
  src_load_var_uint_eq 4 s

/-- the tail of a `preload_var_*`: the window `bits[:k + 8·len][k:]` read as a number -/
theorem src_window (f : α → β) (conv : Bits → Option α) (conv' : Bits → Option β) (hc : ∀ bs, (conv bs).map f = conv' bs)
    (m k : Nat) (s : Py.SliceSt R) :
    viewR f (Py.bindS (preload_bits m s) fun self r =>
        Py.bindO (conv (r.drop k)) self fun x => (self, some x)) =
      SOp.bind (SOp.peekBits m) (fun bs => SOp.ofOption (conv' (bs.drop k))) (view s) := by
  refine viewR_bindS id f _ _ _ _ _ (src_preload_bits_eq m s) fun s1 bs => ?_
  rw [viewR_bindO, hc]; rfl

theorem src_preload_var_uint_eq (k : Nat) (s : Py.SliceSt R) :
    viewR (fun (v : Nat) => (v : Int)) (preload_var_uint k s) = SOp.preloadVarUint k (view s) := by
  unfold preload_var_uint SOp.preloadVarUint
  simp only [bind_eq, pure_eq]
  refine viewR_bindS _ _ _ _ _ _ _ (src_preload_uint_eq k s) fun s1 len => ?_
  refine src_len_branch (fun (v : Nat) => (v : Int)) 0 0 rfl s1 len _ ?_ _
    (fun m => SOp.bind (SOp.peekBits (k + m)) fun bs => SOp.ofOption (SOp.ba2intU (bs.drop k))) ?_
  · omega
  · exact src_window _ Py.ba2intU? SOp.ba2intU ba2intU_eq (k + len * 8) k s1

theorem src_preload_var_int_eq (k : Nat) (s : Py.SliceSt R) :
    viewR id (preload_var_int k s) = SOp.preloadVarInt k (view s) := by
  unfold preload_var_int SOp.preloadVarInt
  simp only [bind_eq, pure_eq]
  refine viewR_bindS (fun (v : Nat) => (v : Int)) id _ _ _ _ _ (src_preload_uint_eq k s) fun s1 len => ?_
  refine src_len_branch id _ 0 rfl s1 len _ ?_ _
    (fun m => SOp.bind (SOp.peekBits (k + m)) fun bs => SOp.ofOption (SOp.ba2intS (bs.drop k))) ?_
  · omega
  · exact src_window id Py.ba2intS? SOp.ba2intS (fun bs => by rw [Option.map_id, id, ba2intS_eq]) (k + len * 8) k s1

theorem src_preload_coins_eq (s : Py.SliceSt R) :
    viewR (fun (v : Nat) => (v : Int)) (preload_coins s) = SOp.preloadCoins (view s) :=
  src_preload_var_uint_eq 4 s

/-! ### `preload_ref`, strings -/

theorem src_preload_ref_eq (s : Py.SliceSt R) : viewR id (preload_ref 0 s) = SOp.preloadRef (view s) := by
  rw [show preload_ref 0 s = Py.bindO (s.refs[s.ref_offset + 0]?) s (fun ref => (s, some (id ref))) from rfl, Nat.add_zero,
    src_peek_ref id s]
  unfold SOp.bind SOp.pure
  cases h : SOp.preloadRef (view s) with
  | mk s1 o => cases o <;> rfl

/-- `load_string(n)` / `preload_string(n)`: the result before `.decode()` (a str travels as its UTF-8 bytes); `0` = all whole bytes left -/
theorem src_load_string_eq (n : Nat) (s : Py.SliceSt R) : viewR id (load_string n s) = SOp.loadString n (view s) := by
  unfold load_string SOp.loadString
  split <;> simp only [bindS_ret] <;> exact src_load_bytes_eq _ s

theorem src_preload_string_eq (n : Nat) (s : Py.SliceSt R) : viewR id (preload_string n s) = SOp.preloadString n (view s) := by
  unfold preload_string SOp.preloadString
  split <;> simp only [bindS_ret] <;> exact src_preload_bytes_eq _ s

/-! ### addresses -/


/-- what `load_address` returns, as the hand model's address value -/
def addrM : Py.AddrR → Addr
  | .none => .none
  | .ext a => .ext a.len a.external_address
  | .std a => .std (a.anycast.map fun c => (c.depth, c.rewrite_pfx)) a.wc a.hash_part

/-- the tail of `load_address` for `addr_std`: workchain, hash part, the address value -/
theorem src_addr_tail (any : Option Py.AnycastV) (s : Py.SliceSt R) :
    viewR addrM (Py.bindS (load_int 8 s) fun self wc => Py.bindS (load_bytes 32 self) fun self hash_part =>
        (self, some (Py.AddrR.std { wc := wc, hash_part := hash_part, anycast := any }))) =
      SOp.bind (SOp.loadInt 8) (fun wc => SOp.bind (SOp.loadBytes 32) fun h =>
        SOp.pure (Addr.std (any.map fun c => (c.depth, c.rewrite_pfx)) wc h)) (view s) := by
  refine viewR_bindS id _ _ _ _ _ _ (src_load_int_eq 8 s) fun s1 wc => ?_
  refine viewR_bindS id _ _ _ _ _ _ (src_load_bytes_eq 32 s1) fun s2 h => ?_
  rfl

theorem src_load_address_eq (s : Py.SliceSt R) : viewR addrM (load_address s) = SOp.loadAddress (view s) := by
  unfold load_address SOp.loadAddress
  simp only [bind_eq, pure_eq, SrcSOp.sop_bind_assoc, SrcSOp.sop_ite_bind, SrcSOp.sop_pure_bind, SrcSOp.sop_fail_bind]
  refine viewR_bindS (fun (v : Nat) => (v : Int)) _ _ _ _ _ _ (src_load_uint_eq 2 s) fun s1 tag => ?_
  refine viewR_ite (by omega) (fun _ => rfl) fun _ => viewR_ite (by omega) (fun _ => ?_) fun _ => ?_
  · refine viewR_bindS (fun (v : Nat) => (v : Int)) _ _ _ _ _ _ (src_load_uint_eq 9 s1) fun s2 len => ?_
    by_cases hl : len = 0
    · subst hl; rfl
    · rw [if_pos hl, if_neg (by omega), bindS_ret, Int.toNat_natCast]
      exact viewR_bindS (fun (v : Nat) => (v : Int)) _ _ _ _ _ _ (src_load_uint_eq len s2) fun _ _ => rfl
  · refine viewR_bindS id _ _ _ _ _ _ (src_load_bool_eq s1) fun s2 any => ?_
    refine viewR_ite Iff.rfl (fun _ => ?_) fun _ => viewR_ite (by omega) (fun _ => src_addr_tail none s2) fun _ => rfl
    refine viewR_bindS (fun (v : Nat) => (v : Int)) _ _ _ _ _ _ (src_load_uint_eq 5 s2) fun s3 depth => ?_
    refine viewR_ite (by omega) (fun _ => rfl) fun _ => ?_
    rw [Int.toNat_natCast]
    refine viewR_bindS (fun (v : Nat) => (v : Int)) _ _ _ _ _ _ (src_load_uint_eq depth s3) fun s4 pfx => ?_
    exact viewR_ite (by omega) (fun _ => src_addr_tail (some ⟨depth, (pfx : Int)⟩) s4) fun _ => rfl

/-! ### `preload_address`: its own reading of none / extern / std without anycast, a copy-and-load otherwise -/

theorem preload_uint_val (n : Nat) (s : Py.SliceSt R) : preload_uint n s = (s, Py.ba2intU? (s.bits.take n)) := by
  unfold preload_uint Py.bindO
  simp only [Py.slice, List.drop_zero]
  cases Py.ba2intU? (s.bits.take n) <;> rfl

theorem preload_bits_val (n : Nat) (s : Py.SliceSt R) : preload_bits n s = (s, some (s.bits.take n)) := by
  unfold preload_bits; simp only [Py.slice, List.drop_zero]

theorem copy_val (s : Py.SliceSt R) : copy s = (s, some ⟨s.bits, s.refs.drop s.ref_offset, 0⟩) := rfl

theorem model_preloadUint_snd (n : Nat) (s : Slice R) :
    (SOp.preloadUint n s).2 = (Py.ba2intU? (s.bits.take n)).map (fun (v : Nat) => (v : Int)) := by
  rw [ba2intU_eq]; rfl

theorem intOfBits_eq (bs : Bits) : Py.intOfBits? bs = if bs.isEmpty then none else some (natOfBits bs) := by
  unfold Py.intOfBits?; cases bs <;> simp

theorem src_preload_address_eq (s : Py.SliceSt R) : viewR addrM (preload_address s) = SOp.preloadAddress (view s) := by
  have hcopy : ((load_address (⟨s.bits, s.refs.drop s.ref_offset, 0⟩ : Py.SliceSt R)).2).map addrM = (SOp.loadAddress (view s)).2 := by
    have := congrArg Prod.snd (src_load_address_eq (⟨s.bits, s.refs.drop s.ref_offset, 0⟩ : Py.SliceSt R))
    simpa [viewR, view] using this
  unfold preload_address SOp.preloadAddress
  simp only [preload_uint_val, preload_bits_val, copy_val, model_preloadUint_snd, Py.bindS, intOfBits_eq, ba2intS_eq]
  have hb : (view s).bits = s.bits := rfl
  rw [hb]
  cases h2 : Py.ba2intU? (s.bits.take 2) with
  | none => rfl
  | some rem =>
    simp only [Option.map]
    refine viewR_ite' (by omega) (fun _ => rfl) fun _ => viewR_ite' (by omega) (fun _ => ?_) fun _ =>
      viewR_ite' (by simp; omega) (fun _ => rfl) fun _ => ?_
    · simp only [Py.bindO]
      by_cases he : ((s.bits.take 11).drop 2).isEmpty = true
      · simp only [he, if_true]; rfl
      · simp only [he, Bool.false_eq_true, if_false]
        by_cases hl : natOfBits ((s.bits.take 11).drop 2) = 0
        · rw [if_neg (by omega), if_pos hl, hl]; rfl
        · rw [if_pos hl, if_neg hl]
          by_cases he2 : ((s.bits.take (11 + natOfBits ((s.bits.take 11).drop 2))).drop 11).isEmpty = true
          · simp only [he2, if_true]; rfl
          · simp only [he2, Bool.false_eq_true, if_false]; rfl
    · cases h3 : Py.ba2intU? (s.bits.take 3) with
      | none => rfl
      | some r3 =>
        simp only [Option.map]
        refine viewR_ite' (by simp; omega) (fun _ => ?_) fun _ => ?_
        · simp only [← hcopy, Py.bindO, Py.bindL]
          cases hx : (load_address (⟨s.bits, s.refs.drop s.ref_offset, 0⟩ : Py.SliceSt R)).2 <;> simp [hx, viewR, view]
        · simp only [Py.bindO, Py.slice]
          have : (s.bits.take 267).take 11 = s.bits.take 11 := by rw [List.take_take]; simp
          rw [this]
          cases SOp.ba2intS ((s.bits.take 11).drop 3) <;> rfl

/-! ### `load_dict` / `preload_dict`: the `Maybe ^Cell` part (which cell is handed to the dictionary parser) -/

theorem src_load_dict_eq (k : Nat) (kd vd : Unit) (s : Py.SliceSt R) : viewR id (load_dict k kd vd s) = SOp.loadDict (view s) := by
  unfold load_dict SOp.loadDict
  simp only [bind_eq, pure_eq]
  refine viewR_bindS bitB id _ _ _ _ _ (src_load_bit_eq s) fun s1 v => ?_
  exact viewR_ite (bitB_iff v) (fun _ => viewR_bindS id id _ _ _ _ _ (src_load_ref_eq s1) fun _ _ => rfl) fun _ => rfl

theorem src_preload_dict_eq (k : Nat) (kd vd : Unit) (s : Py.SliceSt R) : viewR id (preload_dict k kd vd s) = SOp.preloadDict (view s) := by
  unfold preload_dict SOp.preloadDict
  simp only [bind_eq, pure_eq]
  refine viewR_bindS bitB id _ _ _ _ _ (src_preload_bit_eq s) fun s1 v => ?_
  exact viewR_ite (bitB_iff v) (fun _ => viewR_bindS id id _ _ _ _ _ (src_preload_ref_eq s1) fun _ _ => rfl) fun _ => rfl

/-! ### what the view does not show: the bit reads leave the reference list and the offset alone, the reference reads the bits -/

/-- `x = self.preload_…(n); del self.bits[:n]; return x` after a peek `r` that left the slice as it was -/
theorem thenDel_keeps (r : Py.SliceSt R × Option α) (s : Py.SliceSt R) (hr : r.1 = s) (d : Bits → Bits × Option Unit) :
    (Py.bindS r fun self x => Py.bindS (Py.zoom (d self.bits) fun v => { self with bits := v }) fun self _ => (self, some x)).1.refs
        = s.refs ∧
      (Py.bindS r fun self x => Py.bindS (Py.zoom (d self.bits) fun v => { self with bits := v }) fun self _ => (self, some x)).1.ref_offset
        = s.ref_offset := by
  subst hr
  rcases r with ⟨s, _ | x⟩
  · exact ⟨rfl, rfl⟩
  · simp only [Py.bindS, Py.zoom]
    cases (d s.bits).2 <;> exact ⟨rfl, rfl⟩

theorem bindO_ret_fst (o : Option α) (s : Py.SliceSt R) : (Py.bindO o s fun x => (s, some x)).1 = s := by
  cases o <;> rfl

theorem src_refs_untouched (n : Nat) (s : Py.SliceSt R) :
    ((load_uint n s).1.refs = s.refs ∧ (load_uint n s).1.ref_offset = s.ref_offset) ∧
    ((load_int n s).1.refs = s.refs ∧ (load_int n s).1.ref_offset = s.ref_offset) ∧
    ((load_bits n s).1.refs = s.refs ∧ (load_bits n s).1.ref_offset = s.ref_offset) ∧
    ((skip_bits n s).1.refs = s.refs ∧ (skip_bits n s).1.ref_offset = s.ref_offset) ∧
    ((load_ref s).1.bits = s.bits ∧ (load_ref s).1.refs = s.refs) := by
  refine ⟨thenDel_keeps _ s (bindO_ret_fst _ s) _, thenDel_keeps _ s (bindO_ret_fst _ s) _, thenDel_keeps _ s rfl _, ?_, ?_⟩
  · rw [skip_bits, bindS_retU]; exact ⟨rfl, rfl⟩
  · unfold load_ref Py.bindO; split <;> exact ⟨rfl, rfl⟩

end TonVerif.Proofs.SrcSlice
