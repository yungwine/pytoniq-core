/-
Generation-independent lemmas about the built-ins of TonVerif/PyDict.lean (the translator's reading of Python dicts / sets
keyed by objects, `list.pop()`, `while`): how the insertion-ordered association list relates to the hash map / hash set + key
list of the hand models (`MapSim`, `SetSim`), that the dict operations keep the keys pairwise distinct (`NodupKeys`), and the
`foldlM` forms of the loops that the regenerated emitter (Generated/BocEmitSrc.lean) contains.
-/
import TonVerif.PyDict
import TonVerif.Basic
import Std.Data.HashMap
import Std.Data.HashSet
import TonVerif.Proofs.SrcSim

namespace TonVerif.Proofs.SrcDict
open TonVerif

variable {α V σ : Type}

/-! ### dict ~ hash map -/

/-- lookup by key value in the association list -/
def lookup (key : α → Nat) (k : Nat) : Py.KDict α V → Option V
  | [] => none
  | e :: d => if key e.1 = k then some e.2 else lookup key k d

theorem dictGet_eq_lookup (key : α → Nat) (c : α) (d : Py.KDict α V) : Py.dictGet? key d c = lookup key (key c) d := by
  induction d with
  | nil => rfl
  | cons e d ih =>
    unfold Py.dictGet? at ih ⊢
    by_cases h : key e.1 = key c <;> simp [lookup, h, ih]

theorem dictHas_eq_lookup (key : α → Nat) (c : α) (d : Py.KDict α V) : Py.dictHas key d c = (lookup key (key c) d).isSome := by
  induction d with
  | nil => rfl
  | cons e d ih =>
    unfold Py.dictHas at ih ⊢
    by_cases h : key e.1 = key c <;> simp [lookup, h, ih]

theorem lookup_map_set (key : α → Nat) (c : α) (v : V) (k : Nat) (d : Py.KDict α V) :
    lookup key k (d.map (fun e => if key e.1 == key c then (e.1, v) else e)) =
      if k = key c then (if (lookup key k d).isSome then some v else none) else lookup key k d := by
  induction d with
  | nil => simp [lookup]
  | cons e d ih =>
    simp only [List.map_cons, lookup, ih]
    by_cases he : key e.1 = key c
    · -- the head is overwritten: it answers `k = key c` with `v`
      simp only [he, beq_self_eq_true, if_true]
      by_cases hk : k = key c
      · subst hk; simp
      · have hk' : ¬ key c = k := fun h => hk h.symm
        simp [hk, hk']
    · have hb : (key e.1 == key c) = false := by simpa using he
      simp only [hb, Bool.false_eq_true, if_false]
      by_cases hk : k = key c
      · subst hk; simp [he]
      · simp [hk]

theorem lookup_append (key : α → Nat) (c : α) (v : V) (k : Nat) (d : Py.KDict α V) :
    lookup key k (d ++ [(c, v)]) = match lookup key k d with | some x => some x | none => if key c = k then some v else none := by
  induction d with
  | nil => simp [lookup]
  | cons e d ih => by_cases h2 : key e.1 = k <;> simp [lookup, h2, ih]

/-- the association list `d` and the hash map `m` answer every lookup alike -/
def MapSim (key : α → Nat) (d : Py.KDict α V) (m : Std.HashMap Nat V) : Prop := ∀ k, m[k]? = lookup key k d

theorem mapSim_empty (key : α → Nat) : MapSim key ([] : Py.KDict α V) ∅ := by
  intro k; simp [lookup]

theorem mapSim_get {key : α → Nat} {d : Py.KDict α V} {m : Std.HashMap Nat V} (h : MapSim key d m) (c : α) :
    Py.dictGet? key d c = m[key c]? := by
  rw [h, dictGet_eq_lookup]

theorem mapSim_set {key : α → Nat} {d : Py.KDict α V} {m : Std.HashMap Nat V} (h : MapSim key d m) (c : α) (v : V) :
    MapSim key (Py.dictSet key d c v) (m.insert (key c) v) := by
  intro k
  rw [Std.HashMap.getElem?_insert, h k]
  unfold Py.dictSet
  rw [dictHas_eq_lookup]
  cases hl : lookup key (key c) d with
  | none =>
    simp only [Option.isSome_none, Bool.false_eq_true, if_false]
    rw [lookup_append]
    by_cases hk : key c = k
    · subst hk; simp [hl]
    · simp only [beq_iff_eq, hk, if_false]
      cases lookup key k d <;> rfl
  | some x =>
    simp only [Option.isSome_some, if_true]
    rw [lookup_map_set]
    by_cases hk : key c = k
    · subst hk; simp [hl]
    · have : ¬ k = key c := fun h => hk h.symm
      simp [hk, this]

theorem mapSim_foldl {key : α → Nat} {β : Type} (fk : β → α) (fv : β → V) : ∀ (xs : List β) (d : Py.KDict α V)
    (m : Std.HashMap Nat V), MapSim key d m →
    MapSim key (xs.foldl (fun d x => Py.dictSet key d (fk x) (fv x)) d) (xs.foldl (fun m x => m.insert (key (fk x)) (fv x)) m)
  | [], _, _, h => h
  | x :: xs, d, m, h => mapSim_foldl fk fv xs _ _ (mapSim_set h (fk x) (fv x))

/-! ### keys pairwise distinct -/

def NodupKeys (key : α → Nat) (d : Py.KDict α V) : Prop := (d.map (fun e => key e.1)).Nodup

theorem dictHas_iff (key : α → Nat) (d : Py.KDict α V) (c : α) :
    Py.dictHas key d c = true ↔ key c ∈ d.map (fun e => key e.1) := by
  simp only [Py.dictHas, List.any_eq_true, List.mem_map, beq_iff_eq]

theorem filter_keys (key : α → Nat) (c : α) (d : Py.KDict α V) :
    (d.filter (fun e => key e.1 != key c)).map (fun e => key e.1) = (d.map (fun e => key e.1)).filter (fun k => k != key c) := by
  induction d with
  | nil => rfl
  | cons e d ih => by_cases he : key e.1 = key c <;> simp [he, ih]

theorem dictSet_absent (key : α → Nat) (d : Py.KDict α V) (c : α) (v : V) (h : Py.dictHas key d c = false) :
    Py.dictSet key d c v = d ++ [(c, v)] := by
  simp [Py.dictSet, h]

theorem nodupKeys_append (key : α → Nat) (d : Py.KDict α V) (c : α) (v : V) (nd : NodupKeys key d)
    (h : Py.dictHas key d c = false) : NodupKeys key (d ++ [(c, v)]) := by
  unfold NodupKeys at *
  rw [List.map_append, List.nodup_append]
  refine ⟨nd, by simp, ?_⟩
  intro a ha b hb
  simp only [List.map_cons, List.map_nil, List.mem_singleton] at hb
  subst hb
  intro hab
  subst hab
  have := (dictHas_iff key d c).2 ha
  rw [h] at this; cases this

/-- `if k in d: d.pop(k)` then `d[k] = v`: the entry moves to the end -/
def moveToEnd (key : α → Nat) (d : Py.KDict α V) (c : α) (v : V) : Py.KDict α V :=
  d.filter (fun e => key e.1 != key c) ++ [(c, v)]

theorem dictHas_filter (key : α → Nat) (d : Py.KDict α V) (c : α) :
    Py.dictHas key (d.filter (fun e => key e.1 != key c)) c = false := by
  simp [Py.dictHas, List.any_eq_false]

theorem filter_absent (key : α → Nat) (d : Py.KDict α V) (c : α) (h : Py.dictHas key d c = false) :
    d.filter (fun e => key e.1 != key c) = d := by
  rw [List.filter_eq_self]
  intro e he
  simp only [Py.dictHas, List.any_eq_false, beq_iff_eq] at h
  simpa using h e he

theorem nodupKeys_moveToEnd (key : α → Nat) (d : Py.KDict α V) (c : α) (v : V) (nd : NodupKeys key d) :
    NodupKeys key (moveToEnd key d c v) := by
  apply nodupKeys_append
  · unfold NodupKeys at *
    rw [filter_keys]
    exact List.Pairwise.filter _ nd
  · exact dictHas_filter key d c

/-- the body `if cell in result: result.pop(cell)` / `result[cell] = v` of a re-insertion loop, as the translator emits it -/
def moveStep (key : α → Nat) (v : V) (d : Py.KDict α V) (c : α) : Option (Py.KDict α V) :=
  (if Py.dictHas key d c = true then (Py.dictPop? key d c).bind fun d => some d else some d).bind fun d =>
    some (Py.dictSet key d c v)

theorem moveStep_eq (key : α → Nat) (v : V) (d : Py.KDict α V) (c : α) : moveStep key v d c = some (moveToEnd key d c v) := by
  unfold moveStep moveToEnd
  by_cases h : Py.dictHas key d c = true
  · simp only [h, if_true, Py.dictPop?, Option.bind_some]
    rw [dictSet_absent _ _ _ _ (dictHas_filter key d c)]
  · have h' : Py.dictHas key d c = false := by simpa using h
    simp only [h', Bool.false_eq_true, if_false, Option.bind_some]
    rw [dictSet_absent _ _ _ _ h', filter_absent key d c h']

theorem foldlM_moveStep (key : α → Nat) (v : V) : ∀ (xs : List α) (d : Py.KDict α V),
    List.foldlM (moveStep key v) d xs = some (xs.foldl (fun d c => moveToEnd key d c v) d)
  | [], _ => rfl
  | x :: xs, d => by
    rw [List.foldlM_cons, moveStep_eq]
    exact foldlM_moveStep key v xs _

theorem nodupKeys_foldl_moveToEnd (key : α → Nat) (v : V) : ∀ (xs : List α) (d : Py.KDict α V), NodupKeys key d →
    NodupKeys key (xs.foldl (fun d c => moveToEnd key d c v) d)
  | [], _, h => h
  | x :: xs, d, h => nodupKeys_foldl_moveToEnd key v xs _ (nodupKeys_moveToEnd key d x v h)

theorem dictHas_of_nodup_cons (key : α → Nat) (d : Py.KDict α V) (x : α) (xs : List α)
    (h : ((d.map (fun e => key e.1)) ++ (x :: xs).map key).Nodup) : Py.dictHas key d x = false := by
  cases hh : Py.dictHas key d x
  · rfl
  · rw [List.nodup_append] at h
    exact absurd rfl (h.2.2 _ ((dictHas_iff key d x).1 hh) _ (by simp))

/-- `{j: i for i, j in enumerate(xs)}` over pairwise distinct keys is the enumeration itself -/
theorem dictcomp_nodup (key : α → Nat) : ∀ (xs : List α) (k : Nat) (d : Py.KDict α Nat),
    ((d.map (fun e => key e.1)) ++ xs.map key).Nodup →
    (xs.zipIdx k).foldl (fun d (ji : α × Nat) => Py.dictSet key d ji.1 ji.2) d = d ++ xs.zipIdx k
  | [], _, d, _ => by simp
  | x :: xs, k, d, h => by
    have hx := dictHas_of_nodup_cons key d x xs h
    rw [List.zipIdx_cons, List.foldl_cons, dictSet_absent _ _ _ _ hx]
    have := dictcomp_nodup key xs (k + 1) (d ++ [(x, k)]) (by simpa [List.map_append, List.append_assoc] using h)
    rw [this]; simp [List.append_assoc]

/-! ### set ~ hash set -/

def SetSim (key : α → Nat) (s : Py.KSet α) (hs : Std.HashSet Nat) : Prop := ∀ k, hs.contains k = s.any (fun e => key e == k)

theorem setSim_empty (key : α → Nat) : SetSim key ([] : Py.KSet α) ∅ := by
  intro k; simp

theorem setSim_has {key : α → Nat} {s : Py.KSet α} {hs : Std.HashSet Nat} (h : SetSim key s hs) (c : α) :
    Py.setHas key s c = hs.contains (key c) := by
  rw [h]; rfl

theorem setSim_add {key : α → Nat} {s : Py.KSet α} {hs : Std.HashSet Nat} (h : SetSim key s hs) (c : α) :
    SetSim key (Py.setAdd key s c) (hs.insert (key c)) := by
  intro k
  rw [Std.HashSet.contains_insert, h k]
  unfold Py.setAdd Py.setHas
  by_cases hh : s.any (fun e => key e == key c) = true
  · rw [if_pos hh]
    by_cases hk : key c = k
    · subst hk; simp [hh]
    · simp [hk]
  · rw [if_neg hh]
    simp [List.any_append, Bool.or_comm]

/-! ### loops -/

theorem listPop_append (xs : List α) (x : α) : Py.listPop? (xs ++ [x]) = some (xs, x) := by
  simp [Py.listPop?]

theorem listPop_nil : Py.listPop? ([] : List α) = none := rfl

/-- a `for` loop that only appends: `for x in xs: acc.append(f x)` -/
theorem foldlM_append {β : Type} (f : β → α) : ∀ (xs : List β) (acc : List α),
    List.foldlM (m := Option) (fun acc x => some (acc ++ [f x])) acc xs = some (acc ++ xs.map f)
  | [], acc => by simp
  | x :: xs, acc => by
    rw [List.foldlM_cons]
    simp only [Option.bind_eq_bind, Option.bind_some]
    rw [foldlM_append f xs]; simp [List.append_assoc]

theorem foldlM_congr' {β : Type} (f g : σ → β → Option σ) (h : ∀ s x, f s x = g s x) (xs : List β) (s : σ) :
    List.foldlM f s xs = List.foldlM g s xs :=
  foldlM_congr f g h xs s

theorem mapM_bind_mapM {β γ δ : Type} (f : β → Option γ) (g : γ → Option δ) : ∀ xs : List β,
    xs.mapM (fun x => (f x).bind g) = (xs.mapM f).bind (fun ys => ys.mapM g)
  | [] => by simp
  | x :: xs => by
    simp only [List.mapM_cons, Option.bind_eq_bind, Option.pure_def]
    rw [mapM_bind_mapM f g xs]
    cases f x with
    | none => simp
    | some y =>
      cases List.mapM f xs with
      | none => cases g y <;> simp
      | some ys => cases g y <;> simp

theorem mapM_length {β γ : Type} (f : β → Option γ) : ∀ (xs : List β) (ys : List γ), xs.mapM f = some ys → ys.length = xs.length
  | [], ys, h => by simp at h; subst h; rfl
  | x :: xs, ys, h => by
    simp only [List.mapM_cons, Option.bind_eq_bind, Option.pure_def] at h
    cases hx : f x <;> simp [hx] at h
    cases hxs : List.mapM f xs <;> simp [hxs] at h
    subst h
    simp [mapM_length f xs _ hxs]

end TonVerif.Proofs.SrcDict
