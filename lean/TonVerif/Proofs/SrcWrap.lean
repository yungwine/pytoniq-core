/-
The stand-alone wrappers of tlb/custom/wallet.py and tlb/custom/nft.py as regenerated from the source (Generated/WrapSrc.lean,
translator harness/translate/wrapsrc.py + pytlb.py) equal the hand model `Model/Wrappers.lean`, for ALL inputs: constructors
(`wallet_id is None` → 698983191, any int — 0 included — is kept; `public_key is None` raises), serialisers, deserialisers.
Generation dependent.
-/
import TonVerif.Generated.WrapSrc
import TonVerif.Model.Wrappers
import TonVerif.Proofs.SrcMsgSer
set_option linter.unusedSimpArgs false
namespace TonVerif.Proofs.SrcWrap
open TonVerif TonVerif.Model TonVerif.Model.Vm TonVerif.Spec.Tlb TonVerif.Generated.MsgSrc TonVerif.Generated.WrapSrc
open TonVerif.Proofs.SrcSOp TonVerif.Proofs.SrcVm TonVerif.Proofs.SrcMsg TonVerif.Proofs.SrcMsgSer
open TonVerif.Model.Message TonVerif.Model.BOp

variable {R : Type} {mk : Bits → List R → Option R} {view : R → Bits × List R}

/-- the default wallet id of the library's wallet classes -/
def defaultWalletId : Int := 698983191

/-! ### constructors -/

theorem v3_init (s : Int) (w : Option Int) (pk : Option Bytes) :
    WalletV3Data_init s w pk = pk.map (fun k => ⟨s, w.getD defaultWalletId, k⟩) := by
  cases w <;> cases pk <;> rfl

theorem v4_init (s : Int) (w : Option Int) (pk : Option Bytes) (p : Option R) :
    WalletV4Data_init s w pk p = pk.map (fun k => ⟨s, w.getD defaultWalletId, k, p⟩) := by
  cases w <;> cases pk <;> rfl

theorem hl_init (w : Option Int) (lc : Int) (pk : Option Bytes) (q : Option R) :
    HighloadWalletData_init w lc pk q = pk.map (fun k => ⟨w.getD defaultWalletId, lc, k, q⟩) := by
  cases w <;> cases pk <;> rfl

theorem wm_init (mode : Int) (m : Msg R) : WalletMessage_init mode m = some ⟨mode, m⟩ := rfl

theorem nft_init (i : Int) (c o : Addr) (r : R) : NftItemData_init i c o r = some ⟨i, c, o, r⟩ := rfl

theorem fees_init (a : Addr) (f : Int) (b : Addr) (r : Int) : NftItemSaleFees_init a f b r = some ⟨a, f, b, r⟩ := rfl

theorem sale_init (c : Bool) (t : Int) (m n o : Addr) (p : Int) (f : SaleFees) (e : Bool) :
    NftItemSaleData_init c t m n o p f e = some ⟨c, t, m, n, o, p, f, e⟩ := by
  cases c <;> cases e <;> rfl

/-! ### deserialisers -/

theorem ofOption_some {α : Type} (a : α) : (SOp.ofOption (some a) : SOp R α) = SOp.pure a := rfl

theorem v3_de_eq : WalletV3Data_deserialize view = (loadWalletV3 : SOp R WalletV3) := by
  unfold WalletV3Data_deserialize loadWalletV3
  sop_norm [ofOption_some, Option.map_some, Option.getD_some, v3_init]

theorem v4_de_eq : WalletV4Data_deserialize view = (loadWalletV4 : SOp R (WalletV4 R)) := by
  unfold WalletV4Data_deserialize loadWalletV4
  sop_norm [ofOption_some, Option.map_some, Option.getD_some, v4_init]

theorem hl_de_eq : HighloadWalletData_deserialize view = (loadHighload : SOp R (Highload R)) := by
  unfold HighloadWalletData_deserialize loadHighload
  sop_norm [ofOption_some, Option.map_some, Option.getD_some, hl_init]

theorem nft_de_eq : NftItemData_deserialize view = (loadNftItem : SOp R (NftItem R)) := by
  unfold NftItemData_deserialize loadNftItem
  sop_norm [ofOption_some, nft_init]

theorem fees_de_eq : NftItemSaleFees_deserialize view = (loadSaleFees : SOp R SaleFees) := by
  unfold NftItemSaleFees_deserialize loadSaleFees
  sop_norm [ofOption_some, fees_init]

theorem sale_de_eq (ops : CellOps R) : NftItemSaleData_deserialize ops.view = loadSaleData ops := by
  unfold NftItemSaleData_deserialize loadSaleData
  sop_norm [ofOption_some, sale_init, fees_de_eq]
  rfl

theorem wm_de_eq (ops : CellOps R) : WalletMessage_deserialize ops.view = loadWalletMsg ops := by
  unfold WalletMessage_deserialize loadWalletMsg
  sop_norm [ofOption_some, wm_init, message_de_eq]
  rfl

/-! ### serialisers -/

theorem v3_ser_eq (w : WalletV3) : WalletV3Data_serialize mk w = build mk (walletV3B w) := by
  cases w; simp [WalletV3Data_serialize, build, walletV3B, run_andThen, Option.bind_assoc]

theorem v4_ser_eq (w : WalletV4 R) : WalletV4Data_serialize mk w = build mk (walletV4B w) := by
  cases w; simp [WalletV4Data_serialize, build, walletV4B, run_andThen, Option.bind_assoc]

theorem hl_ser_eq (w : Highload R) : HighloadWalletData_serialize mk w = build mk (highloadB w) := by
  cases w; simp [HighloadWalletData_serialize, build, highloadB, run_andThen, Option.bind_assoc]

theorem nft_ser_eq (n : NftItem R) : NftItemData_serialize mk n = build mk (nftItemB n) := by
  cases n; simp [NftItemData_serialize, build, nftItemB, run_andThen, Option.bind_assoc]

theorem fees_ser_eq (f : SaleFees) : NftItemSaleFees_serialize mk f = build mk (saleFeesB f : BOp R) := by
  cases f; simp [NftItemSaleFees_serialize, build, saleFeesB, run_andThen, Option.bind_assoc]

/-- `run` in terms of the (state, flag) pair of the hand model -/
theorem run_eq (op : BOp R) (b : Builder R) : run op b = if (op b).2 then some (op b).1 else none := rfl

/-- `WalletMessage.serialize`: the inner `MessageAny.serialize` is the regenerated one (`src_message_ser_eq`) -/
theorem wm_ser_eq (ops : CellOps R) (hl : ops.Lawful) (ht : ops.Total) (w : WalletMsg R) :
    (WalletMessage_serialize ops.make w).map (·.cell) = serializeWalletMsg ops w := by
  rcases w with ⟨mode, m⟩
  simp only [WalletMessage_serialize, serializeWalletMsg, ← src_message_ser_eq ops hl ht, bind_pure, Option.bind_eq_bind,
    Option.pure_def, Option.bind_some, run_eq]
  cases (storeUint mode 8 (Builder.empty : Builder R)).2
  · rfl
  · simp only [if_true, Option.bind_some, Bool.not_true, Bool.false_eq_true, if_false]
    cases MessageAny_serialize ops.make m with
    | none => rfl
    | some p =>
      simp only [Option.bind_some, Option.map_some]
      cases (storeRef p.cell (storeUint mode 8 (Builder.empty : Builder R)).1).2
      · rfl
      · simp only [if_true, Option.bind_some, Bool.not_true, Bool.false_eq_true, if_false, finish]
        cases ops.make _ _ <;> rfl

/-- the hand model's `NftItemSaleData.serialize` as a chain of `run` steps -/
theorem serializeSaleData_run (ops : CellOps R) (s : SaleData) :
    serializeSaleData ops s = (run (saleHeadB s) Builder.empty).bind fun b0 => (serializeSaleFees ops s.fees).bind fun fc =>
      (run (storeRef fc) b0).bind fun b1 => (run (storeBit s.canDeployByExternal) b1).bind fun b2 => ops.make b2.bits b2.refs := by
  have h : ∀ (fc : R) (b0 : Builder R), ((run (storeRef fc) b0).bind fun b1 => (run (storeBit s.canDeployByExternal) b1).bind fun b2 =>
      ops.make b2.bits b2.refs) = (run (storeRef fc ⊳ storeBit s.canDeployByExternal) b0).bind fun b2 => ops.make b2.bits b2.refs := by
    intro fc b0; simp only [run_andThen, Option.bind_assoc]
  simp only [h]
  unfold serializeSaleData
  simp only [run_eq]
  generalize (saleHeadB s : BOp R) Builder.empty = r0
  rcases r0 with ⟨b0, f0⟩
  cases f0
  · rfl
  · simp only [if_true, Option.bind_some, Bool.not_true, Bool.false_eq_true, if_false]
    cases serializeSaleFees ops s.fees with
    | none => rfl
    | some fc =>
      simp only [Option.bind_some]
      generalize (storeRef fc ⊳ storeBit s.canDeployByExternal) b0 = r2
      rcases r2 with ⟨b2, f2⟩
      cases f2 <;> rfl

/-- `NftItemSaleData.serialize`: receiver chain, then `self.fees_cell.serialize()`, then `store_ref`, `store_bool`, `end_cell` -/
theorem sale_ser_eq (ops : CellOps R) (s : SaleData) :
    (NftItemSaleData_serialize ops.make s).map (·.cell) = serializeSaleData ops s := by
  rw [serializeSaleData_run]
  rcases s with ⟨c, t, m, n, o, p, f, e⟩
  simp only [NftItemSaleData_serialize, serializeSaleFees, cellOf_eq_build, fees_ser_eq, bind_pure, Option.bind_eq_bind,
    Option.pure_def, Option.bind_some, saleHeadB, run_andThen, Option.bind_assoc, map_as_bind, finish, Option.bind_some,
    Option.bind_fun_some]

/-- the wrappers whose `serialize` is one builder program: regenerated cell = the hand model's `cellOf` -/
theorem build_cellOf (ops : CellOps R) (op : BOp R) : (build ops.make op).map (·.cell) = cellOf ops op := (cellOf_eq_build ops op).symm

/-! ### `HashUpdate` (tlb/utils.py) -/

theorem hu_init (o n : Bytes) : HashUpdate_init o n = some ⟨o, n⟩ := rfl

theorem slice_0 {α : Type} (xs : List α) (n : Nat) : Py.slice xs 0 n = xs.take n := by
  simp [Py.slice]

/-- `tag = load_bytes(1)[:1]; if tag != b'r': raise` -/
theorem hu_de_eq : HashUpdate_deserialize view = (loadHashUpdate : SOp R HashUpd) := by
  unfold HashUpdate_deserialize loadHashUpdate
  sop_norm [ofOption_some, hu_init, slice_0, bne_iff_ne, ne_eq]

theorem hu_ser_eq (h : HashUpd) : HashUpdate_serialize mk h = build mk (hashUpdateB h : BOp R) := by
  cases h; simp [HashUpdate_serialize, build, hashUpdateB, run_andThen, Option.bind_assoc]

end TonVerif.Proofs.SrcWrap
