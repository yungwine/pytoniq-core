/-
Helper lemmas for C06 / C07, Builder side: the integer conversions (`int2ba` / `ba2int`, byte lengths) and closed forms of
the store operations (`OpSpec`: succeeds exactly when the value is in range and fits, then appends exactly the TL-B encoding).
-/
import TonVerif.Proofs.Bits
import TonVerif.Spec.TlbVal

namespace TonVerif.Proofs.Builder
open TonVerif TonVerif.Model TonVerif.Spec.Tlb TonVerif.Proofs.Bits
variable {R : Type}

/-! ### integer conversions -/

theorem bitLen_le_iff (v m : Nat) : BOp.bitLen v ≤ m ↔ v < 2 ^ m := by
  induction m generalizing v with
  | zero =>
    cases v with
    | zero => simp [BOp.bitLen]
    | succ v => rw [BOp.bitLen]; simp
  | succ m ih =>
    cases v with
    | zero => simp [BOp.bitLen]; exact Nat.pow_pos (by decide)
    | succ v =>
      rw [BOp.bitLen, Nat.pow_succ]
      have := ih ((v + 1) / 2)
      constructor
      · intro h
        have h' : BOp.bitLen ((v + 1) / 2) ≤ m := by omega
        have := this.mp h'
        omega
      · intro h
        have h' : (v + 1) / 2 < 2 ^ m := by omega
        have := this.mpr h'
        omega

theorem byteLenU_le_iff_pow2 (v l : Nat) : byteLenU v ≤ l ↔ v < 2 ^ (8 * l) := by
  rw [byteLenU_le_iff, Nat.pow_mul]

theorem lt_pow_byteLenU (v : Nat) : v < 2 ^ (8 * byteLenU v) := (byteLenU_le_iff_pow2 v _).mp (Nat.le_refl _)

/-- `math.ceil(bit_length / 8)` is the minimal byte length -/
theorem byteLen_model (v : Nat) : (BOp.bitLen v + 7) / 8 = byteLenU v := by
  apply Nat.le_antisymm
  · have := (bitLen_le_iff v _).mpr (lt_pow_byteLenU v)
    omega
  · rw [byteLenU_le_iff_pow2]
    apply (bitLen_le_iff v _).mp
    omega

theorem bitLen_double_succ (m : Nat) : BOp.bitLen (2 * m + 1) = BOp.bitLen m + 1 := by
  rw [BOp.bitLen]
  have : (2 * m + 1) / 2 = m := by omega
  rw [this]; omega

theorem byteLenS_model (m : Nat) : (BOp.bitLen m + 1 + 7) / 8 = byteLenU (2 * m + 1) := by
  rw [← byteLen_model, bitLen_double_succ]

theorem byteLenU_pos {v : Nat} (h : v ≠ 0) : 0 < byteLenU v := by
  have := byteLenU_le_iff v 0
  simp at this
  omega

theorem int_pow_cast (n : Nat) : ((2 ^ n : Nat) : Int) = (2 : Int) ^ n := by
  simp

theorem two_pow_pos_int (n : Nat) : (0 : Int) < (2 : Int) ^ n := by
  rw [← int_pow_cast]; exact Int.natCast_pos.mpr (Nat.pow_pos (by decide))

theorem two_pow_succ_int (n : Nat) : (2 : Int) ^ (n + 1) = 2 * (2 : Int) ^ n := by
  rw [Int.pow_succ, Int.mul_comm]

/-- signed size: `byteLenS v` is the least `l` such that `v` fits `int (8·l)` -/
theorem byteLenS_le_iff (v : Int) (l : Nat) : byteLenS v ≤ l ↔ FitsInt (8 * l) v := by
  unfold byteLenS FitsInt
  by_cases hv : v = 0
  · subst hv
    have := two_pow_pos_int (8 * l)
    simp; omega
  · simp only [hv, if_false]
    rw [byteLenU_le_iff_pow2]
    unfold magS
    cases l with
    | zero =>
      simp
      omega
    | succ l =>
      have e : 8 * (l + 1) = (8 * l + 7) + 1 := by omega
      rw [e, two_pow_succ_int, Nat.pow_succ, ← int_pow_cast]
      generalize (2 : Nat) ^ (8 * l + 7) = P
      split <;> omega

theorem byteLenS_fits (v : Int) : FitsInt (8 * byteLenS v) v := (byteLenS_le_iff v _).mp (Nat.le_refl _)

theorem byteLenS_pos {v : Int} (h : v ≠ 0) : 0 < byteLenS v := by
  unfold byteLenS; simp only [h, if_false]; exact byteLenU_pos (by omega)

/-! ### int2ba / ba2int -/

theorem int2baU_some (v : Int) (n : Nat) (hn : 0 < n) (h : FitsUint n v) :
    BOp.int2baU v n = some (uintBits n v.toNat) := by
  unfold BOp.int2baU FitsUint at *
  have hc := int_pow_cast n
  have h1 : ¬ v < 0 := by omega
  have h2 : ¬ v.toNat ≥ 2 ^ n := by omega
  simp [h1, h2, natToBits_eq_uintBits]; omega

theorem int2baU_none (v : Int) (n : Nat) (h : ¬ (0 < n ∧ FitsUint n v)) : BOp.int2baU v n = none := by
  unfold BOp.int2baU FitsUint at *
  have hc := int_pow_cast n
  by_cases hn : n = 0
  · simp [hn]
  · by_cases h1 : v < 0
    · simp [hn, h1]
    · have : v.toNat ≥ 2 ^ n := by omega
      simp [hn, h1, this]

theorem fitsInt_succ (n : Nat) (v : Int) :
    FitsInt (n + 1) v ↔ (-(2 : Int) ^ n ≤ v ∧ v < (2 : Int) ^ n) := by
  unfold FitsInt; rw [two_pow_succ_int]; omega

/-- the bit pattern of `v` in `m + 1` bits, in the spec's spelling (`intBits`) and in the library's (`int2ba`, signed) -/
theorem intBits_twos (m : Nat) (v : Int) (h : FitsInt (m + 1) v) :
    ∃ x : Nat, intBits (m + 1) v = uintBits (m + 1) x ∧ BOp.int2baS v (m + 1) = some (uintBits (m + 1) x) ∧
      x < 2 ^ (m + 1) ∧ (if 2 ^ m ≤ x then (x : Int) - (2 : Int) ^ (m + 1) else x) = v := by
  obtain ⟨hlo, hhi⟩ := (fitsInt_succ m v).mp h
  obtain ⟨x, hx1, hx2, hxlt, hback⟩ := twos m v hlo hhi
  refine ⟨x, by rw [intBits, hx1], ?_, hxlt, hback⟩
  have h1 : ¬ (v < -((2 : Int) ^ m) ∨ v ≥ (2 : Int) ^ m) := by omega
  simp only [BOp.int2baS, Nat.add_sub_cancel, Nat.succ_ne_zero, if_false, h1, ge_iff_le, hx2, natToBits_eq_uintBits]

theorem int2baS_some (v : Int) (n : Nat) (hn : 0 < n) (h : FitsInt n v) :
    BOp.int2baS v n = some (intBits n v) := by
  obtain ⟨m, rfl⟩ : ∃ m, n = m + 1 := ⟨n - 1, by omega⟩
  obtain ⟨x, e1, e2, -, -⟩ := intBits_twos m v h
  rw [e1, e2]

theorem int2baS_none (v : Int) (n : Nat) (h : ¬ (0 < n ∧ FitsInt n v)) : BOp.int2baS v n = none := by
  unfold BOp.int2baS
  by_cases hn : n = 0
  · simp [hn]
  · obtain ⟨m, rfl⟩ : ∃ m, n = m + 1 := ⟨n - 1, by omega⟩
    have hf := fitsInt_succ m v
    have : (v < -((2 : Int) ^ m) ∨ v ≥ (2 : Int) ^ m) := by
      have : ¬ FitsInt (m + 1) v := fun hh => h ⟨by omega, hh⟩
      rw [hf] at this; omega
    simp [this]

theorem ba2intU_uintBits (n : Nat) (v : Int) (hn : 0 < n) (h : FitsUint n v) :
    SOp.ba2intU (uintBits n v.toNat) = some v := by
  unfold SOp.ba2intU FitsUint at *
  have hc := int_pow_cast n
  have hne : (uintBits n v.toNat).isEmpty = false := by
    cases hh : uintBits n v.toNat with
    | nil => have := uintBits_length n v.toNat; rw [hh] at this; simp at this; omega
    | cons _ _ => rfl
  rw [hne, ← natToBits_eq_uintBits, natOfBits_natToBits _ _ (by omega)]
  simp; omega

theorem ba2intS_intBits (n : Nat) (v : Int) (hn : 0 < n) (h : FitsInt n v) :
    SOp.ba2intS (intBits n v) = some v := by
  obtain ⟨m, rfl⟩ : ∃ m, n = m + 1 := ⟨n - 1, by omega⟩
  obtain ⟨x, e1, -, hxlt, hback⟩ := intBits_twos m v h
  obtain ⟨tl, htl⟩ := natToBits_head m x hxlt
  have hnat := natOfBits_natToBits (m + 1) x hxlt
  have hlen := natToBits_length (m + 1) x
  rw [e1, ← natToBits_eq_uintBits]
  rw [htl] at hnat hlen ⊢
  simp only [SOp.ba2intS, hnat, hlen, decide_eq_true_eq, hback]

/-! ### builder operations: the `OpSpec` calculus -/

/-- capacity invariant of C07 -/
def Inv (b : Builder R) : Prop := b.bits.length ≤ 1023 ∧ b.refs.length ≤ 4

theorem inv_empty : Inv (Builder.empty : Builder R) := by simp [Inv, Builder.empty]

/-- an operation never leaves the capacity bounds, whether or not it returns normally -/
def Safe (f : BOp R) : Prop := ∀ b, Inv b → Inv (f b).1

/-- `f` returns normally exactly when `C` (value in range) holds and `xs`/`rs` fit the remaining
capacity; then it has appended exactly `xs` and `rs`; in every case it stays within capacity. -/
def OpSpec (f : BOp R) (C : Prop) (xs : Bits) (rs : List R) : Prop :=
  (∀ b, Inv b → ((f b).2 = true ↔ (C ∧ b.bits.length + xs.length ≤ 1023 ∧ b.refs.length + rs.length ≤ 4)) ∧
        ((f b).2 = true → (f b).1 = ⟨b.bits ++ xs, b.refs ++ rs⟩)) ∧ Safe f

theorem OpSpec.congr {f : BOp R} {C C' : Prop} {xs xs' : Bits} {rs rs' : List R}
    (h : OpSpec f C xs rs) (hc : C ↔ C') (hx : C → xs = xs' ∧ rs = rs') : OpSpec f C' xs' rs' := by
  refine ⟨fun b ib => ?_, h.2⟩
  obtain ⟨h1, h2⟩ := h.1 b ib
  constructor
  · constructor
    · intro hok
      obtain ⟨c, hb, hr⟩ := h1.mp hok
      obtain ⟨e1, e2⟩ := hx c
      subst e1; subst e2
      exact ⟨hc.mp c, hb, hr⟩
    · rintro ⟨c', hb, hr⟩
      obtain ⟨e1, e2⟩ := hx (hc.mpr c')
      subst e1; subst e2
      exact h1.mpr ⟨hc.mpr c', hb, hr⟩
  · intro hok
    obtain ⟨c, _, _⟩ := h1.mp hok
    obtain ⟨e1, e2⟩ := hx c
    subst e1; subst e2
    exact h2 hok

/-- a run that returned, read off the spec: the condition held and exactly `xs` / `rs` were appended -/
theorem OpSpec.of_eq {f : BOp R} {C : Prop} {xs : Bits} {rs : List R} (h : OpSpec f C xs rs) {b b' : Builder R}
    (hb : Inv b) (e : f b = (b', true)) : C ∧ b' = ⟨b.bits ++ xs, b.refs ++ rs⟩ := by
  have h2 : (f b).2 = true := by rw [e]
  exact ⟨((h.1 b hb).1.mp h2).1, by rw [← (h.1 b hb).2 h2, e]⟩

theorem safe_fail : Safe (BOp.fail : BOp R) := fun _ h => h
theorem safe_skip : Safe (BOp.skip : BOp R) := fun _ h => h

theorem safe_andThen {f g : BOp R} (hf : Safe f) (hg : Safe g) : Safe (f ⊳ g) := by
  intro b hb
  unfold BOp.andThen
  by_cases h : (f b).2 = true
  · simp only [h, if_true]; exact hg _ (hf b hb)
  · simp only [h]; exact hf b hb

theorem safe_extend (xs : Bits) : Safe (BOp.extend xs : BOp R) := by
  intro b hb
  unfold BOp.extend Inv at *
  by_cases h : b.bits.length + xs.length > 1023
  · simp [h]; exact hb
  · simp only [h, if_false, List.length_append]; omega

theorem safe_storeRef (r : R) : Safe (BOp.storeRef r) := by
  intro b hb
  unfold BOp.storeRef Inv at *
  by_cases h : b.refs.length ≥ 4
  · simp [h]; exact hb
  · simp only [h, if_false, List.length_append, List.length_singleton]; omega

theorem opSpec_fail : OpSpec (BOp.fail : BOp R) False [] [] :=
  ⟨fun b _ => by simp [BOp.fail], safe_fail⟩

theorem opSpec_skip : OpSpec (BOp.skip : BOp R) True [] [] :=
  ⟨fun b ib => ⟨by simp [BOp.skip]; exact ib, by intro; simp [BOp.skip]⟩, safe_skip⟩

theorem opSpec_extend (xs : Bits) : OpSpec (BOp.extend xs : BOp R) True xs [] := by
  refine ⟨fun b ib => ?_, safe_extend xs⟩
  unfold Inv at ib
  unfold BOp.extend
  by_cases h : b.bits.length + xs.length > 1023
  · simp [h]; omega
  · simp [h]; omega

theorem opSpec_storeRef (r : R) : OpSpec (BOp.storeRef r) True [] [r] := by
  refine ⟨fun b ib => ?_, safe_storeRef r⟩
  unfold Inv at ib
  unfold BOp.storeRef
  by_cases h : b.refs.length ≥ 4
  · simp [h]; omega
  · simp [h]; omega

theorem opSpec_andThen {f g : BOp R} {C D : Prop} {xs ys : Bits} {rs qs : List R}
    (hf : OpSpec f C xs rs) (hg : OpSpec g D ys qs) :
    OpSpec (f ⊳ g) (C ∧ D) (xs ++ ys) (rs ++ qs) := by
  refine ⟨fun b ib => ?_, safe_andThen hf.2 hg.2⟩
  obtain ⟨f1, f2⟩ := hf.1 b ib
  unfold BOp.andThen
  by_cases h : (f b).2 = true
  · have hb := f2 h
    obtain ⟨g1, g2⟩ := hg.1 (f b).1 (hf.2 b ib)
    obtain ⟨c, hc1, hc2⟩ := f1.mp h
    simp only [h, if_true]
    rw [hb] at g1 g2 ⊢
    simp only [List.length_append] at *
    constructor
    · rw [g1]
      constructor
      · rintro ⟨d, h1, h2⟩; exact ⟨⟨c, d⟩, by omega, by omega⟩
      · rintro ⟨⟨_, d⟩, h1, h2⟩; exact ⟨d, by omega, by omega⟩
    · intro hok
      rw [g2 hok]; simp [List.append_assoc]
  · simp only [h]
    constructor
    · constructor
      · intro hh; simp at hh
      · rintro ⟨⟨c, _⟩, h1, h2⟩
        exfalso; apply h; apply f1.mpr
        simp only [List.length_append] at *
        exact ⟨c, by omega, by omega⟩
    · intro hh; simp at hh

theorem opSpec_storeUint (v : Int) (n : Nat) :
    OpSpec (BOp.storeUint v n : BOp R) (0 < n ∧ FitsUint n v) (uintBits n v.toNat) [] := by
  unfold BOp.storeUint
  by_cases h : 0 < n ∧ FitsUint n v
  · rw [int2baU_some v n h.1 h.2]
    exact (opSpec_extend _).congr (by simp [h]) (fun _ => ⟨rfl, rfl⟩)
  · rw [int2baU_none v n h]
    exact opSpec_fail.congr (by simp [h]) (fun hh => hh.elim)

theorem opSpec_storeInt (v : Int) (n : Nat) :
    OpSpec (BOp.storeInt v n : BOp R) (0 < n ∧ FitsInt n v) (intBits n v) [] := by
  unfold BOp.storeInt
  by_cases h : 0 < n ∧ FitsInt n v
  · rw [int2baS_some v n h.1 h.2]
    exact (opSpec_extend _).congr (by simp [h]) (fun _ => ⟨rfl, rfl⟩)
  · rw [int2baS_none v n h]
    exact opSpec_fail.congr (by simp [h]) (fun hh => hh.elim)


theorem fitsUint_iff (n : Nat) (v : Int) : FitsUint n v ↔ 0 ≤ v ∧ v.toNat < 2 ^ n := by
  unfold FitsUint
  have := int_pow_cast n
  constructor <;> intro h <;> refine ⟨h.1, ?_⟩ <;> omega

theorem fitsUint_nat (n L : Nat) : FitsUint n (L : Int) ↔ L < 2 ^ n := by
  rw [fitsUint_iff]; simp

theorem opSpec_storeBytes (bs : Bytes) : OpSpec (BOp.storeBytes bs : BOp R) True (bytesBits bs) [] := by
  unfold BOp.storeBytes; rw [bytesToBits_eq_bytesBits]; exact opSpec_extend _

theorem opSpec_storeString (bs : Bytes) :
    OpSpec (BOp.storeString bs : BOp R) (bs.length ≤ 127) (bytesBits bs) [] := by
  unfold BOp.storeString
  by_cases h : bs.length > 127
  · simp only [h, if_true]
    exact opSpec_fail.congr ⟨False.elim, fun hh => by omega⟩ (fun hh => hh.elim)
  · simp only [h, if_false]
    exact (opSpec_storeBytes bs).congr ⟨fun _ => by omega, fun _ => trivial⟩ (fun _ => ⟨rfl, rfl⟩)

theorem opSpec_storeVarUint (v : Int) (k : Nat) :
    OpSpec (BOp.storeVarUint v k : BOp R) (0 < k ∧ 0 ≤ v ∧ byteLenU v.toNat < 2 ^ k)
      (varUIntBits k v.toNat) [] := by
  unfold BOp.storeVarUint varUIntBits
  by_cases hv : v = 0
  · subst hv
    simp only [if_true]
    refine (opSpec_storeUint 0 k).congr ?_ ?_
    · have := Nat.pow_pos (n := k) (show 0 < 2 by decide)
      simp [fitsUint_iff, byteLenU] <;> omega
    · intro _; simp [byteLenU, uintBits]
  · simp only [hv, if_false]
    by_cases h0 : 0 ≤ v
    · have hn : v.natAbs = v.toNat := by omega
      have hL : (BOp.bitLen v.natAbs + 7) / 8 = byteLenU v.toNat := by rw [hn, byteLen_model]
      rw [hL]
      have hpos : 0 < byteLenU v.toNat := byteLenU_pos (by omega)
      have hlt := lt_pow_byteLenU v.toNat
      refine (opSpec_andThen (opSpec_storeUint _ k) (opSpec_storeUint v _)).congr ?_ ?_
      · rw [fitsUint_nat, fitsUint_iff, Nat.mul_comm]
        constructor
        · rintro ⟨⟨a, b⟩, _⟩; exact ⟨a, h0, b⟩
        · rintro ⟨a, _, b⟩; exact ⟨⟨a, b⟩, by omega, h0, hlt⟩
      · intro _; simp [Nat.mul_comm]
    · refine (opSpec_andThen (opSpec_storeUint _ k) (opSpec_storeUint v _)).congr ?_ ?_
      · rw [fitsUint_iff (_ * 8)]
        constructor
        · rintro ⟨_, _, c, _⟩; exact absurd c h0
        · rintro ⟨_, c, _⟩; exact absurd c h0
      · rintro ⟨_, _, c, _⟩; exact absurd c h0

theorem opSpec_storeVarInt (v : Int) (k : Nat) :
    OpSpec (BOp.storeVarInt v k : BOp R) (0 < k ∧ byteLenS v < 2 ^ k) (varIntBits k v) [] := by
  unfold BOp.storeVarInt varIntBits
  by_cases hv : v = 0
  · subst hv
    simp only [if_true]
    refine (opSpec_storeUint 0 k).congr ?_ ?_
    · have := Nat.pow_pos (n := k) (show 0 < 2 by decide)
      simp [fitsUint_iff, byteLenS] <;> omega
    · intro _; simp [byteLenS, intBits, uintBits]
  · simp only [hv, if_false]
    have hL : (BOp.bitLen (if v ≥ 0 then v.toNat else (-v - 1).toNat) + 1 + 7) / 8 = byteLenS v := by
      rw [byteLenS_model]; unfold byteLenS magS; simp [hv]
    rw [hL]
    have hpos : 0 < byteLenS v := byteLenS_pos hv
    have hfit := byteLenS_fits v
    refine (opSpec_andThen (opSpec_storeUint _ k) (opSpec_storeInt v _)).congr ?_ ?_
    · rw [fitsUint_nat, Nat.mul_comm]
      constructor
      · rintro ⟨⟨a, b⟩, _⟩; exact ⟨a, b⟩
      · rintro ⟨a, b⟩; exact ⟨⟨a, b⟩, by omega, hfit⟩
    · intro _; simp [Nat.mul_comm]

theorem opSpec_storeCoins (v : Int) :
    OpSpec (BOp.storeCoins v : BOp R) (0 ≤ v ∧ byteLenU v.toNat < 16) (gramsBits v.toNat) [] := by
  unfold BOp.storeCoins gramsBits
  exact (opSpec_storeVarUint v 4).congr (by simp) (fun _ => ⟨rfl, rfl⟩)

theorem opSpec_storeMaybeRef (r : Option R) :
    OpSpec (BOp.storeMaybeRef r) True (maybeRefBits r) (maybeRefRefs r) := by
  cases r with
  | none => exact opSpec_extend _
  | some c =>
    exact (opSpec_andThen (opSpec_extend [true]) (opSpec_storeRef c)).congr (by simp)
      (fun _ => by simp [maybeRefBits, maybeRefRefs])

theorem safe_storeCell (cbits : Bits) (crefs : List R) : Safe (BOp.storeCell cbits crefs) := by
  intro b hb
  unfold BOp.storeCell
  by_cases h : b.refs.length + crefs.length > 4
  · simp only [h, if_true]; exact hb
  · have hs := safe_extend cbits b hb
    simp only [h, if_false]
    by_cases h2 : (BOp.extend cbits b).2 = true
    · simp only [h2, if_true]
      have hr : (BOp.extend cbits b).1.refs = b.refs := by
        unfold BOp.extend; split <;> rfl
      unfold Inv at *
      simp only [List.length_append, hr]; omega
    · simp only [h2]; exact hs

theorem opSpec_storeCell (cbits : Bits) (crefs : List R) :
    OpSpec (BOp.storeCell cbits crefs) True cbits crefs := by
  refine ⟨fun b ib => ?_, safe_storeCell cbits crefs⟩
  unfold Inv at ib
  unfold BOp.storeCell BOp.extend
  by_cases h : b.refs.length + crefs.length > 4
  · simp [h] <;> omega
  · by_cases h2 : b.bits.length + cbits.length > 1023
    · simp [h, h2] <;> omega
    · simp [h, h2] <;> omega

theorem opSpec_storeRefs (rs : List R) : OpSpec (BOp.storeRefs rs) True [] rs := by
  induction rs with
  | nil => exact opSpec_skip
  | cons r rs ih =>
    exact (opSpec_andThen (opSpec_storeRef r) ih).congr (by simp) (fun _ => by simp)

theorem opSpec_storeSlice (sbits : Bits) (srefs : List R) :
    OpSpec (BOp.storeSlice sbits srefs) True sbits srefs := by
  have hc := (opSpec_andThen (opSpec_extend (R := R) sbits) (opSpec_storeRefs srefs))
  refine ⟨fun b ib => ?_, ?_⟩
  · unfold BOp.storeSlice
    by_cases h : b.refs.length + srefs.length > 4
    · simp [h] <;> omega
    · simp only [h, if_false]
      have := hc.1 b ib
      simpa using this
  · intro b hb
    unfold BOp.storeSlice
    by_cases h : b.refs.length + srefs.length > 4
    · simp only [h, if_true]; exact hb
    · simp only [h, if_false]; exact hc.2 b hb

/-- "serialise into a fresh cell, then `store_cell` it" (`ExternalAddress.to_cell`) -/
theorem opSpec_viaCell {inner : BOp R} {C : Prop} {xs : Bits} (h : OpSpec inner C xs []) :
    OpSpec (fun (b : Builder R) =>
      if (inner Builder.empty).2 then BOp.storeCell (inner Builder.empty).1.bits ([] : List R) b
      else (b, false)) C xs [] := by
  have ie : Inv (Builder.empty : Builder R) := by simp [Inv, Builder.empty]
  obtain ⟨h1, h2⟩ := h.1 Builder.empty ie
  by_cases hok : (inner Builder.empty).2 = true
  · have hb := h2 hok
    obtain ⟨c, hl, _⟩ := h1.mp hok
    have e : (fun (b : Builder R) =>
        if (inner Builder.empty).2 then BOp.storeCell (inner Builder.empty).1.bits ([] : List R) b
        else (b, false)) = BOp.storeCell xs [] := by
      funext b; rw [hok, hb]; simp [Builder.empty]
    rw [e]
    exact (opSpec_storeCell xs []).congr (by simp [c]) (fun _ => ⟨rfl, rfl⟩)
  · have e : (fun (b : Builder R) =>
        if (inner Builder.empty).2 then BOp.storeCell (inner Builder.empty).1.bits ([] : List R) b
        else (b, false)) = BOp.fail := by
      funext b; simp [hok, BOp.fail]
    rw [e]
    refine ⟨fun b ib => ⟨⟨fun hh => by simp [BOp.fail] at hh, ?_⟩, fun hh => by simp [BOp.fail] at hh⟩, safe_fail⟩
    rintro ⟨c, hl, _⟩
    refine absurd (h1.mpr ⟨c, ?_, ?_⟩) hok
    · simp only [Builder.empty, List.length_nil]; omega
    · simp [Builder.empty]

theorem opSpec_extTail (len : Nat) (val : Int) :
    OpSpec (if len = 0 ∧ val = 0 then BOp.skip else BOp.storeUint val len : BOp R)
      (FitsUint len val) (uintBits len val.toNat) [] := by
  by_cases h : len = 0 ∧ val = 0
  · simp only [h, and_self, if_true]
    obtain ⟨rfl, rfl⟩ := h
    exact opSpec_skip.congr (by simp [FitsUint]) (fun _ => by simp [uintBits])
  · simp only [h, if_false]
    refine (opSpec_storeUint val len).congr ?_ (fun _ => ⟨rfl, rfl⟩)
    constructor
    · exact fun hh => hh.2
    · intro hf
      refine ⟨?_, hf⟩
      rcases Nat.eq_zero_or_pos len with h0 | h0
      · exfalso; subst h0; unfold FitsUint at hf; apply h; simp at hf; omega
      · exact h0

theorem opSpec_anycast (any : Option (Nat × Int)) :
    OpSpec ((match any with
            | some (depth, pfx) => BOp.storeBit true ⊳ BOp.storeUint depth 5 ⊳ BOp.storeUint pfx depth
            | none => BOp.storeBit false) : BOp R)
      (match any with | Option.none => True | some (d, p) => 1 ≤ d ∧ d < 32 ∧ FitsUint d p)
      (anycastBits (any.map fun dp => (dp.1, uintBits dp.1 dp.2.toNat))) [] := by
  cases any with
  | none => exact opSpec_extend _
  | some dp =>
    obtain ⟨d, p⟩ := dp
    refine (opSpec_andThen (opSpec_andThen (opSpec_extend [true]) (opSpec_storeUint d 5))
      (opSpec_storeUint p d)).congr ?_ ?_
    · simp only [fitsUint_nat]; constructor
      · rintro ⟨⟨_, _, a⟩, b, c⟩; exact ⟨b, by simpa using a, c⟩
      · rintro ⟨a, b, c⟩; exact ⟨⟨trivial, by decide, by simpa using b⟩, a, c⟩
    · intro _; simp [anycastBits]

theorem opSpec_storeAddress (a : Addr) :
    OpSpec (BOp.storeAddress a : BOp R) (InRange (R := R) (.addr a)) (addrBits (addrOf a)) [] := by
  cases a with
  | none => exact opSpec_extend _
  | ext len val =>
    unfold BOp.storeAddress
    refine (opSpec_viaCell (opSpec_andThen (opSpec_andThen (opSpec_extend [false, true])
      (opSpec_storeUint len 9)) (opSpec_extTail len val))).congr ?_ ?_
    · simp only [InRange, fitsUint_nat]; constructor
      · rintro ⟨⟨_, _, a⟩, b⟩; exact ⟨by simpa using a, b⟩
      · rintro ⟨a, b⟩; exact ⟨⟨trivial, by decide, by simpa using a⟩, b⟩
    · intro _; simp [addrBits, addrOf]
  | std any wc h =>
    unfold BOp.storeAddress
    refine (opSpec_andThen (opSpec_andThen (opSpec_andThen (opSpec_extend [true, false])
      (opSpec_anycast any)) (opSpec_storeInt wc 8)) (opSpec_storeBytes h)).congr ?_ ?_
    · simp only [InRange]; constructor
      · rintro ⟨⟨⟨_, a⟩, _, b⟩, _⟩; exact ⟨a, b⟩
      · rintro ⟨a, b⟩; exact ⟨⟨⟨trivial, a⟩, by decide, b⟩, trivial⟩
    · intro _; simp [addrBits, addrOf]

/-- every typed store: succeeds iff the value is in range and its TL-B encoding fits; then it has
appended exactly that encoding (bits and references) -/
theorem store_spec (tv : TVal R) : OpSpec tv.store (InRange tv) (enc tv) (refsOf tv) := by
  cases tv with
  | uint n v => exact opSpec_storeUint v n
  | int n v => exact opSpec_storeInt v n
  | varUint k v => exact opSpec_storeVarUint v k
  | varInt k v => exact opSpec_storeVarInt v k
  | coins v => exact opSpec_storeCoins v
  | bit b => exact opSpec_extend [b]
  | bits bs => exact opSpec_extend bs
  | bytes bs => exact opSpec_storeBytes bs
  | string bs => exact opSpec_storeString bs
  | ref r => exact opSpec_storeRef r
  | maybeRef r => exact opSpec_storeMaybeRef r
  | dict r => exact opSpec_storeMaybeRef r
  | addr a => exact opSpec_storeAddress a

end TonVerif.Proofs.Builder
