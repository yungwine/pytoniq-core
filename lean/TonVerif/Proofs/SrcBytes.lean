/-
Generation-independent lemmas for theorems about definitions regenerated by the bytes-program translator
(harness/translate/pybytes.py): the translator's built-ins (`TonVerif/PyBytes.lean`) in terms of the hand models'
helpers.

Nothing here mentions a `Generated.*` definition: a source change can never break this file.
-/
import TonVerif.PyBytes
import TonVerif.Model.BocParse
import TonVerif.Proofs.SrcSim

namespace TonVerif.Proofs.SrcBytes
open TonVerif TonVerif.Model TonVerif.Model.BocParse

/-! ### the translator's built-ins -/

theorem slice_eq {α : Type} (xs : List α) (a b : Nat) : Py.slice xs a b = pySlice xs a b := rfl

theorem rangeLen_mul (a k w : Nat) (hw : 0 < w) : Py.rangeLen a (a + k * w) w = k := by
  unfold Py.rangeLen
  have : a + k * w - a + w - 1 = (w - 1) + w * k := by
    rw [Nat.mul_comm]; omega
  rw [this, Nat.add_mul_div_left _ _ hw, Nat.div_eq_of_lt (by omega)]; omega

theorem rangeLen_of_eq (a b k w : Nat) (hw : 0 < w) (hb : b = a + k * w) : Py.rangeLen a b w = k := by
  subst hb; exact rangeLen_mul a k w hw

theorem range?_pos (a b w : Nat) (hw : 0 < w) :
    Py.range? a b w = some ((List.range (Py.rangeLen a b w)).map (fun t => a + t * w)) := by
  simp [Py.range?, Nat.ne_of_gt hw]

theorem range?_zero (a b w : Nat) (hw : w = 0) : Py.range? a b w = none := by simp [Py.range?, hw]

/-- `range(a, a + 3*w, w)` = `[a, a + w, a + 2*w]` for `w > 0`. -/
theorem range?_three (a b w : Nat) (hw : 0 < w) (hb : b = a + 3 * w) : Py.range? a b w = some [a, a + w, a + 2 * w] := by
  rw [range?_pos a b w hw, rangeLen_of_eq a b 3 w hw hb]
  simp [List.range_succ]

/-- `[bytes_to_uint(data[j: j + w]) for j in range(a, b, w)]` with `b = a + k*w` is the hand model's `uintsAt`. -/
theorem map_range_uints (data : Bytes) (a a' b w k : Nat) (hw : 0 < w) (ha : a' = a) (hb : b = a + k * w) :
    List.map (fun j => natOfBE (pySlice data j (j + w))) (List.map (fun t => a' + t * w) (List.range (Py.rangeLen a' b w)))
      = uintsAt data a w k := by
  subst ha
  rw [rangeLen_of_eq a' b k w hw hb]
  simp [uintsAt, uintAt, List.map_map, Function.comp_def]

theorem map_range_uints' (data : Bytes) (a a' b w k : Nat) (hw : 0 < w) (ha : a' = a) (hb : b = a + w * k) :
    List.map (fun j => natOfBE (pySlice data j (j + w))) (List.map (fun t => a' + t * w) (List.range (Py.rangeLen a' b w)))
      = uintsAt data a w k := map_range_uints data a a' b w k hw ha (by rw [hb, Nat.mul_comm])

theorem pySlice_congr {α : Type} (xs : List α) (a a' b b' : Nat) (ha : a' = a) (hb : b' = b) : pySlice xs a' b' = pySlice xs a b := by
  subst ha; subst hb; rfl

theorem and_two_pow_val (x k : Nat) : x &&& 2 ^ k = if x.testBit k then 2 ^ k else 0 := by
  apply Nat.eq_of_testBit_eq
  intro i
  rw [Nat.testBit_and, Nat.testBit_two_pow]
  by_cases h : k = i
  · subst h; cases hx : x.testBit k <;> simp
  · cases hx : x.testBit k <;> simp [h]

/-- `flags_byte & 2^k` as a truth value is bit `k`. -/
theorem and_two_pow_ne_zero (x k : Nat) : (x &&& 2 ^ k ≠ 0) ↔ x.testBit k = true := by
  rw [and_two_pow_val]
  cases x.testBit k <;> simp

theorem and128 (x : Nat) : (x &&& 128 ≠ 0) ↔ x.testBit 7 = true := and_two_pow_ne_zero x 7
theorem and64 (x : Nat) : (x &&& 64 ≠ 0) ↔ x.testBit 6 = true := and_two_pow_ne_zero x 6
theorem and32 (x : Nat) : (x &&& 32 ≠ 0) ↔ x.testBit 5 = true := and_two_pow_ne_zero x 5
theorem and16 (x : Nat) : x &&& 16 = if x.testBit 4 then 16 else 0 := and_two_pow_val x 4
theorem and8 (x : Nat) : x &&& 8 = if x.testBit 3 then 8 else 0 := and_two_pow_val x 3

theorem getElem?_zero_of_lt {α : Type} {xs : List α} (h : 0 < xs.length) : xs[0]? = some (xs[0]'h) := by simp

/-- masks / shifts by literals as arithmetic (so that `omega` sees them) -/
theorem and7 (x : Nat) : x &&& 7 = x % 8 := Nat.and_two_pow_sub_one_eq_mod x 3
theorem and255 (x : Nat) : x &&& 255 = x % 256 := Nat.and_two_pow_sub_one_eq_mod x 8
theorem shiftRight_lit (a k : Nat) : a >>> k = a / 2 ^ k := Nat.shiftRight_eq_div_pow a k
theorem shiftLeft_lit (a k : Nat) : a <<< k = a * 2 ^ k := Nat.shiftLeft_eq a k

/-- a Python truth value `x & 2^k` against the model's Boolean `x / 2^k % 2 == 1` -/
theorem and_pow_ne_zero_iff (x k : Nat) : (x &&& 2 ^ k ≠ 0) ↔ (x / 2 ^ k % 2 == 1) = true := by
  rw [and_two_pow_ne_zero, Nat.testBit_eq_decide_div_mod_eq, decide_eq_true_iff, beq_iff_eq]

theorem and1a (x : Nat) : x &&& 1 = x % 2 := Nat.and_one_is_mod x

theorem ite_none_bind {α β : Type} (c : Prop) [Decidable c] (x : Option α) (f : α → Option β) :
    (if c then none else x).bind f = if c then none else x.bind f := by split <;> rfl

theorem decide_eq_of_iff {p : Prop} [Decidable p] {b : Bool} (h : p ↔ b = true) : decide p = b := by
  cases b <;> simp_all

theorem drop_take_congr {α : Type} (xs : List α) (a a' b b' : Nat) (ha : a' = a) (hb : b' = b) :
    List.drop a' (List.take b' xs) = List.drop a (List.take b xs) := by subst ha; subst hb; rfl

/-! ### two `Option` programs run in step -/

theorem bind_of {α β : Type} {x : Option α} {K : α → Option β} {r : Option β} (P : α → Prop)
    (hx : ∃ a, x = some a ∧ P a) (hk : ∀ a, P a → K a = r) : x.bind K = r := by
  obtain ⟨a, rfl, ha⟩ := hx
  exact hk a ha

/-- `crc32c(..) != data[j: j + 4]` in the source (the checksum may raise) and in the hand model -/
theorem Sim.crc (o : Option Bytes) (s : Bytes) (j : Nat) :
    Sim Eq (o.bind fun c => if c ≠ s then none else some j) (if (o != some s) = true then none else some j) := by
  cases o with
  | none => exact .fail
  | some c => exact .guard (by simp) fun _ => .ret rfl

theorem bind_congr_left {α β : Type} {x x' : Option α} {f : α → Option β} (h : x = x') : x.bind f = x'.bind f := h ▸ rfl

theorem unpack3_bind {α β : Type} (g : Nat → α) (a b c : Nat) (f : α × α × α → Option β) :
    (Py.unpack3? (List.map g [a, b, c])).bind f = f (g a, g b, g c) := rfl

theorem not_ne_slice {α : Type} {c xs : List α} {i i' j j' : Nat} (h : c = List.drop i (List.take j xs)) (hi : i' = i) (hj : j' = j) :
    ¬ (c ≠ List.drop i' (List.take j' xs)) := by subst hi; subst hj; simp [h]

theorem ne_slice {α : Type} {c xs : List α} {i i' j j' : Nat} (h : c ≠ List.drop i (List.take j xs)) (hi : i' = i) (hj : j' = j) :
    c ≠ List.drop i' (List.take j' xs) := by subst hi; subst hj; exact h

end TonVerif.Proofs.SrcBytes
