/-
Generation-independent lemmas about the `SOp` monad (Model/Builder.lean) used by the proofs that a regenerated deserialiser
equals the hand model: monad laws, conditionals, the `preload_*` reads, non-negativity of `load_uint`.
-/
import TonVerif.Model.Builder
import TonVerif.PyTlb
namespace TonVerif.Proofs.SrcSOp
open TonVerif TonVerif.Model

variable {R : Type} {α β γ : Type}

theorem bind_def (p : SOp R α) (f : α → SOp R β) : (p >>= f) = SOp.bind p f := rfl
theorem pure_def (a : α) : (pure a : SOp R α) = SOp.pure a := rfl

theorem sop_pure_bind (a : α) (f : α → SOp R β) : SOp.bind (SOp.pure a) f = f a := rfl

theorem sop_bind_pure (p : SOp R α) : SOp.bind p SOp.pure = p := by
  funext s; unfold SOp.bind; rcases h : p s with ⟨s1, _ | a⟩ <;> simp [SOp.pure]

theorem sop_bind_assoc (p : SOp R α) (f : α → SOp R β) (g : β → SOp R γ) :
    SOp.bind (SOp.bind p f) g = SOp.bind p (fun a => SOp.bind (f a) g) := by
  funext s; unfold SOp.bind; rcases p s with ⟨s1, _ | a⟩ <;> rfl

theorem sop_fail_bind (f : α → SOp R β) : SOp.bind (SOp.fail : SOp R α) f = SOp.fail := rfl

theorem sop_ite_bind (c : Prop) [Decidable c] (a b : SOp R α) (f : α → SOp R β) :
    SOp.bind (if c then a else b) f = if c then SOp.bind a f else SOp.bind b f := by
  split <;> rfl

/-- both sides as `SOp.bind` chains: monad laws, conditionals pushed outwards -/
macro "sop_norm" " [" ls:Lean.Parser.Tactic.simpLemma,* "]" : tactic =>
  `(tactic| simp only [bind_def, pure_def, sop_pure_bind, sop_bind_pure, sop_bind_assoc, sop_fail_bind, sop_ite_bind, $ls,*])

theorem sop_ite_apply (c : Prop) [Decidable c] (a b : SOp R α) (s : Slice R) :
    (if c then a else b) s = if c then a s else b s := by
  split <;> rfl

theorem sop_bind_congr {p : SOp R α} {f g : α → SOp R β} (h : ∀ a, f a = g a) : SOp.bind p f = SOp.bind p g := by
  have : f = g := funext h
  rw [this]

theorem peekBits_bind (n : Nat) (k : Bits → SOp R β) (s : Slice R) :
    SOp.bind (SOp.peekBits n) k s = k (s.bits.take n) s := rfl

theorem preloadBytes_bind (n : Nat) (k : Bytes → SOp R β) (s : Slice R) :
    SOp.bind (SOp.preloadBytes n) k s = k (bitsToBytes (s.bits.take (n * 8))) s := rfl

theorem ofOption_bind_some (a : α) (f : α → SOp R β) : SOp.bind (SOp.ofOption (some a)) f = f a := rfl
theorem ofOption_bind_none (f : α → SOp R β) : SOp.bind (SOp.ofOption (none : Option α)) f = SOp.fail := rfl

/-- `load_uint` never returns a negative number -/
theorem loadUint_nonneg (n : Nat) (s s' : Slice R) (v : Int) (h : SOp.loadUint n s = (s', some v)) : 0 ≤ v := by
  unfold SOp.loadUint SOp.preloadUint at h
  simp only [bind, SOp.bind, SOp.peekBits, SOp.ofOption, SOp.ba2intU] at h
  by_cases he : (List.take n s.bits).isEmpty = true
  · simp [he] at h
  · simp only [he] at h
    simp only [Bool.false_eq_true, if_false] at h
    cases hd : SOp.delBits n s with
    | mk s1 o =>
      rw [hd] at h
      cases o with
      | none => simp at h
      | some u =>
        simp only [pure, SOp.pure, Prod.mk.injEq, Option.some.injEq] at h
        omega

theorem loadUint_bind_congr (n : Nat) {f g : Int → SOp R β} (h : ∀ v, 0 ≤ v → f v = g v) :
    SOp.bind (SOp.loadUint n) f = SOp.bind (SOp.loadUint n) g := by
  funext s
  unfold SOp.bind
  rcases hl : SOp.loadUint n s with ⟨s1, _ | v⟩
  · rfl
  · simp only [h v (loadUint_nonneg n s s1 v hl)]

end TonVerif.Proofs.SrcSOp
