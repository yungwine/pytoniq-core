/-
`check_proof`, `check_block_header_proof` (both modes), `check_account_proof` (both modes: `return_account_descr` False / True)
and `check_shard_proof` regenerated from proof/check_proof.py (Generated/ProofFull.lean, translator pyfunc.py) equal the hand model
(Model/Proof.lean) for ALL constructed cells, hashes and root lists.  Generation dependent: a source change that alters what a function computes breaks this file.
-/
import TonVerif.Generated.ProofFull
import TonVerif.Model.Proof

set_option linter.unusedSimpArgs false
namespace TonVerif.Proofs.SrcProof
open TonVerif TonVerif.Model TonVerif.Generated.ProofFull

theorem py_slice_eq {α : Type} (xs : List α) (a b : Nat) : Py.slice xs a b = pySlice xs a b := rfl

/-- `if b then some () else none` without a `Decidable` instance (so that case splits reach every copy of `b`) -/
def okUnit : Bool → Option Unit
  | true => some ()
  | false => none

theorem ite_eq_okUnit (b : Bool) : (if b = true then some () else none) = okUnit b := by cases b <;> rfl

/-- `check_proof(cell, hash_)` regenerated = `Model.checkProof` (returns iff `true`) -/
theorem src_check_proof_eq (c : PCell) (h : Bytes) :
    check_proof c h = if checkProof c h then some () else none := by
  rw [ite_eq_okUnit]
  unfold check_proof checkProof
  simp only [py_slice_eq, kMerkleProof]
  -- the tests in source order; each failing one ends both sides
  by_cases h1 : c.info.kind = 3
  case neg => simp [h1, okUnit]
  by_cases h2 : pySlice c.data 1 33 = h
  case neg => simp [h1, h2, okUnit]
  simp only [h1, h2, ne_eq, not_true_eq_false, if_false, bne_self_eq_false, Bool.false_eq_true]
  rcases c.refs[0]? with _ | r
  · rfl
  simp only [Option.bind_some]
  rcases r.info.getHash 0 with _ | hh0
  · rfl
  by_cases h3 : hh0 = h
  case neg => simp [h3, okUnit]
  simp only [h3, Option.bind_some, not_true_eq_false, if_false, bne_self_eq_false, Bool.false_eq_true]
  rcases r.info.getDepth 0 with _ | d
  · simp [okUnit]
  simp only [Option.bind_some]
  rcases toBytesBE? 2 d with _ | db
  · simp [okUnit]
  by_cases h4 : c.refs.length = 1
  case neg => simp [h4, okUnit]
  by_cases h5 : c.info.bits.length = 280
  case neg => simp [h4, h5, okUnit]
  by_cases h6 : c.data = 3 :: (h ++ db) <;> simp [h4, h5, h6, okUnit]

/-- `check_block_header_proof(root_cell, block_hash)` (`store_state_hash=False`) regenerated = `Model.checkBlockHeaderProof` -/
theorem src_header_eq (root : PCell) (bh : Bytes) :
    check_block_header_proof_False root bh = if checkBlockHeaderProof root bh then some () else none := by
  unfold check_block_header_proof_False checkBlockHeaderProof
  rcases hg : root.info.getHash 0 with _ | rh
  · simp
  · by_cases h1 : rh = bh <;> simp [h1]

/-- `check_block_header_proof(root_cell, block_hash, True)` regenerated = `Model.checkBlockHeaderProofState` (same raise decision,
same returned state hash) -/
theorem src_header_state_eq (root : PCell) (bh : Bytes) :
    check_block_header_proof_True root bh = checkBlockHeaderProofState root bh := by
  unfold check_block_header_proof_True checkBlockHeaderProofState checkBlockHeaderProof
  simp only [py_slice_eq, kMerkleUpdate]
  rcases root.info.getHash 0 with _ | rh
  · simp
  by_cases h1 : rh = bh
  case neg => simp [h1]
  simp only [h1, Option.bind_some, ne_eq, not_true_eq_false, if_false, beq_self_eq_true, if_true, Option.bind_eq_bind]
  rcases root.refs[2]? with _ | su
  · rfl
  simp only [Option.bind_some]
  rcases su.refs[1]? with _ | r21
  · rfl
  simp only [Option.bind_some]
  rcases r21.info.getHash 0 with _ | sh
  · rfl
  by_cases h2 : su.info.kind = 4 <;> by_cases h3 : pySlice su.data 33 65 = sh <;> simp [h2, h3]

/-- re-association of the three consecutive lookups of the TL-B walk -/
theorem walk_bind {A B C D : Type} (x : Option A) (f : A → Option B) (g : B → Option C) (K : C → Option D) :
    (x.bind fun a => (f a).bind fun b => (g b).bind K) = (x.bind fun a => (f a).bind fun b => g b).bind K := by
  cases x with
  | none => rfl
  | some a =>
    simp only [Option.bind_some]
    cases f a with
    | none => rfl
    | some b => rfl

/-- `check_account_proof(proof, shrd_blk, address, account_state_root)` regenerated = `Model.checkAccountProof` on the roots that
`Cell.from_boc` returns, for ALL values of the declared externals that compose to the model's TL-B walk (`hwalk`: deserialising the
state cell, looking the address up in `.accounts[0]` and taking `.cell[0]` is `locateAccount`). -/
theorem src_check_account_proof_eq {Shard ShardAccount : Type} (fromBoc : Bytes → Option (List PCell))
    (deser : PCell → Option Shard) (get : Shard → Nat → Option ShardAccount) (cellOf : ShardAccount → PCell)
    (O : Opaque) (proof blkRootHash addr : Bytes) (state : PCell)
    (hwalk : ∀ st, ((deser st).bind fun sh => (get sh (natOfBE addr)).bind fun sa => (cellOf sa).refs[0]?) = locateAccount O st addr) :
    check_account_proof_False fromBoc deser get cellOf proof blkRootHash addr state =
      (fromBoc proof).bind fun roots => if checkAccountProof O roots blkRootHash addr state then some () else none := by
  unfold check_account_proof_False
  simp only [ite_eq_okUnit]
  rcases fromBoc proof with _ | roots
  · rfl
  simp only [Option.bind_some]
  rcases roots with _ | ⟨p0, _ | ⟨p1, _ | ⟨p2, rest⟩⟩⟩
  · simp [checkAccountProof, okUnit]
  · simp [checkAccountProof, okUnit]
  · simp only [List.length_cons, List.length_nil, checkAccountProof, src_check_proof_eq, src_header_state_eq, ite_eq_okUnit,
      List.getElem?_cons_zero, List.getElem?_cons_succ, Option.bind_some, Nat.zero_add, Nat.reduceAdd, ne_eq, not_true_eq_false, if_false]
    cases hc0 : checkProof p0 blkRootHash
    · simp [okUnit]
    rcases h0 : p0.refs[0]? with _ | hdr
    · simp [okUnit]
    rcases hh : checkBlockHeaderProofState hdr blkRootHash with _ | sh
    · simp [okUnit, hh]
    rcases h1 : p1.refs[0]? with _ | st
    · simp [okUnit, hh]
    rcases hg : st.info.getHash 0 with _ | gh
    · simp [okUnit, hh, hg]
    by_cases he : gh = sh
    · cases hc1 : checkProof p1 sh
      · simp [okUnit, hh, hg, he, hc1]
      · simp only [List.getElem?_cons_zero, List.getElem?_cons_succ, Option.bind_some, hh, hg, he, h0, h1, hc1, okUnit,
          ne_eq, not_true_eq_false, if_false, Nat.zero_add, Nat.reduceAdd, ite_false, ite_true, bne_self_eq_false, Bool.not_true,
          Bool.false_eq_true]
        rw [walk_bind, hwalk]
        rcases locateAccount O st addr with _ | acc
        · simp
        · rcases hga : acc.info.getHash 0 with _ | ah
          · simp [hga]
          · by_cases hq : ah = state.info.hash
            · simp [hga, hq]
            · have : (ah == state.info.hash) = false := by simpa using hq
              simp [hga, hq, this]
    · simp [okUnit, hh, hg, he]
  · simp [checkAccountProof, okUnit]

/-! ### `check_account_proof(..., return_account_descr=True)` and `check_shard_proof` -/

theorem ite_none_bind {α β : Type} (c : Prop) [Decidable c] (e : Option α) (K : α → Option β) :
    (if c then none else e).bind K = if c then none else e.bind K := by
  split <;> rfl

/-- DESCRIPTOR MODE.  `check_account_proof(..., return_account_descr=True)` regenerated returns a value exactly when the plain mode
returns (EVERY comparison of the plain mode is made first, in the same order), and the value is the `ShardAccount` found under the
address in the proved state cell - for ALL values of the declared externals. -/
theorem src_account_descr_eq {Shard ShardAccount : Type} (fromBoc : Bytes → Option (List PCell))
    (deser : PCell → Option Shard) (get : Shard → Nat → Option ShardAccount) (cellOf : ShardAccount → PCell)
    (proof blkRootHash addr : Bytes) (state : PCell) :
    check_account_proof_True fromBoc deser get cellOf proof blkRootHash addr state =
      (check_account_proof_False fromBoc deser get cellOf proof blkRootHash addr state).bind fun _ =>
        (fromBoc proof).bind fun roots => (roots[1]?).bind fun sc => (sc.refs[0]?).bind fun st =>
          (deser st).bind fun sh => get sh (natOfBE addr) := by
  unfold check_account_proof_True check_account_proof_False
  rcases fromBoc proof with _ | roots
  · rfl
  simp only [Option.bind_some]
  rcases roots with _ | ⟨p0, _ | ⟨p1, _ | ⟨p2, rest⟩⟩⟩
  · simp
  · simp
  · simp only [List.length_cons, List.length_nil, List.getElem?_cons_zero, List.getElem?_cons_succ, Option.bind_some, Nat.zero_add,
      Nat.reduceAdd, ne_eq, not_true_eq_false, if_false]
    rcases check_proof p0 blkRootHash with _ | _ <;> simp only [Option.bind_some, Option.bind_none]
    rcases p0.refs[0]? with _ | hdr <;> simp only [Option.bind_some, Option.bind_none]
    rcases check_block_header_proof_True hdr blkRootHash with _ | sh <;> simp only [Option.bind_some, Option.bind_none]
    rcases p1.refs[0]? with _ | st <;> simp only [Option.bind_some, Option.bind_none]
    rcases st.info.getHash 0 with _ | gh <;> simp only [Option.bind_some, Option.bind_none]
    by_cases he : gh = sh
    · simp only [he, not_true_eq_false, if_false]
      rcases check_proof p1 sh with _ | _ <;> simp only [Option.bind_some, Option.bind_none]
      rcases deser st with _ | shd <;> simp only [Option.bind_some, Option.bind_none]
      rcases get shd (natOfBE addr) with _ | sa <;> simp only [Option.bind_some, Option.bind_none]
      rcases (cellOf sa).refs[0]? with _ | acc <;> simp only [Option.bind_some, Option.bind_none]
      rcases acc.info.getHash 0 with _ | ah <;> simp only [Option.bind_some, Option.bind_none]
      by_cases hq : ah = state.info.hash <;> simp [hq]
    · simp [he]
  · simp

/-- the two modes run the same tests in the same order; only the returned value differs -/
theorem src_account_modes {Shard ShardAccount : Type} (fromBoc : Bytes → Option (List PCell))
    (deser : PCell → Option Shard) (get : Shard → Nat → Option ShardAccount) (cellOf : ShardAccount → PCell)
    (proof blkRootHash addr : Bytes) (state : PCell) :
    check_account_proof_False fromBoc deser get cellOf proof blkRootHash addr state =
      (check_account_proof_True fromBoc deser get cellOf proof blkRootHash addr state).map fun _ => () := by
  unfold check_account_proof_True check_account_proof_False
  simp only [Option.map_bind, Function.comp_def, apply_ite (Option.map fun _ => ()), Option.map_none, Option.map_some]

/-- ... in particular the two modes raise on exactly the same inputs -/
theorem src_account_descr_isSome {Shard ShardAccount : Type} (fromBoc : Bytes → Option (List PCell))
    (deser : PCell → Option Shard) (get : Shard → Nat → Option ShardAccount) (cellOf : ShardAccount → PCell)
    (proof blkRootHash addr : Bytes) (state : PCell) :
    (check_account_proof_True fromBoc deser get cellOf proof blkRootHash addr state).isSome =
      (check_account_proof_False fromBoc deser get cellOf proof blkRootHash addr state).isSome := by
  rw [src_account_modes, Option.isSome_map]

/-- a `Py.loop?` whose body either returns `v` (stop) or goes on is a first-match search (generation independent) -/
theorem loop_find {ι ρ : Type} (xs : List ι) (p : ι → Bool) (v : ρ) (f : ι → Option ρ → Option (Option ρ × Bool))
    (hf : ∀ x r, f x r = some (if p x then (some v, true) else (none, false))) :
    Py.loop? xs none f = some (if xs.any p then some v else none) := by
  induction xs with
  | nil => rfl
  | cons x xs ih =>
    rw [Py.loop?, hf]
    by_cases hp : p x = true
    · simp [hp]
    · simp [hp, ih]

/-- `check_shard_proof(shard_proof, blk, shrd_blk)` regenerated = `Model.checkShardProof` on the roots `Cell.from_boc` returns, with
the model's two Boolean parameters READ FROM THE SOURCE (`shardBlockInfoOk`: the seqno / workchain comparison on the deserialised
header; `findShardDescr`: state deserialisation, `custom.shard_hashes.get(workchain)`, the loop over `.list` with its `return`
inside) - for ALL values of the declared externals.  Result: `some none` = the early `return` (`blk == shrd_blk`), `some (some d)` =
the descriptor returned from inside the loop, `none` = raises. -/
theorem src_check_shard_proof_eq {Shard BlockInfo ShardDict ShardDescr ShardEntry : Type} (fromBoc : Bytes → Option (List PCell))
    (deser : PCell → Option Shard) (deserBlock : PCell → Option BlockInfo) (infoSeqno infoWorkchain : BlockInfo → Int)
    (shardHashes : Shard → Option ShardDict) (shardGet : ShardDict → Int → Option ShardDescr)
    (descrList : ShardDescr → List (Option ShardEntry)) (entryRootHash : ShardEntry → Bytes) (proof : Bytes) (blk shrd : BlkId) :
    check_shard_proof fromBoc deser deserBlock infoSeqno infoWorkchain shardHashes shardGet descrList entryRootHash proof blk shrd =
      if blk = shrd then some none
      else if blk.workchain ≠ -1 then none
      else (fromBoc proof).bind fun roots =>
        if checkShardProof (shardBlockInfoOk deserBlock infoSeqno infoWorkchain blk.seqno blk.workchain)
            (fun st => (findShardDescr deser shardHashes shardGet descrList entryRootHash shrd.workchain shrd.rootHash st).isSome)
            false true roots blk.rootHash
        then ((roots[1]?).bind fun s => (s.refs[0]?).bind fun st =>
          findShardDescr deser shardHashes shardGet descrList entryRootHash shrd.workchain shrd.rootHash st).map some
        else none := by
  unfold check_shard_proof
  by_cases hsame : blk = shrd
  · simp [hsame]
  simp only [hsame, if_false]
  by_cases hmc' : ¬ blk.workchain = -1
  · simp [hmc']
  have hmc : blk.workchain = -1 := Classical.not_not.mp hmc'
  simp only [hmc, ne_eq, not_true_eq_false, if_false]
  rcases fromBoc proof with _ | roots
  · rfl
  simp only [Option.bind_some]
  rcases roots with _ | ⟨b, _ | ⟨s, _ | ⟨p2, rest⟩⟩⟩
  · simp [checkShardProof]
  · simp [checkShardProof]
  · simp only [List.length_cons, List.length_nil, List.getElem?_cons_zero, List.getElem?_cons_succ, Option.bind_some, Nat.zero_add,
      Nat.reduceAdd, not_true_eq_false, if_false, checkShardProof, Bool.false_eq_true, Bool.not_true, src_check_proof_eq,
      src_header_state_eq, shardBlockInfoOk, hmc]
    rcases hb0 : b.refs[0]? with _ | hdr
    · simp
    simp only [Option.bind_some]
    rcases hdb : deserBlock hdr with _ | bi
    · rcases s.refs[0]? with _ | st <;> simp [hdb]
    simp only [Option.bind_some]
    by_cases hinfo' : ¬ (infoSeqno bi = blk.seqno ∧ infoWorkchain bi = -1)
    · have hinfo := hinfo'
      have hb : (infoSeqno bi == blk.seqno && infoWorkchain bi == -1) = false := by
        rw [Bool.eq_false_iff]; intro h; apply hinfo; simpa using h
      rcases s.refs[0]? with _ | st <;> simp [hinfo, hb, hdb]
    have hinfo : infoSeqno bi = blk.seqno ∧ infoWorkchain bi = -1 := Classical.not_not.mp hinfo'
    have hb : (infoSeqno bi == blk.seqno && infoWorkchain bi == -1) = true := by simpa using hinfo
    simp only [hinfo, and_self, not_true_eq_false, if_false, hb]
    rcases hs0 : s.refs[0]? with _ | st
    · simp
    simp only [Option.bind_some]
    rcases hg : st.info.getHash 0 with _ | mh
    · simp
    simp only [Option.bind_some]
    cases hc0 : checkProof b blk.rootHash
    · simp
    simp only [if_true, Option.bind_some, Bool.not_true, Bool.false_eq_true, if_false]
    rcases hh : checkBlockHeaderProofState hdr blk.rootHash with _ | sh
    · simp
    simp only [Option.bind_some]
    by_cases he' : ¬ mh = sh
    · have : (mh != sh) = true := by simpa using he'
      simp [he', this]
    have he : mh = sh := Classical.not_not.mp he'
    have hne : (mh != sh) = false := by simp [he]
    simp only [he, not_true_eq_false, if_false, bne_self_eq_false, Bool.false_eq_true]
    cases hc1 : checkProof s sh
    · simp [hdb, hb]
    simp only [if_true, Option.bind_some, Bool.not_true, Bool.false_eq_true, if_false, findShardDescr, hdb, hb, Bool.true_and,
      Bool.and_true, Bool.and_self, decide_true]
    rcases hds : deser st with _ | shd <;> simp only [Option.bind_some, Option.bind_none]
    · simp
    rcases hsh : shardHashes shd with _ | d <;> simp only [Option.bind_some, Option.bind_none]
    · simp
    rcases hgd : shardGet d shrd.workchain with _ | descr <;> simp only [Option.bind_some, Option.bind_none]
    · simp
    rw [loop_find (descrList descr) (entryMatches entryRootHash shrd.rootHash) (some descr)]
    · generalize (descrList descr).any (entryMatches entryRootHash shrd.rootHash) = av
      cases av <;> simp
    · intro x r
      cases x with
      | none => rfl
      | some e =>
        by_cases hq : entryRootHash e = shrd.rootHash <;> simp [hq, entryMatches]
  · simp [checkShardProof]

end TonVerif.Proofs.SrcProof
