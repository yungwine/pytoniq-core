/-
C14: the depth budget is monotone for EVERY table: a parse that returns with budget `fuel` returns the same value and
consumed count with every larger budget (a larger budget can only turn "raises: recursion too deep" into a result).
The induction over the parser is made once, for a next level that is only known to return more on short data and on
admissible bare calls (`RecLe`); TlFuel uses the same lemmas in both directions.
-/
import TonVerif.Proofs.TlAuto

namespace TonVerif.Proofs.Tl
open TonVerif TonVerif.Spec.Tl TonVerif.Model.Tl

/-- `rec'` returns whatever `rec` returns, on the calls a level may make: data of at most `L` bytes, boxed, or bare on an
argument list satisfying `ok`. -/
structure RecLe (L : Nat) (ok : List Arg → Prop) (rec rec' : Bytes → Option (List Arg) → Option (Val × Nat)) : Prop where
  box : ∀ x r, x.length ≤ L → rec x none = some r → rec' x none = some r
  bare : ∀ x args r, x.length ≤ L → ok args → rec x (some args) = some r → rec' x (some args) = some r

/-- the bare call a field of type `e` makes is on an argument list satisfying `ok`. -/
def TyOK (T : Table) (ok : List Arg → Prop) (e : ETy) : Prop := ∀ n c, e = .bare n → T.byName n = some c → ok c.args

theorem readFrame_len (d : Bytes) : (readFrame d).1.length ≤ d.length := by
  unfold readFrame
  split <;> simp only [List.length_take, List.length_drop] <;> omega

section
variable {T : Table} {auto : Bool} {L : Nat} {ok : List Arg → Prop} {rec rec' : Bytes → Option (List Arg) → Option (Val × Nat)}
  {top top' one one' : Bytes → Option (Val × Nat)}

theorem autoLoop_mono (h : ∀ x r, x.length ≤ L → top x = some r → top' x = some r) {content : Bytes}
    (hc : content.length ≤ L) (n : Nat) : ∀ k j acc r, autoLoop top content n k j acc = some r →
      autoLoop top' content n k j acc = some r := by
  intro k
  induction k with
  | zero => intro j acc r hr; exact hr
  | succ k ih =>
    intro j acc r hr
    have hd : (content.drop j).length ≤ L := by simp only [List.length_drop]; omega
    simp only [autoLoop] at hr ⊢
    split at hr
    · cases ht : top (content.drop j) with
      | none => rw [ht] at hr; cases hr
      | some p =>
        obtain ⟨t, jj⟩ := p
        rw [ht] at hr
        rw [if_pos (by assumption), h _ _ hd ht]
        simp only at hr ⊢
        split at hr
        · rw [if_pos (by assumption)]; exact hr
        · rw [if_neg (by assumption)]; exact ih _ _ _ hr
    · rw [if_neg (by assumption)]; exact hr

theorem autoParse_mono (h : ∀ x r, x.length ≤ L → top x = some r → top' x = some r) {content : Bytes}
    (hc : content.length ≤ L) (n : Nat) (r : Val) (hr : autoParse top content n = some r) :
    autoParse top' content n = some r := by
  simp only [autoParse] at hr ⊢
  cases ht : top content with
  | none => rw [ht] at hr; cases hr
  | some p =>
    obtain ⟨t, j⟩ := p
    rw [ht] at hr
    rw [h _ _ hc ht]
    simp only at hr ⊢
    split at hr
    · rw [if_pos (by assumption)]; exact autoLoop_mono h hc n _ _ _ _ hr
    · rw [if_neg (by assumption)]; exact hr

theorem deserOne_mono (h : RecLe L ok rec rec') (ut : Bool) {e : ETy} (hty : TyOK T ok e) (iv : Bool) {d : Bytes}
    (hd : d.length ≤ L) (r : Option Val × Nat) (hr : deserOne T auto rec ut e iv d = some r) :
    deserOne T auto rec' ut e iv d = some r := by
  have hp : ∀ n v, autoParse (fun x => rec x none) (readFrame d).1 n = some v →
      autoParse (fun x => rec' x none) (readFrame d).1 n = some v :=
    autoParse_mono (fun x r hx => h.box x r hx) (by have := readFrame_len d; omega)
  cases e with
  | bytes | string =>
    simp only [deserOne] at hr ⊢
    by_cases hc : (!auto || ut) = true
    · simp only [hc, if_true] at hr ⊢; exact hr
    · simp only [hc] at hr ⊢
      cases ha : autoParse (fun x => rec x none) (readFrame d).1 (readFrame d).2.1 with
      | none => rw [ha] at hr; cases hr
      | some v => rw [ha] at hr; rw [hp _ _ ha]; exact hr
  | bare n =>
    simp only [deserOne] at hr ⊢
    cases hn : T.byName n with
    | none =>
      rw [hn] at hr
      simp only at hr ⊢
      cases hx : rec d none with
      | none => rw [hx] at hr; cases hr
      | some p => rw [hx] at hr; rw [h.box _ _ hd hx]; exact hr
    | some c =>
      rw [hn] at hr
      simp only at hr ⊢
      cases hx : rec d (some c.args) with
      | none => rw [hx] at hr; cases hr
      | some p => rw [hx] at hr; rw [h.bare _ _ _ hd (hty n c rfl hn) hx]; exact hr
  | boxed _ | unsup =>
    simp only [deserOne] at hr ⊢
    cases hx : rec d none with
    | none => rw [hx] at hr; cases hr
    | some p => rw [hx] at hr; rw [h.box _ _ hd hx]; exact hr
  | _ => exact hr

theorem deserMany_mono (h : ∀ x r, x.length ≤ L → one x = some r → one' x = some r) :
    ∀ (cnt : Nat) (d : Bytes) (r : List Val × Nat), d.length ≤ L → deserMany one cnt d = some r →
      deserMany one' cnt d = some r := by
  intro cnt
  induction cnt with
  | zero => intro d r _ hr; exact hr
  | succ cnt ih =>
    intro d r hd hr
    simp only [deserMany] at hr ⊢
    cases ho : one d with
    | none => rw [ho] at hr; cases hr
    | some p =>
      obtain ⟨v, j⟩ := p
      rw [ho] at hr
      rw [h _ _ hd ho]
      simp only [Option.bind_eq_bind, Option.bind_some] at hr ⊢
      have hj : (d.drop j).length ≤ L := by simp only [List.length_drop]; omega
      cases hm : deserMany one cnt (d.drop j) with
      | none => rw [hm] at hr; cases hr
      | some q => rw [hm] at hr; rw [ih _ _ hj hm]; exact hr

theorem deserElem_mono (h : RecLe L ok rec rec') {e : ETy} (hty : TyOK T ok e) (x : Bytes) (r : Val × Nat)
    (hx : x.length ≤ L) (hr : deserElem T auto rec e x = some r) : deserElem T auto rec' e x = some r := by
  simp only [deserElem] at hr ⊢
  cases ho : deserOne T auto rec false e true x with
  | none => rw [ho] at hr; cases hr
  | some p => rw [ho] at hr; rw [deserOne_mono h _ hty _ hx _ ho]; exact hr

theorem deserArg_mono (h : RecLe L ok rec rec') (ut : Bool) {a : Arg} (hty : TyOK T ok a.ty) {d : Bytes}
    (hd : d.length ≤ L) (r : Option Val × Nat) (hr : deserArg T auto rec ut a d = some r) :
    deserArg T auto rec' ut a d = some r := by
  unfold deserArg at hr ⊢
  split at hr
  · rename_i hv
    rw [if_pos hv]
    simp only at hr ⊢
    split at hr
    · cases hr
    · rename_i hl
      rw [if_neg hl]
      have h4 : (d.drop 4).length ≤ L := by simp only [List.length_drop]; omega
      cases hm : deserMany (deserElem T auto rec a.ty) (natOfLE (d.take 4)) (d.drop 4) with
      | none => rw [hm] at hr; cases hr
      | some q => rw [hm] at hr; rw [deserMany_mono (deserElem_mono h hty) _ _ _ h4 hm]; exact hr
  · rename_i hv
    rw [if_neg hv]
    exact deserOne_mono h _ hty _ hd _ hr

theorem deserBody_mono (h : RecLe L ok rec rec') (schema : Option Nat) :
    ∀ (args : List Arg), (∀ a ∈ args, TyOK T ok a.ty) → ∀ (acc : Fields) (d : Bytes) (r : Fields × Nat), d.length ≤ L →
      deserBody T auto rec schema args acc d = some r → deserBody T auto rec' schema args acc d = some r := by
  intro args
  induction args with
  | nil => intro _ acc d r _ hr; exact hr
  | cons a as ih =>
    intro hty acc d r hd hr
    have ih := ih (fun b hb => hty b (List.mem_cons_of_mem _ hb))
    cases schema
    all_goals
      simp only [deserBody] at hr ⊢
      split at hr
      · cases hr
      · exact ih _ _ _ hd hr
      · rename_i hpres
        cases ha : deserArg T auto rec _ a d with
        | none => rw [ha] at hr; cases hr
        | some p =>
          obtain ⟨ov, j⟩ := p
          rw [ha] at hr
          rw [deserArg_mono h _ (hty a (List.mem_cons_self ..)) hd _ ha]
          simp only at hr ⊢
          split at hr
          · cases hr
          · rename_i fs j2 hb
            rw [ih _ _ _ (by simp only [List.length_drop]; omega) hb]
            exact hr

end

theorem deserObj_mono (T : Table) (auto : Bool) (L : Nat) :
    ∀ fuel, RecLe L (fun _ => True) (deserObj T auto fuel) (deserObj T auto (fuel + 1)) := by
  intro fuel
  induction fuel generalizing L with
  | zero => exact ⟨fun x r _ hr => by simp [deserObj] at hr, fun x args r _ _ hr => by simp [deserObj] at hr⟩
  | succ fuel ih =>
    have hty : ∀ args : List Arg, ∀ a ∈ args, TyOK T (fun _ => True) a.ty := fun _ _ _ _ _ _ _ => trivial
    refine ⟨fun x r hx hr => ?_, fun x args r hx _ hr => ?_⟩
    · simp only [deserObj] at hr ⊢
      cases hid : byIdLE T x with
      | none => rw [hid] at hr; exact hr
      | some c =>
        rw [hid] at hr
        simp only at hr ⊢
        cases hb : deserBody T auto (deserObj T auto fuel) (some c.name) c.args [] (x.drop 4) with
        | none => rw [hb] at hr; cases hr
        | some p => rw [hb] at hr; rw [deserBody_mono (ih _) _ _ (hty _) _ _ _ (Nat.le_refl _) hb]; exact hr
    · simp only [deserObj] at hr ⊢
      cases hb : deserBody T auto (deserObj T auto fuel) none args [] x with
      | none => rw [hb] at hr; cases hr
      | some p => rw [hb] at hr; rw [deserBody_mono (ih _) _ _ (hty _) _ _ _ (Nat.le_refl _) hb]; exact hr

/-- a parse that returns with budget `fuel` returns the same with every larger budget (any table, any input). -/
theorem deserialize_mono (T : Table) (auto : Bool) (d : Bytes) (fuel fuel' : Nat) (hf : fuel ≤ fuel') (r : Val × Nat)
    (hr : deserialize T auto fuel d = some r) : deserialize T auto fuel' d = some r := by
  induction fuel' with
  | zero =>
    have : fuel = 0 := by omega
    subst this; exact hr
  | succ f ih =>
    by_cases he : fuel = f + 1
    · subst he; exact hr
    · exact (deserObj_mono T auto d.length f).box d r (Nat.le_refl _) (ih (by omega))

end TonVerif.Proofs.Tl
