/-
`Generated.BocCells.deserialize_cell` (regenerated on every run from the WHOLE `Boc.deserialize_cell`,
pytoniq_core/boc/deserialize.py, by harness/translate/pyloops.py) equals the hand model's cell reader `deserializeCell`
(Model/BocParse.lean) for every byte list and every index width.

The translator names two continuations (`deserialize_cell_rest` = from `bits = bitarray()` on, `deserialize_cell_rest2` = from
`bits = TvmBitarray(..)` on); the proof follows them:
* `rest2_eq`  exotic type byte (`ba2int(bits[:8], signed=True)` = `signed8`), the reference-index loop (invariant: after `k`
  iterations `i = i0 + k*w` and the list is `uintsAt data i0 w k`), the returned pair;
* `rest_eq`   the data bits (`frombytes`), the completion-tag search `for j in range(-1, -8, -1)` (`SrcLoops.tagSearch`; a
  non-empty list read from whole bytes has at least eight bits), `bits[:end]` = `stripTag`;
* `src_deserialize_cell_eq`  the first part is literally the regenerated `cell_layout` (proved equal to the hand model in
  SrcBocCell.lean), so both sides are split along the same conditions.
-/
import TonVerif.Model.BocCellsView
import TonVerif.Proofs.SrcLoops
import TonVerif.Proofs.SrcArith
import TonVerif.Proofs.SrcBocCell
set_option linter.unusedSimpArgs false

namespace TonVerif.Proofs.SrcBocCells
open TonVerif TonVerif.Model TonVerif.Model.BocParse TonVerif.Generated.BocHeader TonVerif.Generated.BocCells
open TonVerif.Proofs.SrcBytes TonVerif.Proofs.SrcLoops

/-- the statements from `bits = TvmBitarray(1023, bits[:end])` on. -/
theorem rest2_eq {R : Type} (data : Bytes) (rs tr ex i : Nat) (bits : Bits) (e : Option Int) :
    deserialize_cell_rest2 (R := R) data rs tr ex i bits e = tailM data rs tr (decide (ex ≠ 0)) i (Py.sliceI bits none e) := by
  unfold deserialize_cell_rest2 tailM
  simp only [tvmBitarray?_1023, Option.bind_some, slice_eq, range?_bind_zero_one]
  generalize Py.sliceI bits none e = B
  -- the reference loop
  have hloop : ∀ ty : Int, ((Py.loop? (List.range tr) (i, ([] : List Nat)) fun r st_9 =>
        some ((st_9.1 + rs, st_9.2 ++ [bytes_to_uint (pySlice data st_9.1 (st_9.1 + rs))]), false)).bind fun st_9 =>
        some (({ bits := B, refs := st_9.2, type := ty, result := none } : CellOut R), st_9.1))
      = some ({ bits := B, refs := uintsAt data i rs tr, type := ty, result := none }, i + tr * rs) := by
    intro ty
    obtain ⟨s, hs, hp⟩ := loop?_inv (fun k (s : Nat × List Nat) => s.1 = i + k * rs ∧ s.2 = uintsAt data i rs k)
      (fun r st_9 => some ((st_9.1 + rs, st_9.2 ++ [bytes_to_uint (pySlice data st_9.1 (st_9.1 + rs))]), false))
      (List.range tr) 0 (i, []) (by simp [uintsAt]) (by
        intro k x s _ hp
        refine ⟨_, rfl, ?_⟩
        simp only [Nat.zero_add] at hp ⊢
        rw [uintsAt_succ, hp.1, hp.2]
        refine ⟨by rw [Nat.add_mul]; omega, ?_⟩
        simp [uintAt, bytes_to_uint])
    rw [hs]
    simp only [Nat.zero_add, List.length_range] at hp
    simp [hp.1, hp.2]
  refine Sim.eq (.bind (R := Eq) (.ite (by simp) (fun _ => .guard Iff.rfl fun h8 => ?_) fun _ => .rfl') ?_)
  · have h := ba2int?_take8 B (by omega)
    exact .of_eq (by simpa [pySlice] using h)
  · rintro ty _ rfl
    exact .of_eq (hloop ty)

/-- the statements from `bits = bitarray()` on: data bits, completion-tag search, then `rest2`. -/
theorem rest_eq {R : Type} (data : Bytes) (rs tr ex au ds i : Nat) :
    deserialize_cell_rest (R := R) data rs tr ex au ds i =
      tailM data rs tr (decide (ex ≠ 0)) (i + ds)
        (if decide (au ≠ 0) && !(bytesToBits (pySlice data i (i + ds))).isEmpty then stripTag (bytesToBits (pySlice data i (i + ds)))
         else bytesToBits (pySlice data i (i + ds))) := by
  unfold deserialize_cell_rest
  simp only [frombytes_nil, slice_eq, rest2_eq]
  generalize hb : bytesToBits (pySlice data i (i + ds)) = bits0
  refine ite_rel (R := fun (x : Option (Option Int)) y => x.bind _ = tailM data rs tr _ _ y) (by simp) (fun hc => ?_) fun _ => ?_
  · obtain ⟨_, hne⟩ : au ≠ 0 ∧ bits0 ≠ [] := by simpa using hc
    have h8 : 8 ≤ bits0.length := by rw [← hb] at hne ⊢; exact bytesToBits_ne_nil hne
    have hr : Py.rangeI? (-(1 : Int)) (-(8 : Int)) (-(1 : Int)) = some ((List.range 7).map fun t => -((0 + t + 1 : Nat) : Int)) := by
      decide
    obtain ⟨e, he, hs⟩ := tagSearch bits0 7 0 (by omega)
    rw [hr, Option.bind_some, he, Option.bind_some, Option.bind_some, hs]
    rfl
  · rw [Option.bind_some, sliceI_none_none]

/-- the hand model's cell reader, rendered as the Python result, = its layout part followed by `tailM`. -/
theorem cellOfModel_eq {R : Type} (data : Bytes) (rs : Nat) :
    cellOfModel (R := R) data rs = (cellLayout data rs).bind fun L =>
      tailM data rs L.total_refs L.is_exotic (L.i + L.data_size)
        (if L.is_augmented && !(bytesToBits (pySlice data L.i (L.i + L.data_size))).isEmpty then stripTag (bytesToBits (pySlice data L.i (L.i + L.data_size)))
         else bytesToBits (pySlice data L.i (L.i + L.data_size))) := by
  unfold cellOfModel
  rw [TonVerif.Proofs.SrcBocCell.deserializeCell_eq]
  cases cellLayout data rs with
  | none => rfl
  | some L =>
    simp only [Option.bind_some, cellRest, tailM]
    generalize (if (L.is_augmented && !(bytesToBits (pySlice data L.i (L.i + L.data_size))).isEmpty) = true then
      stripTag (bytesToBits (pySlice data L.i (L.i + L.data_size))) else bytesToBits (pySlice data L.i (L.i + L.data_size))) = B
    cases L.is_exotic
    · simp [CellOut.ofModel]
    · by_cases h : B.length < 8 <;> simp [h, CellOut.ofModel]

/-- **the regenerated `deserialize_cell` is the hand model's `deserializeCell`**, for every byte list and index width: the same
raise / return decision and, on return, the same data bits (completion tag removed exactly when d2 is odd and there are data
bytes and one of the last seven bits is set), the same reference indices, the same exotic type byte (signed) or -1, `'result':
None`, and the same number of consumed bytes. -/
theorem src_deserialize_cell_eq {R : Type} (data : Bytes) (rs : Nat) :
    deserialize_cell (R := R) data rs = cellOfModel data rs := by
  rw [cellOfModel_eq, ← TonVerif.Proofs.SrcBocCell.src_cell_layout_eq]
  unfold deserialize_cell cell_layout
  refine bind_eq_bind_bind fun d1 => ?_
  refine ite_rel (R := fun x (y : Option _) => x = y.bind _) Iff.rfl (fun _ => rfl) fun _ => ?_
  refine bind_eq_bind_bind fun d2 => ?_
  refine ite_rel (R := fun x (y : Option _) => x = y.bind _) Iff.rfl (fun _ => rfl) fun _ => ?_
  exact ite_rel (R := fun (x y : Option _) => x.bind _ = y.bind _) Iff.rfl (fun _ => rest_eq ..) fun _ => rest_eq ..

end TonVerif.Proofs.SrcBocCells
