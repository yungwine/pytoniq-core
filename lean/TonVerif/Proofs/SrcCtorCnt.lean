/-
The ITERATION-COUNTING copy of the regenerated cell constructor (Generated/CellCtorCnt.lean, translator harness/translate/ctorcnt.py):
  * `init_cnt_erase`  : it computes exactly the value of the regenerated `Cell.__init__` (Generated/CellCtor.lean);
  * `calc_covers`     : the level loop of `calculate_hashes` (counter 1) starts at most `bit_length(mask) + 1` iterations, the depth loop
                        (2) and the hash loop (3) at most `len(refs)` iterations per level iteration; `resolve_mask` (0) at most `len(refs)`;
  * `init_covers`, `ctor_total` : one constructor call: counter by counter, and all loop iterations ≤ `Cost.ctorSteps (bit_length(mask) + 1) len(refs)`;
  * `ctor_le`         : hence `≤ L + (2L + 1)·len(refs)` when the level loop starts at most `L` iterations (`levelIters_le`: `L = n + 1` for masks below `2 ^ n`).
-/
import TonVerif.Generated.CellCtorCnt
import TonVerif.Proofs.SrcW
import TonVerif.Model.Cost
import TonVerif.Proofs.Bits
import TonVerif.Proofs.SrcArith

set_option linter.unusedSimpArgs false
namespace TonVerif.Proofs.SrcCtorCnt
open TonVerif TonVerif.Py TonVerif.Model TonVerif.Generated.CellCtor TonVerif.Generated.CellCtorCnt
open TonVerif.Proofs.SrcW

theorem resolve_mask_cnt_erase (ty : Int) (refs : List CellInfo) (bits : Bits) :
    (resolve_mask_cnt ty refs bits).1 = resolve_mask ty refs bits := by
  unfold resolve_mask_cnt resolve_mask
  simp only [bnd_opt_fst, bnd_w_fst, ite_fst, ret_fst, raise_fst, lift_fst, foldW_fst]

theorem calculate_hashes_cnt_erase (H : Bytes → Bytes) (mask : Nat) (ty : Int) (ds : List Nat) (hs : List Bytes) (refs : List CellInfo)
    (ex : Bool) (bits : Bits) :
    (calculate_hashes_cnt H mask ty ds hs refs ex bits).1 = calculate_hashes H mask ty ds hs refs ex bits := by
  unfold calculate_hashes_cnt calculate_hashes
  simp only [bnd_opt_fst, bnd_w_fst, ite_fst, ret_fst, raise_fst, lift_fst, foldW_fst]

theorem init_cnt_erase (H : Bytes → Bytes) (bits : Bits) (refs : List CellInfo) (ty : Int) :
    (init_cnt H bits refs ty).1 = init H bits refs ty := by
  unfold init_cnt init
  simp only [bnd_opt_fst, bnd_w_fst, ite_fst, ret_fst, raise_fst, lift_fst, foldW_fst, resolve_mask_cnt_erase, calculate_hashes_cnt_erase]

/-! ## ticks -/

theorem resolve_mask_covers {p : Nat → Prop} (ty : Int) (refs : List CellInfo) (bits : Bits) :
    Covers False p (resolve_mask_cnt ty refs bits) (fun j => if j = 0 then refs.length else 0) fun _ => True := by
  unfold resolve_mask_cnt
  refine Covers.ite (fun _ => Covers.bind_ret (Covers.fold_len 0 _ (fun _ _ => True) (fun _ _ _ _ => Covers.ret trivial) refs 0 _ trivial)
    fun _ _ => trivial) fun _ => Covers.weaken (T := fun _ => 0) ?_ fun _ _ => Nat.zero_le _
  exact Covers.ite (fun _ => Covers.ite (fun _ => Covers.raise) fun _ => Covers.opt _ fun _ _ => Covers.ret trivial) fun _ =>
    Covers.ite (fun _ => Covers.opt _ fun _ _ => Covers.ret trivial) fun _ =>
    Covers.ite (fun _ => Covers.opt _ fun _ _ => Covers.opt _ fun _ _ => Covers.ret trivial) fun _ =>
    Covers.ite (fun _ => Covers.ret trivial) fun _ => Covers.raise

theorem calc_covers {p : Nat → Prop} (H : Bytes → Bytes) (mask : Nat) (ty : Int) (ds : List Nat) (hs : List Bytes) (refs : List CellInfo)
    (ex : Bool) (bits : Bits) :
    Covers False p (calculate_hashes_cnt H mask ty ds hs refs ex bits) (fun j => (if j = 1 then Py.bitLength mask + 1 else 0) +
      (Py.bitLength mask + 1) * ((if j = 2 then refs.length else 0) + (if j = 3 then refs.length else 0))) fun _ => True := by
  unfold calculate_hashes_cnt
  dsimp only
  refine Covers.weaken (Covers.bind (T1 := fun _ => 0) (Covers.ite (fun _ => Covers.ret (Q := fun _ => True) trivial) fun _ => Covers.ret trivial)
    fun hc _ => Covers.bind_ret (Covers.fold 1 _ (fun _ _ => True)
      (fun _ j => (if j = 2 then refs.length else 0) + (if j = 3 then refs.length else 0)) (fun _ x li _ => ?_) _ 0 _ trivial) fun _ _ => trivial)
    fun j _ => by simp [Generated.lmLevel, List.map_const', List.sum_replicate_nat]
  -- one level: the depth loop, then the hash loop, over the references
  refine Covers.ite (fun _ => (Covers.ret trivial).weaken fun _ _ => Nat.zero_le _) fun _ =>
    Covers.ite (fun _ => (Covers.ret trivial).weaken fun _ _ => Nat.zero_le _) fun _ => Covers.opt _ fun dsc _ => ?_
  refine Covers.weaken (Covers.bind (T1 := fun _ => 0) (Q1 := fun _ => True) ?_ fun h0 _ =>
    Covers.bind (Covers.fold_len 2 _ (fun _ _ => True) (fun _ st r _ => ?_) refs 0 _ trivial) fun dh _ =>
    Covers.bind (T1 := fun _ => 0) (Q1 := fun _ => True) ?_ fun dep _ =>
    Covers.bind_ret (Covers.fold_len 3 _ (fun _ _ => True) (fun _ st r _ => ?_) refs 0 _ trivial) fun _ _ => trivial) fun j _ => by omega
  · exact Covers.ite (fun _ => Covers.ite (fun _ => Covers.raise) fun _ => Covers.opt _ fun _ _ => Covers.ret trivial) fun _ =>
      Covers.ite (fun _ => Covers.raise) fun _ => Covers.opt _ fun _ _ => Covers.ret trivial
  · refine Covers.cast (Covers.bind (Q1 := fun _ => True) (T1 := fun _ => 0) ?_ fun rd _ => Covers.opt _ fun _ _ =>
      Covers.ite (fun _ => Covers.ret trivial) fun _ => Covers.ret trivial) fun _ _ => rfl
    exact Covers.ite (fun _ => Covers.opt _ fun _ _ => Covers.ret trivial) fun _ => Covers.opt _ fun _ _ => Covers.ret trivial
  · exact Covers.ite (fun _ => Covers.ite (fun _ => Covers.raise) fun _ => Covers.ret trivial) fun _ => Covers.ret trivial
  · exact Covers.ite (fun _ => Covers.opt _ fun _ _ => Covers.ret trivial) fun _ => Covers.opt _ fun _ _ => Covers.ret trivial

/-! ## one constructor call -/

/-- levels the constructor hashes at most: `bit_length(level mask) + 1` iterations of `for li in range(level + 1)` -/
def levelIters (ty : Int) (refs : List CellInfo) (bits : Bits) : Nat :=
  match resolve_mask ty refs bits with
  | none => 0          -- the constructor raised before `calculate_hashes`
  | some m => Py.bitLength m + 1

theorem init_covers (H : Bytes → Bytes) (bits : Bits) (refs : List CellInfo) (ty : Int) :
    Covers False (fun _ => True) (init_cnt H bits refs ty) (fun j => (if j = 0 then refs.length else 0) +
      ((if j = 1 then levelIters ty refs bits else 0) +
        levelIters ty refs bits * ((if j = 2 then refs.length else 0) + (if j = 3 then refs.length else 0)))) fun _ => True := by
  unfold init_cnt
  dsimp only
  refine Covers.opt _ fun a ha => ?_
  simp only [NullCell_init, Option.some.injEq] at ha
  subst ha
  dsimp only
  refine (resolve_mask_covers ty refs bits).val.bind fun m hm => ?_
  rw [resolve_mask_cnt_erase] at hm
  refine Covers.cast (Covers.bind (calc_covers H m ty [] [] refs _ bits) fun _ _ =>
    Covers.opt _ fun _ _ => Covers.opt _ fun _ _ => Covers.opt _ fun _ _ => Covers.ret trivial) fun j _ => ?_
  simp only [levelIters, hm.1, Nat.add_zero]

theorem ctor_total (H : Bytes → Bytes) (bits : Bits) (refs : List CellInfo) (ty : Int) :
    (init_cnt H bits refs ty).2 0 + (init_cnt H bits refs ty).2 1 + (init_cnt H bits refs ty).2 2 + (init_cnt H bits refs ty).2 3 ≤
      Cost.ctorSteps (levelIters ty refs bits) refs.length := by
  have h0 := (init_covers H bits refs ty).le (j := 0) trivial
  have h1 := (init_covers H bits refs ty).le (j := 1) trivial
  have h2 := (init_covers H bits refs ty).le (j := 2) trivial
  have h3 := (init_covers H bits refs ty).le (j := 3) trivial
  simp only [if_true, if_false, Nat.add_zero, Nat.zero_add, Nat.mul_zero, Nat.reduceEqDiff] at h0 h1 h2 h3
  unfold Cost.ctorSteps
  generalize levelIters ty refs bits = L at *
  have : L * (1 + 2 * refs.length) = L + L * refs.length + L * refs.length := by
    rw [Nat.mul_add, Nat.mul_one, Nat.two_mul, Nat.mul_add]; omega
  omega

theorem ctor_other (H : Bytes → Bytes) (bits : Bits) (refs : List CellInfo) (ty : Int) (j : Nat) (hj : 4 ≤ j) :
    (init_cnt H bits refs ty).2 j = 0 := by
  have := (init_covers H bits refs ty).le (j := j) trivial
  simp only [show ¬ j = 0 by omega, show ¬ j = 1 by omega, show ¬ j = 2 by omega, show ¬ j = 3 by omega, if_false, Nat.add_zero, Nat.mul_zero] at this
  omega

theorem or_fold (n : Nat) : ∀ (refs : List CellInfo) (a : Nat), a < 2 ^ n → (∀ r ∈ refs, r.mask < 2 ^ n) →
    ∃ m, List.foldlM (m := Option) (fun (mask : Nat) (r : CellInfo) => some (mask ||| r.mask)) a refs = some m ∧ m < 2 ^ n := by
  intro refs
  induction refs with
  | nil => intro a ha _; exact ⟨a, rfl, ha⟩
  | cons r rs ih =>
    intro a ha h
    rw [List.foldlM_cons]
    exact ih _ (Nat.or_lt_two_pow ha (h r List.mem_cons_self)) fun x hx => h x (List.mem_cons_of_mem r hx)

/-- the level mask an ordinary / library / Merkle cell gets from children with masks below `2 ^ n` is below `2 ^ n`: masks are or-ed and
shifted right (the mask of a pruned branch is read from its data) -/
theorem resolve_mask_lt (n : Nat) (ty : Int) (refs : List CellInfo) (bits : Bits) (hty : ty ≠ 1) (hr : ∀ r ∈ refs, r.mask < 2 ^ n) (m : Nat)
    (hm : resolve_mask ty refs bits = some m) : m < 2 ^ n := by
  unfold resolve_mask at hm
  by_cases h1 : ty = -1
  · rw [if_pos h1] at hm
    obtain ⟨m', e, hlt⟩ := or_fold n refs 0 (Nat.two_pow_pos n) hr
    simp only [e, Option.bind_some, Option.some.injEq] at hm
    exact hm ▸ hlt
  rw [if_neg h1, if_neg hty] at hm
  by_cases h3 : ty = 3
  · rw [if_pos h3] at hm
    cases h0 : refs[0]? with
    | none => rw [h0] at hm; cases hm
    | some a =>
      rw [h0] at hm; cases hm
      exact Nat.lt_of_le_of_lt (Nat.shiftRight_le _ _) (hr a (List.mem_of_getElem? h0))
  rw [if_neg h3] at hm
  by_cases h4 : ty = 4
  · rw [if_pos h4] at hm
    cases h0 : refs[0]? with
    | none => rw [h0] at hm; cases hm
    | some a =>
      cases h1 : refs[1]? with
      | none => rw [h0, h1] at hm; cases hm
      | some b =>
        rw [h0, h1] at hm; cases hm
        exact Nat.lt_of_le_of_lt (Nat.shiftRight_le _ _)
          (Nat.or_lt_two_pow (hr a (List.mem_of_getElem? h0)) (hr b (List.mem_of_getElem? h1)))
  rw [if_neg h4] at hm
  by_cases h2 : ty = 2
  · rw [if_pos h2] at hm; cases hm; exact Nat.two_pow_pos n
  · rw [if_neg h2] at hm; cases hm

/-- the level mask an ordinary / library / Merkle cell gets from children of level ≤ 3 is ≤ 7 (the mask of a pruned branch is read from its data) -/
theorem resolve_mask_le (ty : Int) (refs : List CellInfo) (bits : Bits) (hty : ty ≠ 1) (hr : ∀ r ∈ refs, r.mask ≤ 7) (m : Nat)
    (hm : resolve_mask ty refs bits = some m) : m ≤ 7 :=
  Nat.le_of_lt_succ (resolve_mask_lt 3 ty refs bits hty (fun r h => Nat.lt_succ_of_le (hr r h)) m hm)

theorem levelIters_le (n : Nat) (ty : Int) (refs : List CellInfo) (bits : Bits) (h : ∀ m, resolve_mask ty refs bits = some m → m < 2 ^ n) :
    levelIters ty refs bits ≤ n + 1 := by
  unfold levelIters
  cases hm : resolve_mask ty refs bits with
  | none => exact Nat.zero_le _
  | some m => exact Nat.succ_le_succ ((SrcArith.bitLength_le_iff m n).mpr (h m hm))

/-- one constructor call whose level loop starts at most `L` iterations: all loops of `resolve_mask` + `calculate_hashes` together start
at most `L + (2L + 1)·len(refs)` (`4 + 9·len(refs)` over children of level ≤ 3, `9 + 19·len(refs)` whenever the masks fit a byte) -/
theorem ctor_le (H : Bytes → Bytes) (bits : Bits) (refs : List CellInfo) (ty : Int) (L : Nat) (hl : levelIters ty refs bits ≤ L) :
    (init_cnt H bits refs ty).2 1 ≤ L ∧
    (init_cnt H bits refs ty).2 0 + (init_cnt H bits refs ty).2 1 + (init_cnt H bits refs ty).2 2 + (init_cnt H bits refs ty).2 3 ≤
      L + (2 * L + 1) * refs.length := by
  have h1 := (init_covers H bits refs ty).le (j := 1) trivial
  simp only [if_true, if_false, Nat.add_zero, Nat.zero_add, Nat.mul_zero, Nat.reduceEqDiff] at h1
  refine ⟨Nat.le_trans h1 hl, Nat.le_trans (ctor_total H bits refs ty) ?_⟩
  unfold Cost.ctorSteps
  have := Nat.mul_le_mul_right (1 + 2 * refs.length) hl
  have e1 : L * (1 + 2 * refs.length) = L + 2 * (L * refs.length) := by rw [Nat.mul_add, Nat.mul_one, Nat.mul_left_comm]
  have e2 : (2 * L + 1) * refs.length = 2 * (L * refs.length) + refs.length := by rw [Nat.add_mul, Nat.one_mul, Nat.mul_assoc]
  omega

/-! ## pruned branches; masks that fit a byte (no hypothesis beyond what the constructor itself guarantees) -/

/-- a pruned branch: the constructor returns only without references, its level mask is the second data byte -/
theorem resolve_mask_pruned (refs : List CellInfo) (bits : Bits) (m : Nat) (hm : resolve_mask 1 refs bits = some m) :
    refs = [] ∧ m < 256 := by
  unfold resolve_mask at hm
  simp only [show ((1 : Int) = -1) = False by decide, if_false, if_true] at hm
  split at hm
  · cases hm
  · rename_i h
    refine ⟨by simpa using h, ?_⟩
    unfold Py.intOfBits? at hm
    split at hm
    · cases hm
    · simp only [Option.bind_some, Option.some.injEq] at hm
      have h1 := TonVerif.Proofs.Bits.natOfBits_lt (Py.slice bits 8 16)
      have h2 : (Py.slice bits 8 16).length ≤ 8 := by simp [Py.slice]; omega
      have : 2 ^ (Py.slice bits 8 16).length ≤ 2 ^ 8 := Nat.pow_le_pow_right (by decide) h2
      omega

/-- level masks fit a byte: closed under the constructor, for EVERY cell type -/
theorem resolve_mask_le255 (ty : Int) (refs : List CellInfo) (bits : Bits) (hr : ∀ r ∈ refs, r.mask ≤ 255) (m : Nat)
    (hm : resolve_mask ty refs bits = some m) : m ≤ 255 := by
  by_cases hty : ty = 1
  · subst hty; exact Nat.le_of_lt_succ (resolve_mask_pruned refs bits m hm).2
  · exact Nat.le_of_lt_succ (resolve_mask_lt 8 ty refs bits hty (fun r h => Nat.lt_succ_of_le (hr r h)) m hm)

/-- the mask stored in the constructed cell is the resolved one -/
theorem init_mask (H : Bytes → Bytes) (bits : Bits) (refs : List CellInfo) (ty : Int) (out : CtorOut)
    (h : init H bits refs ty = some out) : resolve_mask ty refs bits = some out.mask := by
  unfold init at h
  simp only [NullCell_init, Option.bind_some, Option.bind_eq_some_iff] at h
  obtain ⟨m, hm, _, _, _, _, _, _, _, _, h⟩ := h
  simp only [Option.some.injEq] at h
  rw [← h]; exact hm

/-- PRUNED BRANCH: the level loop starts at most `bit_length(mask byte) + 1 ≤ 9` iterations and no loop over the references runs at all -/
theorem pruned_ticks (H : Bytes → Bytes) (bits : Bits) (refs : List CellInfo) :
    (init_cnt H bits refs 1).2 1 ≤ levelIters 1 refs bits ∧ levelIters 1 refs bits ≤ 9 ∧
    (init_cnt H bits refs 1).2 2 = 0 ∧ (init_cnt H bits refs 1).2 3 = 0 := by
  have h1 := (init_covers H bits refs 1).le (j := 1) trivial
  have h2 := (init_covers H bits refs 1).le (j := 2) trivial
  have h3 := (init_covers H bits refs 1).le (j := 3) trivial
  simp only [if_true, if_false, Nat.add_zero, Nat.zero_add, Nat.mul_zero, Nat.reduceEqDiff] at h1 h2 h3
  have hz : levelIters 1 refs bits * refs.length = 0 ∧ levelIters 1 refs bits ≤ 9 := by
    unfold levelIters
    cases hm : resolve_mask 1 refs bits with
    | none => simp
    | some m =>
      obtain ⟨hr, hm'⟩ := resolve_mask_pruned refs bits m hm
      have := (SrcArith.bitLength_le_iff m 8).mpr hm'
      simp only [hr, List.length_nil, Nat.mul_zero, true_and]; omega
  exact ⟨h1, hz.2, by omega, by omega⟩

/-- calls that each stay within `a + b·(their references)` stay within `a·(calls) + b·(references)` together -/
theorem sum_le_affine {α : Type} (f g : α → Nat) (a b : Nat) :
    ∀ l : List α, (∀ c ∈ l, f c ≤ a + b * g c) → (l.map f).sum ≤ a * l.length + b * (l.map g).sum
  | [], _ => Nat.zero_le _
  | c :: l, h => by
    have h1 := h c List.mem_cons_self
    have h2 := sum_le_affine f g a b l fun x hx => h x (List.mem_cons_of_mem c hx)
    simp only [List.map_cons, List.sum_cons, List.length_cons, Nat.mul_add, Nat.mul_one]
    omega

end TonVerif.Proofs.SrcCtorCnt
