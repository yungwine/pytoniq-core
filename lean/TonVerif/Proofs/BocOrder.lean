/-
`Cell.order` (Model/BocEmit.lean `orderLoop` / `PCell.order`) returns a VALID ORDER of the distinct sub-cells:
root first, every distinct sub-cell exactly once (cells are keyed by hash), references strictly forward.
Cells are identified by `PCell.key` (= `Cell.__hash__`); the local hypothesis `NoCollision` says that on the
sub-cells at hand equal keys mean equal cells.
-/
import TonVerif.Model.BocEmit
import TonVerif.Proofs.BocOrderAux

namespace TonVerif.Proofs.BocOrder
open TonVerif TonVerif.Model

mutual
  /-- all sub-cells of a cell (tree unfolding, root included, with repetitions) -/
  def subcells : PCell → List PCell
    | .mk i refs => .mk i refs :: subcellsList refs
  def subcellsList : List PCell → List PCell
    | [] => []
    | c :: cs => subcells c ++ subcellsList cs
end

/-- local no-collision hypothesis: among the sub-cells of `root`, equal keys (hashes) mean equal cells -/
def NoCollision (root : PCell) : Prop :=
  ∀ a ∈ subcells root, ∀ b ∈ subcells root, a.key = b.key → a = b

/-- what `to_boc` needs from the order of the cells -/
structure ValidOrder (root : PCell) (ord : List PCell) : Prop where
  /-- the root is first -/
  root_first : ord.head? = some root
  /-- no cell (keyed by hash) twice -/
  nodup : (ord.map PCell.key).Nodup
  /-- every sub-cell of the root appears (by key) -/
  complete : ∀ d ∈ subcells root, d.key ∈ ord.map PCell.key
  /-- only sub-cells of the root appear -/
  sound : ∀ c ∈ ord, c ∈ subcells root
  /-- every reference of the cell at position i is (by key) at a position > i -/
  forward : ∀ (i : Nat) (c : PCell), ord[i]? = some c → ∀ r ∈ c.refs, ∃ j, i < j ∧ (ord[j]?).map PCell.key = some r.key

/-! ### sizes: a proper sub-cell is never the cell itself -/

mutual
  def psize : PCell → Nat
    | .mk _ refs => psizeL refs + 1
  def psizeL : List PCell → Nat
    | [] => 0
    | c :: cs => psize c + psizeL cs
end

mutual
  theorem psize_subcells : (c : PCell) → ∀ d ∈ subcells c, psize d ≤ psize c
    | .mk i refs, d, hd => by
      simp only [subcells, List.mem_cons] at hd
      rcases hd with rfl | hd
      · exact Nat.le_refl _
      · have := psize_subcellsList refs d hd
        simp only [psize]; omega
  theorem psize_subcellsList : (cs : List PCell) → ∀ d ∈ subcellsList cs, psize d ≤ psizeL cs
    | [], d, hd => by simp [subcellsList] at hd
    | c :: cs, d, hd => by
      simp only [subcellsList, List.mem_append] at hd
      simp only [psizeL]
      rcases hd with hd | hd
      · have := psize_subcells c d hd; omega
      · have := psize_subcellsList cs d hd; omega
end

theorem subcells_eq (c : PCell) : subcells c = c :: subcellsList c.refs := by
  cases c; simp [subcells, PCell.refs]

theorem self_mem_subcells (c : PCell) : c ∈ subcells c := by
  rw [subcells_eq]; simp

theorem ne_of_mem_subcellsList_refs {c d : PCell} (hd : d ∈ subcellsList c.refs) : d ≠ c := by
  intro e
  have h := psize_subcellsList c.refs d hd
  subst e
  cases d with
  | mk i refs => simp only [psize, PCell.refs] at h; omega

theorem mem_subcellsList_of_mem : ∀ (cs : List PCell) (r : PCell), r ∈ cs → r ∈ subcellsList cs := by
  intro cs
  induction cs with
  | nil => intro r h; simp at h
  | cons c cs ih =>
    intro r h
    simp only [subcellsList, List.mem_append]
    rcases List.mem_cons.1 h with rfl | h
    · exact Or.inl (self_mem_subcells _)
    · exact Or.inr (ih r h)

mutual
  theorem subcells_trans : (p : PCell) → ∀ c ∈ subcells p, ∀ d ∈ subcells c, d ∈ subcells p
    | .mk i refs => by
      intro c hc d hd
      rw [subcells] at hc ⊢
      rcases List.mem_cons.1 hc with rfl | hc
      · rw [subcells] at hd; exact hd
      · exact List.mem_cons_of_mem _ (subcellsList_trans refs c hc d hd)
  theorem subcellsList_trans : (ps : List PCell) → ∀ c ∈ subcellsList ps, ∀ d ∈ subcells c, d ∈ subcellsList ps
    | [] => by intro c hc; simp [subcellsList] at hc
    | q :: qs => by
      intro c hc d hd
      rw [subcellsList] at hc ⊢
      rcases List.mem_append.1 hc with hc | hc
      · exact List.mem_append_left _ (subcells_trans q c hc d hd)
      · exact List.mem_append_right _ (subcellsList_trans qs c hc d hd)
end

theorem ref_mem_subcells {p c r : PCell} (hc : c ∈ subcells p) (hr : r ∈ c.refs) : r ∈ subcells p := by
  apply subcells_trans p c hc
  rw [subcells_eq]
  exact List.mem_cons_of_mem _ (mem_subcellsList_of_mem _ r hr)

theorem nodup_rev (l : List Nat) (h : l.Nodup) : l.reverse.Nodup := by
  unfold List.Nodup at *
  rw [List.pairwise_reverse]
  exact h.imp (fun h => Ne.symm h)

theorem ValidOrder.eq_cons {root : PCell} {ord : List PCell} (vo : ValidOrder root ord) : ∃ rest, ord = root :: rest :=
  List.head?_eq_some_iff.1 vo.root_first

/-! ### invariants of the recursive search -/

/-- every reference of a cell is (by key) strictly later in the list -/
def Fwd : List PCell → Prop
  | [] => True
  | x :: rest => (∀ r ∈ x.refs, r.key ∈ rest.map PCell.key) ∧ Fwd rest

structure Inv (root : PCell) (s : DState) : Prop where
  sound : ∀ x ∈ s.2, x ∈ subcells root
  closed : ∀ x ∈ s.2, ∀ d ∈ subcells x, d.key ∈ s.2.map PCell.key
  fwd : Fwd s.2
  nodup : (s.2.map PCell.key).Nodup
  sub : ∀ x ∈ s.2, x.key ∈ s.1

structure Post (root : PCell) (s s' : DState) (tgt : List PCell) : Prop where
  inv : Inv root s'
  vmono : ∀ k ∈ s.1, k ∈ s'.1
  pmono : ∀ x ∈ s.2, x ∈ s'.2
  vnew : ∀ k ∈ s'.1, k ∈ s.1 ∨ k ∈ s'.2.map PCell.key
  pnew : ∀ x ∈ s'.2, x.key ∈ s.1 → x ∈ s.2
  done : ∀ d ∈ tgt, d.key ∈ s'.2.map PCell.key

theorem keys_mono {p p' : List PCell} (h : ∀ x ∈ p, x ∈ p') {k : Nat}
    (hk : k ∈ p.map PCell.key) : k ∈ p'.map PCell.key := by
  obtain ⟨x, hx, rfl⟩ := List.mem_map.1 hk
  exact List.mem_map_of_mem (h x hx)

/-- the "miss" case of `dfs_post`, given the result for the children -/
theorem dfs_post_miss (root : PCell) (c : PCell) (s : DState)
    (hsub : ∀ d ∈ subcells c, d ∈ subcells root) (inv : Inv root s)
    (hk : c.key ∉ s.1)
    (IH : Post root (c.key :: s.1, s.2) (dfsR c.refs (c.key :: s.1, s.2)) (subcellsList c.refs)) :
    Post root s (dfs c s) (subcells c) := by
  rw [dfs_miss hk]
  have hdone : ∀ d ∈ subcells c,
      d.key ∈ (c :: (dfsR c.refs (c.key :: s.1, s.2)).2).map PCell.key := by
    intro d hd
    rw [subcells_eq] at hd
    rcases List.mem_cons.1 hd with rfl | hd
    · exact List.mem_cons_self
    · exact List.mem_cons_of_mem _ (IH.done d hd)
  refine ⟨⟨?_, ?_, ?_, ?_, ?_⟩, ?_, ?_, ?_, ?_, hdone⟩
  · exact List.forall_mem_cons.2 ⟨hsub _ (self_mem_subcells _), IH.inv.sound⟩
  · exact List.forall_mem_cons.2 ⟨hdone, fun x hx d hd => List.mem_cons_of_mem _ (IH.inv.closed x hx d hd)⟩
  · exact ⟨fun r hr => IH.done r (mem_subcellsList_of_mem _ r hr), IH.inv.fwd⟩
  · -- a cell with the key of `c` in the post-order was there before that key was marked
    refine List.nodup_cons.2 ⟨fun hin => ?_, IH.inv.nodup⟩
    obtain ⟨x, hx, hxk⟩ := List.mem_map.1 hin
    exact hk (hxk ▸ inv.sub x (IH.pnew x hx (by rw [hxk]; exact List.mem_cons_self)))
  · exact List.forall_mem_cons.2 ⟨IH.vmono _ List.mem_cons_self, IH.inv.sub⟩
  · exact fun k hk' => IH.vmono k (List.mem_cons_of_mem _ hk')
  · exact fun x hx => List.mem_cons_of_mem _ (IH.pmono x hx)
  · intro k hk'
    rcases IH.vnew k hk' with h | h
    · rcases List.mem_cons.1 h with rfl | h
      · exact Or.inr List.mem_cons_self
      · exact Or.inl h
    · exact Or.inr (List.mem_cons_of_mem _ h)
  · intro x hx hxs
    rcases List.mem_cons.1 hx with rfl | hx
    · exact absurd hxs hk
    · exact IH.pnew x hx (List.mem_cons_of_mem _ hxs)

mutual
  theorem dfs_post (root : PCell) (nc : NoCollision root) : (c : PCell) → ∀ s : DState,
      (∀ d ∈ subcells c, d ∈ subcells root) → Inv root s →
      (∀ k ∈ s.1, k ∈ s.2.map PCell.key ∨ ∀ d ∈ subcells c, d.key ≠ k) →
      Post root s (dfs c s) (subcells c)
    | .mk i refs, s, hsub, inv, H => by
      by_cases hk : (PCell.mk i refs).key ∈ s.1
      · rw [dfs_hit hk]
        have hself := self_mem_subcells (PCell.mk i refs)
        have hin : (PCell.mk i refs).key ∈ s.2.map PCell.key := by
          rcases H _ hk with h | h
          · exact h
          · exact absurd rfl (h _ hself)
        obtain ⟨x, hx, hxk⟩ := List.mem_map.1 hin
        have hxc : x = PCell.mk i refs := nc x (inv.sound x hx) _ (hsub _ hself) hxk
        rw [hxc] at hx
        exact ⟨inv, fun _ h => h, fun _ h => h, fun _ h => Or.inl h, fun _ h _ => h,
          inv.closed _ hx⟩
      · have hsub0 : ∀ d ∈ subcellsList refs, d ∈ subcells root := by
          intro d hd; apply hsub; simp [subcells, hd]
        have IH := dfsR_post root nc refs ((PCell.mk i refs).key :: s.1, s.2) hsub0
          ⟨inv.sound, inv.closed, inv.fwd, inv.nodup, fun x hx => List.mem_cons_of_mem _ (inv.sub x hx)⟩
          (by
            intro k hk'
            rcases List.mem_cons.1 hk' with rfl | hk'
            · right
              intro d hd e
              have hdc : d = PCell.mk i refs :=
                nc d (hsub0 d hd) _ (hsub _ (self_mem_subcells _)) e
              exact ne_of_mem_subcellsList_refs (c := PCell.mk i refs) hd hdc
            · rcases H k hk' with h | h
              · exact Or.inl h
              · right; intro d hd; apply h; simp [subcells, hd])
        exact dfs_post_miss root (PCell.mk i refs) s hsub inv hk IH
  theorem dfsR_post (root : PCell) (nc : NoCollision root) : (cs : List PCell) → ∀ s : DState,
      (∀ d ∈ subcellsList cs, d ∈ subcells root) → Inv root s →
      (∀ k ∈ s.1, k ∈ s.2.map PCell.key ∨ ∀ d ∈ subcellsList cs, d.key ≠ k) →
      Post root s (dfsR cs s) (subcellsList cs)
    | [], s, _, inv, _ => by
      rw [dfsR_nil]
      exact ⟨inv, fun _ h => h, fun _ h => h, fun _ h => Or.inl h, fun _ h _ => h,
        fun d hd => by simp [subcellsList] at hd⟩
    | c :: cs, s, hsub, inv, H => by
      have IH1 := dfsR_post root nc cs s
        (fun d hd => hsub d (by simp [subcellsList, hd])) inv
        (fun k hk => (H k hk).imp id (fun h d hd => h d (by simp [subcellsList, hd])))
      have IH2 := dfs_post root nc c (dfsR cs s)
        (fun d hd => hsub d (by simp [subcellsList, hd])) IH1.inv
        (by
          intro k hk
          rcases IH1.vnew k hk with h | h
          · rcases H k h with h' | h'
            · exact Or.inl (keys_mono IH1.pmono h')
            · right; intro d hd; exact h' d (by simp [subcellsList, hd])
          · exact Or.inl h)
      rw [dfsR_cons]
      refine ⟨IH2.inv, fun k h => IH2.vmono k (IH1.vmono k h),
        fun x h => IH2.pmono x (IH1.pmono x h), ?_, ?_, ?_⟩
      · intro k hk
        rcases IH2.vnew k hk with h | h
        · rcases IH1.vnew k h with h' | h'
          · exact Or.inl h'
          · exact Or.inr (keys_mono IH2.pmono h')
        · exact Or.inr h
      · intro x hx hxs
        exact IH1.pnew x (IH2.pnew x hx (IH1.vmono _ hxs)) hxs
      · intro d hd
        simp only [subcellsList, List.mem_append] at hd
        rcases hd with hd | hd
        · exact IH2.done d hd
        · exact keys_mono IH2.pmono (IH1.done d hd)
end

theorem dfs_root_post (root : PCell) (nc : NoCollision root) :
    Post root ([], []) (dfs root ([], [])) (subcells root) := by
  apply dfs_post root nc root ([], []) (fun _ h => h)
  · exact ⟨by simp, by simp, trivial, by simp, by simp⟩
  · simp

theorem dfs_root_head (root : PCell) : (dfs root ([], [])).2.head? = some root := by
  rw [dfs_miss (by simp)]; simp

theorem Fwd.index : ∀ (ord : List PCell), Fwd ord → ∀ (i : Nat) (c : PCell), ord[i]? = some c →
    ∀ r ∈ c.refs, ∃ j, i < j ∧ (ord[j]?).map PCell.key = some r.key := by
  intro ord
  induction ord with
  | nil => intro _ i c h; simp at h
  | cons x rest ih =>
    intro hf i c h r hr
    cases i with
    | zero =>
      simp only [List.getElem?_cons_zero, Option.some.injEq] at h
      subst h
      obtain ⟨y, hy, hyk⟩ := List.mem_map.1 (hf.1 r hr)
      obtain ⟨j, hj⟩ := List.getElem?_of_mem hy
      exact ⟨j + 1, Nat.succ_pos _, by simp [hj, hyk]⟩
    | succ i =>
      simp only [List.getElem?_cons_succ] at h
      obtain ⟨j, hij, hj⟩ := ih hf.2 i c h r hr
      exact ⟨j + 1, Nat.succ_lt_succ hij, by simpa using hj⟩

theorem dfs_valid (root : PCell) (nc : NoCollision root) :
    ValidOrder root (dfs root ([], [])).2 :=
  have P := dfs_root_post root nc
  { root_first := dfs_root_head root
    nodup := P.inv.nodup
    complete := P.done
    sound := P.inv.sound
    forward := Fwd.index _ P.inv.fwd }

/-! ### from the loop to the recursive search -/

theorem orderLoop_root (root : PCell) (fuel : Nat) :
    orderLoop (fuel + 1 + cost root ([], [])) [(root, false)] ∅ [] = some (dfs root ([], [])).2 := by
  obtain ⟨vis', _, h⟩ := sim_dfs root [] ∅ ([], []) agree_empty
  rw [h (fuel + 1), orderLoop_nil]

theorem orderLoop_root_eq {root : PCell} {fuel : Nat} {r : List PCell}
    (h : orderLoop fuel [(root, false)] ∅ [] = some r) : r = (dfs root ([], [])).2 := by
  have h1 := orderLoop_mono h (Nat.le_max_left fuel (0 + 1 + cost root ([], [])))
  have h2 := orderLoop_mono (orderLoop_root root 0) (Nat.le_max_right fuel (0 + 1 + cost root ([], [])))
  rw [h1] at h2
  exact Option.some.inj h2

theorem order_of_loop {root : PCell} {fuel : Nat} {r : List PCell} (nd : (r.map PCell.key).Nodup)
    (h : orderLoop fuel [(root, false)] ∅ [] = some r) : root.order fuel = some r := by
  have := foldl_dictMoveToEnd r ([], ∅) (by simpa using agree_empty) nd (by simp)
  simp [PCell.order, h, this]

/-- with enough fuel `order` returns exactly the reversed post-order of the recursive search -/
theorem order_eq_dfs (root : PCell) (nc : NoCollision root) (fuel : Nat)
    (hf : cost root ([], []) + 1 ≤ fuel) : root.order fuel = some (dfs root ([], [])).2 := by
  apply order_of_loop (dfs_root_post root nc).inv.nodup
  have := orderLoop_root root (fuel - (cost root ([], []) + 1))
  rwa [show fuel - (cost root ([], []) + 1) + 1 + cost root ([], []) = fuel by omega] at this

/-- whenever `order` returns, it returns the reversed post-order of the recursive search -/
theorem order_some_eq_dfs (root : PCell) (nc : NoCollision root) (fuel : Nat) (ord : List PCell)
    (h : root.order fuel = some ord) : ord = (dfs root ([], [])).2 := by
  cases hl : orderLoop fuel [(root, false)] ∅ [] with
  | none => simp [PCell.order, hl] at h
  | some r =>
    have hr := orderLoop_root_eq hl
    subst hr
    rw [order_of_loop (dfs_root_post root nc).inv.nodup hl] at h
    exact (Option.some.inj h).symm

theorem order_valid (root : PCell) (fuel : Nat) (ord : List PCell) (nc : NoCollision root)
    (h : root.order fuel = some ord) : ValidOrder root ord := by
  rw [order_some_eq_dfs root nc fuel ord h]
  exact dfs_valid root nc

/-! ### fuel -/

mutual
  theorem cost_le : (c : PCell) → ∀ s : DState, (∀ d ∈ subcells c, d.refs.length ≤ 4) →
      cost c s + 5 * s.1.length ≤ 1 + 5 * (dfs c s).1.length
    | .mk i refs, s, h4 => by
      by_cases hk : (PCell.mk i refs).key ∈ s.1
      · rw [dfs_hit hk, cost_hit hk]; omega
      · rw [dfs_miss hk, cost_miss hk]
        have IH := costR_le refs ((PCell.mk i refs).key :: s.1, s.2)
          (fun d hd => h4 d (by simp [subcells, hd]))
        have hr : refs.length ≤ 4 := h4 (PCell.mk i refs) (self_mem_subcells _)
        simp only [PCell.refs, List.length_cons] at IH ⊢
        omega
  theorem costR_le : (cs : List PCell) → ∀ s : DState, (∀ d ∈ subcellsList cs, d.refs.length ≤ 4) →
      costR cs s + 5 * s.1.length ≤ cs.length + 5 * (dfsR cs s).1.length
    | [], s, _ => by simp
    | c :: cs, s, h4 => by
      have IH1 := costR_le cs s (fun d hd => h4 d (by simp [subcellsList, hd]))
      have IH2 := cost_le c (dfsR cs s) (fun d hd => h4 d (by simp [subcellsList, hd]))
      rw [costR_cons, dfsR_cons, List.length_cons]
      omega
end

mutual
  theorem dfs_vis : (c : PCell) → ∀ s : DState, s.1.Nodup →
      (dfs c s).1.Nodup ∧ ∀ k ∈ (dfs c s).1, k ∈ s.1 ∨ k ∈ (subcells c).map PCell.key
    | .mk i refs, s, hn => by
      by_cases hk : (PCell.mk i refs).key ∈ s.1
      · rw [dfs_hit hk]; exact ⟨hn, fun _ h => Or.inl h⟩
      · rw [dfs_miss hk]
        have IH := dfsR_vis refs ((PCell.mk i refs).key :: s.1, s.2) (List.nodup_cons.2 ⟨hk, hn⟩)
        refine ⟨IH.1, ?_⟩
        intro k hk'
        rcases IH.2 k hk' with h | h
        · rcases List.mem_cons.1 h with rfl | h
          · right; simp [subcells]
          · exact Or.inl h
        · right
          simp only [subcells, List.map_cons, List.mem_cons]
          exact Or.inr h
  theorem dfsR_vis : (cs : List PCell) → ∀ s : DState, s.1.Nodup →
      (dfsR cs s).1.Nodup ∧ ∀ k ∈ (dfsR cs s).1, k ∈ s.1 ∨ k ∈ (subcellsList cs).map PCell.key
    | [], s, hn => by rw [dfsR_nil]; exact ⟨hn, fun _ h => Or.inl h⟩
    | c :: cs, s, hn => by
      have IH1 := dfsR_vis cs s hn
      have IH2 := dfs_vis c (dfsR cs s) IH1.1
      rw [dfsR_cons]
      refine ⟨IH2.1, ?_⟩
      intro k hk
      simp only [subcellsList, List.map_append, List.mem_append]
      rcases IH2.2 k hk with h | h
      · rcases IH1.2 k h with h' | h'
        · exact Or.inl h'
        · exact Or.inr (Or.inr h')
      · exact Or.inr (Or.inl h)
end

/-- the search visits at most as many keys as there are distinct keys among the sub-cells -/
theorem dfs_root_vis_le (root : PCell) :
    (dfs root ([], [])).1.length ≤ ((subcells root).map PCell.key).eraseDups.length := by
  have h := dfs_vis root ([], []) List.nodup_nil
  apply h.1.length_le_of_subset
  intro k hk
  rcases h.2 k hk with h' | h'
  · simp at h'
  · exact List.mem_eraseDups.2 h'

/-- the loop needs at most `5 * (distinct keys) + 1` iterations before the final empty-stack test -/
theorem cost_root_le (root : PCell) (h4 : ∀ c ∈ subcells root, c.refs.length ≤ 4) :
    cost root ([], []) ≤ 5 * ((subcells root).map PCell.key).eraseDups.length + 1 := by
  have h1 := cost_le root ([], []) h4
  have h2 := dfs_root_vis_le root
  simp only [List.length_nil] at h1
  omega

theorem order_fuel_suffices (root : PCell) (fuel : Nat) (h4 : ∀ c ∈ subcells root, c.refs.length ≤ 4)
    (nc : NoCollision root)
    (hf : 6 * ((subcells root).map PCell.key).eraseDups.length + 2 ≤ fuel) :
    (root.order fuel).isSome := by
  have hc := cost_root_le root h4
  rw [order_eq_dfs root nc fuel (by omega)]
  rfl

/-- with the fuel of `order_fuel_suffices` the result is a valid order (so the statement is not vacuous) -/
theorem order_fuel_valid (root : PCell) (fuel : Nat) (h4 : ∀ c ∈ subcells root, c.refs.length ≤ 4)
    (nc : NoCollision root)
    (hf : 6 * ((subcells root).map PCell.key).eraseDups.length + 2 ≤ fuel) :
    ∃ ord, root.order fuel = some ord ∧ ValidOrder root ord := by
  have hc := cost_root_le root h4
  exact ⟨_, order_eq_dfs root nc fuel (by omega), dfs_valid root nc⟩

/-! ### non-vacuity: a diamond `root → {m1, m2} → leaf` -/

namespace Example

def inf (k : Nat) (n : Nat) : CellInfo :=
  { kind := kOrdinary, bits := [], nrefs := n, mask := 0, hashes := [[k]], depths := [0] }

def leaf : PCell := .mk (inf 1 0) []
def m1 : PCell := .mk (inf 2 1) [leaf]
def m2 : PCell := .mk (inf 3 1) [leaf]
def root : PCell := .mk (inf 4 2) [m1, m2]

theorem keys : leaf.key = 1 ∧ m1.key = 2 ∧ m2.key = 3 ∧ root.key = 4 := by decide

theorem subcells_root : subcells root = [root, m1, leaf, m2, leaf] := by
  simp [subcells, subcellsList, root, m1, m2, leaf]

theorem noCollision : NoCollision root := by
  intro a ha b hb
  rw [subcells_root] at ha hb
  obtain ⟨k1, k2, k3, k4⟩ := keys
  simp only [List.mem_cons, List.not_mem_nil, or_false] at ha hb
  rcases ha with rfl | rfl | rfl | rfl | rfl <;> rcases hb with rfl | rfl | rfl | rfl | rfl <;>
    simp [k1, k2, k3, k4]

theorem dfs_root : (dfs root ([], [])).2 = [root, m1, m2, leaf] := by
  obtain ⟨k1, k2, k3, k4⟩ := keys
  simp [root, m1, m2, leaf] at k1 k2 k3 k4
  simp [dfs, dfsR, root, m1, m2, leaf, k1, k2, k3, k4]

theorem cost_root : cost root ([], []) = 9 := by
  obtain ⟨k1, k2, k3, k4⟩ := keys
  simp [root, m1, m2, leaf] at k1 k2 k3 k4
  simp [cost, costR, dfs, dfsR, root, m1, m2, leaf, k1, k2, k3, k4]

example : PCell.order 50 root = some [root, m1, m2, leaf] := by
  rw [order_eq_dfs root noCollision 50 (by rw [cost_root]; omega), dfs_root]

example : ValidOrder root [root, m1, m2, leaf] :=
  order_valid root 50 _ noCollision
    (by rw [order_eq_dfs root noCollision 50 (by rw [cost_root]; omega), dfs_root])

/-- the hypotheses of `order_fuel_suffices` hold for the diamond: 4 distinct keys, fuel 26 -/
example : (PCell.order 26 root).isSome := by
  apply order_fuel_suffices root 26 _ noCollision
  · rw [subcells_root]
    obtain ⟨k1, k2, k3, k4⟩ := keys
    simp only [List.map_cons, List.map_nil, k1, k2, k3, k4]
    decide
  · intro c hc
    rw [subcells_root] at hc
    simp only [List.mem_cons, List.not_mem_nil, or_false] at hc
    rcases hc with rfl | rfl | rfl | rfl | rfl <;> simp [root, m1, m2, leaf, PCell.refs]

end Example

end TonVerif.Proofs.BocOrder
