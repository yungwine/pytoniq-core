/-
Theorems about the REGENERATED `while True` functions of crypto/keys.py (Generated/AdnlSrc.lean, group `keysloop`:
`get_secure_random_number`, `mnemonic_new` and their loop definitions), for EVERY random stream `rnd`, EVERY float interface `Fl`
and every instantiation of the primitives `P`.  The proofs go by induction on the loop budget and walk the program text with the
rules of two judgements (Proofs/SrcSim.lean): `Post P x` (what a returned value satisfies) and `Le x y` (`y` returns whatever `x`
returns: more budget changes nothing).  They unfold the generated definitions but do not depend on how the bodies are spelled beyond the
facts stated here (what is appended, what is tested, what is returned).
-/
import TonVerif.Generated.AdnlSrc
import TonVerif.Proofs.SrcAdnl
import TonVerif.Proofs.SrcSim

set_option linter.unusedSimpArgs false
set_option linter.unusedVariables false

namespace TonVerif.Proofs.SrcAdnlLoop
open TonVerif TonVerif.Model.Adnl TonVerif.Proofs.Adnl TonVerif.Generated.AdnlSrc TonVerif.Proofs.SrcAdnl

theorem intAnd_nonneg (a b : Int) (hb : 0 ≤ b) : 0 ≤ Py.intAnd a b := by
  cases b with
  | ofNat n =>
    cases a with
    | ofNat m => simp [Py.intAnd]
    | negSucc m => simp [Py.intAnd]
  | negSucc n => exact absurd hb (by simp)

/-! ## get_secure_random_number -/

/-- every value the regenerated loop returns is `lo + number` with `0 ≤ number < r` (the rejection test), provided the truncated mask
is not negative; at least one draw was made -/
theorem gsrn_loop_range {W} (P : Prims W) (Fl : Py.FloatIf) (rnd : Nat → Bytes) (fuel : Nat) (lo hi r bits bytes : Int) (mask : Fl.T)
    (hmask : 0 ≤ bits → 0 ≤ Fl.trunc mask) :
    ∀ (n k : Nat), Post (fun p => lo ≤ p.1 ∧ p.1 < lo + r ∧ k < p.2) (get_secure_random_number_loop P Fl rnd fuel n lo hi r bits bytes mask k)
  | 0, k => by rw [get_secure_random_number_loop]; exact .fail
  | n + 1, k => by
    rw [get_secure_random_number_loop]
    refine .bind (Q := fun d => 0 ≤ bits ∧ d.2 = k + 1) (ite_pred (fun _ => .fail) fun hb => .ret ⟨by omega, rfl⟩) ?_
    rintro ⟨draw, _⟩ ⟨hb, rfl⟩
    refine .bind .any fun ⟨number, power⟩ _ => ite_pred (fun _ => ?_) fun hlt => .ret ?_
    · exact (gsrn_loop_range P Fl rnd fuel lo hi r bits bytes mask hmask n (k + 1)).mono fun p hp => ⟨hp.1, hp.2.1, by omega⟩
    · have h0 := intAnd_nonneg (Fl.trunc number) (Fl.trunc mask) (hmask hb)
      exact ⟨by omega, by omega, by omega⟩

/-- more loop budget does not change a returned value -/
theorem gsrn_loop_mono {W} (P : Prims W) (Fl : Py.FloatIf) (rnd : Nat → Bytes) (fuel fuel' : Nat) (lo hi r bits bytes : Int) (mask : Fl.T) :
    ∀ (n m k : Nat), n ≤ m → Le (get_secure_random_number_loop P Fl rnd fuel n lo hi r bits bytes mask k)
      (get_secure_random_number_loop P Fl rnd fuel' m lo hi r bits bytes mask k)
  | 0, _, _, _ => by rw [get_secure_random_number_loop]; exact .fail
  | n + 1, 0, _, hle => by omega
  | n + 1, m + 1, k, hle => by
    rw [get_secure_random_number_loop, get_secure_random_number_loop]
    exact .bind .rfl fun ⟨_, k1⟩ => .bind .rfl fun ⟨_, _⟩ =>
      ite_rel (R := Le) Iff.rfl (fun _ => gsrn_loop_mono P Fl rnd fuel fuel' lo hi r bits bytes mask n m k1 (by omega)) fun _ => .rfl

/-- RANGE PROPERTY of the regenerated `get_secure_random_number(min_v, max_v)`, for every random stream and every float interface whose
`int(math.pow(2, b) - 1)` is not negative for `b ≥ 0`: a returned value lies in `[min_v, max_v)`, and at least one draw was made. -/
theorem get_secure_random_number_range {W} (P : Prims W) (Fl : Py.FloatIf) (rnd : Nat → Bytes) (fuel : Nat) (lo hi : Int) (k : Nat)
    (hmask : ∀ b : Int, 0 ≤ b → 0 ≤ Fl.trunc (Fl.sub (Fl.pow (Fl.ofInt 2) (Fl.ofInt b)) (Fl.ofInt 1)))
    (v : Int) (k' : Nat) (h : get_secure_random_number P Fl rnd fuel lo hi k = some (v, k')) :
    lo ≤ v ∧ v < hi ∧ k < k' := by
  refine Post.bind (P := fun p => lo ≤ p.1 ∧ p.1 < hi ∧ k < p.2) .any (fun bits _ => ite_pred (fun _ => .fail) fun _ => ?_) (v, k') h
  exact (gsrn_loop_range P Fl rnd fuel lo hi (hi - lo) bits _ _ (hmask bits) fuel k).mono fun p hp => ⟨hp.1, by omega, hp.2.2⟩

/-- a larger budget does not change a returned value -/
theorem get_secure_random_number_mono {W} (P : Prims W) (Fl : Py.FloatIf) (rnd : Nat → Bytes) (fuel fuel' : Nat) (hle : fuel ≤ fuel')
    (lo hi : Int) (k : Nat) : Le (get_secure_random_number P Fl rnd fuel lo hi k) (get_secure_random_number P Fl rnd fuel' lo hi k) :=
  .bind .rfl fun bits => ite_rel (R := Le) Iff.rfl (fun _ => .rfl) fun _ =>
    gsrn_loop_mono P Fl rnd fuel fuel' lo hi _ bits _ _ fuel fuel' k hle

/-- the exact float reading satisfies the hypothesis of the range theorem -/
theorem intFloat_mask_nonneg (b : Int) (hb : 0 ≤ b) :
    0 ≤ Py.intFloat.trunc (Py.intFloat.sub (Py.intFloat.pow (Py.intFloat.ofInt 2) (Py.intFloat.ofInt b)) (Py.intFloat.ofInt 1)) := by
  simp only [Py.intFloat, id]
  have : (0 : Int) < 2 ^ b.toNat := Int.pow_pos (by decide)
  omega

/-! ## mnemonic_new -/

theorem getI_mem {α : Type} (xs : List α) (i : Int) : Post (· ∈ xs) (Py.getI? xs i) :=
  ite_pred (fun _ _ h => List.mem_of_getElem? h) fun _ => ite_pred (fun _ _ h => List.mem_of_getElem? h) fun _ => .fail

/-- the candidate loop: one step appends exactly one element of `words` -/
theorem draw_step {W} (P : Prims W) (Fl : Py.FloatIf) (rnd : Nat → Bytes) (fuel : Nat) (words : List W) (arr : List W) (k : Nat) :
    Post (fun s => ∃ w ∈ words, s.1 = arr ++ [w])
      ((get_secure_random_number P Fl rnd fuel 0 words.length k).bind fun (x : Int × Nat) =>
        (Py.getI? words x.1).bind fun item => some (arr ++ [item], x.2)) :=
  .bind .any fun x _ => .bind (getI_mem words x.1) fun w hw => .ret ⟨w, hw, rfl⟩

/-- WHAT `mnemonic_new` RETURNS: a list of exactly `words_count` elements of `words` on which the regenerated `is_basic_seed` of the
regenerated `mnemonic_to_entropy` answers `True` (without raising). -/
theorem mnemonic_new_loop_spec {W} (P : Prims W) (Fl : Py.FloatIf) (rnd : Nat → Bytes) (fuel wc : Nat) (words : List W) :
    ∀ (n k : Nat) (arr : List W) (k' : Nat), mnemonic_new_loop P Fl rnd fuel n wc () words k = some (arr, k') →
      arr.length = wc ∧ (∀ w ∈ arr, w ∈ words) ∧
      ((mnemonic_to_entropy P arr ()).bind fun e => is_basic_seed P e) = some true
  | 0, k, arr, k', h => by rw [mnemonic_new_loop] at h; cases h
  | n + 1, k, arr, k', h => by
    rw [mnemonic_new_loop] at h
    refine Post.bind (Q := fun s => s.1.length = wc ∧ ∀ w ∈ s.1, w ∈ words)
      (P := fun p => p.1.length = wc ∧ (∀ w ∈ p.1, w ∈ words) ∧ ((mnemonic_to_entropy P p.1 ()).bind fun e => is_basic_seed P e) = some true)
      ?_ (fun ⟨cand, k1⟩ hc => ?_) (arr, k') h
    · refine (Post.foldlM_idx _ (fun i (s : List W × Nat) => s.1.length = i ∧ ∀ w ∈ s.1, w ∈ words) (fun i ⟨a, ka⟩ _ hi => ?_)
        (List.range wc) ([], k) 0 ⟨rfl, by simp⟩).mono fun s hs => by simpa using hs
      refine (draw_step P Fl rnd fuel words a ka).mono fun s' ⟨w, hw, e⟩ => ⟨by simp [e, hi.1], fun w' hw' => ?_⟩
      rcases List.mem_append.1 (e ▸ hw') with h1 | h1
      · exact hi.2 w' h1
      · rw [List.mem_singleton.1 h1]; exact hw
    · exact .bind .self fun e he => .bind .self fun b hb => ite_pred
        (fun _ p hp => mnemonic_new_loop_spec P Fl rnd fuel wc words n k1 p.1 p.2 hp)
        fun hbt => .ret ⟨hc.1, hc.2, by simpa [he, hb] using hbt⟩

/-- more budget (of the retry loop and of the random-number loop) does not change what `mnemonic_new` returns: the result is fixed by the
random stream as soon as the budget reaches the first accepted candidate -/
theorem mnemonic_new_loop_mono {W} (P : Prims W) (Fl : Py.FloatIf) (rnd : Nat → Bytes) (fuel fuel' : Nat) (hle : fuel ≤ fuel') (wc : Nat)
    (words : List W) :
    ∀ (n m k : Nat) (res : List W × Nat), n ≤ m → mnemonic_new_loop P Fl rnd fuel n wc () words k = some res →
      mnemonic_new_loop P Fl rnd fuel' m wc () words k = some res
  | 0, m, k, res, _, h => by rw [mnemonic_new_loop] at h; cases h
  | n + 1, 0, k, res, hnm, h => by omega
  | n + 1, m + 1, k, res, hnm, h => by
    rw [mnemonic_new_loop] at h ⊢
    refine Le.bind (Le.foldlM _ _ (fun ⟨_, ka⟩ _ => .bind (get_secure_random_number_mono P Fl rnd fuel fuel' hle 0 _ ka) fun _ => .rfl) _ _)
      (fun ⟨_, k1⟩ => .bind .rfl fun _ => .bind .rfl fun _ => ite_rel (R := Le) Iff.rfl (fun _ => ?_) fun _ => .rfl) res h
    exact fun r hr => mnemonic_new_loop_mono P Fl rnd fuel fuel' hle wc words n m k1 r (by omega) hr

end TonVerif.Proofs.SrcAdnlLoop
