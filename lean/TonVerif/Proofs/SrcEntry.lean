/-
The value-level entry points and conversions regenerated from cell.py / slice.py / builder.py on every run
(`Generated/EntrySrc.lean`, harness/translate/entrysrc.py + pyvalue.py) equal the hand model Model/BocEntry.lean, for ALL inputs,
through the views `cellView` (a cell object ↦ the tree it unfolds to + its cached info), `sliceView`, `builderView`.

Generation independent: `rebuildFrom_map`, `deserialize_map` (the parser is natural in the cell constructor),
`rebuildFrom_inv`, `deserialize_inv` (an invariant of the constructor holds of every parsed cell), `newCell_*`, `Built`.
Generation dependent (unfold the regenerated definitions): the `*_eq` theorems at the end.
-/
import TonVerif.PyEntry
import TonVerif.Generated.EntrySrc
import TonVerif.Model.BocEntry
import TonVerif.Proofs.SrcCellCtor
import TonVerif.Proofs.SrcBuilder
import TonVerif.Proofs.SrcBocDeser
import TonVerif.Proofs.SrcBocEmit
import TonVerif.Proofs.BocRoundTrip

namespace TonVerif.Proofs.SrcEntry
open TonVerif TonVerif.Model TonVerif.Model.BocParse TonVerif.Model.BocEntry TonVerif.Generated.EntrySrc
open TonVerif.Proofs.BocRoundTrip TonVerif.Proofs.BocEmit

set_option linter.unusedSimpArgs false

/-! ### views -/

/-- a cell object read as the parser model's value: the tree it unfolds to and its cached info -/
def cellView (p : PCell) : CellV := (treeOf p, p.info)

/-- a slice object read as the model's slice: the remaining bits and the trees of the REMAINING references -/
def sliceView (s : Py.SliceObj PCell) : Slice Cell := ⟨s.bits, (s.refs.drop s.ref_offset).map treeOf⟩

/-- a builder object read as the model's builder -/
def builderView (b : Py.BuilderObj PCell) : Builder Cell := ⟨b.bits, b.refs.map treeOf⟩

/-! ### the parser is natural in the cell constructor -/

theorem rebuildFrom_map {S R : Type} (f : S → R) (mkS : Bits → List S → Int → Option S) (mkR : Bits → List R → Int → Option R)
    (hom : ∀ bits refs ty, (mkS bits refs ty).map f = mkR bits (refs.map f) ty) :
    ∀ (recs : List RawCell) (ci : Nat), (rebuildFrom mkS recs ci).map (List.map f) = rebuildFrom mkR recs ci
  | [], _ => by simp [rebuildFrom]
  | c :: cs, ci => by
    rw [rebuildFrom, rebuildFrom]
    refine (SrcBytes.Sim.to_eq (.bind (.of_map_eq (rebuildFrom_map f mkS mkR hom cs (ci + 1)).symm) ?_)).symm
    rintro _ later rfl
    refine .bind (y := c.refs.mapM _) (.of_map_eq (g := List.map f) ?_) ?_
    · rw [← BocDeserLoops.mapM_map]
      simp only [apply_ite (Option.map f), Option.map_none, List.getElem?_map]
    · rintro _ refs rfl
      exact .of_map_eq (by rw [← hom, Option.map_map, Option.map_map]; rfl)

theorem deserialize_map {S R : Type} (f : S → R) (mkS : Bits → List S → Int → Option S) (mkR : Bits → List R → Int → Option R)
    (hom : ∀ bits refs ty, (mkS bits refs ty).map f = mkR bits (refs.map f) ty) (data : Bytes) :
    (BocParse.deserialize mkS data).map (List.map f) = BocParse.deserialize mkR data := by
  unfold BocParse.deserialize
  refine (SrcBytes.Sim.to_eq (.bind_same fun h _ => .bind_same fun recs _ =>
    .bind (.of_map_eq (rebuildFrom_map f mkS mkR hom recs 0).symm) ?_)).symm
  rintro _ all rfl
  refine .of_map_eq ?_
  rw [← BocDeserLoops.mapM_map]
  simp only [List.getElem?_map]

theorem rebuildFrom_inv {S : Type} (mk : Bits → List S → Int → Option S) (P : S → Prop)
    (hmk : ∀ bits refs ty, (∀ r ∈ refs, P r) → Post P (mk bits refs ty)) :
    ∀ (recs : List RawCell) (ci : Nat), Post (fun out => ∀ q ∈ out, P q) (rebuildFrom mk recs ci)
  | [], _ => .ret (fun _ hq => nomatch hq)
  | c :: cs, ci => by
    rw [rebuildFrom]
    refine .bind (rebuildFrom_inv mk P hmk cs (ci + 1)) fun later ih => .bind (Post.mapM _ (fun r => ?_) c.refs) fun refs hr =>
      .map ((hmk _ _ _ hr).mono fun q hq => List.forall_mem_cons.2 ⟨hq, ih⟩)
    exact ite_pred (fun _ => .fail) fun _ => ite_pred (fun _ => .fail) fun _ y hy => ih y (List.mem_of_getElem? hy)

theorem deserialize_inv {S : Type} (mk : Bits → List S → Int → Option S) (P : S → Prop)
    (hmk : ∀ bits refs ty q, (∀ r ∈ refs, P r) → mk bits refs ty = some q → P q) (data : Bytes) (out : List S)
    (h : BocParse.deserialize mk data = some out) : ∀ q ∈ out, P q :=
  Post.bind .any (fun hd _ => .bind .any fun recs _ =>
    .bind (rebuildFrom_inv mk P (fun b r t hr q hq => hmk b r t q hr hq) recs 0) fun all ih =>
      Post.mapM _ (fun ri y hy => ih y (List.mem_of_getElem? hy)) hd.rootList) out h

/-! ### `Cell(bits, refs, type)` = the regenerated constructor -/

theorem newCell_eq (H : Bytes → Bytes) (bits : Bits) (refs : List PCell) (ty : Int) :
    Py.newCell H bits refs ty = (construct H ty bits (refs.map PCell.info)).map fun i => PCell.mk i refs := by
  rw [← Proofs.SrcCellCtor.src_construct_info, Option.map_map]
  rfl

theorem map_treeOf_view (refs : List PCell) : (refs.map cellView).map (·.1) = refs.map treeOf ∧ (refs.map cellView).map (·.2) = refs.map PCell.info := by
  simp [cellView, List.map_map, Function.comp_def]

/-- the constructor commutes with the view: the regenerated `Cell(...)` on cell objects is the parser model's `mkCell` on their views -/
theorem newCell_view (H : Bytes → Bytes) (bits : Bits) (refs : List PCell) (ty : Int) :
    (Py.newCell H bits refs ty).map cellView = mkCell H bits (refs.map cellView) ty := by
  rw [newCell_eq, mkCell, (map_treeOf_view refs).1, (map_treeOf_view refs).2]
  cases hc : construct H ty bits (refs.map PCell.info) with
  | none => rfl
  | some i =>
    obtain ⟨_, h2, h3, _, _⟩ := construct_limits H ty bits _ i hc
    simp only [Option.map_some, cellView]
    rw [treeOf_eq]
    simp [PCell.info, PCell.refs, h2, h3]

/-- a cell object all of whose sub-objects were produced by the constructor from their children -/
def Built (H : Bytes → Bytes) (q : PCell) : Prop := Cell.build H (treeOf q) = some q

theorem builds_of_built (H : Bytes → Bytes) : ∀ refs : List PCell, (∀ r ∈ refs, Built H r) → Cell.builds H (refs.map treeOf) = some refs
  | [], _ => by simp [Cell.builds]
  | r :: rs, h => by
    have h1 : Cell.build H (treeOf r) = some r := h r (by simp)
    have h2 := builds_of_built H rs (fun x hx => h x (by simp [hx]))
    simp [Cell.builds, h1, h2]

theorem newCell_built (H : Bytes → Bytes) (bits : Bits) (refs : List PCell) (ty : Int) (q : PCell)
    (hr : ∀ r ∈ refs, Built H r) (h : Py.newCell H bits refs ty = some q) : Built H q := by
  rw [newCell_eq] at h
  simp only [Option.map_eq_some_iff] at h
  obtain ⟨i, hc, e⟩ := h
  subst e
  obtain ⟨_, h2, h3, _, _⟩ := construct_limits H ty bits _ i hc
  unfold Built
  rw [treeOf_eq]
  simp only [PCell.info, PCell.refs, h2, h3]
  rw [Cell.build]
  simp [builds_of_built H refs hr, hc]

theorem built_of_build (H : Bytes → Bytes) (t : Cell) (p : PCell) (h : Cell.build H t = some p) : Built H p := by
  unfold Built
  rw [(build_tree H t p h).1]
  exact h

/-! ### the regenerated parser with the class `Cell` -/

/-- `Boc.deserialize(Cell)` regenerated, with the regenerated constructor as the class: through the view it is the parser model;
no root is `None` -/
theorem deserialize_view (H : Bytes → Bytes) (bs : Bytes) :
    Generated.BocCells.deserialize bs (Py.cellClass H) = (BocParse.deserialize (Py.newCell H) bs).map (·.map some) ∧
    (BocParse.deserialize (Py.newCell H) bs).map (List.map cellView) = fromBoc H bs :=
  ⟨Proofs.SrcBocDeser.src_deserialize_eq (Py.newCell H) bs, deserialize_map cellView (Py.newCell H) (mkCell H) (newCell_view H) bs⟩

theorem deserialize_built (H : Bytes → Bytes) (bs : Bytes) (out : List PCell) (h : BocParse.deserialize (Py.newCell H) bs = some out) :
    ∀ q ∈ out, Built H q :=
  deserialize_inv (Py.newCell H) (Built H) (fun bits refs ty q hr hq => newCell_built H bits refs ty q hr hq) bs out h

/-! ### the regenerated conversions (generation dependent) -/

theorem begin_parse_eq (H : Bytes → Bytes) (p : PCell) :
    Cell_begin_parse H p = some ⟨p.info.bits, p.refs, p.info.kind, 0⟩ := rfl

theorem begin_parse_view (H : Bytes → Bytes) (p : PCell) :
    (Cell_begin_parse H p).map sliceView = some (beginParse (treeOf p)) := by
  rw [begin_parse_eq, treeOf_eq]
  simp [sliceView, beginParse, beginParseG]

theorem to_slice_eq (H : Bytes → Bytes) (p : PCell) : Cell_to_slice H p = Cell_begin_parse H p := by
  unfold Cell_to_slice
  cases Cell_begin_parse H p <;> rfl

theorem storeCell_view (c : PCell) :
    (Py.storeCell Py.newBuilder c).map builderView =
      (let r := BOp.storeCell c.info.bits (c.refs.map treeOf) (Builder.empty : Builder Cell); if r.2 then some r.1 else none) := by
  unfold Py.storeCell
  rw [Proofs.SrcBuilder.src_store_cell_eq]
  simp only [Proofs.SrcBuilder.ofFlag, BOp.storeCell, BOp.extend, Py.newBuilder, Builder.empty, List.length_nil, Nat.zero_add, List.nil_append,
    List.length_map]
  by_cases h1 : c.refs.length > 4
  · simp [h1]
  · by_cases h2 : c.info.bits.length > 1023
    · simp [h1, h2]
    · simp [h1, h2, builderView]

theorem to_builder_view (H : Bytes → Bytes) (p : PCell) :
    (Cell_to_builder H p).map builderView = toBuilder (treeOf p) := by
  unfold Cell_to_builder
  rw [treeOf_eq]
  simp only [toBuilder, toBuilderG, kOrdinary]
  by_cases hk : (p.info.kind != -1) = true
  · simp [hk]
  · have := storeCell_view p
    simp only [hk, Bool.false_eq_true, if_false] at this ⊢
    rw [← this]
    cases Py.storeCell Py.newBuilder p <;> rfl

theorem copy_eq (H : Bytes → Bytes) (p : PCell) : Cell_copy H p = Py.newCell H p.info.bits p.refs p.info.kind := by
  unfold Cell_copy
  cases Py.newCell H p.info.bits p.refs p.info.kind <;> rfl

theorem slice_to_cell_eq (H : Bytes → Bytes) (s : Py.SliceObj PCell) :
    Slice_to_cell H s = Py.newCell H s.bits (s.refs.drop s.ref_offset) s.type_ := by
  unfold Slice_to_cell
  cases Py.newCell H s.bits (s.refs.drop s.ref_offset) s.type_ <;> rfl

theorem end_cell_eq (H : Bytes → Bytes) (b : Py.BuilderObj PCell) : Builder_end_cell H b = Py.newCell H b.bits b.refs b.type_ := by
  unfold Builder_end_cell
  cases Py.newCell H b.bits b.refs b.type_ <;> rfl

/-- a constructed cell is rebuilt by the constructor from its own attributes: `copy()`, `begin_parse().to_cell()` and
`to_builder().end_cell()` give the same object value -/
theorem newCell_self (H : Bytes → Bytes) (p : PCell) (hp : Built H p) : Py.newCell H p.info.bits p.refs p.info.kind = some p := by
  unfold Built at hp
  rw [treeOf_eq, Cell.build] at hp
  simp only [Option.bind_eq_bind, Option.bind_eq_some_iff, Option.pure_def] at hp
  obtain ⟨rs, hrs, i, hi, e⟩ := hp
  have hrefs : rs = p.refs := by
    cases p with
    | mk i' refs' => cases e; rfl
  subst hrefs
  rw [newCell_eq, hi]
  simp only [Option.map_some]
  cases p with
  | mk i' refs' => cases e; rfl

/-! ### the regenerated entry points -/

/-- every `*_from_boc` entry point starts `boc = Boc(data); cells = boc.deserialize(cls)`: that prefix is `fromBocAnyG` with the
regenerated constructor (no root is `None`) -/
theorem from_boc_prefix {β : Type} (H : Bytes → Bytes) (d : Input) (K : List (Option PCell) → Option β) :
    ((Generated.BocEmitSrc.boc_init d).bind fun bs => (Generated.BocCells.deserialize bs (Py.cellClass H)).bind K) =
      (fromBocAnyG (Py.newCell H) d).bind fun cells => K (cells.map some) := by
  unfold fromBocAnyG
  rw [Proofs.SrcBocEmit.src_boc_init_eq]
  cases BocForms.inputBytes d with
  | none => rfl
  | some bs =>
    simp only [Option.bind_some]
    rw [(deserialize_view H bs).1]
    cases BocParse.deserialize (Py.newCell H) bs <;> rfl

theorem from_boc_eq (H : Bytes → Bytes) (d : Input) :
    Cell_from_boc H d = ((BocForms.inputBytes d).bind (BocParse.deserialize (Py.newCell H))).map (·.map some) := by
  refine (from_boc_prefix H d _).trans ?_
  change _ = Option.map _ (fromBocAnyG (Py.newCell H) d)
  cases fromBocAnyG (Py.newCell H) d <;> rfl

theorem builder_from_boc_eq (H : Bytes → Bytes) (d : Input) : Builder_from_boc H d = Cell_from_boc H d := rfl

theorem one_from_boc_eq (H : Bytes → Bytes) (d : Input) :
    Cell_one_from_boc H d = (cellOneG (Py.newCell H) d).map some := by
  refine (from_boc_prefix H d _).trans ?_
  refine SrcBytes.Sim.to_eq (.bind_same fun cells _ => .guard (by simp only [List.length_map, decide_eq_true_eq]; omega) fun _ => .of_map_eq ?_)
  cases cells <;> rfl

theorem slice_one_from_boc_eq (H : Bytes → Bytes) (d : Input) :
    Slice_one_from_boc H d = sliceOneG (Py.newCell H) (fun p => (⟨p.info.bits, p.refs, p.info.kind, 0⟩ : Py.SliceObj PCell)) d := by
  refine (from_boc_prefix H d _).trans ?_
  unfold sliceOneG
  cases fromBocAnyG (Py.newCell H) d with
  | none => rfl
  | some cells => cases cells <;> rfl

theorem builder_one_from_boc_eq (H : Bytes → Bytes) (d : Input) :
    Builder_one_from_boc H d = builderOneG (Py.newCell H) (Cell_to_builder H) d := by
  refine (from_boc_prefix H d _).trans ?_
  unfold builderOneG
  cases fromBocAnyG (Py.newCell H) d with
  | none => rfl
  | some cells =>
    cases cells with
    | nil => rfl
    | cons c cs =>
      simp only [Option.map_some, Option.bind_some, List.map_cons, List.getElem?_cons_zero]
      cases Cell_to_builder H c <;> rfl

/-- the parsed roots through the view are the model's roots -/
theorem fromBocAnyG_view (H : Bytes → Bytes) (d : Input) :
    (fromBocAnyG (Py.newCell H) d).map (List.map cellView) = fromBocAny H d := by
  unfold fromBocAny fromBocAnyG
  rw [Option.map_bind]
  exact congrArg _ (funext (deserialize_map cellView (Py.newCell H) (mkCell H) (newCell_view H)))

/-! ### entry points through the views = the hand model's entry points -/

theorem fromBocAny_G (H : Bytes → Bytes) (d : Input) : fromBocAny H d = fromBocAnyG (mkCell H) d := rfl

theorem cellOneG_view (H : Bytes → Bytes) (d : Input) : (cellOneG (Py.newCell H) d).map cellView = cellOne H d := by
  unfold cellOne cellOneG
  rw [← fromBocAny_G, ← fromBocAnyG_view]
  cases fromBocAnyG (Py.newCell H) d with
  | none => rfl
  | some cells =>
    simp only [Option.bind_some, Option.map_some, List.length_map]
    by_cases h : cells.length > 1
    · simp [h]
    · simp only [h, if_false]
      cases cells <;> rfl

theorem sliceOneG_view (H : Bytes → Bytes) (d : Input) :
    (sliceOneG (Py.newCell H) (fun p => (⟨p.info.bits, p.refs, p.info.kind, 0⟩ : Py.SliceObj PCell)) d).map sliceView = sliceOne H d := by
  unfold sliceOne sliceOneG
  rw [← fromBocAny_G, ← fromBocAnyG_view]
  cases fromBocAnyG (Py.newCell H) d with
  | none => rfl
  | some cells =>
    cases cells with
    | nil => rfl
    | cons c cs =>
      have := begin_parse_view H c
      rw [begin_parse_eq] at this
      simpa [cellView] using this

theorem builderOneG_view (H : Bytes → Bytes) (d : Input) :
    (builderOneG (Py.newCell H) (Cell_to_builder H) d).map builderView = builderOne H d := by
  unfold builderOne builderOneG
  rw [← fromBocAny_G, ← fromBocAnyG_view]
  cases fromBocAnyG (Py.newCell H) d with
  | none => rfl
  | some cells =>
    cases cells with
    | nil => rfl
    | cons c cs =>
      have := to_builder_view H c
      simpa [cellView] using this

theorem fromBoc_view (H : Bytes → Bytes) (d : Input) :
    (Cell_from_boc H d).map (List.map (Option.map cellView)) = (fromBocAny H d).map (List.map some) := by
  rw [from_boc_eq, ← fromBocAnyG_view]
  unfold fromBocAnyG
  cases (BocForms.inputBytes d).bind (BocParse.deserialize (Py.newCell H)) with
  | none => rfl
  | some cells => simp [Function.comp_def]

/-! ### the round trip on object values -/

/-- if the parser model returns the one root `(t, i)` for the tree `t` whose object graph is `p`, the regenerated parser with the
regenerated constructor returns the object value `p` itself -/
theorem deserialize_roundtrip (H : Bytes → Bytes) (t : Cell) (p : PCell) (hb : Cell.build H t = some p) (bs : Bytes) (i : CellInfo)
    (h : fromBoc H bs = some [(t, i)]) : BocParse.deserialize (Py.newCell H) bs = some [p] := by
  have hv := (deserialize_view H bs).2
  rw [h] at hv
  cases hd : BocParse.deserialize (Py.newCell H) bs with
  | none => rw [hd] at hv; cases hv
  | some out =>
    rw [hd] at hv
    simp only [Option.map_some, Option.some.injEq] at hv
    have hbuilt := deserialize_built H bs out hd
    match out, hv, hbuilt with
    | [q], hv, hbuilt =>
      simp only [List.map_cons, List.map_nil, List.cons.injEq, and_true, cellView, Prod.mk.injEq] at hv
      have hq : Built H q := hbuilt q (by simp)
      unfold Built at hq
      rw [hv.1, hb] at hq
      rw [Option.some.inj hq]

theorem storeCell_newBuilder (c : PCell) (hb : c.info.bits.length ≤ 1023) (hr : c.refs.length ≤ 4) :
    Py.storeCell Py.newBuilder c = some ⟨c.info.bits, c.refs, -1⟩ := by
  unfold Py.storeCell
  rw [Proofs.SrcBuilder.src_store_cell_eq]
  have h1 : ¬ c.refs.length > 4 := by omega
  have h2 : ¬ c.info.bits.length > 1023 := by omega
  simp [Proofs.SrcBuilder.ofFlag, BOp.storeCell, BOp.extend, Py.newBuilder, h1, h2]

theorem to_builder_eq (H : Bytes → Bytes) (c : PCell) (hb : c.info.bits.length ≤ 1023) (hr : c.refs.length ≤ 4) :
    Cell_to_builder H c = if c.info.kind = -1 then some ⟨c.info.bits, c.refs, -1⟩ else none := by
  unfold Cell_to_builder
  by_cases hk : c.info.kind = -1
  · simp [hk, storeCell_newBuilder c hb hr]
  · simp [hk]

end TonVerif.Proofs.SrcEntry
