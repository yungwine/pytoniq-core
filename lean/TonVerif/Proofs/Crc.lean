/-
Helper lemmas for C18: the table-driven CRC code generated from the Python source
computes the bit-at-a-time CRC of `Spec/Crc.lean`.  The one-bit step of either register is xor-linear
(which is what makes a table of 256 entries enough) and sends only 0 to 0, hence is injective
(which is what the error-detection results of `Proofs/CrcFlip.lean` and the framed records of C18 rest on).
-/
import TonVerif.Spec.Crc
import TonVerif.Generated.Crc

namespace TonVerif.Proofs.Crc
open TonVerif.Spec

/-! ### generic -/

theorem ite_xor_bool {n} (x y : Bool) (p : BitVec n) :
    (if (x ^^ y) then p else 0#n) = (if x then p else 0#n) ^^^ (if y then p else 0#n) := by
  cases x <;> cases y <;> simp

/-- entry `i` of an array given as the image of `List.range n`. -/
theorem getD_of_toList {t : Array Nat} {f : Nat → Nat} {n : Nat} (h : t.toList = (List.range n).map f)
    {i : Nat} (hi : i < n) : t.getD i 0 = f i := by
  rw [Array.getD_eq_getD_getElem?, ← Array.getElem?_toList, h]
  simp [hi]

theorem xor_xor_xor_comm {n} (a b c d : BitVec n) : (a ^^^ b) ^^^ (c ^^^ d) = (a ^^^ c) ^^^ (b ^^^ d) := by
  ac_rfl

theorem iter_xor {n} (f : BitVec n → BitVec n) (hf : ∀ a b, f (a ^^^ b) = f a ^^^ f b) :
    ∀ k a b, iter f k (a ^^^ b) = iter f k a ^^^ iter f k b := by
  intro k; induction k with
  | zero => intros; rfl
  | succ k ih => intro a b; simp only [iter, hf, ih]

theorem iter_eq_zero_iff {n} (f : BitVec n → BitVec n) (hf : ∀ x, f x = 0#n ↔ x = 0#n) (k : Nat) :
    ∀ x, iter f k x = 0#n ↔ x = 0#n := by
  induction k with
  | zero => intro x; rfl
  | succ k ih => intro x; rw [iter, ih, hf]

/-- an xor-linear map that sends only 0 to 0 is injective. -/
theorem inj_of_linear {n} {f : BitVec n → BitVec n} (hx : ∀ a b, f (a ^^^ b) = f a ^^^ f b)
    (hz : ∀ x, f x = 0#n ↔ x = 0#n) {a b : BitVec n} (h : f a = f b) : a = b :=
  BitVec.xor_eq_zero_iff.mp ((hz _).mp (by rw [hx, h, BitVec.xor_self]))

theorem iter_inj {α} {f : α → α} (hf : ∀ a b, f a = f b → a = b) : ∀ k a b, iter f k a = iter f k b → a = b
  | 0, _, _, h => h
  | k + 1, _, _, h => hf _ _ (iter_inj hf k _ _ h)

/-- a Nat-level loop that follows a bit-vector one step by step follows it on every byte list. -/
theorem foldl_toNat {n : Nat} {g : Nat → Nat → Nat} {f : BitVec n → BitVec 8 → BitVec n}
    (hstep : ∀ (C : BitVec n) (b : Nat), b < 256 → g C.toNat b = (f C (BitVec.ofNat 8 b)).toNat) :
    ∀ (data : List Nat), (∀ b ∈ data, b < 256) → ∀ C : BitVec n,
      data.foldl g C.toNat = ((data.map (BitVec.ofNat 8)).foldl f C).toNat
  | [], _, _ => rfl
  | b :: bs, hd, C => by
    rw [List.foldl_cons, List.map_cons, List.foldl_cons, hstep C b (hd b List.mem_cons_self)]
    exact foldl_toNat hstep bs (fun x hx => hd x (List.mem_cons_of_mem _ hx)) _

/-! ### CRC-16 -/

theorem step16_eq (c : BitVec 16) :
    step16 c = (c <<< 1) ^^^ (if c.msb then 0x1021#16 else 0#16) := by
  unfold step16; split <;> simp

theorem step16_xor (a b : BitVec 16) : step16 (a ^^^ b) = step16 a ^^^ step16 b := by
  simp only [step16_eq, BitVec.msb_xor, ite_xor_bool, BitVec.shiftLeft_xor_distrib]
  exact xor_xor_xor_comm _ _ _ _

/-- the polynomial 0x1021 has constant term 1: a step that feeds back sets bit 0, and one that does not only
shifts out a zero, so a non-zero register never becomes zero. -/
theorem step16_eq_zero_iff (x : BitVec 16) : step16 x = 0#16 ↔ x = 0#16 := by
  refine ⟨fun h => ?_, fun h => by rw [h]; rfl⟩
  unfold step16 at h
  split at h
  · have := congrArg (fun v => v.getLsbD 0) h
    simp at this
  · rename_i hm
    rw [BitVec.msb_eq_decide] at hm
    simp at hm
    bv_omega

theorem step16_inj (a b : BitVec 16) (h : step16 a = step16 b) : a = b := inj_of_linear step16_xor step16_eq_zero_iff h

theorem decomp16 (c : BitVec 16) :
    c = (((c >>> 8).truncate 8).zeroExtend 16 <<< 8) ^^^ ((c.truncate 8).zeroExtend 16) := by
  ext i hi
  simp
  by_cases h : i < 8
  · simp [h, BitVec.getLsbD_eq_getElem hi]
  · have : i - 8 < 8 := by omega
    have h2 : 8 + (i - 8) = i := by omega
    simp [h, this, h2, BitVec.getLsbD_eq_getElem hi]

/-- k steps on a state whose k high bits are zero are a plain left shift. -/
theorem iter_step16_highzero : ∀ (k : Nat) (z : BitVec 16), (∀ i, i < k → z.getMsbD i = false) →
    iter step16 k z = z <<< k := by
  intro k; induction k with
  | zero => intro z _; simp [iter]
  | succ k ih =>
    intro z hz
    have h0 : z.msb = false := by rw [BitVec.msb_eq_getMsbD_zero]; exact hz 0 (by omega)
    have hs : step16 z = z <<< 1 := by unfold step16; simp only [h0]; simp
    rw [iter, hs, ih, ← BitVec.shiftLeft_add, Nat.add_comm]
    intro i hi
    rw [BitVec.getMsbD_shiftLeft, hz (i + 1) (by omega)]

theorem lo16 (x : BitVec 8) : iter step16 8 (x.zeroExtend 16) = x.zeroExtend 16 <<< 8 :=
  iter_step16_highzero 8 _ fun i hi => by simp [BitVec.getMsbD_setWidth]; omega

/-- TABLE OBLIGATION (all 256 entries of the table found in the Python source; compared as one list, which
the kernel evaluates far faster than 256 separate look-ups). -/
theorem table16_list : Generated.crc16_table.toList
    = (List.range 256).map fun i => (iter step16 8 (BitVec.ofNat 16 i <<< 8)).toNat := by
  decide +kernel

theorem table16 (x : BitVec 8) :
    iter step16 8 (x.zeroExtend 16 <<< 8) = BitVec.ofNat 16 (Generated.crc16_table.getD x.toNat 0) := by
  rw [getD_of_toList table16_list x.isLt, BitVec.ofNat_toNat, BitVec.setWidth_eq, BitVec.ofNat_toNat]

theorem table16_size : Generated.crc16_table.size = 256 := by decide +kernel

theorem shl8_trunc (c : BitVec 16) : (c.truncate 8).zeroExtend 16 <<< 8 = c <<< 8 := by
  ext i hi
  simp
  by_cases h : i < 8
  · simp [h]
  · have : i - 8 < 8 := by omega
    simp [h, this, BitVec.getLsbD_eq_getElem (show i - 8 < 16 by omega)]

theorem zeroExtend_shl8_xor (a b : BitVec 8) :
    (a ^^^ b).zeroExtend 16 <<< 8 = (a.zeroExtend 16 <<< 8) ^^^ (b.zeroExtend 16 <<< 8) := by
  rw [BitVec.zeroExtend, BitVec.setWidth_xor, BitVec.shiftLeft_xor_distrib]

/-- per-byte lemma, bit-vector level: split the register into its top byte (a table look-up, together with the
message byte) and its low byte (eight plain shifts). -/
theorem byte16_table (c : BitVec 16) (b : BitVec 8) :
    byte16 c b = (c <<< 8) ^^^
      BitVec.ofNat 16 (Generated.crc16_table.getD (((c >>> 8).truncate 8) ^^^ b).toNat 0) := by
  unfold byte16
  conv => lhs; rw [decomp16 c, BitVec.xor_assoc, BitVec.xor_comm ((c.truncate 8).zeroExtend 16),
    ← BitVec.xor_assoc, ← zeroExtend_shl8_xor]
  rw [iter_xor _ step16_xor, table16, lo16, shl8_trunc, BitVec.xor_comm]

/-- two message bytes are sixteen steps on the register xor the 16-bit word they form. -/
theorem byte16_byte16 (c : BitVec 16) (a b : BitVec 8) :
    byte16 (byte16 c a) b = iter step16 16 (c ^^^ (a.zeroExtend 16 <<< 8) ^^^ b.zeroExtend 16) := by
  unfold byte16
  rw [← lo16 b, ← iter_xor _ step16_xor]
  rfl

/-- `be16` reads the two bytes of a word back (`decomp16` is the other round trip). -/
theorem be16_word (a b : BitVec 8) : be16 ((a.zeroExtend 16 <<< 8) ^^^ b.zeroExtend 16) = [a, b] := by
  simp only [be16, List.cons.injEq, and_true]
  constructor <;> ext i hi <;>
    simp [hi, show 8 + i < 16 by omega, show i < 16 by omega, show ¬ 8 + i < 8 by omega]

/-- from any register, different pairs of bytes lead to different registers: sixteen injective steps on words
that differ. -/
theorem byte16_pair_inj {c : BitVec 16} {a b a' b' : BitVec 8} (h : byte16 (byte16 c a) b = byte16 (byte16 c a') b') :
    [a, b] = [a', b'] := by
  rw [byte16_byte16, byte16_byte16, BitVec.xor_assoc, BitVec.xor_assoc] at h
  have := congrArg be16 ((BitVec.xor_right_inj c).mp (iter_inj step16_inj 16 _ _ h))
  rwa [be16_word, be16_word] at this

/-! ### CRC-16: Nat-level generated code = bit-vector spec -/

theorem gen16_step (C : BitVec 16) (b : Nat) (hb : b < 256) :
    (((C.toNat <<< 8) ^^^ (Generated.crc16_table.getD ((C.toNat >>> 8) ^^^ b) 0)) &&& 65535)
      = (byte16 C (BitVec.ofNat 8 b)).toNat := by
  rw [byte16_table]
  have hidx : (((C >>> 8).truncate 8) ^^^ BitVec.ofNat 8 b).toNat = (C.toNat >>> 8) ^^^ b := by
    have h1 : C.toNat < 65536 := C.isLt
    have h2 : C.toNat >>> 8 < 256 := by rw [Nat.shiftRight_eq_div_pow]; omega
    simp [BitVec.toNat_xor, BitVec.toNat_ushiftRight, BitVec.toNat_setWidth]
    rw [Nat.mod_eq_of_lt h2, Nat.mod_eq_of_lt hb]
  rw [hidx]
  have e : (65535 : Nat) = 2 ^ 16 - 1 := by decide
  rw [e, Nat.and_two_pow_sub_one_eq_mod, Nat.xor_mod_two_pow]
  simp [BitVec.toNat_xor, BitVec.toNat_shiftLeft, BitVec.toNat_ofNat]

/-! ### CRC-32C -/

theorem step32_eq (c : BitVec 32) :
    step32 c = (c >>> 1) ^^^ (if c.getLsbD 0 then 0x82F63B78#32 else 0#32) := by
  unfold step32; split <;> simp

theorem ushiftRight_xor_distrib {n} (a b : BitVec n) (k : Nat) :
    (a ^^^ b) >>> k = (a >>> k) ^^^ (b >>> k) := by
  ext i hi; simp

theorem step32_xor (a b : BitVec 32) : step32 (a ^^^ b) = step32 a ^^^ step32 b := by
  simp only [step32_eq, BitVec.getLsbD_xor, ite_xor_bool, ushiftRight_xor_distrib]
  exact xor_xor_xor_comm _ _ _ _

/-- the reflected polynomial 0x82F63B78 has bit 31 set, which a right shift clears. -/
theorem step32_eq_zero_iff (x : BitVec 32) : step32 x = 0#32 ↔ x = 0#32 := by
  refine ⟨fun h => ?_, fun h => by rw [h]; rfl⟩
  unfold step32 at h
  split at h
  · have := congrArg (fun v => v.getLsbD 31) h
    simp at this
  · rename_i h0
    have : x.toNat % 2 = 0 := by simpa [BitVec.getLsbD, Nat.testBit] using h0
    bv_omega

theorem step32_inj (a b : BitVec 32) (h : step32 a = step32 b) : a = b := inj_of_linear step32_xor step32_eq_zero_iff h

/-- TABLE OBLIGATION (all 256 entries of the table found in the Python source). -/
theorem table32_list : Generated.crc32c_crc32c_table.toList
    = (List.range 256).map fun i => (iter step32 8 (BitVec.ofNat 32 i)).toNat := by
  decide +kernel

theorem table32 (x : BitVec 8) :
    iter step32 8 (x.zeroExtend 32) = BitVec.ofNat 32 (Generated.crc32c_crc32c_table.getD x.toNat 0) := by
  rw [getD_of_toList table32_list x.isLt, BitVec.ofNat_toNat, BitVec.setWidth_eq, BitVec.ofNat_toNat]

theorem table32_lt {i : Nat} (hi : i < 256) : Generated.crc32c_crc32c_table.getD i 0 < 2 ^ 32 := by
  rw [getD_of_toList table32_list hi]
  exact BitVec.isLt _

theorem table32_size : Generated.crc32c_crc32c_table.size = 256 := by decide +kernel

/-- k steps on a state whose k low bits are zero are a plain right shift. -/
theorem iter_step32_lowzero : ∀ (k : Nat) (z : BitVec 32), (∀ i, i < k → z.getLsbD i = false) →
    iter step32 k z = z >>> k := by
  intro k; induction k with
  | zero => intro z _; simp [iter]
  | succ k ih =>
    intro z hz
    have h0 : z.getLsbD 0 = false := hz 0 (by omega)
    have hs : step32 z = z >>> 1 := by unfold step32; simp only [h0]; simp
    rw [iter, hs, ih, ← BitVec.shiftRight_add, Nat.add_comm]
    intro i hi
    rw [BitVec.getLsbD_ushiftRight, hz (1 + i) (by omega)]

theorem decomp32 (x : BitVec 32) :
    x = ((x.truncate 8).zeroExtend 32) ^^^ ((x >>> 8) <<< 8) := by
  ext i hi
  simp
  by_cases h : i < 8
  · simp [h, BitVec.getLsbD_eq_getElem hi]
  · have h2 : 8 + (i - 8) = i := by omega
    simp [h, h2, BitVec.getLsbD_eq_getElem hi]

theorem shr8_low (c : BitVec 32) (b : BitVec 8) : (c ^^^ b.zeroExtend 32) >>> 8 = c >>> 8 := by
  ext i hi
  simp

theorem byte32_table (c : BitVec 32) (b : BitVec 8) :
    byte32 c b = BitVec.ofNat 32 (Generated.crc32c_crc32c_table.getD
        ((c ^^^ b.zeroExtend 32).truncate 8).toNat 0) ^^^ (c >>> 8) := by
  unfold byte32
  conv => lhs; rw [decomp32 (c ^^^ b.zeroExtend 32)]
  rw [iter_xor _ step32_xor]
  rw [table32]
  rw [iter_step32_lowzero]
  · congr 1
    rw [shr8_low]
    ext i hi
    simp
    intro h; exact BitVec.lt_of_getLsbD h
  · intro i hi
    simp
    omega

theorem gen32_step (C : BitVec 32) (b : Nat) (hb : b < 256) :
    ((Generated.crc32c_crc32c_table.getD ((C.toNat ^^^ b) &&& 255) 0) ^^^ (C.toNat >>> 8))
      = (byte32 C (BitVec.ofNat 8 b)).toNat := by
  rw [byte32_table]
  have hidx : ((C ^^^ (BitVec.ofNat 8 b).zeroExtend 32).truncate 8).toNat = (C.toNat ^^^ b) &&& 255 := by
    have e : (255 : Nat) = 2 ^ 8 - 1 := by decide
    rw [e, Nat.and_two_pow_sub_one_eq_mod, Nat.xor_mod_two_pow]
    simp [BitVec.toNat_xor, BitVec.toNat_setWidth, Nat.mod_eq_of_lt hb]
  rw [hidx]
  have hlt : (C.toNat ^^^ b) &&& 255 < 256 := by
    have e : (255 : Nat) = 2 ^ 8 - 1 := by decide
    rw [e, Nat.and_two_pow_sub_one_eq_mod]; omega
  simp only [BitVec.toNat_xor, BitVec.toNat_ushiftRight, BitVec.toNat_ofNat]
  rw [Nat.mod_eq_of_lt (table32_lt hlt)]

end TonVerif.Proofs.Crc
