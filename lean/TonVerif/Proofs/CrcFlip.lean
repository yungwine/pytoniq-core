/-
Errors the CRCs cannot miss, for EVERY message length.  The one-bit step of either shift register is injective
(`Proofs.Crc.step16_inj`, `step32_inj`: xor-linear, and only 0 goes to 0), hence so is feeding any fixed bytes, and two
messages that differ only inside a window have different CRCs as soon as the window alone separates the registers
(`foldl_window`).  One byte is such a window for CRC-32C (`crc32c_byte_ne`, `model_crc32c_set_ne`), two adjacent bytes
are one for CRC-16 (`crc16_adjacent_ne`: sixteen steps on the register xor their 16-bit word).
-/
import TonVerif.Spec.Crc
import TonVerif.Proofs.Crc
import TonVerif.Model.Crc
import TonVerif.Properties.C18

namespace TonVerif.Proofs.CrcFlip
open TonVerif TonVerif.Spec TonVerif.Proofs.Crc

theorem foldl_inj {α β} {g : α → β → α} (hg : ∀ b c c', g c b = g c' b → c = c') :
    ∀ (xs : List β) c c', xs.foldl g c = xs.foldl g c' → c = c'
  | [], _, _, h => h
  | x :: xs, _, _, h => hg x _ _ (foldl_inj hg xs _ _ h)

/-- two messages that differ only inside a window `W`/`W'`: equal results mean that the window alone already led
the register to the same value. -/
theorem foldl_window {α β} {g : α → β → α} (hg : ∀ b c c', g c b = g c' b → c = c') (P W W' S : List β) (c : α)
    (h : (P ++ W ++ S).foldl g c = (P ++ W' ++ S).foldl g c) :
    W.foldl g (P.foldl g c) = W'.foldl g (P.foldl g c) := by
  simp only [List.foldl_append] at h
  exact foldl_inj hg S _ _ h

theorem byte16_inj (b : BitVec 8) (c c' : BitVec 16) (h : byte16 c b = byte16 c' b) : c = c' :=
  (BitVec.xor_left_inj _).mp (iter_inj step16_inj 8 _ _ h)

theorem byte32_inj (b : BitVec 8) (c c' : BitVec 32) (h : byte32 c b = byte32 c' b) : c = c' :=
  (BitVec.xor_left_inj _).mp (iter_inj step32_inj 8 _ _ h)

/-! ### CRC-32C -/

/-- BitVec level: two messages that differ in one byte have different CRC-32C. -/
theorem crc32c_byte_ne (P S : List (BitVec 8)) (x x' : BitVec 8) (h : x ≠ x') :
    Spec.crc32c (P ++ x :: S) ≠ Spec.crc32c (P ++ x' :: S) := by
  intro he
  have := foldl_window byte32_inj P [x] [x'] S _ (by simpa [Spec.crc32c] using he)
  have := (BitVec.xor_right_inj _).mp (iter_inj step32_inj 8 _ _ this)
  apply h
  bv_omega

theorem le32_toNat_inj (v w : BitVec 32) (h : (le32 v).map BitVec.toNat = (le32 w).map BitVec.toNat) : v = w := by
  apply BitVec.eq_of_toNat_eq
  have hv := v.isLt
  have hw := w.isLt
  simp only [le32, List.map_cons, List.map_nil, List.cons.injEq, and_true, BitVec.toNat_setWidth,
    BitVec.toNat_ushiftRight, Nat.shiftRight_eq_div_pow] at h
  omega

theorem wf_set (data : Bytes) (hwf : Bytes.WF data) (j v : Nat) (hv : v < 256) : Bytes.WF (data.set j v) := by
  intro b hb
  rcases List.mem_or_eq_of_mem_set hb with h | h
  · exact hwf b h
  · omega

theorem ofNat8_inj {a b : Nat} (ha : a < 256) (hb : b < 256) (h : BitVec.ofNat 8 a = BitVec.ofNat 8 b) : a = b := by
  have := congrArg BitVec.toNat h
  simp only [BitVec.toNat_ofNat] at this
  omega

/-- bytes level, about the MODEL function (the translated Python loop): replacing one byte by a different one changes
`crc32c`. -/
theorem model_crc32c_set_ne (data : Bytes) (hwf : Bytes.WF data) (j : Nat) (hj : j < data.length)
    (v : Nat) (hv : v < 256) (hne : v ≠ data[j]) : Model.crc32c (data.set j v) ≠ Model.crc32c data := by
  rw [TonVerif.Properties.C18.c18_crc32c _ (wf_set data hwf j v hv) false, TonVerif.Properties.C18.c18_crc32c _ hwf false]
  simp only [Bool.false_eq_true, if_false, ne_eq, Option.some.injEq]
  intro h
  have h2 := le32_toNat_inj _ _ h
  rw [List.set_eq_take_append_cons_drop, if_pos hj] at h2
  conv at h2 => rhs; rw [← List.take_append_drop j data, ← List.getElem_cons_drop hj]
  simp only [List.map_append, List.map_cons] at h2
  exact crc32c_byte_ne _ _ _ _ (fun e => hne (ofNat8_inj hv (hwf _ (List.getElem_mem hj)) e)) h2

/-- in particular a non-zero xor pattern inside one byte. -/
theorem model_crc32c_flip_ne (data : Bytes) (hwf : Bytes.WF data) (j : Nat) (hj : j < data.length)
    (e : Nat) (he0 : 0 < e) (he : e < 256) :
    Model.crc32c (data.set j (data[j] ^^^ e)) ≠ Model.crc32c data :=
  model_crc32c_set_ne data hwf j hj _ (Nat.xor_lt_two_pow (n := 8) (hwf _ (List.getElem_mem hj)) he) fun h => by
    have := congrArg (data[j] ^^^ ·) h
    simp only [← Nat.xor_assoc, Nat.xor_self, Nat.zero_xor] at this
    omega

/-! ### CRC-16 -/

/-- two messages that differ in two adjacent bytes have different CRC-16/XMODEM, wherever the two stand and whatever
the length. -/
theorem crc16_adjacent_ne (P S : List (BitVec 8)) (a b a' b' : BitVec 8) (h : a ≠ a' ∨ b ≠ b') :
    Spec.crc16 (P ++ a :: b :: S) ≠ Spec.crc16 (P ++ a' :: b' :: S) := by
  intro he
  have := byte16_pair_inj (foldl_window byte16_inj P [a, b] [a', b'] S _ (by simpa [Spec.crc16] using he))
  rw [List.cons.injEq, List.cons.injEq] at this
  exact h.elim (· this.1) (· this.2.1)

/-- against the all-zero message: the CRC-16/XMODEM of a message that is zero except for two adjacent bytes, not both
zero, is not 0. -/
theorem crc16_pair_ne_zero (Z Z' : List (BitVec 8)) (hZ : ∀ x ∈ Z, x = 0#8) (hZ' : ∀ x ∈ Z', x = 0#8)
    (a b : BitVec 8) (h : a ≠ 0#8 ∨ b ≠ 0#8) : Spec.crc16 (Z ++ a :: b :: Z') ≠ 0#16 := by
  have hz : Spec.crc16 (Z ++ 0#8 :: 0#8 :: Z') = 0#16 := by
    rw [List.eq_replicate_iff.mpr ⟨rfl, List.forall_mem_append.mpr
      ⟨hZ, List.forall_mem_cons.mpr ⟨rfl, List.forall_mem_cons.mpr ⟨rfl, hZ'⟩⟩⟩⟩]
    exact CrcFramed.foldl_replicate_fixed (by decide) _
  exact hz ▸ crc16_adjacent_ne Z Z' a b 0#8 0#8 h

end TonVerif.Proofs.CrcFlip
