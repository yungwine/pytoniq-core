/-
C16 source tie, second part (tlb/transaction.py) — generation-independent lemmas, continuing Proofs/SrcTlb.lean.

`RefinesP P r c w` : whenever the SPEC decoder of `c` accepts a slice and the decoded value satisfies `P`, the reader `r`
returns the declared view `w` of the value and leaves the same rest.  `P = PT` (no condition) is `Refines`; `P = PV` is "no
`addr_var` address occurs in the value" (`Slice.load_address` has no `addr_var`).  `RefinesEP` is the value-only form for types
that close their cell (`Message Any`) and for everything parsed through a reference (the inner rest is dropped by the parser).

The combinators the translator emits have one lemma each: `RefinesP.optional` (`E if S.load_bit() else None` vs `Maybe X`),
`RefinesEP.viaRef` (`T.deserialize(S.load_ref().begin_parse())` vs `^X`), `RefinesEP.dict` (`S.load_dict(n, value_deserializer)` vs
`HashmapE n X`, by `dictWalk_sound`: the Patricia walk of Model/TlbRdTx.lean returns the entries of the decoded tree value, in
order).  A record with k optional fields is therefore ONE straight-line evaluation instead of 2^k cases (`TrActionPhase`: 3,
`trans_ord`: 4).
-/
import TonVerif.Proofs.SrcTlb
import TonVerif.Spec.Tlb.PyViewTx

namespace TonVerif.Tlb
open TonVerif

/-- no `addr_var` address inside the value -/
abbrev PV : Val → Prop := fun v => v.noVar = true

/-- the statement of C16 for a regenerated reader, with a condition on the value -/
theorem RefinesP.on_encoding {P r c w} (h : RefinesP P r c w) [hl : Lawful c] (v : Val) (f : Frag) (he : c.enc v = some f)
    (hp : P v) (k : Frag) : r (f ++ k) = some (w v, k) :=
  h _ _ _ (hl.law v f he k) hp

theorem RefinesP.keep {P r c w} (h : RefinesP P r c w) (s : Frag) (v : Val) (s' : Frag) :
    (c.dec s = some (v, s')) ↔ (Kept c s v s' ∧ (P v → r s = some (w v, s'))) :=
  ⟨fun hd => ⟨hd, h s v s' hd⟩, fun hd => hd.1⟩

/-! ### `Val.noVar` -/

theorem noVar_get (v : Val) (n : String) (h : v.noVar = true) : (v.get n).noVar = true := by
  cases v with
  | record fs =>
    simp only [Val.get]
    induction fs with
    | nil => simp [List.lookup, Val.noVar]
    | cons a fs ih =>
      obtain ⟨k, x⟩ := a
      simp only [Val.noVar, noVarFs, Bool.and_eq_true] at h
      simp only [List.lookup]
      split
      · simpa using h.1
      · exact ih (by simpa [Val.noVar] using h.2)
  | _ => simp [Val.get, Val.noVar]

theorem allVals_of_noVarFs : ∀ vs : List (String × Val), noVarFs vs = true → AllVals PV vs
  | [], _ => fun _ hp => nomatch hp
  | (_, v) :: r, h => by
    simp only [noVarFs, Bool.and_eq_true] at h
    intro p hp
    rcases List.mem_cons.1 hp with rfl | hp
    · exact h.1
    · exact allVals_of_noVarFs r h.2 p hp

/-- a record without `addr_var`: none in its fields -/
theorem Reads.recdV {ρ : Type} {fs : List Field} {s : Frag} {res : Option ρ} {Pv : Val → Frag → Option ρ → Prop}
    (h : Reads (decFields fs [] s) (AllVals PV) res (fun vs => Pv (.record vs))) : Reads ((Tlb.recd fs).dec s) PV res Pv :=
  recdQ (P := PV) (fun vs hp => allVals_of_noVarFs vs (by simpa only [PV, Val.noVar] using hp)) h

/-! ### primitives as `Refines` -/

theorem nonUnit_ref (c : Codec) (h : NonUnit c) : NonUnit (ref c) := by
  intro s v s' hd
  obtain ⟨_, b, r, _, _, h2, _⟩ := (ref_dec c s v s').1 hd
  exact h _ _ _ h2

/-! ### combinators -/

/-- `E if S.load_bit() else None` against `Maybe X` -/
theorem RefinesP.optional {P r c w} (h : RefinesP P r c w) (hn : NonUnit c) :
    RefinesP P (fun s => Rd.optional s r) (maybe c) (viewMaybe w) := by
  intro s v s' hd hp
  rcases (maybe_dec c s v s').1 hd with ⟨t, rs, rfl, rfl, rfl⟩ | ⟨t, rs, rfl, h2⟩
  · simp [Rd.optional, loadBit_cons, Rd.truthy, viewMaybe]
  · have hv := hn _ _ _ h2
    have := h _ _ _ h2 hp
    simp only [Rd.optional, loadBit_cons, Rd.truthy, if_true, this]
    cases v <;> simp_all [viewMaybe]

/-- `T.deserialize(S.load_ref().begin_parse())` against `^X` -/
theorem RefinesEP.viaRef {P} {r : Bool → Frag → Rd.R} {c w} (h : RefinesEP P (r false) c w) :
    RefinesP P (Rd.viaRef r) (ref c) w := by
  intro s v s' hd hp
  obtain ⟨bs, b, rr, more, rfl, h2, rfl⟩ := (ref_dec c s v s').1 hd
  obtain ⟨k, hk⟩ := h _ _ _ h2 hp
  simp [Rd.viaRef, loadRef_cons, Rd.special, Rd.beginParse, Cell.exotic, Cell.bits, Cell.refs, hk]

/-! ### dictionaries -/

theorem get_label (lv nv : Val) : (Val.record [("label", lv), ("node", nv)]).get "label" = lv := by
  simp [Val.get, List.lookup]
theorem get_node (lv nv : Val) : (Val.record [("label", lv), ("node", nv)]).get "node" = nv := by
  simp [Val.get, List.lookup]
theorem get_left (a b : Val) : (Val.record [("left", a), ("right", b)]).get "left" = a := by
  simp [Val.get, List.lookup]
theorem get_right (a b : Val) : (Val.record [("left", a), ("right", b)]).get "right" = b := by
  simp [Val.get, List.lookup]

/-- the Patricia walk of the reader returns the entries of the decoded tree value, in order -/
theorem dictWalk_sound (X : Codec) (Q : Val → Prop) (rd : Frag → Rd.R) (w : Val → Val)
    (hrd : ∀ s v, X.dec s = some (v, ⟨[], []⟩) → Q v → ∃ k, rd s = some (w v, k)) :
    ∀ fuel n pfx b r tv, (hashmapF X fuel n).dec ⟨b, r⟩ = some (tv, ⟨[], []⟩) →
      (∀ p ∈ flattenF id fuel n pfx tv, Q p.2) →
      Rd.dictWalk rd fuel n pfx (Cell.mk false b r) = some (flattenF w fuel n pfx tv) := by
  intro fuel
  induction fuel with
  | zero => intro n pfx b r tv h; simp [hashmapF, failC] at h
  | succ fuel ih =>
    intro n pfx b r tv h hq
    simp only [hashmapF, recd_dec, fld, dep, decFields_cons, decFields_nil] at h
    obtain ⟨vs, ⟨lv, s1, hl, vs', ⟨nv, s2, hn, vs'', ⟨rfl, rfl⟩, rfl⟩, rfl⟩, rfl⟩ := h
    have hget : Env.get [("label", lv)] "label" = lv := by simp [Env.get, List.lookup]
    rw [hget] at hn
    simp only [flattenF, get_label, get_node, id] at hq ⊢
    simp only [Rd.dictWalk, Cell.exotic, Bool.false_eq_true, if_false, Cell.bits, Cell.refs, hl]
    unfold hmNode at hn
    by_cases hle : labelLen lv ≤ n
    · simp only [hle, if_true] at hn
      by_cases hz : n - labelLen lv = 0
      · simp only [hz, if_true] at hn hq ⊢
        obtain ⟨k, hk⟩ := hrd _ _ hn (hq _ (List.mem_singleton.2 rfl))
        simp [hk]
      · simp only [hz, if_false] at hn hq ⊢
        simp only [recd_dec, fld, decFields_cons, decFields_nil, ref_dec] at hn
        obtain ⟨vs, ⟨a, s3, ⟨bs, b0, r0, more, rfl, ha, rfl⟩, vs', ⟨bb, s4, ⟨bs', b1, r1, more', hs, hb, rfl⟩, vs'', ⟨rfl, hnil⟩, rfl⟩, rfl⟩, rfl⟩ := hn
        simp only [Frag.mk.injEq] at hs hnil
        obtain ⟨rfl, rfl⟩ := hs
        simp only [get_left, get_right] at hq ⊢
        have h1 := ih _ (pfx ++ Rd.labelBitsOf lv ++ [false]) _ _ _ ha
          (fun p hp => hq p (List.mem_append.2 (Or.inl hp)))
        have h2 := ih _ (pfx ++ Rd.labelBitsOf lv ++ [true]) _ _ _ hb
          (fun p hp => hq p (List.mem_append.2 (Or.inr hp)))
        simp only [List.append_assoc] at h1 h2 ⊢
        simp [h1, h2]
    · simp [hle, failC] at hn

theorem noVar_flatten (fuel n : Nat) (pfx : Bits) (tv : Val) (h : tv.noVar = true) :
    ∀ p ∈ flattenF id fuel n pfx tv, p.2.noVar = true := by
  induction fuel generalizing n pfx tv with
  | zero => intro p hp; simp [flattenF] at hp
  | succ fuel ih =>
    intro p hp
    simp only [flattenF] at hp
    split at hp
    · simp only [List.mem_singleton] at hp
      subst hp
      exact noVar_get _ _ h
    · rcases List.mem_append.1 hp with hp | hp
      · exact ih _ _ _ (noVar_get _ _ (noVar_get _ _ h)) p hp
      · exact ih _ _ _ (noVar_get _ _ (noVar_get _ _ h)) p hp

/-- the leaves of a dictionary value satisfy `Q` -/
def DictLeaves (Q : Val → Prop) (n : Nat) : Val → Prop
  | .con "hme_root" t => ∀ p ∈ flattenF id (n + 1) n [] t, Q p.2
  | _ => True

/-- `S.load_dict(n, value_deserializer=rd)` against `HashmapE n X` -/
theorem RefinesEP.dict {Q rd X w} (h : RefinesEP Q rd X w) (n : Nat) :
    RefinesP (DictLeaves Q n) (Rd.loadDict n rd) (hashmapE n X) (viewDict w n) := by
  intro s v s' hd hp
  obtain ⟨bits, refs⟩ := s
  simp only [hashmapE, tagged_dec, decAlts_cons, decAlts_nil, nothing_dec, ref_dec, hashmap, withGen_dec] at hd
  obtain ⟨_, hd⟩ := hd
  rcases hd with ⟨t, rs, hs, x, ⟨rfl, rfl⟩, rfl⟩ | ⟨_, ⟨t, rs, hs, x, ⟨bs, b, r, more, hs2, hx, rfl⟩, rfl⟩ | ⟨_, hf⟩⟩
  rotate_left 2
  · exact hf.elim
  · simp only [Frag.mk.injEq] at hs
    obtain ⟨rfl, rfl⟩ := hs
    simp [Rd.loadDict, loadBit_cons, Rd.truthy, viewDict]
  · simp only [Frag.mk.injEq] at hs hs2
    obtain ⟨rfl, rfl⟩ := hs
    obtain ⟨rfl, rfl⟩ := hs2
    have := dictWalk_sound X Q rd w (fun s v hd hq => h s v _ hd hq) (n + 1) n [] b r x hx hp
    simp [Rd.loadDict, loadBit_cons, Rd.truthy, loadRef_cons, Cell.exotic, this, viewDict]

theorem dictLeaves_of_noVar (n : Nat) (v : Val) (h : v.noVar = true) : DictLeaves PV n v := by
  unfold DictLeaves
  split
  · rename_i t
    simp only [Val.noVar, Bool.and_eq_true] at h
    exact noVar_flatten _ _ _ _ h.2
  · trivial

theorem RefinesEP.dictV {rd X w} (h : RefinesEP PV rd X w) (n : Nat) :
    RefinesP PV (Rd.loadDict n rd) (hashmapE n X) (viewDict w n) :=
  (h.dict n).mono (dictLeaves_of_noVar n)

theorem RefinesEP.dictT {rd X w} (h : RefinesEP PT rd X w) (n : Nat) :
    RefinesP PT (Rd.loadDict n rd) (hashmapE n X) (viewDict w n) :=
  (h.dict n).mono (fun v _ => by unfold DictLeaves; split <;> simp)

/-! ### more structure lemmas -/

/-- an inline `^[ … ]` group (the parser binds the referenced cell to a slice of its own and goes on reading it) -/
theorem ref_recd_dec (fs : List Field) (s : Frag) (v : Val) (s' : Frag) :
    (ref (recd fs)).dec s = some (v, s') ↔
      ∃ bs b r more, s = ⟨bs, Cell.mk false b r :: more⟩ ∧ (recd fs).dec ⟨b, r⟩ = some (v, ⟨[], []⟩) ∧ s' = ⟨bs, more⟩ :=
  ref_dec (recd fs) s v s'

theorem either_dec (a b : Codec) (s : Frag) (v : Val) (s' : Frag) :
    (either a b).dec s = some (v, s') ↔
      (∃ r rs, s = ⟨false :: r, rs⟩ ∧ ∃ x, a.dec ⟨r, rs⟩ = some (x, s') ∧ v = .con "left" x) ∨
      (∃ r rs, s = ⟨true :: r, rs⟩ ∧ ∃ x, b.dec ⟨r, rs⟩ = some (x, s') ∧ v = .con "right" x) := by
  obtain ⟨bits, refs⟩ := s
  simp only [either]
  constructor
  · intro h
    split at h
    · cases h
    · rename_i r
      simp only [Option.map_eq_some_iff] at h
      obtain ⟨⟨x, s2⟩, h1, h2⟩ := h
      simp only [Option.some.injEq, Prod.mk.injEq] at h2
      exact Or.inl ⟨r, refs, rfl, x, by rw [h1, h2.2], h2.1.symm⟩
    · rename_i r
      simp only [Option.map_eq_some_iff] at h
      obtain ⟨⟨x, s2⟩, h1, h2⟩ := h
      simp only [Option.some.injEq, Prod.mk.injEq] at h2
      exact Or.inr ⟨r, refs, rfl, x, by rw [h1, h2.2], h2.1.symm⟩
  · rintro (⟨r, rs, hb, x, h, rfl⟩ | ⟨r, rs, hb, x, h, rfl⟩)
    · cases hb; simp [h]
    · cases hb; simp [h]

/-- `Any` : the rest of the slice, as a cell -/
theorem rest_dec (s : Frag) (v : Val) (s' : Frag) :
    rest.dec s = some (v, s') ↔ v = .cell (.mk false s.bits s.refs) ∧ s' = ⟨[], []⟩ := by
  simp only [rest, Option.some.injEq, Prod.mk.injEq, Frag.nil]
  constructor <;> (rintro ⟨a, b⟩; exact ⟨a.symm, b.symm⟩)

/-- `^Any` : a body by reference -/
theorem ref_rest_dec (s : Frag) (v : Val) (s' : Frag) :
    (ref rest).dec s = some (v, s') ↔
      ∃ bs b r more, s = ⟨bs, Cell.mk false b r :: more⟩ ∧ v = .cell (.mk false b r) ∧ s' = ⟨bs, more⟩ := by
  rw [ref_dec]
  constructor
  · rintro ⟨bs, b, r, more, rfl, h, rfl⟩
    exact ⟨bs, b, r, more, rfl, ((rest_dec _ _ _).1 h).1, rfl⟩
  · rintro ⟨bs, b, r, more, rfl, rfl, rfl⟩
    exact ⟨bs, b, r, more, rfl, (rest_dec _ _ _).2 ⟨rfl, rfl⟩, rfl⟩

theorem nonUnit_either (a b : Codec) : NonUnit (either a b) := by
  intro s v s' hd
  rcases (either_dec a b s v s').1 hd with ⟨_, _, _, x, _, rfl⟩ | ⟨_, _, _, x, _, rfl⟩ <;> simp

theorem noVar_unit : Val.noVar .unit = true := by simp [Val.noVar]

/-! ### the combinator lemmas in the iff form `simp` rewrites with -/

/-- `Maybe X` read by `Rd.optional s r` -/
theorem optK {r c w} (h : Refines r c w) (hn : NonUnit c) (s : Frag) (v : Val) (s' : Frag) :
    ((maybe c).dec s = some (v, s')) ↔ (Kept (maybe c) s v s' ∧ Rd.optional s r = some (viewMaybe w v, s')) :=
  ⟨fun hd => ⟨hd, ((h.toP PT).optional hn) s v s' hd trivial⟩, fun hd => hd.1⟩

theorem optKP {P r c w} (h : RefinesP P r c w) (hn : NonUnit c) (s : Frag) (v : Val) (s' : Frag) :
    ((maybe c).dec s = some (v, s')) ↔ (Kept (maybe c) s v s' ∧ (P v → Rd.optional s r = some (viewMaybe w v, s'))) :=
  ⟨fun hd => ⟨hd, (h.optional hn) s v s' hd⟩, fun hd => hd.1⟩

/-- `^X` read by `Rd.viaRef r` -/
theorem refK {r : Bool → Frag → Rd.R} {c w} (h : Refines (r false) c w) (s : Frag) (v : Val) (s' : Frag) :
    ((ref c).dec s = some (v, s')) ↔ (Kept (ref c) s v s' ∧ Rd.viaRef r s = some (w v, s')) :=
  ⟨fun hd => ⟨hd, ((h.toP PT).toE.viaRef) s v s' hd trivial⟩, fun hd => hd.1⟩

theorem refKP {P} {r : Bool → Frag → Rd.R} {c w} (h : RefinesEP P (r false) c w) (s : Frag) (v : Val) (s' : Frag) :
    ((ref c).dec s = some (v, s')) ↔ (Kept (ref c) s v s' ∧ (P v → Rd.viaRef r s = some (w v, s'))) :=
  ⟨fun hd => ⟨hd, h.viaRef s v s' hd⟩, fun hd => hd.1⟩

/-- `^X` under a `Maybe` that the parser tests statement by statement: also `viewMaybe w' v = w' v` -/
theorem refKPM {P} {r : Bool → Frag → Rd.R} {c w} (h : RefinesEP P (r false) c w) (hn : NonUnit c) (s : Frag) (v : Val)
    (s' : Frag) :
    ((ref c).dec s = some (v, s')) ↔
      (Kept (ref c) s v s' ∧ (P v → Rd.viaRef r s = some (w v, s')) ∧ ∀ w', viewMaybe w' v = w' v) := by
  refine ⟨fun hd => ⟨hd, h.viaRef s v s' hd, fun w' => ?_⟩, fun hd => hd.1⟩
  have := nonUnit_ref c hn s v s' hd
  cases v <;> simp_all [viewMaybe]

/-- `Maybe ^X` read by `Rd.optional s (Rd.viaRef r)` -/
theorem optRefK {r : Bool → Frag → Rd.R} {c w} (h : Refines (r false) c w) (hn : NonUnit c) (s : Frag) (v : Val) (s' : Frag) :
    ((maybe (ref c)).dec s = some (v, s')) ↔
      (Kept (maybe (ref c)) s v s' ∧ Rd.optional s (Rd.viaRef r) = some (viewMaybe w v, s')) :=
  ⟨fun hd => ⟨hd, (((h.toP PT).toE.viaRef).optional (nonUnit_ref c hn)) s v s' hd trivial⟩, fun hd => hd.1⟩

/-- `HashmapE n X` read by `Rd.loadDict n rd` -/
theorem dictK {rd X w} (h : Refines rd X w) (n : Nat) (s : Frag) (v : Val) (s' : Frag) :
    ((hashmapE n X).dec s = some (v, s')) ↔ (Kept (hashmapE n X) s v s' ∧ Rd.loadDict n rd s = some (viewDict w n v, s')) :=
  ⟨fun hd => ⟨hd, ((h.toP PT).toE.dictT n) s v s' hd trivial⟩, fun hd => hd.1⟩

theorem dictKV {rd X w} (h : RefinesEP PV rd X w) (n : Nat) (s : Frag) (v : Val) (s' : Frag) :
    ((hashmapE n X).dec s = some (v, s')) ↔
      (Kept (hashmapE n X) s v s' ∧ (v.noVar = true → Rd.loadDict n rd s = some (viewDict w n v, s'))) :=
  ⟨fun hd => ⟨hd, (h.dictV n) s v s' hd⟩, fun hd => hd.1⟩

/-- a nested type with a plain theorem, inside a value with a condition -/
theorem Refines.keepV {r c w} (h : Refines r c w) (s : Frag) (v : Val) (s' : Frag) :
    (c.dec s = some (v, s')) ↔ (Kept c s v s' ∧ r s = some (w v, s')) := h.keep s v s'

/-- a nested type whose theorem needs "no addr_var" -/
theorem RefinesP.keepV {r c w} (h : RefinesP PV r c w) (s : Frag) (v : Val) (s' : Frag) :
    (c.dec s = some (v, s')) ↔ (Kept c s v s' ∧ (v.noVar = true → r s = some (w v, s'))) := h.keep s v s'

/-- the two shapes of a `HashmapE` value -/
theorem hashmapE_shape (n : Nat) (X : Codec) (s : Frag) (v : Val) (s' : Frag) (h : (hashmapE n X).dec s = some (v, s')) :
    v = .con "hme_empty" .unit ∨ ∃ t, v = .con "hme_root" t := by
  obtain ⟨bits, refs⟩ := s
  simp only [hashmapE, tagged_dec, decAlts_cons, decAlts_nil, nothing_dec] at h
  rcases h.2 with ⟨_, _, _, x, ⟨rfl, _⟩, rfl⟩ | ⟨_, ⟨_, _, _, x, _, rfl⟩ | ⟨_, hf⟩⟩
  · exact Or.inl rfl
  · exact Or.inr ⟨x, rfl⟩
  · exact hf.elim

/-- `HashmapE n X` read by `Rd.loadDict n rd`, with the shape of the value (for parsers that test the result for `None`) -/
theorem dictKVS {rd X w} (h : RefinesEP PV rd X w) (n : Nat) (s : Frag) (v : Val) (s' : Frag) :
    ((hashmapE n X).dec s = some (v, s')) ↔
      (Kept (hashmapE n X) s v s' ∧ (v.noVar = true → Rd.loadDict n rd s = some (viewDict w n v, s')) ∧
        (v = .con "hme_empty" .unit ∨ ∃ t, v = .con "hme_root" t)) :=
  ⟨fun hd => ⟨hd, (h.dictV n) s v s' hd, hashmapE_shape n X s v s' hd⟩, fun hd => hd.1⟩

theorem dictValuesSorted_dict (kv : List (Bits × Val)) : Rd.dictValuesSorted (Rd.dict kv) = some (Rd.list (kv.map (·.2))) := by
  simp [Rd.dictValuesSorted, Rd.dict, Rd.list, List.map_map, Function.comp_def]

/-- the same with `Rd.dict` unfolded -/
theorem dictValuesSorted_con (f : Bits × Val → String) (kv : List (Bits × Val)) :
    Rd.dictValuesSorted (Val.con "dict" (Val.record (List.map (fun p : Bits × Val => (f p, p.2)) kv))) =
      some (Rd.list (kv.map (·.2))) := by
  simp [Rd.dictValuesSorted, Rd.list, List.map_map, Function.comp_def]

theorem veq_dict_unit (kv : List (Bits × Val)) : Rd.veq (Rd.dict kv) .unit = false := by
  simp [Rd.veq, Rd.dict]

/-! ### tactic -/

/-- the whole decoding fact rewritten in one pass, records included (for the few proofs that name every component by hand) -/
macro "tx_struct" "[" ds:Lean.Parser.Tactic.simpLemma,* "]" : tactic =>
  `(tactic| simp only [$ds,*, fld, dep, bits256, typ_dec, withGen_dec, withPaths_dec, uintRange_dec, uintLe, uintLt,
      recd_dec, decFields_cons, decFields_nil, ctag_dec, tagged_dec, decAlts_cons, decAlts_nil, named_dec,
      constrained_dec, ref_recd_dec, nothing_dec, cellRef_dec, uint1_dec, vBetween_iff, ite_dec, bitLen_60, bitLen_96, bitLen_30,
      forall_exists_index, and_imp, or_imp, false_imp_iff, imp_true_iff, and_true, true_and, Frag.mk.injEq, tag, natToBits,
      List.cons_append, List.nil_append, List.append_assoc, Nat.reduceDiv, Nat.reduceMod, Nat.reduceBEq, Nat.reduceBNe,
      Nat.le_zero_eq, Nat.zero_le, ↓reduceIte, if_true, if_false, Nat.reduceEqDiff, Nat.succ_ne_zero, ne_eq,
      not_false_eq_true, not_true_eq_false])

theorem veq_bits (a b : Bits) : Rd.veq (.bits a) (.bits b) = (a == b) := rfl
theorem veq_unit_unit : Rd.veq .unit .unit = true := rfl

/-- `tlb_eval` with `Rd.veq` kept folded except on bit strings / `None` (for parsers that test a dict for `None`) -/
macro "tx_eval_dict" "[" ds:Lean.Parser.Tactic.simpLemma,* "]" : tactic =>
  `(tactic| (try simp (config := {decide := true}) only [$ds,*, Frag.mk.injEq, uint_keep, sint_keep, bitsC_keep, boolC_keep, grams_keep,
      and_imp, ne_eq, not_false_eq_true, true_and, Nat.reduceMod, Nat.reduceDiv, forall_const] at *
             simp (config := {decide := true, implicitDefEqProofs := false}) only [*, Val.get, List.lookup, Rd.truthy, Rd.obj, Rd.str, loadRefV_cons,
      Rd.beginParse, Rd.special, Cell.bits, Cell.refs, Cell.exotic, veq_bits, veq_unit_unit, veq_dict_unit, dictValuesSorted_dict,
      Rd.bits01, loadBits_cons, loadBytes_cons, takeBits_zero, takeBits_succ, loadBit_cons, loadBool_cons, loadRef_cons,
      viewMaybe_unit, bit_ne_zero, Option.bind_eq_bind, ↓Option.bind_some, Option.pure_def, Option.map_some, Option.getD_some,
      String.reduceBEq, ↓reduceIte, Int.reduceBNe, Int.reduceBEq, Bool.false_eq_true, Bool.true_eq_false, Bool.not_true,
      Bool.not_false, beq_iff_eq]))

/-- `RefinesP P (SrcTx.T false) T view_T` : `tx_refine [T, SrcTx.T, view_T, (…).keep, …]`.  Optional fields and references are
    read by combinators (`Rd.optional`, `Rd.viaRef`) whose lemmas are given per class; a class that reads a Maybe bit / a
    reference statement by statement adds `maybe_dec` / `ref_dec` itself. -/
macro "tx_refine" "[" ds:Lean.Parser.Tactic.simpLemma,* "]" : tactic =>
  `(tactic| (tlb_decompose [$ds,*, ref_recd_dec]
             all_goals tlb_eval [$ds,*, viewMaybe_id, Val.noVar, noVarFs, Bool.and_eq_true, noVar_unit, PT, PV]))

end TonVerif.Tlb
