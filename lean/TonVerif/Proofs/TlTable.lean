/-
The generated TL table (all bundled constructors) satisfies the id and well-formedness conditions. Both are finite
facts about the table, settled by kernel evaluation of checkers that are proved correct for every table: every
constructor id is the id of its declaration text (CRC-32 / explicit); `ctorOK` of every constructor (id below 2^32, flag
variables well placed, the lookup by its id finds its name and arguments), with the lookup made in residue classes
(TlBare). The proofs mention the table only through `ctors`, `chunks` and `table`. For the ids the CRC is folded over the
stored words instead of the unpacked bytes.
-/
import TonVerif.Proofs.Tl
import TonVerif.Generated.TlTable
import TonVerif.Proofs.TlBare

namespace TonVerif.Proofs.TlTable
open TonVerif TonVerif.Spec.Tl TonVerif.Proofs.Tl TonVerif.Generated.Tl

/-- `crcStep` without a branch: the kernel computes `Nat.xor`, `Nat.div`, `Nat.mod`, `Nat.mul` on literals in one
step each, whereas the `if` of `crcStep` makes it unfold a `Decidable` instance at every bit. -/
def crcStepK (c : Nat) : Nat := Nat.xor (Nat.div c 2) (Nat.mul (Nat.mod c 2) 0xEDB88320)

theorem crcStepK_eq (c : Nat) : crcStepK c = crcStep c := by
  show c / 2 ^^^ c % 2 * 0xEDB88320 = crcStep c
  unfold crcStep
  rcases Nat.mod_two_eq_zero_or_one c with h | h <;> simp [h]

def crcByteK (c b : Nat) : Nat :=
  crcStepK (crcStepK (crcStepK (crcStepK (crcStepK (crcStepK (crcStepK (crcStepK (Nat.xor c b))))))))

theorem crcByteK_eq (c b : Nat) : crcByteK c b = crcByte c b := by
  simp only [crcByteK, crcStepK_eq]
  rfl

def force {α} (x : Nat) (k : Nat → α) : α :=
  match x with
  | 0 => k 0
  | n + 1 => k (n + 1)

theorem force_eq {α} (x : Nat) (k : Nat → α) : force x k = k x := by
  cases x <;> rfl

/-- the CRC fold with the accumulator forced at every byte (the kernel evaluates `List.foldl` lazily and
would otherwise build a chain as deep as the text is long). -/
def crcGo : Nat → Bytes → Nat
  | c, [] => c
  | c, b :: bs => force (crcByteK c b) (fun c' => crcGo c' bs)

theorem crcGo_eq (c : Nat) (bs : Bytes) : crcGo c bs = bs.foldl crcByte c := by
  induction bs generalizing c with
  | nil => rfl
  | cons b bs ih => rw [crcGo, force_eq, List.foldl_cons, ih, crcByteK_eq]

/-- `35 ∈ decl.takeWhile (· ≠ 32)`: a `#` before the first space. -/
def hasHash : Bytes → Bool
  | [] => false
  | b :: bs => !Nat.beq b 32 && (Nat.beq b 35 || hasHash bs)

theorem hasHash_iff (decl : Bytes) : hasHash decl = true ↔ 35 ∈ decl.takeWhile (· ≠ 32) := by
  induction decl with
  | nil => simp [hasHash]
  | cons b bs ih =>
    by_cases h : b = 32
    · simp [hasHash, h]
    · have h32 : Nat.beq b 32 = false := Bool.eq_false_iff.mpr (fun e => h (Nat.eq_of_beq_eq_true e))
      simp [hasHash, h, h32, ih, @eq_comm _ 35]

def tlIdK (decl : Bytes) : Nat :=
  if hasHash decl then (hexNumber? (((decl.takeWhile (· ≠ 32)).dropWhile (· ≠ 35)).drop 1)).getD 0
  else Nat.xor (crcGo 0xFFFFFFFF decl) 0xFFFFFFFF

theorem tlIdK_eq (decl : Bytes) : tlIdK decl = tlId decl := by
  unfold tlIdK tlId crc32
  simp only [hasHash_iff, crcGo_eq]
  rfl

/-- `unpackLE` with the eight bytes of a full word written out: one recursion step per word, no `++`, no `take`
except on the last word. -/
def unpackK : Nat → List Nat → Bytes
  | _, [] => []
  | n, w :: ws =>
    if Nat.ble 8 n then
      Nat.mod w 256 :: Nat.mod (Nat.div w 0x100) 256 :: Nat.mod (Nat.div w 0x10000) 256 ::
      Nat.mod (Nat.div w 0x1000000) 256 :: Nat.mod (Nat.div w 0x100000000) 256 ::
      Nat.mod (Nat.div w 0x10000000000) 256 :: Nat.mod (Nat.div w 0x1000000000000) 256 ::
      Nat.mod (Nat.div w 0x100000000000000) 256 :: unpackK (n - 8) ws
    else (wordBytes w).take n

theorem unpackLE_eq (n : Nat) (ws : List Nat) : unpackLE n ws = unpackK n ws := by
  induction ws generalizing n with
  | nil => simp [unpackK, unpackLE]
  | cons w ws ih =>
    have h8 : (wordBytes w).length = 8 := rfl
    rw [unpackK, ← ih, unpackLE, unpackLE, List.flatMap_cons, List.take_append, h8]
    by_cases h : 8 ≤ n
    · rw [if_pos (Nat.ble_eq_true_of_le h), List.take_of_length_le (h8 ▸ h)]
      rfl
    · rw [if_neg (fun hb => h (Nat.le_of_ble_eq_true hb)), Nat.sub_eq_zero_of_le (Nat.le_of_not_le h), List.take_zero,
        List.append_nil]

def crcWordK (c w : Nat) : Nat :=
  crcByteK (crcByteK (crcByteK (crcByteK (crcByteK (crcByteK (crcByteK (crcByteK c
    (Nat.mod w 256)) (Nat.mod (Nat.div w 0x100) 256)) (Nat.mod (Nat.div w 0x10000) 256))
    (Nat.mod (Nat.div w 0x1000000) 256)) (Nat.mod (Nat.div w 0x100000000) 256))
    (Nat.mod (Nat.div w 0x10000000000) 256)) (Nat.mod (Nat.div w 0x1000000000000) 256))
    (Nat.mod (Nat.div w 0x100000000000000) 256)

/-- `crcGo c (unpackK n ws)` without the list of bytes. -/
def crcWords : Nat → Nat → List Nat → Nat
  | c, _, [] => c
  | c, n, w :: ws => if Nat.ble 8 n then force (crcWordK c w) (fun c' => crcWords c' (n - 8) ws) else crcGo c ((wordBytes w).take n)

theorem crcWords_eq (c n : Nat) (ws : List Nat) : crcWords c n ws = crcGo c (unpackK n ws) := by
  induction ws generalizing c n with
  | nil => rfl
  | cons w ws ih =>
    rw [crcWords, unpackK]
    split
    · simp only [force_eq, ih, crcGo, crcWordK]
    · rfl

def tlIdW (n : Nat) (ws : List Nat) : Nat :=
  if hasHash (unpackK n ws) then tlIdK (unpackK n ws) else Nat.xor (crcWords 0xFFFFFFFF n ws) 0xFFFFFFFF

theorem tlIdK_unpackLE (n : Nat) (ws : List Nat) : tlIdK (unpackLE n ws) = tlIdW n ws := by
  rw [unpackLE_eq, tlIdW, crcWords_eq, tlIdK]
  split <;> rfl

def idOK (c : Ctor) : Bool := Nat.beq c.id (tlIdK c.decl)

theorem idOK_mk (nm cl i : Nat) (args : List Arg) (n : Nat) (ws : List Nat) :
    idOK ⟨nm, cl, i, args, unpackLE n ws⟩ = Nat.beq i (tlIdW n ws) := by
  rw [idOK, tlIdK_unpackLE]

/-- The declaration texts are stored as `unpackLE len words`, and most of the kernel's work on them would be unfolding
`unpackLE` and walking the bytes; so the sweep is first rewritten, constructor by constructor, to the CRC over the words
(`idOK_mk`; `idOK` keeps the kernel from evaluating the unrewritten side when it checks the rewriting). To reach the
constructor literals, the list argument of every `List.all ch idOK` (`ch` one of the entries of `chunks`, whatever
they are called and however many there are) is put in weak head normal form, which unfolds it to its literal. -/
theorem ids_eval : ctors.all idOK = true := by
  simp only [ctors, chunks, List.all_flatten, List.all_cons, List.all_nil]
  conv =>
    pattern (occs := *) List.all _ idOK
    all_goals (arg 1; whnf)
  simp only [List.all_cons, List.all_nil, idOK_mk]
  decide +kernel

/-- every constructor id in the generated table is the id of its declaration text. -/
theorem table_ids : ∀ c ∈ ctors, c.id = tlId c.decl := by
  intro c hc
  rw [← tlIdK_eq]
  exact Nat.eq_of_beq_eq_true (List.all_eq_true.mp ids_eval c hc)

/-- `ctorOK` with the lookup by id as a parameter. -/
def ctorOKBy (T : Table) (look : Nat → Option Ctor) (c : Ctor) : Bool :=
  decide (c.id < 2 ^ 32) && condOK T [] c.args &&
    (match look c.id with
      | some c' => c'.name == c.name && c'.args == c.args
      | none => false)

theorem ctorOKBy_eq (T : Table) (look : Nat → Option Ctor) (h : ∀ n, look n = T.byId n) (c : Ctor) :
    ctorOKBy T look c = ctorOK T c := by
  simp only [ctorOKBy, ctorOK, h]
  rfl

/-- 32 classes: building them costs `k` passes over the table, searching them `824 / k` comparisons per constructor. -/
theorem ok_eval : ctors.all (ctorOKBy table (TlBare.lookBy (·.id) (TlBare.buckets (·.id) 32 table) 32)) = true := by
  decide +kernel

/-- the generated table satisfies the conditions of the round-trip theorem. -/
theorem table_ok : TableOK table := fun c hc =>
  ctorOKBy_eq table _ (TlBare.lookBy_eq _ table (k := 32) (by decide)) c ▸ List.all_eq_true.mp ok_eval c hc

end TonVerif.Proofs.TlTable
