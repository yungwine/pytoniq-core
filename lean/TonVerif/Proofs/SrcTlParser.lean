/-
The regenerated TL PARSER (Generated/TlEngine.lean: `deserialize`, `deserialize_loop1/2/3`, `deserialize_rest1`, knot `deserializeF`;
from `TlSchemas.deserialize` of pytoniq_core/tl/generator.py by harness/translate/tlengine.py) equals the hand model
`Model.Tl.deserObj` (`deserBody` / `deserArg` / `deserOne` / `autoParse` / `autoLoop`), for ALL byte strings, depth budgets, loop budgets
and every schema table whose argument lists have distinct field names (`ArgsOK`: `schema.args` is a Python dict).
-/
import TonVerif.Generated.TlEngine
import TonVerif.Model.Tl
import TonVerif.Proofs.SrcTlEngine

set_option linter.unusedSimpArgs false
set_option linter.unusedVariables false
namespace TonVerif.Proofs.SrcTlParser
open TonVerif TonVerif.Spec.Tl TonVerif.Model.Tl TonVerif.Py.Tl TonVerif.Generated.TlEngine

/-! ### built-ins -/

theorem slice_add (d : Bytes) (i k : Nat) : Py.slice d i (i + k) = (d.drop i).take k := by
  simp [Py.slice, List.drop_take]

theorem slice_add2 (d : Bytes) (i j n : Nat) : Py.slice d (i + j) (i + n) = ((d.drop i).take n).drop j := by
  simp [Py.slice, List.drop_take, List.drop_drop]
  congr 1 <;> omega

theorem intOfBytes_unsigned (bs : Bytes) : (Py.Tl.intOfBytes false true bs).toNat = natOfLE bs := by
  simp [Py.Tl.intOfBytes]

theorem intOfBytes_unsigned' (bs : Bytes) : Py.Tl.intOfBytes false true bs = (natOfLE bs : Int) := by
  simp [Py.Tl.intOfBytes]

theorem intOfBytes_signed (bs : Bytes) : Py.Tl.intOfBytes true true bs = intOfLE bs := by
  unfold Py.Tl.intOfBytes intOfLE
  by_cases h : bs.length ≠ 0 ∧ 2 ^ (8 * bs.length - 1) ≤ natOfLE bs <;> simp [h]

theorem ite_some_add (c : Prop) [Decidable c] (x p : Nat) :
    (if c then some x else some (x + p)) = some (x + if c then 0 else p) := by
  split <;> rfl

/-! ### `bin(m)...[::-1]` against the model's bit test -/

theorem digits_spec : ∀ (f n : Nat), n < f →
    (binDigitsRev f n).length = (if n = 0 then 1 else n.log2 + 1) ∧
    ∀ idx, idx < (binDigitsRev f n).length → (binDigitsRev f n)[idx]? = some (48 + if n.testBit idx then 1 else 0)
  | 0, n, h => by omega
  | f + 1, n, h => by
    by_cases h0 : n / 2 = 0
    · have hn : n = 0 ∨ n = 1 := by omega
      rcases hn with rfl | rfl
      · refine ⟨by simp [binDigitsRev], fun idx hi => ?_⟩
        simp [binDigitsRev] at hi ⊢
        subst hi; simp
      · refine ⟨by simp [binDigitsRev, Nat.log2_def 1], fun idx hi => ?_⟩
        simp [binDigitsRev] at hi ⊢
        subst hi; simp
    · have ih := digits_spec f (n / 2) (by omega)
      have hn0 : n ≠ 0 := by omega
      have hlog : n.log2 = (n / 2).log2 + 1 := by
        rw [Nat.log2_def n]; simp [show 2 ≤ n by omega]
      refine ⟨?_, fun idx hi => ?_⟩
      · simp [binDigitsRev, h0, ih.1, hn0, hlog]
      · simp only [binDigitsRev, h0, if_false, List.length_cons] at hi ⊢
        cases idx with
        | zero => simp [Nat.testBit_zero]; rcases Nat.mod_two_eq_zero_or_one n with h2 | h2 <;> simp [h2]
        | succ j =>
          simp only [List.getElem?_cons_succ]
          rw [ih.2 j (by omega)]
          simp [Nat.testBit_succ]

theorem testBit_of_log2_lt (n idx : Nat) (h : n.log2 + 1 ≤ idx) : n.testBit idx = false :=
  Nat.testBit_lt_two_pow (Nat.lt_of_lt_of_le Nat.lt_log2_self (Nat.pow_le_pow_right (by omega) h))

theorem mask_spec (m : Int) (idx : Nat) :
    (if idx ≥ (binRev m).length then false else decide ((binRev m)[idx]? ≠ some 48)) = maskBit m idx := by
  obtain ⟨hl, hd⟩ := digits_spec (m.natAbs + 1) m.natAbs (by omega)
  unfold binRev maskBit
  by_cases hm : 0 ≤ m
  · have hneg : ¬ m < 0 := by omega
    have hto : m.toNat = m.natAbs := by omega
    simp only [hneg, if_false, List.append_nil, hm, if_true, hto]
    by_cases hi : idx < (binDigitsRev (m.natAbs + 1) m.natAbs).length
    · have : ¬ idx ≥ (binDigitsRev (m.natAbs + 1) m.natAbs).length := by omega
      simp only [this, if_false, hd idx hi]
      cases m.natAbs.testBit idx <;> simp
    · have hge : idx ≥ (binDigitsRev (m.natAbs + 1) m.natAbs).length := by omega
      simp only [hge, if_true]
      symm
      by_cases h0 : m.natAbs = 0
      · simp [h0]
      · rw [hl] at hge
        simp only [h0, if_false] at hge
        exact testBit_of_log2_lt _ _ hge
  · have hneg : m < 0 := by omega
    have h0 : m.natAbs ≠ 0 := by omega
    have hl' : (binDigitsRev (m.natAbs + 1) m.natAbs).length = m.natAbs.log2 + 1 := by rw [hl]; simp [h0]
    simp only [hneg, if_true, hm, if_false, List.length_append, List.length_singleton, hl']
    rw [hl'] at hd
    by_cases hi : idx < m.natAbs.log2 + 1
    · have : ¬ idx ≥ m.natAbs.log2 + 1 + 1 := by omega
      have hne : (idx == m.natAbs.log2 + 1) = false := by simp; omega
      simp only [this, if_false, hne, Bool.or_false]
      rw [List.getElem?_append_left (by rw [hl']; exact hi), hd idx hi]
      cases m.natAbs.testBit idx <;> simp
    · have htb := testBit_of_log2_lt m.natAbs idx (by omega)
      by_cases he : idx = m.natAbs.log2 + 1
      · subst he
        rw [List.getElem?_append_right (by rw [hl']; exact Nat.le_refl _)]
        simp [htb, hl']
      · have : idx ≥ m.natAbs.log2 + 1 + 1 := by omega
        have hne : (idx == m.natAbs.log2 + 1) = false := by simp; omega
        simp [this, htb, hne]

/-! ### dict stores -/

/-- a store to a key that the front part does not hold acts on the rest -/
theorem setField_append (fs gs : Fields) (k : Nat) (v : Val) (h : fs.lookup k = none) :
    setField (fs ++ gs) k v = fs ++ setField gs k v := by
  induction fs with
  | nil => rfl
  | cons p fs ih =>
    obtain ⟨k', v'⟩ := p
    rw [List.lookup_cons] at h
    cases hk : k == k' with
    | true => simp [hk] at h
    | false =>
      have hk' : (k' == k) = false := by rwa [BEq.comm]
      simp [setField, hk', ih (by simpa [hk] using h)]

theorem setField_new (fs : Fields) (k : Nat) (v : Val) (h : fs.lookup k = none) : setField fs k v = fs ++ [(k, v)] := by
  simpa [setField] using setField_append fs [] k v h

theorem setField_last (fs : Fields) (k : Nat) (v v' : Val) (h : fs.lookup k = none) :
    setField (fs ++ [(k, v)]) k v' = fs ++ [(k, v')] := by
  simpa [setField] using setField_append fs [(k, v)] k v' h

theorem lookup_last (fs : Fields) (k : Nat) (v : Val) (h : fs.lookup k = none) : (fs ++ [(k, v)]).lookup k = some v := by
  simp [List.lookup_append, h, List.lookup]

theorem lookup_append_ne (fs : Fields) (k k' : Nat) (v : Val) (hk : k ≠ k') : (fs ++ [(k', v)]).lookup k = fs.lookup k := by
  simp [List.lookup_append, List.lookup, beq_false_of_ne hk]

/-! ### one field -/

/-- what the model's result for one field means for the loop state `(i, result)` of the code -/
def stepRes (i : Nat) (ty : Option Nat) (acc : Fields) (k : Nat) : Option (Option Val × Nat) → Option (Nat × Val)
  | none => none
  | some (some v, j) => some (i + j, .obj ty (acc ++ [(k, v)]))
  | some (none, j) => some (i + j, .obj ty acc)

abbrev RecG := Bytes → Bool → Option (List Arg) → Option (Val × Nat)
abbrev RecM := Bytes → Option (List Arg) → Option (Val × Nat)

theorem rest1_fixed (T : Table) (rg rp : RecG) (L : Nat) (auto : Bool) (data : Bytes) (k i : Nat) (ty : Option Nat) (acc : Fields)
    (schema : Option Ctor) (e : ETy) (hk : acc.lookup k = none)
    (he : e = .int ∨ e = .long ∨ e = .nat ∨ e = .int128 ∨ e = .int256 ∨ e = .bool) :
    deserialize_rest1 T rg rp L auto data k i (.obj ty acc) schema ⟨none, false, e⟩ =
      stepRes i ty acc k (some (readFixed e (data.drop i))) := by
  rcases he with rfl | rfl | rfl | rfl | rfl | rfl <;>
    simp [deserialize_rest1, baseKey, baseLen, TyS.base, readFixed, stepRes, slice_add, dictSet, setField_new _ _ _ hk,
      intOfBytes_signed, intOfBytes_unsigned']
  by_cases h1 : List.take 4 (List.drop i data) = [181, 117, 114, 153]
  · simp [h1]
  · by_cases h2 : List.take 4 (List.drop i data) = [55, 151, 121, 188] <;> simp [h1, h2]

/-- how the callee of the code (`rec_deserialize`) relates to the callee of the model -/
structure RecOK (T : Table) (rg : RecG) (rm : RecM) : Prop where
  boxed : ∀ d args, rg d true args = rm d none
  bare : ∀ d c, c ∈ T.ctors → rg d false (some c.args) = rm d (some c.args)
  objRet : ∀ d as v j, rm d (some as) = some (v, j) → ∃ fs, v = .obj none fs
  empty : ∀ r, rm [] none = some r → r.2 = 0

theorem rest1_bare (T : Table) (rg rp : RecG) (rm : RecM) (hr : RecOK T rg rm) (L : Nat) (auto : Bool) (data : Bytes) (k i : Nat)
    (ty : Option Nat) (acc : Fields) (schema : Option Ctor) (n : Nat) (ut : Bool) (hk : acc.lookup k = none) :
    deserialize_rest1 T rg rp L auto data k i (.obj ty acc) schema ⟨none, false, .bare n⟩ =
      stepRes i ty acc k (deserOne T auto rm ut (.bare n) false (data.drop i)) := by
  cases hb : T.byName n with
  | none =>
    simp [deserialize_rest1, baseKey, TyS.isParen, TyS.ctorOf, hb, deserOne, hr.boxed, dictSet, setField_new _ _ _ hk]
    cases rm (data.drop i) none with
    | none => simp [stepRes]
    | some r => obtain ⟨v, j⟩ := r; simp [stepRes]
  | some c =>
    simp [deserialize_rest1, baseKey, TyS.isParen, TyS.ctorOf, hb, deserOne, hr.bare _ c (Proofs.Tl.mem_of_byName hb), dictSet,
      setField_new _ _ _ hk, dictItem?, lookup_last _ _ _ hk]
    cases rm (data.drop i) (some c.args) with
    | none => simp [stepRes]
    | some r =>
      obtain ⟨v, j⟩ := r
      cases v <;> simp [stepRes, dictSetType?, setField_last _ _ _ _ hk]

theorem rest1_boxed (T : Table) (rg rp : RecG) (rm : RecM) (hr : RecOK T rg rm) (L : Nat) (auto : Bool) (data : Bytes) (k i : Nat)
    (ty : Option Nat) (acc : Fields) (schema : Option Ctor) (e : ETy) (ut : Bool) (hk : acc.lookup k = none)
    (he : (∃ cl, e = .boxed cl) ∨ e = .unsup) :
    deserialize_rest1 T rg rp L auto data k i (.obj ty acc) schema ⟨none, false, e⟩ =
      stepRes i ty acc k (deserOne T auto rm ut e false (data.drop i)) := by
  rcases he with ⟨cl, rfl⟩ | rfl <;>
    simp [deserialize_rest1, baseKey, TyS.isParen, TyS.ctorOf, deserOne, hr.boxed, dictSet, setField_new _ _ _ hk] <;>
    (cases rm (data.drop i) none with
     | none => simp [stepRes]
     | some r => obtain ⟨v, j⟩ := r; simp [stepRes])

/-! ### vectors -/

/-- the call through the one-field pseudo schema reads one value of a base type -/
def PseudoOK (T : Table) (auto : Bool) (L : Nat) (rp : RecG) (rm : RecM) : Prop :=
  ∀ d e, d.length + 2 ≤ L → baseKey ⟨none, false, e⟩ = true →
    rp d false (some [argOf pseudoKey ⟨none, false, e⟩]) =
      (match deserOne T auto rm false e true d with
       | none => none
       | some (some v, j) => some (.obj none [(pseudoKey, v)], j)
       | some (none, j) => some (.obj none [], j))

theorem dictAppend_last (ty : Option Nat) (acc : Fields) (k : Nat) (vs : List Val) (x : Val) (hk : acc.lookup k = none) :
    dictAppend? (.obj ty (acc ++ [(k, .list vs)])) k x = some (.obj ty (acc ++ [(k, .list (vs ++ [x]))])) := by
  simp [dictAppend?, lookup_last _ _ _ hk, setField_last _ _ _ _ hk]

theorem loop3_step (T : Table) (rg rp : RecG) (rm : RecM) (hr : RecOK T rg rm) (L : Nat) (auto : Bool) (data : Bytes) (hp : PseudoOK T auto L rp rm) (hL : data.length + 2 ≤ L)
    (k i : Nat) (ty : Option Nat) (acc : Fields) (e : ETy) (vs : List Val) (x : Nat) (hk : acc.lookup k = none) :
    deserialize_loop3 T rg rp L auto data k (TyS.ctorOf T ⟨none, false, e⟩) ⟨none, false, e⟩ (i, .obj ty (acc ++ [(k, .list vs)])) x =
      (deserElem T auto rm e (data.drop i)).map (fun (v, j) => (i + j, .obj ty (acc ++ [(k, .list (vs ++ [v]))]))) := by
  by_cases hbk : baseKey ⟨none, false, e⟩ = true
  · have hp' := hp (data.drop i) e (by simp only [List.length_drop]; omega) hbk
    simp only [deserialize_loop3, hbk, if_true, deserElem, decide_false, hp']
    cases deserOne T auto rm false e true (data.drop i) with
    | none => simp
    | some r =>
      obtain ⟨ov, j⟩ := r
      cases ov with
      | none => simp [dictItem?, List.lookup]
      | some v => simp [dictItem?, List.lookup, dictAppend_last _ _ _ _ _ hk]
  · cases e with
    | bare n =>
      cases hb : T.byName n with
      | none =>
        simp [deserialize_loop3, hbk, TyS.ctorOf, hb, hr.boxed, deserElem, deserOne]
        cases rm (data.drop i) none with
        | none => simp
        | some r => obtain ⟨v, j⟩ := r; simp [dictAppend_last _ _ _ _ _ hk]
      | some c =>
        simp [deserialize_loop3, hbk, TyS.ctorOf, hb, hr.bare _ c (Proofs.Tl.mem_of_byName hb), deserElem, deserOne]
        cases hrm : rm (data.drop i) (some c.args) with
        | none => simp
        | some r =>
          obtain ⟨v, j⟩ := r
          obtain ⟨fs, rfl⟩ := hr.objRet _ _ _ _ hrm
          simp [dictAppend_last _ _ _ _ _ hk]
    | boxed _ | unsup =>
      simp [deserialize_loop3, hbk, TyS.ctorOf, hr.boxed, deserElem, deserOne]
      cases rm (data.drop i) none with
      | none => simp
      | some r => obtain ⟨v, j⟩ := r; simp [dictAppend_last _ _ _ _ _ hk]
    | _ => simp [baseKey] at hbk

theorem loop3_fold (T : Table) (rg rp : RecG) (rm : RecM) (hr : RecOK T rg rm) (L : Nat) (auto : Bool) (data : Bytes) (hp : PseudoOK T auto L rp rm) (hL : data.length + 2 ≤ L)
    (k : Nat) (ty : Option Nat) (acc : Fields) (e : ETy) (hk : acc.lookup k = none) :
    ∀ (xs : List Nat) (i : Nat) (vs : List Val),
      List.foldlM (m := Option) (deserialize_loop3 T rg rp L auto data k (TyS.ctorOf T ⟨none, false, e⟩) ⟨none, false, e⟩)
        (i, .obj ty (acc ++ [(k, .list vs)])) xs =
      (deserMany (deserElem T auto rm e) xs.length (data.drop i)).map
        (fun (ws, j) => (i + j, .obj ty (acc ++ [(k, .list (vs ++ ws))])))
  | [], i, vs => by simp [deserMany]
  | x :: xs, i, vs => by
    simp only [List.foldlM_cons, loop3_step T rg rp rm hr L auto data hp hL k i ty acc e vs x hk, List.length_cons, deserMany]
    cases deserElem T auto rm e (data.drop i) with
    | none => simp
    | some r =>
      obtain ⟨v, j⟩ := r
      simp only [Option.map_some, Option.bind_some, Option.bind_eq_bind, loop3_fold T rg rp rm hr L auto data hp hL k ty acc e hk xs (i + j) (vs ++ [v]),
        List.drop_drop]
      cases deserMany (deserElem T auto rm e) xs.length (List.drop (i + j) data) with
      | none => simp
      | some q => obtain ⟨ws, j2⟩ := q; simp [Nat.add_assoc]

theorem rest1_vec (T : Table) (rg rp : RecG) (rm : RecM) (hr : RecOK T rg rm) (L : Nat) (auto : Bool) (data : Bytes) (hp : PseudoOK T auto L rp rm) (hL : data.length + 2 ≤ L)
    (k i : Nat) (ty : Option Nat) (acc : Fields) (schema : Option Ctor) (a : Arg) (ut : Bool) (hv : a.vec = true)
    (hk : acc.lookup k = none) :
    deserialize_rest1 T rg rp L auto data k i (.obj ty acc) schema ⟨none, true, a.ty⟩ =
      stepRes i ty acc k (deserArg T auto rm ut a (data.drop i)) := by
  have hguard : ((((natOfLE (List.take 4 (List.drop i data)) : Nat) : Int) > ((data.length : Nat) : Int) - (((i + 4 : Nat)) : Int)) ↔
      data.length - i < 4 + natOfLE (List.take 4 (List.drop i data))) := by
    omega
  simp only [deserialize_rest1, baseKey, TyS.isParen, TyS.isVector, TyS.elem, deserArg, hv, slice_add, intOfBytes_unsigned, dictSet,
    setField_new _ _ _ hk, Option.isNone_none, Bool.not_true, Bool.false_and, Bool.and_false, Bool.false_eq_true, if_false, if_true,
    Bool.true_and, Bool.and_true, hguard, List.length_drop]
  by_cases hg : data.length - i < 4 + natOfLE (List.take 4 (List.drop i data))
  · simp [hg, stepRes]
  · simp only [hg, if_false]
    have := loop3_fold T rg rp rm hr L auto data hp hL k ty acc a.ty hk (List.range (natOfLE (List.take 4 (List.drop i data)))) (i + 4) []
    simp only [List.nil_append, List.length_range] at this
    rw [this]
    simp only [List.drop_drop]
    rw [Nat.add_comm i 4]
    cases deserMany (deserElem T auto rm a.ty) (natOfLE (List.take 4 (List.drop i data))) (List.drop (4 + i) data) with
    | none => simp [stepRes]
    | some q => obtain ⟨ws, j⟩ := q; simp [stepRes]; omega

/-! ### the re-parse loop of a `bytes` content -/

theorem dictHas_last (ty : Option Nat) (acc : Fields) (k : Nat) (v : Val) (hk : acc.lookup k = none) :
    dictHas (.obj ty (acc ++ [(k, v)])) k = true := by
  simp [dictHas, lookup_last _ _ _ hk]

theorem loop2_while (T : Table) (rg rp : RecG) (rm : RecM) (hr : RecOK T rg rm) (L : Nat) (auto : Bool) (data : Bytes) (k i n : Nat)
    (ty : Option Nat) (acc : Fields) (hk : acc.lookup k = none) :
    ∀ (kw ka j : Nat) (vs : List Val) (result temp : Val),
      (if ¬ dictHas result k = true then dictSet result k (.list [temp]) else result) = .obj ty (acc ++ [(k, .list vs)]) →
      (n ≤ j → result = .obj ty (acc ++ [(k, .list vs)])) →
      ((data.drop i).take n).length - j + 2 ≤ kw → n - j ≤ ka →
      (Py.while? (fun ((brk, j, result, temp) : Bool × Nat × Val × Val) => !brk && decide (j < n))
          (deserialize_loop2 T rg rp L auto n data k i) kw (false, j, result, temp)).bind
        (fun ((brk, j, result, temp) : Bool × Nat × Val × Val) => some result) =
      (autoLoop (fun x => rm x none) ((data.drop i).take n) n ka j vs).map (fun v => .obj ty (acc ++ [(k, v)]))
  | 0, ka, j, vs, result, temp, h1, h2, hw, ha => by omega
  | kw + 1, ka, j, vs, result, temp, h1, h2, hw, ha => by
    by_cases hj : j < n
    · obtain ⟨ka', rfl⟩ : ∃ ka', ka = ka' + 1 := ⟨ka - 1, by omega⟩
      simp only [Py.while?, Bool.not_false, Bool.true_and, hj, decide_true, if_true, deserialize_loop2, autoLoop]
      have hif : (if ¬ dictHas result k = true then some (dictSet result k (.list [temp])) else some result) =
          some (.obj ty (acc ++ [(k, .list vs)])) := by rw [← h1]; split <;> rfl
      simp only [hif, Option.bind_some, hr.boxed, slice_add2]
      cases hrm : rm (List.drop j (List.take n (List.drop i data))) none with
      | none => simp
      | some r =>
        obtain ⟨t, jj⟩ := r
        by_cases hjj : jj = 0
        · obtain ⟨kw', rfl⟩ : ∃ kw', kw = kw' + 1 := ⟨kw - 1, by omega⟩
          simp [hjj, Py.while?, dictSet, setField_last _ _ _ _ hk, slice_add]
        · have hlen : j < (List.take n (List.drop i data)).length := by
            refine Nat.lt_of_not_le (fun hc => ?_)
            have : List.drop j (List.take n (List.drop i data)) = [] := List.drop_eq_nil_of_le (by omega)
            rw [this] at hrm
            exact hjj (hr.empty _ hrm)
          have ih := loop2_while T rg rp rm hr L auto data k i n ty acc hk kw ka' (j + jj) (vs ++ [t])
            (.obj ty (acc ++ [(k, .list (vs ++ [t]))])) t (by simp [dictHas_last _ _ _ _ hk]) (fun _ => rfl) (by omega) (by omega)
          simp only [Option.bind_some, hjj, if_false, dictAppend_last _ _ _ _ _ hk]
          exact ih
    · have hr2 := h2 (by omega)
      subst hr2
      cases ka <;> simp [Py.while?, hj, autoLoop]

theorem auto_gen (T : Table) (rg rp : RecG) (rm : RecM) (hr : RecOK T rg rm) (L : Nat) (auto : Bool) (data : Bytes) (k i n : Nat)
    (ty : Option Nat) (acc : Fields) (hk : acc.lookup k = none) (hL : data.length + 2 ≤ L) :
    ((rg (List.take n (List.drop i data)) true none).bind fun call =>
      if call.2 < n then
        (Py.while? (fun x => !x.1 && decide (x.2.1 < n))
          (deserialize_loop2 T rg rp L auto n data k i) L (false, call.2, .obj ty acc, call.1)).bind
          (fun x => some x.2.2.1)
      else some (.obj ty (acc ++ [(k, call.1)]))) =
    (autoParse (fun x => rm x none) ((data.drop i).take n) n).map (fun v => .obj ty (acc ++ [(k, v)])) := by
  rw [hr.boxed]
  cases hrm : rm (List.take n (List.drop i data)) none with
  | none => simp [autoParse, hrm]
  | some r =>
    obtain ⟨t, j⟩ := r
    by_cases hj : j < n
    · have := loop2_while T rg rp rm hr L auto data k i n ty acc hk L n j [t] (.obj ty acc) t
        (by simp [dictHas, hk, dictSet, setField_new _ _ _ hk]) (fun h => by omega)
        (by simp only [List.length_take, List.length_drop]; omega) (by omega)
      simp only [Option.bind_some, hj, if_true, autoParse, hrm]
      exact this
    · simp [autoParse, hrm, hj]

/-- header length (4 after the marker byte 254, else 1) and content length of the byte-string frame at the head of `d`. -/
def frameHdr (d : Bytes) : Nat × Nat :=
  if d.take 1 = [254] then (4, natOfLE ((d.drop 1).take 3)) else (1, natOfLE (d.take 1))

theorem readFrame_eq (d : Bytes) :
    readFrame d = ((d.drop (frameHdr d).1).take (frameHdr d).2, (frameHdr d).2,
      (frameHdr d).1 + (frameHdr d).2 + if ((frameHdr d).2 + (frameHdr d).1) % 4 ≠ 0 then 4 - ((frameHdr d).2 + (frameHdr d).1) % 4 else 0) := by
  unfold readFrame frameHdr
  split <;> rfl

/-- the header of the frame as `deserialize_rest1` reads it -/
theorem frame_gen (data : Bytes) (i : Nat) :
    (if List.take 1 (List.drop i data) = [254] then some (4, natOfLE (List.take 3 (List.drop (i + 1) data)), i + 4)
      else some (1, natOfLE (List.take 1 (List.drop i data)), i + 1)) =
    some ((frameHdr (data.drop i)).1, (frameHdr (data.drop i)).2, i + (frameHdr (data.drop i)).1) := by
  unfold frameHdr
  split <;> simp [List.drop_drop]

theorem rest1_bytes (T : Table) (rg rp : RecG) (rm : RecM) (hr : RecOK T rg rm) (L : Nat) (auto : Bool) (data : Bytes) (k i : Nat)
    (ty : Option Nat) (acc : Fields) (schema : Option Ctor) (e : ETy) (hk : acc.lookup k = none) (hL : data.length + 2 ≤ L)
    (he : e = .bytes ∨ e = .string) :
    deserialize_rest1 T rg rp L auto data k i (.obj ty acc) schema ⟨none, false, e⟩ =
      stepRes i ty acc k (deserOne T auto rm (untouchable T schema k) e false (data.drop i)) := by
  have hA := fun i n => auto_gen T rg rp rm hr L auto data k i n ty acc hk hL
  have htl : (List.take 4 (List.drop i data)).tail = List.take 3 (List.drop (i + 1) data) := by
    rw [← List.drop_one, List.drop_take, List.drop_drop]
  have hmap : ∀ (c : Prop) [Decidable c] (v : Val) (r : Option Val),
      (if c then some (Val.obj ty (acc ++ [(k, v)])) else r.map fun v => Val.obj ty (acc ++ [(k, v)])) =
        (if c then some v else r).map fun v => .obj ty (acc ++ [(k, v)]) := by
    intros; split <;> rfl
  rcases he with rfl | rfl <;>
    simp [deserialize_rest1, baseKey, baseLen, TyS.base, slice_add, slice_add2, intOfBytes_unsigned, deserOne, readFrame_eq,
      dictSet, setField_new _ _ _ hk, hA, htl, frame_gen, ite_some_add, hmap]
  -- both sides hold the same content value `r` (raw, or re-parsed): case on it
  all_goals
    generalize frameHdr (List.drop i data) = p
    generalize (if auto = false ∨ untouchable T schema k = true then _ else _ : Option Val) = r
    rcases r with _ | v
  · simp [stepRes]
  · simp [stepRes, Nat.add_assoc]
  · simp [stepRes]
  · cases v with
    | bytes b =>
      by_cases hu : utf8Valid b = true <;>
        simp [hu, stepRes, dictItem?, lookup_last _ _ _ hk, decode?, setField_last _ _ _ _ hk, Nat.add_assoc]
    | _ => simp [stepRes, dictItem?, lookup_last _ _ _ hk, decode?]

/-! ### the field loop -/

theorem rest1_eq (T : Table) (rg rp : RecG) (rm : RecM) (hr : RecOK T rg rm) (L : Nat) (auto : Bool) (data : Bytes)
    (hL : data.length + 2 ≤ L) (i : Nat) (ty : Option Nat) (acc : Fields) (schema : Option Ctor) (a : Arg)
    (hp : a.vec = false ∨ PseudoOK T auto L rp rm) (hk : acc.lookup a.name = none) :
    deserialize_rest1 T rg rp L auto data a.name i (.obj ty acc) schema ⟨none, a.vec, a.ty⟩ =
      stepRes i ty acc a.name (deserArg T auto rm (untouchable T schema a.name) a (data.drop i)) := by
  cases hv : a.vec with
  | true =>
    rcases hp with hp | hp
    · rw [hv] at hp; cases hp
    · have := rest1_vec T rg rp rm hr L auto data hp hL a.name i ty acc schema a (untouchable T schema a.name) hv hk
      rw [this]
  | false =>
    simp only [deserArg, hv, Bool.false_eq_true, if_false]
    cases he : a.ty with
    | bytes => exact rest1_bytes T rg rp rm hr L auto data a.name i ty acc schema _ hk hL (Or.inl rfl)
    | string => exact rest1_bytes T rg rp rm hr L auto data a.name i ty acc schema _ hk hL (Or.inr rfl)
    | bare n => exact rest1_bare T rg rp rm hr L auto data a.name i ty acc schema n _ hk
    | boxed cl => exact rest1_boxed T rg rp rm hr L auto data a.name i ty acc schema _ _ hk (Or.inl ⟨cl, rfl⟩)
    | unsup => exact rest1_boxed T rg rp rm hr L auto data a.name i ty acc schema _ _ hk (Or.inr rfl)
    | _ => rw [rest1_fixed T rg rp L auto data a.name i ty acc schema _ hk (by simp)]; simp [deserOne]

theorem maskOf_eq (T : Table) (ty : Option Nat) (acc : Fields) :
    maskOf? T (.obj ty acc) = (match flagVal T acc with
      | some (.int m) => some (binRev m) | some (.bool b) => some (binRev (if b then 1 else 0)) | _ => none) := by
  cases h1 : acc.lookup T.modeKey with
  | none =>
    simp only [maskOf?, flagVal, h1]
    cases acc.lookup T.flagsKey with
    | none => rfl
    | some v => cases v <;> rfl
  | some v => simp only [maskOf?, flagVal, h1]; cases v <;> rfl

open TonVerif.Proofs.Tl (present utM deserBody_cons)

theorem loop1_step (T : Table) (rg rp : RecG) (rm : RecM) (hr : RecOK T rg rm) (L : Nat) (auto : Bool) (data : Bytes)
    (hL : data.length + 2 ≤ L) (i : Nat) (ty : Option Nat) (acc : Fields) (schema : Option Ctor) (a : Arg)
    (hp : a.vec = false ∨ PseudoOK T auto L rp rm) (hk : acc.lookup a.name = none) :
    deserialize_loop1 T rg rp L auto data schema (i, .obj ty acc) a =
      (match present T acc a with
       | none => none
       | some false => some (i, .obj ty acc)
       | some true => stepRes i ty acc a.name (deserArg T auto rm (untouchable T schema a.name) a (data.drop i))) := by
  have hrest := rest1_eq T rg rp rm hr L auto data hL i ty acc schema a hp hk
  cases hc : a.cond with
  | none =>
    simp only [deserialize_loop1, TyS.isCond, TyS.ofArg, hc, Option.isSome_none, Bool.false_eq_true, if_false, present]
    exact hrest
  | some p =>
    obtain ⟨fl, bit⟩ := p
    simp only [deserialize_loop1, TyS.isCond, TyS.ofArg, hc, Option.isSome_some, if_true, present, maskOf_eq, TyS.condBit, TyS.strip]
    have key : ∀ m : Int,
        ((some (binRev m)).bind fun mask =>
          if bit ≥ mask.length then some (i, Val.obj ty acc)
          else (mask[bit]?).bind fun ch_19 =>
            if ch_19 = 48 then some (i, Val.obj ty acc)
            else deserialize_rest1 T rg rp L auto data a.name i (Val.obj ty acc) schema ⟨none, a.vec, a.ty⟩) =
        (match some (maskBit m bit) with
         | none => none
         | some false => some (i, .obj ty acc)
         | some true => stepRes i ty acc a.name (deserArg T auto rm (untouchable T schema a.name) a (data.drop i))) := by
      intro m
      have hm := mask_spec m bit
      simp only [Option.bind_some]
      by_cases hge : bit ≥ (binRev m).length
      · simp only [hge, if_true] at hm ⊢
        rw [← hm]
      · simp only [hge, if_false] at hm ⊢
        obtain ⟨ch, hch⟩ : ∃ ch, (binRev m)[bit]? = some ch := by
          rw [List.getElem?_eq_getElem (by omega)]; exact ⟨_, rfl⟩
        rw [hch] at hm ⊢
        simp only [Option.bind_some]
        by_cases h48 : ch = 48
        · subst h48; simp at hm; simp [hm]
        · have : maskBit m bit = true := by rw [← hm]; simp [h48]
          simp only [h48, if_false, this]
          exact hrest
    cases hf : flagVal T acc with
    | none => simp
    | some v =>
      cases v with
      | int m => exact key m
      | bool b => exact key (if b then 1 else 0)
      | _ => simp

theorem loop1_fold (T : Table) (rg rp : RecG) (rm : RecM) (hr : RecOK T rg rm) (L : Nat) (auto : Bool) (data : Bytes)
    (hL : data.length + 2 ≤ L) (ty : Option Nat) (schema : Option Ctor) :
    ∀ (as : List Arg) (i : Nat) (acc : Fields), (∀ b ∈ as, acc.lookup b.name = none) → (as.map (·.name)).Nodup →
      ((∀ a ∈ as, a.vec = false) ∨ PseudoOK T auto L rp rm) →
      List.foldlM (m := Option) (deserialize_loop1 T rg rp L auto data schema) (i, .obj ty acc) as =
        (deserBody T auto rm (schema.map (·.name)) as acc (data.drop i)).map (fun (fs, j) => (i + j, .obj ty fs))
  | [], i, acc, _, _, _ => by simp [deserBody]
  | a :: as, i, acc, hk, hn, hp => by
    have hp1 : a.vec = false ∨ PseudoOK T auto L rp rm := hp.imp (fun h => h a (List.mem_cons_self ..)) id
    have hp2 : (∀ b ∈ as, b.vec = false) ∨ PseudoOK T auto L rp rm := hp.imp (fun h b hb => h b (List.mem_cons_of_mem _ hb)) id
    have hka := hk a (List.mem_cons_self ..)
    have hkas : ∀ b ∈ as, acc.lookup b.name = none := fun b hb => hk b (List.mem_cons_of_mem _ hb)
    rw [List.map_cons, List.nodup_cons] at hn
    have hut : untouchable T schema a.name = utM T (schema.map (·.name)) a.name := by
      cases schema <;> rfl
    rw [List.foldlM_cons, loop1_step T rg rp rm hr L auto data hL i ty acc schema a hp1 hka, deserBody_cons, hut]
    have ih := loop1_fold T rg rp rm hr L auto data hL ty schema as
    cases present T acc a with
    | none => rfl
    | some b =>
      cases b with
      | false => exact ih i acc hkas hn.2 hp2
      | true =>
        simp only []
        cases deserArg T auto rm (utM T (Option.map (fun x => x.name) schema) a.name) a (List.drop i data) with
        | none => rfl
        | some r =>
          obtain ⟨ov, j⟩ := r
          have hne : ∀ b ∈ as, b.name ≠ a.name := fun b hb e => hn.1 (by rw [← e]; exact List.mem_map_of_mem hb)
          cases ov with
          | none =>
            simp only [stepRes, Option.bind_some, Option.bind_eq_bind, ih (i + j) acc hkas hn.2 hp2, List.drop_drop]
            cases deserBody T auto rm (Option.map (fun x => x.name) schema) as acc (List.drop (i + j) data) with
            | none => simp
            | some q => obtain ⟨fs, j2⟩ := q; simp [Nat.add_assoc]
          | some v =>
            have hk' : ∀ b ∈ as, (acc ++ [(a.name, v)]).lookup b.name = none := fun b hb => by
              rw [lookup_append_ne _ _ _ _ (hne b hb)]; exact hkas b hb
            simp only [stepRes, Option.bind_some, Option.bind_eq_bind, ih (i + j) _ hk' hn.2 hp2, List.drop_drop]
            cases deserBody T auto rm (Option.map (fun x => x.name) schema) as (acc ++ [(a.name, v)]) (List.drop (i + j) data) with
            | none => simp
            | some q => obtain ⟨fs, j2⟩ := q; simp [Nat.add_assoc]

/-! ### one call, and the knot -/

/-- the field names of an argument list are distinct (`schema.args` is a Python dict) -/
def ArgsOK (as : List Arg) : Prop := (as.map (·.name)).Nodup
def TableArgsOK (T : Table) : Prop := ∀ c ∈ T.ctors, ArgsOK c.args

theorem byIdLE_eq (T : Table) (data : Bytes) : Py.Tl.byIdLE T (Py.slice data 0 (0 + 4)) = Model.Tl.byIdLE T data := by
  simp [Py.Tl.byIdLE, Model.Tl.byIdLE, Py.slice]

theorem deserialize_boxed (T : Table) (rg rp : RecG) (rm : RecM) (hr : RecOK T rg rm) (L : Nat) (auto : Bool) (data : Bytes)
    (hL : data.length + 2 ≤ L) (hp : PseudoOK T auto L rp rm) (hT : TableArgsOK T) (args : Option (List Arg)) :
    Generated.TlEngine.deserialize T rg rp L auto data true args =
      (match Model.Tl.byIdLE T data with
       | none => some (.bytes data, data.length)
       | some c => (deserBody T auto rm (some c.name) c.args [] (data.drop 4)).map (fun (fs, j) => (.obj (some c.name) fs, 4 + j))) := by
  simp only [Generated.TlEngine.deserialize, if_true, byIdLE_eq]
  cases hb : Model.Tl.byIdLE T data with
  | none => simp
  | some c =>
    have hc := (Proofs.Tl.mem_of_byIdLE hb).1
    have := loop1_fold T rg rp rm hr L auto data hL (some c.name) (some c) c.args (0 + 4) [] (fun _ _ => rfl) (hT c hc) (Or.inr hp)
    simp only [Option.isSome_some, not_true_eq_false, if_false, Option.bind_some, dictSetType?, this, Option.map_some]
    simp only [Nat.zero_add]
    cases deserBody T auto rm (some c.name) c.args [] (List.drop 4 data) with
    | none => rfl
    | some q => obtain ⟨fs, j⟩ := q; rfl

theorem deserialize_bare (T : Table) (rg rp : RecG) (rm : RecM) (hr : RecOK T rg rm) (L : Nat) (auto : Bool) (data : Bytes)
    (hL : data.length + 2 ≤ L) (as : List Arg) (hn : ArgsOK as) (hp : (∀ a ∈ as, a.vec = false) ∨ PseudoOK T auto L rp rm) :
    Generated.TlEngine.deserialize T rg rp L auto data false (some as) =
      (deserBody T auto rm none as [] data).map (fun (fs, j) => (.obj none fs, j)) := by
  have := loop1_fold T rg rp rm hr L auto data hL none none as 0 [] (fun _ _ => rfl) hn hp
  simp only [Option.map_none, List.drop_zero] at this
  simp only [Generated.TlEngine.deserialize, Bool.false_eq_true, if_false, Option.bind_some, this]
  cases deserBody T auto rm none as [] data with
  | none => rfl
  | some q => obtain ⟨fs, j⟩ := q; simp

theorem deserOne_base_inVec (T : Table) (auto : Bool) (rm : RecM) (ut : Bool) (e : ETy) (d : Bytes)
    (hb : baseKey ⟨none, false, e⟩ = true) : deserOne T auto rm ut e false d = deserOne T auto rm ut e true d := by
  cases e <;> first | rfl | simp [baseKey] at hb

theorem pseudo_ok (T : Table) (rg : RecG) (rm : RecM) (hr : RecOK T rg rm) (L : Nat) (auto : Bool) :
    PseudoOK T auto L (Generated.TlEngine.deserialize T rg (fun _ _ _ => none) L auto) rm := by
  intro d e hL hb
  have := deserialize_bare T rg (fun _ _ _ => none) rm hr L auto d hL [argOf pseudoKey ⟨none, false, e⟩]
    (by simp [ArgsOK]) (Or.inl (by simp [argOf]))
  rw [this, deserBody_cons]
  simp only [present, argOf, utM, deserArg, Bool.false_eq_true, if_false, deserOne_base_inVec T auto rm false e d hb]
  cases deserOne T auto rm false e true d with
  | none => rfl
  | some r =>
    obtain ⟨ov, j⟩ := r
    cases ov <;> simp [deserBody]

theorem deserObj_objRet (T : Table) (auto : Bool) (f : Nat) (d : Bytes) (as : List Arg) (v : Val) (j : Nat)
    (h : deserObj T auto f d (some as) = some (v, j)) : ∃ fs, v = .obj none fs := by
  cases f with
  | zero => simp [deserObj] at h
  | succ f =>
    simp only [deserObj] at h
    cases hb : deserBody T auto (deserObj T auto f) none as [] d with
    | none => rw [hb] at h; cases h
    | some q => obtain ⟨fs, j'⟩ := q; rw [hb] at h; simp at h; exact ⟨fs, h.1.symm⟩

theorem deserObj_empty (T : Table) (auto : Bool) (f : Nat) (r : Val × Nat) (h : deserObj T auto f [] none = some r) : r.2 = 0 := by
  cases f with
  | zero => simp [deserObj] at h
  | succ f =>
    have : Model.Tl.byIdLE T [] = none := by simp [Model.Tl.byIdLE]
    simp [deserObj, this] at h
    rw [← h]

/-- THE TIE: the regenerated parser is the hand model, for every table with distinct field names, every byte string, both modes,
every depth budget and every loop budget of at least `len(data) + 2`. -/
theorem src_parser (T : Table) (hT : TableArgsOK T) (auto : Bool) (slack : Nat) : ∀ fuel : Nat,
    (∀ d args, deserializeF T auto slack fuel d true args = deserObj T auto fuel d none) ∧
    (∀ d as, ArgsOK as → deserializeF T auto slack fuel d false (some as) = deserObj T auto fuel d (some as))
  | 0 => ⟨fun _ _ => rfl, fun _ _ _ => rfl⟩
  | f + 1 => by
    obtain ⟨ih1, ih2⟩ := src_parser T hT auto slack f
    have hr : RecOK T (deserializeF T auto slack f) (deserObj T auto f) :=
      ⟨ih1, fun d c hc => ih2 d c.args (hT c hc), fun d as v j h => deserObj_objRet T auto f d as v j h,
       fun r h => deserObj_empty T auto f r h⟩
    refine ⟨fun d args => ?_, fun d as hn => ?_⟩
    · have := deserialize_boxed T _ _ _ hr (d.length + 2 + slack) auto d (by omega) (pseudo_ok T _ _ hr _ auto) hT args
      simp only [deserializeF, this, deserObj]
      cases Model.Tl.byIdLE T d <;> rfl
    · have := deserialize_bare T _ _ _ hr (d.length + 2 + slack) auto d (by omega) as hn (Or.inr (pseudo_ok T _ _ hr _ auto))
      simp only [deserializeF, this, deserObj]

end TonVerif.Proofs.SrcTlParser
