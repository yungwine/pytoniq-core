/-
Generation-independent lemmas about the loop / bit-list built-ins that the translator harness/translate/pyloops.py emits
(`TonVerif/PyBytes.lean`: `Py.loop?`, `Py.rangeI?`, `Py.bitAt?`, `Py.sliceI`, `Py.ba2int?`, `Py.frombytes`, `Py.setAt?`) in
terms of the hand model's helpers (Model/BocParse.lean).  Nothing here mentions a `Generated.*` definition: a source
change can never break this file.
-/
import TonVerif.PyBytes
import TonVerif.Model.BocParse
import TonVerif.Proofs.SrcBytes
import TonVerif.Proofs.Bits
set_option linter.unusedSimpArgs false

namespace TonVerif.Proofs.SrcLoops
open TonVerif TonVerif.Model TonVerif.Model.BocParse

/-! ### `Py.loop?` -/

@[simp] theorem loop?_nil {ι σ : Type} (s : σ) (f : ι → σ → Option (σ × Bool)) : Py.loop? [] s f = some s := rfl

theorem loop?_cons {ι σ : Type} (x : ι) (xs : List ι) (s : σ) (f : ι → σ → Option (σ × Bool)) :
    Py.loop? (x :: xs) s f = (f x s).bind fun r => if r.2 then some r.1 else Py.loop? xs r.1 f := rfl

/-- a loop whose body neither raises nor breaks is a left fold. -/
theorem loop?_foldl {ι σ : Type} (g : ι → σ → σ) (xs : List ι) (s : σ) :
    Py.loop? xs s (fun x s => some (g x s, false)) = some (xs.foldl (fun s x => g x s) s) := by
  induction xs generalizing s with
  | nil => rfl
  | cons x xs ih => simp [loop?_cons, ih]

/-- invariant rule for a loop that never breaks: `P k s` = the state before iteration `k`. -/
theorem loop?_inv {ι σ : Type} (P : Nat → σ → Prop) (f : ι → σ → Option (σ × Bool)) :
    ∀ (xs : List ι) (k0 : Nat) (s0 : σ), P k0 s0 →
    (∀ k x s, xs[k]? = some x → P (k0 + k) s → ∃ s', f x s = some (s', false) ∧ P (k0 + k + 1) s') →
    ∃ s, Py.loop? xs s0 f = some s ∧ P (k0 + xs.length) s := by
  intro xs
  induction xs with
  | nil => intro k0 s0 h0 _; exact ⟨s0, rfl, by simpa using h0⟩
  | cons x xs ih =>
    intro k0 s0 h0 hstep
    obtain ⟨s1, h1, p1⟩ := hstep 0 x s0 (by simp) (by simpa using h0)
    obtain ⟨s, hs, ps⟩ := ih (k0 + 1) s1 (by simpa using p1) (by
      intro k y s hk hp
      have := hstep (k + 1) y s (by simpa using hk) (by rw [← Nat.add_assoc, Nat.add_right_comm]; exact hp)
      rw [← Nat.add_assoc, Nat.add_right_comm k0 k 1] at this
      exact this)
    refine ⟨s, ?_, ?_⟩
    · rw [loop?_cons, h1]; simpa using hs
    · rw [List.length_cons, ← Nat.add_assoc, Nat.add_right_comm]; exact ps

/-- the same for a body that may raise: either some iteration raises (and the loop raises) or the invariant holds at the end.
`Q k` = iteration `k` does not raise. -/
theorem loop?_none_of {ι σ : Type} (f : ι → σ → Option (σ × Bool)) (x : ι) (xs : List ι) (s : σ) (h : f x s = none) :
    Py.loop? (x :: xs) s f = none := by rw [loop?_cons, h]; rfl

/-! ### ranges -/

theorem range?_zero_one (n : Nat) : Py.range? 0 n 1 = some (List.range n) := by
  have : Py.rangeLen 0 n 1 = n := by simp [Py.rangeLen]
  simp [Py.range?, this]

theorem range?_bind_zero_one {β : Type} (n : Nat) (f : List Nat → Option β) : (Py.range? 0 n 1).bind f = f (List.range n) := by
  rw [range?_zero_one]; rfl

/-! ### negative indices and slices -/

theorem getI?_neg {α : Type} (xs : List α) (k : Nat) : Py.getI? xs (-((k + 1 : Nat) : Int)) = xs.reverse[k]? := by
  unfold Py.getI?
  have h1 : ¬ (0 : Int) ≤ -((k + 1 : Nat) : Int) := by omega
  have h2 : (- -((k + 1 : Nat) : Int)).toNat = k + 1 := by omega
  rw [if_neg h1, h2]
  by_cases h : k + 1 ≤ xs.length
  · rw [if_pos h, List.getElem?_reverse (by omega)]
    congr 1; omega
  · rw [if_neg h, List.getElem?_eq_none (by simp; omega)]

theorem bitAt?_neg (bits : Bits) (k : Nat) :
    Py.bitAt? bits (-((k + 1 : Nat) : Int)) = (bits.reverse[k]?).map fun b => if b then 1 else 0 := by
  unfold Py.bitAt?; rw [getI?_neg]

theorem sliceI_none_none {α : Type} (xs : List α) : Py.sliceI xs none none = xs := by
  simp [Py.sliceI, Py.bound]

/-- `xs[:-(k+1)]` drops the last `k+1` elements. -/
theorem sliceI_none_neg {α : Type} (xs : List α) (k : Nat) :
    Py.sliceI xs none (some (-((k + 1 : Nat) : Int))) = (xs.reverse.drop (k + 1)).reverse := by
  have h1 : ¬ (0 : Int) ≤ -((k + 1 : Nat) : Int) := by omega
  have h2 : (- -((k + 1 : Nat) : Int)).toNat = k + 1 := by omega
  simp only [Py.sliceI, Py.bound, if_neg h1, h2, List.drop_zero]
  rw [List.drop_reverse, List.reverse_reverse]

/-! ### bit lists -/

theorem frombytes_nil (x : Bytes) : Py.frombytes [] x = bytesToBits x := by simp [Py.frombytes]

/-- a non-empty bit list read from whole bytes has at least eight bits. -/
theorem bytesToBits_ne_nil {x : Bytes} (h : bytesToBits x ≠ []) : 8 ≤ (bytesToBits x).length := by
  rw [Bits.bytesToBits_length]
  cases x with
  | nil => simp [bytesToBits] at h
  | cons a t => simp only [List.length_cons]; omega

theorem bytesToBits_isEmpty (x : Bytes) : (bytesToBits x).isEmpty = true ↔ bytesToBits x = [] := by
  simp

/-- `ba2int(bits[:8], signed=True)` for at least eight bits is the hand model's `signed8`. -/
theorem ba2int?_take8 (bits : Bits) (h : 8 ≤ bits.length) :
    Py.ba2int? true (bits.take 8) = some (signed8 bits) := by
  have hl : (bits.take 8).length = 8 := by simp; omega
  have hne : bits.take 8 ≠ [] := by intro e; rw [e] at hl; simp at hl
  unfold Py.ba2int? signed8
  rw [if_neg hne, hl]
  simp only [Bool.true_and, decide_eq_true_eq, Nat.reducePow]
  by_cases hv : natOfBits (bits.take 8) ≥ 128
  · rw [if_pos (by omega), if_pos hv]; rfl
  · rw [if_neg (by omega), if_neg hv]

/-- the completion-tag search `for j in range(-(k0+1), -(k0+n+1), -1): if bits[j] == 1: end = j; break` (with `end = None` before):
the slice `bits[:end]` it determines is what `stripTagRev n` keeps of the reversed list from position `k0` on -/
theorem tagSearch (bits : Bits) : ∀ (n k0 : Nat), k0 + n ≤ bits.length →
    ∃ e, Py.loop? ((List.range n).map fun t => -((k0 + t + 1 : Nat) : Int)) (none : Option Int)
        (fun j st => (Py.bitAt? bits j).bind fun bit => if bit = 1 then some (some j, true) else some (st, false)) = some e ∧
      Py.sliceI bits none e = match stripTagRev n (bits.reverse.drop k0) with | some r => r.reverse | none => bits := by
  intro n
  induction n with
  | zero => intro k0 _; exact ⟨none, rfl, sliceI_none_none bits⟩
  | succ n ih =>
    intro k0 h
    have hk : k0 < bits.reverse.length := by rw [List.length_reverse]; omega
    rw [List.range_succ_eq_map, List.map_cons, List.map_map, loop?_cons, bitAt?_neg, List.getElem?_eq_getElem hk,
      List.drop_eq_getElem_cons hk, stripTagRev]
    cases bits.reverse[k0] with
    | true => exact ⟨_, rfl, sliceI_none_neg bits k0⟩
    | false =>
      obtain ⟨e, he, hs⟩ := ih (k0 + 1) (by omega)
      have hmap : ((fun t => -((k0 + t + 1 : Nat) : Int)) ∘ Nat.succ) = fun t => -((k0 + 1 + t + 1 : Nat) : Int) := by
        funext t
        show -((k0 + (t + 1) + 1 : Nat) : Int) = _
        rw [show k0 + (t + 1) + 1 = k0 + 1 + t + 1 by omega]
      rw [hmap, Option.map_some, Option.bind_some, if_neg (by decide), Option.bind_some]
      exact ⟨e, he, hs⟩

theorem tvmBitarray?_1023 (bits : Bits) : Py.tvmBitarray? 1023 bits = some bits := by simp [Py.tvmBitarray?]

/-! ### the reference-index loop -/

theorem uintsAt_succ (data : Bytes) (a w k : Nat) : uintsAt data a w (k + 1) = uintsAt data a w k ++ [uintAt data (a + k * w) w] := by
  simp [uintsAt, List.range_succ]

theorem uintsAt_length (data : Bytes) (a w k : Nat) : (uintsAt data a w k).length = k := by simp [uintsAt]

end TonVerif.Proofs.SrcLoops
