/-
Merkle pruning invariance (C02, second half), proved on the spec level (Spec/Cell.lean).  Properties/C02.lean
carries it to the model (`Cell.info`) through `tree_agrees`.

`PruneRel H d t t'` : `t'` is `t` with any set of subtrees replaced by pruned-branch cells.  A subtree `s`
at a position with `d` enclosing Merkle cells (the virtual outer proof counted) becomes the pruned branch
with level mask `(mask s % 2^(d-1)) ||| 2^(d-1)` that carries `hashAt s l`, `depthAt s l` for the
significant levels `l < d` (TON `CellBuilder::create_pruned_branch`).  Below a Merkle cell `d` grows by 1.

`prune_invariant` : for all `l < d` the level-`l` hash and depth of `t'` are those of `t`, and the level masks
agree below bit `l`.  No assumption on the hash function `H` is used, except what makes the pruned cell
well formed: the carried hashes are 32 valid bytes and the carried depths fit 2 bytes (`Prunable`).
-/
import TonVerif.Proofs.CellSpec
import TonVerif.Proofs.Bits

namespace TonVerif.Proofs.Prune
open TonVerif TonVerif.Model TonVerif.Proofs.CellSpec

set_option linter.unusedSimpArgs false
set_option linter.unusedVariables false

/-! ### bits <-> bytes -/

theorem length_byteToBits (b : Nat) : (byteToBits b).length = 8 := Bits.natToBits_length 8 b

theorem length_bytesToBits (bs : Bytes) : (bytesToBits bs).length = 8 * bs.length := Bits.bytesToBits_length bs

theorem bytesToBits_cons (b : Nat) (bs : Bytes) : bytesToBits (b :: bs) = byteToBits b ++ bytesToBits bs :=
  Bits.bytesToBits_cons b bs

/-- a cell whose data is a whole number of bytes has exactly these bytes as its data -/
theorem dataBytes_bytesToBits (bs : Bytes) (h : Bytes.WF bs) : Spec.dataBytes (bytesToBits bs) = bs := by
  unfold Spec.dataBytes Spec.padBits
  rw [length_bytesToBits, if_pos (by omega), Bits.bitsToBytes_bytesToBits bs h]

/-- the second byte, read as the pruned-branch level mask -/
theorem maskByte_bytesToBits (a m : Nat) (rest : Bytes) (hm : m < 256) :
    natOfBits (((bytesToBits (a :: m :: rest)).drop 8).take 8) = m := by
  rw [bytesToBits_cons, bytesToBits_cons, List.drop_left' (length_byteToBits a), List.take_left' (length_byteToBits m)]
  exact Bits.natOfBits_natToBits 8 m (by omega)

/-! ### slices of a concatenation of equally long fields -/

theorem slice_flatten (w : Nat) : ∀ (xs : List Bytes) (i : Nat) (h : Bytes) (pre post : Bytes),
    (∀ x ∈ xs, x.length = w) → xs[i]? = some h →
    ((pre ++ xs.flatten ++ post).take (pre.length + w * (i + 1))).drop (pre.length + w * i) = h := by
  intro xs
  induction xs with
  | nil => intro i h pre post _ hi; simp at hi
  | cons x xs ih =>
    intro i h pre post hw hi
    have hx : x.length = w := hw x (by simp)
    cases i with
    | zero =>
      simp only [List.getElem?_cons_zero, Option.some.injEq] at hi
      subst hi
      simp only [List.flatten_cons, Nat.mul_zero, Nat.add_zero, Nat.zero_add, Nat.mul_one]
      rw [List.append_assoc, List.append_assoc, List.take_length_add_append, List.drop_left' rfl]
      rw [List.take_left' hx]
    | succ i =>
      simp only [List.getElem?_cons_succ] at hi
      have := ih i h (pre ++ x) post (fun y hy => hw y (by simp [hy])) hi
      simp only [List.length_append, hx] at this
      simp only [List.flatten_cons]
      rw [← List.append_assoc pre x]
      have e1 : pre.length + w * (i + 1 + 1) = pre.length + w + w * (i + 1) := by
        rw [Nat.mul_add w (i+1) 1]; omega
      have e2 : pre.length + w * (i + 1) = pre.length + w + w * i := by
        rw [Nat.mul_add w i 1]; omega
      rw [e1, e2]
      exact this

theorem length_flatten_const (w : Nat) : ∀ (xs : List Bytes), (∀ x ∈ xs, x.length = w) → xs.flatten.length = w * xs.length :=
  fun xs h => (Bits.flatten_length_uniform w xs h).trans (Nat.mul_comm _ _)

theorem natOfBE_be2 (x : Nat) (h : x < 65536) : natOfBE (Spec.be2 x) = x := by
  simp [natOfBE, Spec.be2]; omega

/-! ### the pruned-branch cell of a subtree -/

/-- level mask of the pruned branch that replaces a cell of mask `m` under `d` Merkle cells -/
def pmask (d m : Nat) : Nat := (m % 2 ^ (d - 1)) ||| 2 ^ (d - 1)

theorem pmask_eq_add (d m : Nat) : pmask d m = 2 ^ (d - 1) + m % 2 ^ (d - 1) := by
  have := Nat.two_pow_add_eq_or_of_lt (i := d - 1) (b := m % 2 ^ (d - 1)) (Nat.mod_lt _ (Nat.two_pow_pos _)) 1
  rw [Nat.mul_one] at this
  rw [pmask, Nat.or_comm, this]

theorem pmask_mod (d m l : Nat) (h : l + 1 ≤ d) : pmask d m % 2 ^ l = m % 2 ^ l := by
  rw [pmask_eq_add]
  have e : 2 ^ (d - 1) = 2 ^ l * 2 ^ (d - 1 - l) := by rw [← Nat.pow_add]; congr 1; omega
  rw [e, Nat.mul_add_mod, Nat.mod_mul_right_mod]

theorem popcount_pmask (d m : Nat) : popcount (pmask d m) = popcount (m % 2 ^ (d - 1)) + 1 := by
  rw [pmask_eq_add, popcount_two_pow_add _ _ (Nat.mod_lt _ (Nat.two_pow_pos _))]

theorem pmask_lt (d m : Nat) (hd : d ≤ 3) : pmask d m < 8 := by
  rw [pmask_eq_add]
  have h := Nat.mod_lt m (Nat.two_pow_pos (d - 1))
  have : 2 ^ (d - 1) ≤ 2 ^ 2 := Nat.pow_le_pow_right (by decide) (by omega)
  omega

theorem pmask_pos (d m : Nat) : 1 ≤ pmask d m := by
  rw [pmask_eq_add]; have := Nat.two_pow_pos (d - 1); omega

theorem pmask_lt_pow (d m : Nat) (hd : 1 ≤ d) : pmask d m < 2 ^ d := by
  rw [pmask_eq_add]
  have h := Nat.mod_lt m (Nat.two_pow_pos (d - 1))
  have e : 2 ^ d = 2 ^ (d - 1) * 2 := by rw [← Nat.pow_succ]; congr 1; omega
  omega

/-- the data bytes of the pruned branch: tag 1, mask, the hashes then the depths of the significant levels `< d` -/
def prunedData (d : Nat) (s : Spec.SInfo) : Bytes :=
  [1, pmask d s.mask] ++ (sigList s.hashAt s.mask d).flatten ++ (sigList (fun l => Spec.be2 (s.depthAt l)) s.mask d).flatten

/-- the pruned-branch cell that replaces a subtree with spec values `s` under `d` Merkle cells -/
def prunedCell (d : Nat) (s : Spec.SInfo) : Cell := .mk 1 (bytesToBits (prunedData d s)) []

/-- what must hold of a subtree to prune it at Merkle depth `d` (1 ≤ d ≤ 3): the carried hashes are 32 valid
bytes, the carried depths fit two bytes, and hashes/depths only change at significant levels (true of every
spec-valid cell that is not itself a pruned branch, if `H` returns 32 valid bytes: `prunable_node`). -/
structure Prunable (d : Nat) (s : Spec.SInfo) : Prop where
  d_pos : 1 ≤ d
  d_le : d ≤ 3
  hlen : ∀ l, l < d → (s.hashAt l).length = 32 ∧ Bytes.WF (s.hashAt l)
  dlt : ∀ l, l < d → s.depthAt l < 65536
  mono : ∀ j, s.mask.testBit j = false → s.hashAt (j+1) = s.hashAt j ∧ s.depthAt (j+1) = s.depthAt j

/-- agreement of two spec cells below level `d` -/
def Inv (d : Nat) (s' s : Spec.SInfo) : Prop :=
  ∀ l, l < d → s'.hashAt l = s.hashAt l ∧ s'.depthAt l = s.depthAt l ∧ s'.mask % 2 ^ l = s.mask % 2 ^ l

theorem be2_wf (x : Nat) : Bytes.WF (Spec.be2 x) := by
  intro b hb
  simp [Spec.be2] at hb
  rcases hb with rfl | rfl <;> omega

theorem flatten_wf : ∀ (xs : List Bytes), (∀ x ∈ xs, Bytes.WF x) → Bytes.WF xs.flatten := by
  intro xs h b hb
  simp only [List.mem_flatten] at hb
  obtain ⟨x, hx, hbx⟩ := hb
  exact h x hx b hbx

theorem prunedData_wf (d : Nat) (s : Spec.SInfo) (hp : Prunable d s) : Bytes.WF (prunedData d s) := by
  intro b hb
  simp only [prunedData, List.mem_append, List.mem_cons, List.mem_nil_iff, or_false] at hb
  rcases hb with (((rfl | rfl) | hb) | hb)
  · omega
  · have := pmask_lt d s.mask hp.d_le; omega
  · exact flatten_wf _ (sigList_mem s.hashAt s.mask Bytes.WF d (fun l hl => (hp.hlen l hl).2)) b hb
  · exact flatten_wf _ (sigList_mem _ s.mask Bytes.WF d (fun l hl => be2_wf _)) b hb

theorem Prunable.hashes_len {d : Nat} {s : Spec.SInfo} (hp : Prunable d s) :
    ∀ x ∈ sigList s.hashAt s.mask d, x.length = 32 :=
  sigList_mem s.hashAt s.mask (fun (x : Bytes) => x.length = 32) d (fun l hl => (hp.hlen l hl).1)

theorem depths_len (d : Nat) (s : Spec.SInfo) : ∀ x ∈ sigList (fun l => Spec.be2 (s.depthAt l)) s.mask d, x.length = 2 :=
  sigList_mem _ s.mask (fun (x : Bytes) => x.length = 2) d (fun l hl => by simp [Spec.be2])

theorem prunedCell_mask (d : Nat) (s : Spec.SInfo) (hp : Prunable d s) :
    Spec.nodeMask .pruned (bytesToBits (prunedData d s)) [] = pmask d s.mask := by
  have := pmask_lt d s.mask hp.d_le
  simp only [Spec.nodeMask, prunedData, List.cons_append, List.nil_append]
  exact maskByte_bytesToBits 1 _ _ (by omega)

/-- MAIN NODE LEMMA (pruning): the pruned branch of `s` for Merkle depth `d` has the mask bits, hashes and
depths of `s` at every level below `d`. -/
theorem prunedCell_inv (H : Bytes → Bytes) (d : Nat) (s : Spec.SInfo) (hp : Prunable d s) :
    Inv d (Spec.node H .pruned (bytesToBits (prunedData d s)) []) s := by
  obtain ⟨n, rfl⟩ : ∃ n, d = n + 1 := ⟨d - 1, by have := hp.d_pos; omega⟩
  have hwf := prunedData_wf _ s hp
  have hpc : popcount (pmask (n+1) s.mask) = popcount (s.mask % 2 ^ n) + 1 := by
    simpa using popcount_pmask (n+1) s.mask
  rw [node_pruned, prunedCell_mask _ s hp]
  intro l hl
  have hle : l ≤ n := by omega
  have hmod := pmask_mod (n+1) s.mask l (by omega)
  have hmono := popcount_mod_mono s.mask hle
  have hne : ¬ (popcount (s.mask % 2 ^ l) = popcount (s.mask % 2 ^ n) + 1) := by omega
  refine ⟨?_, ?_, ?_⟩
  · simp only [Spec.prunedHashAt, ← popcount_eq, hmod, hpc, hne, if_false, dataBytes_bytesToBits _ hwf]
    have hget := sigList_get s.hashAt s.mask (fun j hj => (hp.mono j hj).1) n l hle
    have := slice_flatten 32 _ _ _ [1, pmask (n+1) s.mask]
      (sigList (fun l => Spec.be2 (s.depthAt l)) s.mask (n+1)).flatten hp.hashes_len hget
    simpa [prunedData] using this
  · simp only [Spec.prunedDepthAt, ← popcount_eq, hmod, hpc, hne, if_false, dataBytes_bytesToBits _ hwf]
    have hget := sigList_get (fun l => Spec.be2 (s.depthAt l)) s.mask
      (fun j hj => by simp only [(hp.mono j hj).2]) n l hle
    have hlenH : (sigList s.hashAt s.mask (n+1)).flatten.length = 32 * (popcount (s.mask % 2 ^ n) + 1) := by
      rw [length_flatten_const 32 _ hp.hashes_len, sigList_length]
    have := slice_flatten 2 _ _ _ ([1, pmask (n+1) s.mask] ++ (sigList s.hashAt s.mask (n+1)).flatten) [] (depths_len _ s) hget
    simp only [List.append_nil, List.length_append, List.length_cons, List.length_nil, hlenH] at this
    have e1 : 2 + 32 * (popcount (s.mask % 2 ^ n) + 1) + 2 * popcount (s.mask % 2 ^ l) + 2
        = 0 + 1 + 1 + 32 * (popcount (s.mask % 2 ^ n) + 1) + 2 * (popcount (s.mask % 2 ^ l) + 1) := by omega
    have e2 : 2 + 32 * (popcount (s.mask % 2 ^ n) + 1) + 2 * popcount (s.mask % 2 ^ l)
        = 0 + 1 + 1 + 32 * (popcount (s.mask % 2 ^ n) + 1) + 2 * popcount (s.mask % 2 ^ l) := by omega
    rw [e1, e2]
    simp only [prunedData]
    rw [this]
    exact natOfBE_be2 _ (hp.dlt l hl)
  · exact hmod

/-! ### a kept node over pruned children -/

def InvList (d : Nat) : List Spec.SInfo → List Spec.SInfo → Prop
  | [], [] => True
  | s' :: ss', s :: ss => Inv d s' s ∧ InvList d ss' ss
  | _, _ => False

theorem InvList.length_eq {d : Nat} : ∀ {ss' ss}, InvList d ss' ss → ss'.length = ss.length
  | [], [], _ => rfl
  | _ :: _, _ :: _, h => by simp [InvList.length_eq h.2]
  | [], _ :: _, h => h.elim
  | _ :: _, [], h => h.elim

theorem InvList.hashes {d : Nat} : ∀ {ss' ss}, InvList d ss' ss → ∀ cl, cl < d →
    ss'.map (fun c => c.hashAt cl) = ss.map (fun c => c.hashAt cl)
  | [], [], _, _, _ => rfl
  | _ :: _, _ :: _, h, cl, hcl => by simp [(h.1 cl hcl).1, InvList.hashes h.2 cl hcl]
  | [], _ :: _, h, _, _ => h.elim
  | _ :: _, [], h, _, _ => h.elim

theorem InvList.depths {d : Nat} : ∀ {ss' ss}, InvList d ss' ss → ∀ cl, cl < d →
    ss'.map (fun c => c.depthAt cl) = ss.map (fun c => c.depthAt cl)
  | [], [], _, _, _ => rfl
  | _ :: _, _ :: _, h, cl, hcl => by simp [(h.1 cl hcl).2.1, InvList.depths h.2 cl hcl]
  | [], _ :: _, h, _, _ => h.elim
  | _ :: _, [], h, _, _ => h.elim

theorem InvList.masks {d : Nat} : ∀ {ss' ss}, InvList d ss' ss → ∀ l, l < d → ∀ a' a, a' % 2 ^ l = a % 2 ^ l →
    (ss'.foldl (fun m c => m ||| c.mask) a') % 2 ^ l = (ss.foldl (fun m c => m ||| c.mask) a) % 2 ^ l
  | [], [], _, _, _, _, _, ha => ha
  | _ :: _, _ :: _, h, l, hl, a', a, ha => by
    simp only [List.foldl_cons]
    apply InvList.masks h.2 l hl
    rw [Nat.or_mod_two_pow, Nat.or_mod_two_pow, ha, (h.1 l hl).2.2]
  | [], _ :: _, h, _, _, _, _, _ => h.elim
  | _ :: _, [], h, _, _, _, _, _ => h.elim

theorem InvList.childPart {d : Nat} {ss' ss} (h : InvList d ss' ss) (cl : Nat) (hcl : cl < d) :
    Spec.childPart ss' cl = Spec.childPart ss cl := by
  have h1 := h.hashes cl hcl
  have h2 := h.depths cl hcl
  have h3 : ss'.map (fun c => Spec.be2 (c.depthAt cl)) = ss.map (fun c => Spec.be2 (c.depthAt cl)) := by
    have := congrArg (List.map Spec.be2) h2
    simpa [List.map_map, Function.comp_def] using this
  simp only [Spec.childPart, h1, h3]

theorem InvList.depthOver {d : Nat} {ss' ss} (h : InvList d ss' ss) (cl : Nat) (hcl : cl < d) :
    Spec.depthOver ss' cl = Spec.depthOver ss cl := by
  have hl := h.length_eq
  have he : ss'.isEmpty = ss.isEmpty := by
    cases ss' <;> cases ss <;> simp_all
  simp only [Spec.depthOver, h.depths cl hcl, he]

theorem plainHashAt_inv (H : Bytes → Bytes) (k : Spec.Kind) (bits : Bits) (ss' ss : List Spec.SInfo) (m' m d : Nat)
    (h : InvList (d + k.mu) ss' ss) (hm : ∀ l, l < d → m' % 2 ^ l = m % 2 ^ l) :
    ∀ l, l < d → Spec.plainHashAt H k bits ss' m' l = Spec.plainHashAt H k bits ss m l := by
  intro l
  induction l with
  | zero =>
    intro hl
    simp only [Spec.plainHashAt, h.length_eq, h.childPart (0 + k.mu) (by omega)]
  | succ l ih =>
    intro hl
    have htb := testBit_of_mod_eq_lt (hm (l+1) hl) (Nat.lt_succ_self l)
    simp only [Spec.plainHashAt, htb, h.length_eq, hm (l+1) hl, ih (by omega), h.childPart (l + 1 + k.mu) (by omega)]

theorem plainDepthAt_inv (k : Spec.Kind) (ss' ss : List Spec.SInfo) (m' m d : Nat)
    (h : InvList (d + k.mu) ss' ss) (hm : ∀ l, l < d → m' % 2 ^ l = m % 2 ^ l) :
    ∀ l, l < d → Spec.plainDepthAt k ss' m' l = Spec.plainDepthAt k ss m l := by
  intro l
  induction l with
  | zero =>
    intro hl
    simp only [Spec.plainDepthAt, h.depthOver (0 + k.mu) (by omega)]
  | succ l ih =>
    intro hl
    have htb := testBit_of_mod_eq_lt (hm (l+1) hl) (Nat.lt_succ_self l)
    simp only [Spec.plainDepthAt, htb, ih (by omega), h.depthOver (l + 1 + k.mu) (by omega)]

theorem nodeMask_inv (k : Spec.Kind) (bits : Bits) (ss' ss : List Spec.SInfo) (d : Nat)
    (h : InvList (d + k.mu) ss' ss) :
    ∀ l, l < d → Spec.nodeMask k bits ss' % 2 ^ l = Spec.nodeMask k bits ss % 2 ^ l := by
  intro l hl
  cases k with
  | ordinary => exact h.masks l (by simp [Spec.Kind.mu] at *; omega) 0 0 rfl
  | pruned | library => rfl
  | merkleProof | merkleUpdate =>
    have := h.masks (l+1) (by simp [Spec.Kind.mu]; omega) 0 0 rfl
    simp only [Spec.nodeMask]
    rw [← Nat.mod_mul_right_div_self, ← Nat.mod_mul_right_div_self, ← Nat.pow_succ', this]

/-- MAIN NODE LEMMA (keeping): a node over children that agree with the original children below level
`d + μ` agrees with the original node below level `d`. -/
theorem node_inv (H : Bytes → Bytes) (k : Spec.Kind) (bits : Bits) (ss' ss : List Spec.SInfo) (d : Nat)
    (h : InvList (d + k.mu) ss' ss) : Inv d (Spec.node H k bits ss') (Spec.node H k bits ss) := by
  by_cases hk : k = .pruned
  · subst hk
    intro l hl
    exact ⟨rfl, rfl, rfl⟩
  · rw [node_plain H k bits ss' hk, node_plain H k bits ss hk]
    have hm := nodeMask_inv k bits ss' ss d h
    intro l hl
    exact ⟨plainHashAt_inv H k bits ss' ss _ _ d h hm l hl, plainDepthAt_inv k ss' ss _ _ d h hm l hl, hm l hl⟩

/-! ### trees -/

mutual
  /-- `PruneRel H d t t'`: `t'` is `t` (living under `d` Merkle cells) with any set of subtrees replaced by
  their pruned branches; the whole of `t` may be replaced if `d ≥ 1`. Children of Merkle cells live under
  `d + 1` Merkle cells. Kept cells keep kind and data. -/
  def PruneRel (H : Bytes → Bytes) : Nat → Cell → Cell → Prop
    | d, .mk kind bits refs, t' =>
      (∃ s, specInfo H (.mk kind bits refs) = some s ∧ Prunable d s ∧ t' = prunedCell d s) ∨
      (∃ k refs', kindOf kind = some k ∧ t' = .mk kind bits refs' ∧ PruneRels H (d + k.mu) refs refs')
  def PruneRels (H : Bytes → Bytes) : Nat → List Cell → List Cell → Prop
    | _, [], ts' => ts' = []
    | d, t :: ts, ts' => ∃ t' ts'', ts' = t' :: ts'' ∧ PruneRel H d t t' ∧ PruneRels H d ts ts''
end

theorem specInfo_prunedCell (H : Bytes → Bytes) (d : Nat) (s : Spec.SInfo) :
    specInfo H (prunedCell d s) = some (Spec.node H .pruned (bytesToBits (prunedData d s)) []) := by
  simp [prunedCell, specInfo, specInfos, kindOf]

mutual
  theorem prune_inv_aux (H : Bytes → Bytes) : ∀ (t : Cell) (d : Nat) (t' : Cell) (s : Spec.SInfo),
      PruneRel H d t t' → specInfo H t = some s → ∃ s', specInfo H t' = some s' ∧ Inv d s' s
    | .mk kind bits refs, d, t', s, hrel, hs => by
      rw [PruneRel] at hrel
      rcases hrel with ⟨s0, hs0, hp, rfl⟩ | ⟨k, refs', hk, rfl, hrels⟩
      · rw [hs] at hs0; cases hs0
        exact ⟨_, specInfo_prunedCell H d s, prunedCell_inv H d s hp⟩
      · obtain ⟨k', ss, hk', hss, rfl⟩ := specInfo_mk H kind bits refs s hs
        rw [hk] at hk'; cases hk'
        obtain ⟨ss', hss', hinv⟩ := prunes_inv_aux H refs (d + k.mu) refs' ss hrels hss
        exact ⟨Spec.node H k bits ss', specInfo_eq H hk hss', node_inv H k bits ss' ss d hinv⟩
  theorem prunes_inv_aux (H : Bytes → Bytes) : ∀ (ts : List Cell) (d : Nat) (ts' : List Cell) (ss : List Spec.SInfo),
      PruneRels H d ts ts' → specInfos H ts = some ss → ∃ ss', specInfos H ts' = some ss' ∧ InvList d ss' ss
    | [], d, ts', ss, hrel, hs => by
      rw [PruneRels] at hrel
      subst hrel
      simp only [specInfos, Option.some.injEq] at hs
      subst hs
      exact ⟨[], by simp [specInfos], trivial⟩
    | t :: ts, d, ts', ss, hrel, hs => by
      rw [PruneRels] at hrel
      obtain ⟨t', ts'', rfl, h1, h2⟩ := hrel
      obtain ⟨s, ss0, hst, hsts, rfl⟩ := specInfos_cons H t ts ss hs
      obtain ⟨s', hs', hi⟩ := prune_inv_aux H t d t' s h1 hst
      obtain ⟨ss', hss', his⟩ := prunes_inv_aux H ts d ts'' ss0 h2 hsts
      exact ⟨s' :: ss', specInfos_cons_eq H hs' hss', ⟨hi, his⟩⟩
end

/-- PRUNING INVARIANCE (spec level): if `t'` is `t` with any subtrees pruned at Merkle depth `d`, then
`t'` has spec values, and at every level below `d` its hash, depth and mask bits are those of `t`. -/
theorem prune_invariant (H : Bytes → Bytes) (d : Nat) (t t' : Cell) (s : Spec.SInfo)
    (hrel : PruneRel H d t t') (hs : specInfo H t = some s) :
    ∃ s', specInfo H t' = some s' ∧
      ∀ l, l < d → s'.hashAt l = s.hashAt l ∧ s'.depthAt l = s.depthAt l ∧ s'.mask % 2 ^ l = s.mask % 2 ^ l :=
  prune_inv_aux H t d t' s hrel hs

/-! ### every spec-valid cell other than a pruned branch can be pruned -/

theorem plainHashAt_length (H : Bytes → Bytes) (h32 : ∀ x, (H x).length = 32 ∧ Bytes.WF (H x)) (k bits kids mask) :
    ∀ l, (Spec.plainHashAt H k bits kids mask l).length = 32 ∧ Bytes.WF (Spec.plainHashAt H k bits kids mask l) := by
  intro l
  induction l with
  | zero => exact h32 _
  | succ l ih =>
    rw [Spec.plainHashAt]
    split
    · exact h32 _
    · exact ih

/-- a non-pruned spec-valid node can be pruned at any Merkle depth 1..3, provided `H` returns 32 valid bytes -/
theorem prunable_node (H : Bytes → Bytes) (h32 : ∀ x, (H x).length = 32 ∧ Bytes.WF (H x))
    (k : Spec.Kind) (bits : Bits) (kids : List Spec.SInfo) (hk : k ≠ .pruned) (wf : NodeWF H k bits kids)
    (d : Nat) (h1 : 1 ≤ d) (h3 : d ≤ 3) : Prunable d (Spec.node H k bits kids) := by
  have hd := wf.depthOk hk
  rw [node_plain H k bits kids hk] at hd ⊢
  refine ⟨h1, h3, fun l _ => plainHashAt_length H h32 _ _ _ _ l, fun l _ => ?_, fun j hj => ?_⟩
  · have := hd l; simp only at this ⊢; omega
  · exact ⟨plainHashAt_skip H k bits kids _ j hj, plainDepthAt_skip k kids _ j hj⟩

end TonVerif.Proofs.Prune
