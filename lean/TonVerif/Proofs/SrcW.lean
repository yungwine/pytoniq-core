/-
Generation-independent lemmas about the iteration-counting writer `Py.W` (lean/TonVerif/PyW.lean): how the VALUE (`.1`) and the TICKS
(`.2 j`) of `ret` / `raise` / `>>==` / `if` / `loopW?` are computed.  Nothing here mentions a `Generated.*` definition.

* `*_fst`         value of a combinator = the `Option` combinator on the values (so `simp only [erase]` turns the value of an
                  instrumented copy into the text of the regenerated function);
* `loopW_fst`     the value of `loopW? k` is `Py.loop?` on the values of the body;
* `loopW_other`   a loop ticks no counter but its own and those its body ticks;
* `Pays`          a computation ticks a counter exactly `t` times if it returns and not at all if it raises;
* `Covers`        a cost model covers a run: never fewer ticks than the run and, if it is exact, the same when the run returns, with a
                  postcondition on the value; one rule per construct the translator emits, one for `loopW?`, one for `foldW?`;
* `whileW_potential`  the potential rule for a `whileW?` that returns.
-/
import TonVerif.PyW
import TonVerif.Proofs.SrcLoops

namespace TonVerif.Proofs.SrcW
open TonVerif TonVerif.Py

variable {α β ι σ : Type}

@[simp] theorem ret_fst (a : α) : (W.ret a).1 = some a := rfl
@[simp] theorem ret_snd (a : α) (j : Nat) : (W.ret a).2 j = 0 := rfl
@[simp] theorem raise_fst : (W.raise : W α).1 = none := rfl
@[simp] theorem raise_snd (j : Nat) : (W.raise : W α).2 j = 0 := rfl
@[simp] theorem lift_fst (o : Option α) : (W.lift o).1 = o := rfl
@[simp] theorem lift_snd (o : Option α) (j : Nat) : (W.lift o).2 j = 0 := rfl

theorem bind_fst (x : W α) (f : α → W β) : (W.bind x f).1 = x.1.bind fun a => (f a).1 := by
  unfold W.bind; cases x.1 <;> rfl

theorem bind_snd (x : W α) (f : α → W β) (j : Nat) :
    (W.bind x f).2 j = x.2 j + (match x.1 with | none => 0 | some a => (f a).2 j) := by
  unfold W.bind; cases x.1 <;> rfl

@[simp] theorem match_zero (m : Option α) : (match m with | none => 0 | some _ => (0 : Nat)) = 0 := by cases m <;> rfl

theorem bnd_opt_fst (o : Option α) (f : α → W β) : (o >>== f).1 = o.bind fun a => (f a).1 := by
  show (W.bind (W.lift o) f).1 = _
  rw [bind_fst]; rfl

theorem bnd_w_fst (x : W α) (f : α → W β) : (x >>== f).1 = x.1.bind fun a => (f a).1 := bind_fst x f

theorem bnd_opt_snd (o : Option α) (f : α → W β) (j : Nat) :
    (o >>== f).2 j = (match o with | none => 0 | some a => (f a).2 j) := by
  show (W.bind (W.lift o) f).2 j = _
  rw [bind_snd]; simp

theorem bnd_w_snd (x : W α) (f : α → W β) (j : Nat) :
    (x >>== f).2 j = x.2 j + (match x.1 with | none => 0 | some a => (f a).2 j) := bind_snd x f j

theorem bnd_some (a : α) (f : α → W β) : (some a >>== f) = ((f a).1, fun j => 0 + (f a).2 j) := rfl
theorem bnd_none (f : α → W β) : ((none : Option α) >>== f) = (none, fun _ => 0) := rfl

theorem ite_fst (c : Prop) [Decidable c] (a b : W α) : (if c then a else b).1 = if c then a.1 else b.1 := by
  split <;> rfl

theorem ite_snd (c : Prop) [Decidable c] (a b : W α) (j : Nat) : (if c then a else b).2 j = if c then a.2 j else b.2 j := by
  split <;> rfl

theorem loopW_nil (k : Nat) (s : σ) (f : ι → σ → W (σ × Bool)) : loopW? k [] s f = W.ret s := rfl

theorem loopW_cons (k : Nat) (x : ι) (xs : List ι) (s : σ) (f : ι → σ → W (σ × Bool)) :
    loopW? k (x :: xs) s f =
      W.bind (W.tick k) fun _ => W.bind (f x s) fun r => if r.2 then W.ret r.1 else loopW? k xs r.1 f := rfl

/-- the value of a counting loop is the plain loop on the values of its body. -/
theorem loopW_fst (k : Nat) (f : ι → σ → W (σ × Bool)) :
    ∀ (xs : List ι) (s : σ), (loopW? k xs s f).1 = Py.loop? xs s (fun x s => (f x s).1) := by
  intro xs
  induction xs with
  | nil => intro s; rfl
  | cons x xs ih =>
    intro s
    rw [loopW_cons, bind_fst, SrcLoops.loop?_cons]
    show (W.bind (f x s) _).1 = _
    rw [bind_fst]
    cases (f x s).1 with
    | none => rfl
    | some r =>
      simp only [Option.bind_some, ite_fst, ret_fst, ih]

theorem loopW_cons_fst (k : Nat) (x : ι) (xs : List ι) (s : σ) (f : ι → σ → W (σ × Bool)) :
    (loopW? k (x :: xs) s f).1 = (f x s).1.bind fun r => if r.2 then some r.1 else (loopW? k xs r.1 f).1 := by
  rw [loopW_cons, bind_fst]
  show (W.bind (f x s) _).1 = _
  rw [bind_fst]
  cases (f x s).1 with
  | none => rfl
  | some r => simp only [Option.bind_some, ite_fst, ret_fst]

/-- ticks of one iteration -/
theorem loopW_cons_snd (k : Nat) (x : ι) (xs : List ι) (s : σ) (f : ι → σ → W (σ × Bool)) (j : Nat) :
    (loopW? k (x :: xs) s f).2 j = (if j = k then 1 else 0) + ((f x s).2 j +
      (match (f x s).1 with | none => 0 | some r => if r.2 then 0 else (loopW? k xs r.1 f).2 j)) := by
  rw [loopW_cons, bind_snd]
  show _ + (W.bind (f x s) _).2 j = _
  rw [bind_snd]
  congr 2
  cases (f x s).1 with
  | none => rfl
  | some r => simp only [ite_snd, ret_snd]

/-- counter `j` of a loop whose body does not tick `j`, `j` not its own counter: nothing. -/
theorem loopW_other (k j : Nat) (hj : j ≠ k) (f : ι → σ → W (σ × Bool)) (hf : ∀ x s, (f x s).2 j = 0) :
    ∀ (xs : List ι) (s : σ), (loopW? k xs s f).2 j = 0 := by
  intro xs
  induction xs with
  | nil => intro s; rfl
  | cons x xs ih =>
    intro s
    rw [loopW_cons_snd, hf, if_neg hj]
    cases (f x s).1 with
    | none => rfl
    | some r =>
      simp only
      split
      · rfl
      · rw [ih]

/-- a body that neither raises nor breaks nor ticks: the loop ticks its counter once per element. -/
theorem loopW_fold_snd (k : Nat) (g : ι → σ → σ) (j : Nat) :
    ∀ (xs : List ι) (s : σ), (loopW? k xs s (fun x s => W.ret (g x s, false))).2 j = if j = k then xs.length else 0 := by
  intro xs
  induction xs with
  | nil => intro s; simp [loopW_nil]
  | cons x xs ih =>
    intro s
    rw [loopW_cons_snd]
    simp only [ret_snd, ret_fst, Bool.false_eq_true, if_false, ih, List.length_cons]
    split <;> omega

/-! ### `foldW?` (a `for` loop without `break`) -/

theorem foldW_nil (k : Nat) (f : σ → ι → W σ) (s : σ) : foldW? k f s [] = W.ret s := rfl

theorem foldW_cons (k : Nat) (f : σ → ι → W σ) (s : σ) (x : ι) (xs : List ι) :
    foldW? k f s (x :: xs) = W.bind (W.tick k) fun _ => W.bind (f s x) fun s' => foldW? k f s' xs := rfl

/-- the value of a counting fold is the plain `List.foldlM` on the values of its body. -/
theorem foldW_fst (k : Nat) (f : σ → ι → W σ) :
    ∀ (xs : List ι) (s : σ), (foldW? k f s xs).1 = List.foldlM (m := Option) (fun s x => (f s x).1) s xs := by
  intro xs
  induction xs with
  | nil => intro s; rfl
  | cons x xs ih =>
    intro s
    rw [foldW_cons, bind_fst, List.foldlM_cons]
    show (W.bind (f s x) _).1 = _
    rw [bind_fst]
    cases (f s x).1 with
    | none => rfl
    | some r => simp only [Option.bind_some, ih]; rfl

/-! ### `whileW?` -/

theorem whileW_zero (k : Nat) (cond : σ → Bool) (body : σ → W σ) (s : σ) : whileW? k cond body 0 s = W.raise := rfl
theorem whileW_succ (k : Nat) (cond : σ → Bool) (body : σ → W σ) (fuel : Nat) (s : σ) :
    whileW? k cond body (fuel + 1) s =
      if cond s then W.bind (W.tick k) fun _ => W.bind (body s) (whileW? k cond body fuel) else W.ret s := rfl

/-- the value of a counting `while` is the plain `Py.while?` on the values of its body. -/
theorem whileW_fst (k : Nat) (cond : σ → Bool) (body : σ → W σ) :
    ∀ (fuel : Nat) (s : σ), (whileW? k cond body fuel s).1 = Py.while? cond (fun s => (body s).1) fuel s := by
  intro fuel
  induction fuel with
  | zero => intro s; rfl
  | succ fuel ih =>
    intro s
    rw [whileW_succ, Py.while?]
    split
    · rw [bind_fst]
      show (W.bind (body s) _).1 = _
      rw [bind_fst]
      cases (body s).1 with
      | none => rfl
      | some r => simp only [Option.bind_some, ih]
    · rfl

/-- POTENTIAL rule for a `while` that RETURNS: if every iteration satisfies `ticks_j(body) + φ(before) ≤ φ(after) + c` then counter `j` (not the
loop's own) over the whole run, plus `φ(start)`, is at most `φ(end) + c·(iteration budget)`; the loop's own counter is at most the budget; the end
state fails the loop condition. -/
theorem whileW_potential (k j c : Nat) (hj : j ≠ k) (cond : σ → Bool) (body : σ → W σ) (φ : σ → Nat)
    (hb : ∀ s s', cond s = true → (body s).1 = some s' → (body s).2 j + φ s ≤ φ s' + c) (hbk : ∀ s, (body s).2 k = 0) :
    ∀ (fuel : Nat) (s e : σ), (whileW? k cond body fuel s).1 = some e →
      (whileW? k cond body fuel s).2 j + φ s ≤ φ e + c * fuel ∧ (whileW? k cond body fuel s).2 k ≤ fuel ∧ cond e = false := by
  intro fuel
  induction fuel with
  | zero => intro s e h; cases h
  | succ fuel ih =>
    intro s e h
    rw [whileW_succ] at h ⊢
    by_cases hc : cond s = true
    · simp only [hc, if_true] at h ⊢
      rw [bind_fst] at h
      have h' : (W.bind (body s) (whileW? k cond body fuel)).1 = some e := h
      rw [bind_fst] at h'
      have t1 : (W.tick k).2 j = 0 := by show (if j = k then 1 else 0) = 0; rw [if_neg hj]
      have t2 : (W.tick k).2 k = 1 := by show (if k = k then 1 else 0) = 1; rw [if_pos rfl]
      have tf : (W.tick k).1 = some () := rfl
      cases hbs : (body s).1 with
      | none => rw [hbs] at h'; cases h'
      | some r =>
        rw [hbs] at h'
        simp only [Option.bind_some] at h'
        obtain ⟨i1, i2, i3⟩ := ih r e h'
        have := hb s r hc hbs
        have hk0 := hbk s
        simp only [bind_snd, tf, hbs, t1, t2, Nat.mul_succ, hk0, Nat.zero_add]
        generalize (whileW? k cond body fuel r).2 j = wj at *
        generalize (whileW? k cond body fuel r).2 k = wk at *
        generalize (body s).2 j = bj at *
        have g1 : bj + wj + φ s ≤ φ e + (c * fuel + c) := by omega
        exact ⟨g1, by omega, i3⟩
    · simp only [hc, Bool.false_eq_true, if_false] at h ⊢
      simp only [ret_fst, Option.some.injEq] at h
      subst h
      simp only [ret_snd]
      exact ⟨by omega, by omega, by simpa using hc⟩

/-- a `while` ticks no counter but its own and those its body ticks -/
theorem whileW_other (k j : Nat) (hj : j ≠ k) (cond : σ → Bool) (body : σ → W σ) (hb : ∀ s, (body s).2 j = 0) :
    ∀ (fuel : Nat) (s : σ), (whileW? k cond body fuel s).2 j = 0 := by
  intro fuel
  induction fuel with
  | zero => intro s; rfl
  | succ fuel ih =>
    intro s
    rw [whileW_succ]
    split
    · have t1 : (W.tick k).2 j = 0 := by show (if j = k then 1 else 0) = 0; rw [if_neg hj]
      have tf : (W.tick k).1 = some () := rfl
      simp only [bind_snd, tf, t1, hb, Nat.zero_add]
      cases (body s).1 with
      | none => rfl
      | some r => exact ih r
    · rfl

/-- a measure that grows by at most one per iteration grows by at most the budget over a `while` that returns -/
theorem whileW_measure (k : Nat) (cond : σ → Bool) (body : σ → W σ) (μ : σ → Nat)
    (hb : ∀ s s', cond s = true → (body s).1 = some s' → μ s' ≤ μ s + 1) :
    ∀ (fuel : Nat) (s e : σ), (whileW? k cond body fuel s).1 = some e → μ e ≤ μ s + fuel := by
  intro fuel
  induction fuel with
  | zero => intro s e h; cases h
  | succ fuel ih =>
    intro s e h
    rw [whileW_succ] at h
    by_cases hc : cond s = true
    · simp only [hc, if_true] at h
      rw [bind_fst] at h
      have h' : (W.bind (body s) (whileW? k cond body fuel)).1 = some e := h
      rw [bind_fst] at h'
      cases hbs : (body s).1 with
      | none => rw [hbs] at h'; cases h'
      | some r =>
        rw [hbs] at h'
        simp only [Option.bind_some] at h'
        have := ih r e h'
        have := hb s r hc hbs
        omega
    · simp only [hc, Bool.false_eq_true, if_false, ret_fst, Option.some.injEq] at h
      subst h; omega

/-! ### ticks paid only on return -/

/-- `x` ticks counter `j` exactly `t` times if it returns, and not at all if it raises -/
def Pays (x : W α) (j t : Nat) : Prop := x.2 j = if x.1.isSome then t else 0

theorem Pays.raise {j t : Nat} : Pays (W.raise : W α) j t := rfl

theorem Pays.ite {c : Prop} [Decidable c] {a b : W α} {j t : Nat} (ha : Pays a j t) (hb : Pays b j t) :
    Pays (if c then a else b) j t :=
  ite_pred (P := fun x => Pays x j t) (fun _ => ha) fun _ => hb

theorem Pays.opt (o : Option α) {f : α → W β} {j t : Nat} (h : ∀ a, o = some a → Pays (f a) j t) : Pays (o >>== f) j t := by
  cases o with
  | none => rfl
  | some a => exact (Nat.zero_add _).trans (h a rfl)

/-- a prefix that does not tick `j` -/
theorem Pays.bnd (x : W α) {f : α → W β} {j t : Nat} (hx : x.2 j = 0) (h : ∀ a, x.1 = some a → Pays (f a) j t) :
    Pays (x >>== f) j t := by
  unfold Pays
  rw [bnd_w_snd, bnd_w_fst, hx, Nat.zero_add]
  cases hx1 : x.1 with
  | none => rfl
  | some a => exact h a hx1

/-! ### the cost model covers a run -/

/-- `Covers e p x T Q`: on the counters `p` the run `x` never ticks more than the model `T`; if it returns `a` then `Q a` and, when `e`,
it has ticked exactly `T`.  With `e := True` this is the upper-bound convention of Model/Cost.lean as a judgement with a postcondition;
with `e := False` it is a plain bound, and `T` may be weakened.  A model that stops early is one whose part after the stop is guarded by
a condition that `Q` asserts (see `Covers.bind`: the continuation is only looked at under `Q`). -/
def Covers (e : Prop) (p : Nat → Prop) (x : W α) (T : Ticks) (Q : α → Prop) : Prop :=
  (∀ j, p j → x.2 j ≤ T j) ∧ ∀ a, x.1 = some a → (e → ∀ j, p j → x.2 j = T j) ∧ Q a

namespace Covers
variable {e : Prop} {p : Nat → Prop}

theorem le {x : W α} {T : Ticks} {Q : α → Prop} (h : Covers e p x T Q) {j : Nat} (hj : p j) : x.2 j ≤ T j := h.1 j hj

theorem exact {x : W α} {T : Ticks} {Q : α → Prop} (h : Covers True p x T Q) (hx : x.1.isSome) {j : Nat} (hj : p j) : x.2 j = T j := by
  obtain ⟨a, ha⟩ := Option.isSome_iff_exists.1 hx
  exact (h.2 a ha).1 trivial j hj

theorem post {x : W α} {T : Ticks} {Q : α → Prop} (h : Covers e p x T Q) {a : α} (ha : x.1 = some a) : Q a := (h.2 a ha).2

theorem ret {a : α} {Q : α → Prop} (h : Q a) : Covers e p (W.ret a) (fun _ => 0) Q :=
  ⟨fun _ _ => Nat.le_refl 0, fun _ ea => ⟨fun _ _ _ => rfl, by cases ea; exact h⟩⟩

theorem raise {T : Ticks} {Q : α → Prop} : Covers e p (W.raise : W α) T Q :=
  ⟨fun _ _ => Nat.zero_le _, fun _ ea => nomatch ea⟩

theorem cast {x : W α} {T T' : Ticks} {Q : α → Prop} (h : Covers e p x T Q) (hT : ∀ j, p j → T j = T' j) : Covers e p x T' Q :=
  ⟨fun j hj => hT j hj ▸ h.1 j hj, fun a ea => ⟨fun he j hj => hT j hj ▸ (h.2 a ea).1 he j hj, (h.2 a ea).2⟩⟩

/-- a plain bound may be weakened -/
theorem weaken {x : W α} {T T' : Ticks} {Q : α → Prop} (h : Covers False p x T Q) (hT : ∀ j, p j → T j ≤ T' j) : Covers False p x T' Q :=
  ⟨fun j hj => Nat.le_trans (h.1 j hj) (hT j hj), fun a ea => ⟨False.elim, (h.2 a ea).2⟩⟩

theorem imp {x : W α} {T : Ticks} {Q Q' : α → Prop} (h : Covers e p x T Q) (hQ : ∀ a, Q a → Q' a) : Covers e p x T Q' :=
  ⟨h.1, fun a ea => ⟨(h.2 a ea).1, hQ a (h.2 a ea).2⟩⟩

/-- the postcondition may speak of the value as the one returned -/
theorem val {x : W α} {T : Ticks} {Q : α → Prop} (h : Covers e p x T Q) : Covers e p x T fun a => x.1 = some a ∧ Q a :=
  ⟨h.1, fun a ea => ⟨(h.2 a ea).1, ea, (h.2 a ea).2⟩⟩

/-- ticks paid only on return: the model is conditional on the return -/
theorem of_pays {x : W α} {t : Ticks} (h : ∀ j, p j → Pays x j (t j)) :
    Covers e p x (fun j => if x.1.isSome then t j else 0) fun a => x.1 = some a :=
  ⟨fun j hj => Nat.le_of_eq (h j hj), fun _ ea => ⟨fun _ => h, ea⟩⟩

/-- a bound found by other means -/
theorem of_le {x : W α} {T : Ticks} (h : ∀ j, p j → x.2 j ≤ T j) : Covers False p x T fun a => x.1 = some a :=
  ⟨h, fun _ ea => ⟨False.elim, ea⟩⟩

theorem opt (o : Option α) {f : α → W β} {T : Ticks} {Q : β → Prop} (h : ∀ a, o = some a → Covers e p (f a) T Q) :
    Covers e p (o >>== f) T Q := by
  cases o with
  | none => exact raise
  | some a =>
    unfold Covers
    simp only [bnd_some, Nat.zero_add]
    exact h a rfl

/-- sequencing: the models add; the continuation is covered under the postcondition of the first part -/
theorem bind {x : W α} {f : α → W β} {T1 T2 : Ticks} {Q1 : α → Prop} {Q : β → Prop}
    (hx : Covers e p x T1 Q1) (hf : ∀ a, Q1 a → Covers e p (f a) T2 Q) : Covers e p (x >>== f) (fun j => T1 j + T2 j) Q := by
  unfold Covers
  simp only [bnd_w_snd, bnd_w_fst]
  cases hx1 : x.1 with
  | none => exact ⟨fun j hj => Nat.add_le_add (hx.1 j hj) (Nat.zero_le _), fun _ ea => nomatch ea⟩
  | some a =>
    obtain ⟨ex, qa⟩ := hx.2 a hx1
    have := hf a qa
    exact ⟨fun j hj => Nat.add_le_add (hx.1 j hj) (this.1 j hj),
      fun r er => ⟨fun he j hj => by rw [ex he j hj]; exact congrArg _ ((this.2 r er).1 he j hj), (this.2 r er).2⟩⟩

/-- … followed by a `return` -/
theorem bind_ret {x : W α} {g : α → β} {T : Ticks} {Q1 : α → Prop} {Q : β → Prop}
    (hx : Covers e p x T Q1) (hg : ∀ a, Q1 a → Q (g a)) : Covers e p (x >>== fun a => W.ret (g a)) T Q :=
  (hx.bind fun a qa => ret (hg a qa)).cast fun _ _ => Nat.add_zero _

theorem ite {c : Prop} [Decidable c] {x y : W α} {T : Ticks} {Q : α → Prop} (hx : c → Covers e p x T Q) (hy : ¬c → Covers e p y T Q) :
    Covers e p (if c then x else y) T Q :=
  ite_pred (P := fun x => Covers e p x T Q) hx hy

/-- THE LOOP RULE.  `T xs s` is the model's account of the iterations over `xs` from the state `s`.  An iteration, with a model `Tb` of
its own, that returns does not `break`, keeps the invariant and leaves the rest of `T (x :: xs) s` to the state it returns; one that
raises stays within `T (x :: xs) s`. -/
theorem loop (k : Nat) (f : ι → σ → W (σ × Bool)) (Inv : List ι → σ → Prop) (T : List ι → σ → Ticks)
    (h0 : ∀ s, Inv [] s → ∀ j, T [] s j = 0)
    (hs : ∀ x xs s, Inv (x :: xs) s → ∃ Tb,
      Covers e p (f x s) Tb (fun r => r.2 = false ∧ Inv xs r.1 ∧
        ∀ j, p j → T (x :: xs) s j = (if j = k then 1 else 0) + (Tb j + T xs r.1 j)) ∧
      ∀ j, p j → (if j = k then 1 else 0) + Tb j ≤ T (x :: xs) s j) :
    ∀ xs s, Inv xs s → Covers e p (loopW? k xs s f) (T xs s) (Inv []) := by
  intro xs
  induction xs with
  | nil => intro s hi; exact (ret hi).cast fun j _ => (h0 s hi j).symm
  | cons x xs ih =>
    intro s hi
    obtain ⟨Tb, hb, hle⟩ := hs x xs s hi
    unfold Covers
    simp only [loopW_cons_snd, loopW_cons_fst]
    cases hfx : (f x s).1 with
    | none =>
      exact ⟨fun j hj => Nat.le_trans (Nat.add_le_add_left (Nat.add_le_add (hb.1 j hj) (Nat.le_refl 0)) _) (hle j hj), fun _ ea => nomatch ea⟩
    | some r =>
      obtain ⟨ex, nb, hi', eT⟩ := hb.2 r hfx
      have := ih r.1 hi'
      simp only [nb, Bool.false_eq_true, if_false, Option.bind_some]
      exact ⟨fun j hj => by rw [eT j hj]; exact Nat.add_le_add_left (Nat.add_le_add (hb.1 j hj) (this.1 j hj)) _,
        fun a ea => ⟨fun he j hj => by rw [ex he j hj, eT j hj, (this.2 a ea).1 he j hj], (this.2 a ea).2⟩⟩

/-- one iteration (`a`, model `c`) and the rest of the loop (`b`, model `n` own ticks and `d`) -/
theorem step_le {j k n a b c d : Nat} (h1 : a ≤ c) (h2 : b ≤ (if j = k then n else 0) + d) :
    (if j = k then 1 else 0) + (a + b) ≤ (if j = k then n + 1 else 0) + (c + d) := by
  by_cases h : j = k <;> simp only [h, if_true, if_false] at h2 ⊢ <;> omega

theorem step_eq {j k n a b c d : Nat} (h1 : a = c) (h2 : b = (if j = k then n else 0) + d) :
    (if j = k then 1 else 0) + (a + b) = (if j = k then n + 1 else 0) + (c + d) := by
  by_cases h : j = k <;> simp only [h, if_true, if_false] at h2 ⊢ <;> omega

/-- a loop whose iteration over `x` costs `c x` whatever the state, under an invariant of the state -/
theorem loop_inv (k : Nat) (f : ι → σ → W (σ × Bool)) (Inv : σ → Prop) (c : ι → Ticks)
    (hf : ∀ x s, Inv s → Covers e p (f x s) (c x) fun r => r.2 = false ∧ Inv r.1) (xs : List ι) (s : σ) (hi : Inv s) :
    Covers e p (loopW? k xs s f) (fun j => (if j = k then xs.length else 0) + (xs.map (c · j)).sum) Inv := by
  exact loop k f (fun _ => Inv) (fun xs _ j => (if j = k then xs.length else 0) + (xs.map (c · j)).sum) (fun _ _ j => by simp)
    (fun x xs s hi => ⟨c x, (hf x s hi).imp fun r hr => ⟨hr.1, hr.2, fun j _ => (step_eq rfl rfl).symm⟩,
      fun j _ => step_le (Nat.le_refl _) (Nat.zero_le _)⟩) xs s hi

/-- … whose iterations tick nothing: one tick of `k` per element -/
theorem loop_len (k : Nat) (f : ι → σ → W (σ × Bool)) (Inv : σ → Prop)
    (hf : ∀ x s, Inv s → Covers e p (f x s) (fun _ => 0) fun r => r.2 = false ∧ Inv r.1) (xs : List ι) (s : σ) (hi : Inv s) :
    Covers e p (loopW? k xs s f) (fun j => if j = k then xs.length else 0) Inv :=
  (loop_inv k f Inv (fun _ _ => 0) hf xs s hi).cast fun j _ => by rw [List.map_const', List.sum_replicate_nat]; rfl

/-- a `for` loop without `break` whose iteration over `x` costs `c x`, under an invariant of the number of elements done and the state -/
theorem fold (k : Nat) (f : σ → ι → W σ) (Inv : Nat → σ → Prop) (c : ι → Ticks)
    (hf : ∀ i s x, Inv i s → Covers e p (f s x) (c x) (Inv (i + 1))) :
    ∀ (xs : List ι) (i : Nat) (s : σ), Inv i s →
      Covers e p (foldW? k f s xs) (fun j => (if j = k then xs.length else 0) + (xs.map (c · j)).sum) (Inv (i + xs.length)) := by
  intro xs
  induction xs with
  | nil => intro i s hi; exact (ret hi).cast fun j _ => by simp
  | cons x xs ih =>
    intro i s hi
    have hb := hf i s x hi
    have ht : ∀ j, (W.tick k).2 j = if j = k then 1 else 0 := fun _ => rfl
    have t1 : (W.tick k).1 = some () := rfl
    unfold Covers
    simp only [foldW_cons, bind_snd, bind_fst, ht, t1, Option.bind_some, List.length_cons, List.map_cons, List.sum_cons]
    cases hfx : (f s x).1 with
    | none => exact ⟨fun j hj => step_le (hb.1 j hj) (Nat.zero_le _), fun _ ea => nomatch ea⟩
    | some r =>
      obtain ⟨ex, hi'⟩ := hb.2 r hfx
      have := ih (i + 1) r hi'
      rw [Nat.add_assoc, Nat.add_comm 1] at this
      exact ⟨fun j hj => step_le (hb.1 j hj) (this.1 j hj),
        fun a ea => ⟨fun he j hj => step_eq (ex he j hj) ((this.2 a ea).1 he j hj), (this.2 a ea).2⟩⟩

/-- … whose iterations tick nothing: one tick of `k` per element -/
theorem fold_len (k : Nat) (f : σ → ι → W σ) (Inv : Nat → σ → Prop)
    (hf : ∀ i s x, Inv i s → Covers e p (f s x) (fun _ => 0) (Inv (i + 1))) (xs : List ι) (i : Nat) (s : σ) (hi : Inv i s) :
    Covers e p (foldW? k f s xs) (fun j => if j = k then xs.length else 0) (Inv (i + xs.length)) :=
  (fold k f Inv (fun _ _ => 0) hf xs i s hi).cast fun j _ => by rw [List.map_const', List.sum_replicate_nat]; rfl

end Covers

end TonVerif.Proofs.SrcW
