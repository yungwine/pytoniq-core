/-
Assembly of the full C04 statement: `strictParse H (to_boc t) = some [toSCell t]`.
-/
import TonVerif.Proofs.BocSemEval
import TonVerif.Proofs.BocSemTree

namespace TonVerif.Proofs.BocSem
open TonVerif TonVerif.Model TonVerif.Spec.Boc TonVerif.Proofs.BocOrder TonVerif.Proofs.BocEmit TonVerif.Proofs.CellSpec

theorem specInfos_length (H : Bytes → Bytes) : ∀ (ts : List Cell) (ks : List Spec.SInfo), specInfos H ts = some ks → ks.length = ts.length
  | [], ks, h => by rw [specInfos] at h; cases h; rfl
  | t :: ts, ks, h => by
    rw [specInfos] at h
    simp only [Option.bind_eq_bind, Option.bind_eq_some_iff] at h
    obtain ⟨i, _, is, his, hq⟩ := h
    cases hq
    simp [specInfos_length H ts is his]

mutual
  /-- spec-valid typed trees are in the emitter's input domain -/
  theorem shape_of (H : Bytes → Bytes) : ∀ (t : Cell), TreeWF H t → Typed t → Shape t
    | .mk kind bits refs, wf, ty => by
      rw [TreeWF] at wf; rw [Typed] at ty; rw [Shape]
      obtain ⟨wfs, k, ks, _, hks, nwf⟩ := wf
      refine ⟨?_, fun h => (ty.1 h).1, shapes_of H refs wfs ty.2⟩
      rw [← specInfos_length H refs ks hks]
      exact nwf.nrefs
  theorem shapes_of (H : Bytes → Bytes) : ∀ (ts : List Cell), TreesWF H ts → TypedL ts → Shapes ts
    | [], _, _ => by rw [Shapes]; trivial
    | t :: ts, wf, ty => by
      rw [TreesWF] at wf; rw [TypedL] at ty; rw [Shapes]
      exact ⟨shape_of H t wf.1 ty.1, shapes_of H ts wf.2 ty.2⟩
end

/-- the bytes emitted along ANY valid order of the cells of a well-formed typed tree (the implementation's freedom) are accepted by
the FULL strict reader and decode to the same tree -/
theorem strictParse_anyOrder (H : Bytes → Bytes) (t : Cell) (wf : TreeWF H t) (ty : Typed t) (p : PCell)
    (hb : Cell.build H t = some p) (nc : NoCollision p) (ord : List PCell) (vo : ValidOrder p ord)
    (o : Opts) (hv : o.valid = true) (hn : ord.length < 2 ^ 32)
    (hP : (payloadOf (sizeW (orderRecs ord)) (orderRecs ord)).length * 2 < 2 ^ 64) :
    ∃ recs bs, flattenCells (indexMap ord) ord = some recs ∧ emit recs o = some bs ∧
      strictParse H bs = some [toSCell t] := by
  have okp := build_ok H t p (shape_of H t wf ty) hb
  obtain ⟨recs, bs, h1, h2, hflat⟩ := order_conforms p ord o hv okp vo hn hP
  obtain ⟨sem, hsc⟩ := sem_of_tree H t p wf ty hb
  refine ⟨recs, bs, h1, h2, ?_⟩
  rw [← hsc]
  exact strictParse_order H ord (ordOK_of_valid H p ord vo nc okp sem) p vo.root_first bs hflat

/-- in particular `to_boc`, which emits along the order `Cell.order` computes -/
theorem strictParse_toBoc (H : Bytes → Bytes) (t : Cell) (wf : TreeWF H t) (ty : Typed t) (p : PCell)
    (hb : Cell.build H t = some p) (nc : NoCollision p) (fuel : Nat) (ord : List PCell) (h : p.order fuel = some ord)
    (o : Opts) (hv : o.valid = true) (hn : ord.length < 2 ^ 32)
    (hP : (payloadOf (sizeW (orderRecs ord)) (orderRecs ord)).length * 2 < 2 ^ 64) :
    ValidOrder p ord ∧ ∃ bs, p.toBoc fuel o = some bs ∧ strictParse H bs = some [toSCell t] := by
  have vo := order_valid p fuel ord nc h
  obtain ⟨recs, bs, h1, h2, hs⟩ := strictParse_anyOrder H t wf ty p hb nc ord vo o hv hn hP
  exact ⟨vo, bs, by simp [PCell.toBoc, h, h1, h2], hs⟩

end TonVerif.Proofs.BocSem
