/-
From cells to records: a constructed cell's descriptor/data bytes form a well-formed record (`cell_arec_ok`), the
`indexes[ref]` lookups of `Cell.serialize` along a valid order give strictly forward indices (`flatten_order`), hence
`Cell.to_boc` as a whole is accepted by the byte-level strict reader (`toBoc_conforms`).
-/
import TonVerif.Proofs.BocEmit
import TonVerif.Proofs.BocOrder
namespace TonVerif.Proofs.BocEmit
open TonVerif TonVerif.Model TonVerif.Spec.Boc TonVerif.Proofs.BocOrder

/-- `{j: i for i, j in enumerate(cells)}` folded from index `k` on top of `m` -/
theorem indexFold_not_mem (cells : List PCell) : ∀ (k : Nat) (m : Std.HashMap Nat Nat) (key : Nat),
    key ∉ cells.map PCell.key →
    ((cells.zipIdx k).foldl (fun m (ci : PCell × Nat) => m.insert ci.1.key ci.2) m)[key]? = m[key]? := by
  induction cells with
  | nil => intro k m key _; simp
  | cons c cs ih =>
    intro k m key h
    simp only [List.map_cons, List.mem_cons, not_or] at h
    simp only [List.zipIdx_cons, List.foldl_cons]
    rw [ih (k + 1) _ key h.2, Std.HashMap.getElem?_insert]
    have : (c.key == key) = false := by simp; exact fun e => h.1 e.symm
    simp [this]

theorem indexFold_get (cells : List PCell) : ∀ (k : Nat) (m : Std.HashMap Nat Nat),
    (cells.map PCell.key).Nodup → ∀ key, key ∈ cells.map PCell.key →
    ((cells.zipIdx k).foldl (fun m (ci : PCell × Nat) => m.insert ci.1.key ci.2) m)[key]? =
      some (k + (cells.map PCell.key).idxOf key) := by
  induction cells with
  | nil => intro k m _ key h; simp at h
  | cons c cs ih =>
    intro k m nd key h
    simp only [List.map_cons, List.nodup_cons] at nd
    simp only [List.zipIdx_cons, List.foldl_cons, List.map_cons]
    by_cases hk : c.key = key
    · subst hk
      rw [indexFold_not_mem cs (k + 1) _ _ nd.1, Std.HashMap.getElem?_insert]
      simp
    · have hmem : key ∈ cs.map PCell.key := by
        simp only [List.map_cons, List.mem_cons] at h
        rcases h with h | h
        · exact absurd h.symm hk
        · exact h
      have hb : (c.key == key) = false := by simp [hk]
      rw [ih (k + 1) _ nd.2 key hmem, List.idxOf_cons, hb]
      simp; omega

def posOf (ord : List PCell) (k : Nat) : Nat := (ord.map PCell.key).idxOf k

theorem indexMap_get (ord : List PCell) (nd : (ord.map PCell.key).Nodup) (key : Nat) (h : key ∈ ord.map PCell.key) :
    (indexMap ord)[key]? = some (posOf ord key) := by
  unfold indexMap posOf
  rw [indexFold_get ord 0 ∅ nd key h]
  simp


def cellD1 (nrefs : Nat) (exotic : Bool) (mask : Nat) : Nat := nrefs + 8 * (if exotic then 1 else 0) + 32 * mask

theorem cellD1_digits (n : Nat) (e : Bool) (m : Nat) (hn : n < 8) :
    cellD1 n e m % 8 = n ∧ (cellD1 n e m / 8 % 2 == 1) = e ∧ cellD1 n e m / 16 % 2 = 0 ∧ cellD1 n e m / 32 = m := by
  obtain ⟨e1, e2, e3, e4⟩ := BocParse.d1_digits n (if e then 1 else 0) 0 m hn (BocParse.bit_lt e) (by omega)
  rw [Nat.mul_zero, Nat.add_zero] at e1 e2 e3 e4
  exact ⟨e1, by rw [cellD1, e2, BocParse.bit_beq], e3, e4⟩

/-- what the emitter needs of a constructed cell (all true of cells built from well-formed trees whose exotic cells
carry their type byte) -/
structure CellOK (c : PCell) : Prop where
  nrefs : c.info.nrefs = c.refs.length
  refs_le : c.refs.length ≤ 4
  bits_le : c.info.bits.length ≤ 1023
  mask_le : c.info.mask ≤ 7
  tagged : c.info.kind ≠ kOrdinary → 8 ≤ c.info.bits.length

/-- the record of a cell once its references have been replaced by indices `rs` -/
def cellARec (c : PCell) (rs : List Nat) : ARec :=
  ⟨cellD1 c.info.nrefs (c.info.kind != kOrdinary) c.info.mask, cellD2 c.info.bits.length, c.data, rs⟩

theorem cell_desc (c : PCell) (ok : CellOK c) :
    c.desc = some [cellD1 c.info.nrefs (c.info.kind != kOrdinary) c.info.mask, cellD2 c.info.bits.length] := by
  have h1 : cellD1 c.info.nrefs (c.info.kind != kOrdinary) c.info.mask < 256 := by
    have := ok.nrefs; have := ok.refs_le; have := ok.mask_le
    unfold cellD1; split <;> omega
  have h2 : cellD2 c.info.bits.length < 256 := by
    have := ok.bits_le
    unfold cellD2; split <;> omega
  unfold PCell.desc descriptors
  rw [show c.info.nrefs + 8 * (if (c.info.kind != kOrdinary) = true then 1 else 0) + 32 * c.info.mask =
    cellD1 c.info.nrefs (c.info.kind != kOrdinary) c.info.mask from rfl,
    show c.info.bits.length / 8 * 2 + (if (c.info.bits.length % 8 != 0) = true then 1 else 0) = cellD2 c.info.bits.length from rfl,
    CellSpec.toBytesBE_one _ h1, CellSpec.toBytesBE_one _ h2]
  rfl

theorem cell_arec_ok (c : PCell) (ok : CellOK c) (n : Nat) (rs : List Nat) (hlen : rs.length = c.refs.length)
    (hlt : ∀ j ∈ rs, j < n) : (cellARec c rs).OK n := by
  obtain ⟨d1, d2, d3, d4⟩ := data_ok c.info.bits
  have hn := ok.nrefs; have hr := ok.refs_le; have hm := ok.mask_le; have hb := ok.bits_le
  obtain ⟨e1, -, e3, -⟩ := cellD1_digits c.info.nrefs (c.info.kind != kOrdinary) c.info.mask (by omega)
  refine ⟨?_, ?_, e1.trans (hn.trans hlen.symm), by simp [cellARec]; omega, e3, d1, d2, d3, ?_, hlt⟩
  · simp only [cellARec, cellD1]; split <;> omega
  · simp only [cellARec, cellD2]; split <;> omega
  · intro he
    show 8 ≤ (decodeBits (cellD2 c.info.bits.length) (dataBytes c.info.bits)).length
    rw [d4]
    apply ok.tagged
    intro hk
    simp only [cellARec, cellD1, hk, bne_self_eq_false, Bool.false_eq_true, if_false] at he
    omega

theorem cell_toSRec (c : PCell) (rs : List Nat) :
    (cellARec c rs).toSRec = ⟨cellD1 c.info.nrefs (c.info.kind != kOrdinary) c.info.mask, c.info.bits, rs⟩ := by
  simp only [ARec.toSRec, cellARec, PCell.data, (data_ok c.info.bits).2.2.2]

/-- the records of the cells of an order: references replaced by positions -/
def orderRecs (ord : List PCell) : List ARec :=
  ord.map (fun c => cellARec c (c.refs.map (fun r => posOf ord r.key)))

theorem idxOf_of_getElem? (l : List Nat) (nd : l.Nodup) (j : Nat) (x : Nat) (h : l[j]? = some x) : l.idxOf x = j := by
  induction l generalizing j with
  | nil => simp at h
  | cons a l ih =>
    rw [List.nodup_cons] at nd
    cases j with
    | zero => simp at h; subst h; simp
    | succ j =>
      simp at h
      have hx : x ∈ l := List.mem_of_getElem? h
      have hne : (a == x) = false := by
        simp; intro e; subst e; exact nd.1 hx
      rw [List.idxOf_cons, hne]
      simp [ih nd.2 j h]

theorem orderRecs_length (ord : List PCell) : (orderRecs ord).length = ord.length := by simp [orderRecs]

theorem orderRecs_pos {root : PCell} {ord : List PCell} (vo : ValidOrder root ord) : 1 ≤ (orderRecs ord).length := by
  obtain ⟨rest, rfl⟩ := vo.eq_cons
  simp [orderRecs]

/-- along a valid order, `Cell.serialize`'s index lookups succeed and produce well-formed, strictly forward records -/
theorem flatten_order (root : PCell) (ord : List PCell) (vo : ValidOrder root ord) (ok : ∀ c ∈ ord, CellOK c) :
    flattenCells (indexMap ord) ord = some ((orderRecs ord).map ARec.toRec) ∧
    (∀ a ∈ orderRecs ord, a.OK (orderRecs ord).length) ∧ Forward (orderRecs ord) := by
  have hpos : ∀ (i : Nat) (c : PCell), ord[i]? = some c → ∀ r ∈ c.refs,
      r.key ∈ ord.map PCell.key ∧ i < posOf ord r.key ∧ posOf ord r.key < ord.length := by
    intro i c hc r hr
    obtain ⟨j, hij, hj⟩ := vo.forward i c hc r hr
    have hj' : (ord.map PCell.key)[j]? = some r.key := by simpa using hj
    have := idxOf_of_getElem? _ vo.nodup j _ hj'
    have hlt : j < (ord.map PCell.key).length := by
      apply Nat.lt_of_not_le; intro hle
      rw [List.getElem?_eq_none hle] at hj'; cases hj'
    refine ⟨List.mem_of_getElem? hj', ?_, ?_⟩
    · unfold posOf; omega
    · unfold posOf; simp at hlt; omega
  refine ⟨?_, ?_, ?_⟩
  · unfold flattenCells orderRecs
    rw [List.map_map]
    apply BocParse.mapM_eq_map
    intro c hc
    obtain ⟨i, hi⟩ := List.mem_iff_getElem?.1 hc
    have hrefs : c.refs.mapM (fun r => (indexMap ord)[r.key]?) = some (c.refs.map (fun r => posOf ord r.key)) := by
      apply BocParse.mapM_eq_map
      intro r hr
      exact indexMap_get ord vo.nodup r.key (hpos i c hi r hr).1
    simp [cell_desc c (ok c hc), hrefs, ARec.toRec, cellARec]
  · intro a ha
    unfold orderRecs at ha ⊢
    obtain ⟨c, hc, rfl⟩ := List.mem_map.1 ha
    obtain ⟨i, hi⟩ := List.mem_iff_getElem?.1 hc
    apply cell_arec_ok c (ok c hc)
    · simp
    · intro j hj
      obtain ⟨r, hr, rfl⟩ := List.mem_map.1 hj
      simpa using (hpos i c hi r hr).2.2
  · intro i a hia j hj
    unfold orderRecs at hia
    simp only [List.getElem?_map, Option.map_eq_some_iff] at hia
    obtain ⟨c, hc, rfl⟩ := hia
    simp only [cellARec, List.mem_map] at hj
    obtain ⟨r, hr, rfl⟩ := hj
    exact (hpos i c hc r hr).2.1

/-- the record the strict reader recovers for a cell of the order -/
def cellSRec (ord : List PCell) (c : PCell) : SRec :=
  ⟨cellD1 c.info.nrefs (c.info.kind != kOrdinary) c.info.mask, c.info.bits, c.refs.map (fun r => posOf ord r.key)⟩

/-- along ANY valid order: the index lookups succeed, the layout is emitted, and the strict reader's byte-level layer decodes it
to one record per cell of the order and the single root 0 -/
theorem order_conforms (root : PCell) (ord : List PCell) (o : Opts) (hv : o.valid = true)
    (ok : ∀ c ∈ subcells root, CellOK c) (vo : ValidOrder root ord)
    (hn : ord.length < 2 ^ 32) (hP : (payloadOf (sizeW (orderRecs ord)) (orderRecs ord)).length * 2 < 2 ^ 64) :
    ∃ recs bs, flattenCells (indexMap ord) ord = some recs ∧ emit recs o = some bs ∧
      strictFlat bs = some ⟨ord.map (cellSRec ord), [0]⟩ := by
  obtain ⟨hfl, hok, hfw⟩ := flatten_order root ord vo (fun c hc => ok c (vo.sound c hc))
  obtain ⟨bs, he, _, hs⟩ := strictFlat_emit o (orderRecs ord) hv (orderRecs_pos vo) (by rw [orderRecs_length]; exact hn) hP hok hfw
  refine ⟨_, bs, hfl, he, ?_⟩
  rw [hs]
  simp [orderRecs, cellSRec, cell_toSRec, Function.comp_def]

/-- **`Cell.to_boc` end to end, byte level**: whenever the model of `Cell.order` returns (it does, with the driver's fuel:
`order_fuel_suffices`), under the local no-collision hypothesis and for cells within the format's limits, `to_boc` succeeds
for every valid option set and the strict reader's byte-level layer decodes the bytes to: one record per distinct cell in
the order, carrying that cell's d1 (refs count, exotic flag, level mask), its exact data bits, and for each reference the
position of the referenced cell — strictly greater than the cell's own position — and the single root 0. -/
theorem toBoc_conforms (root : PCell) (fuel : Nat) (ord : List PCell) (o : Opts) (hv : o.valid = true)
    (nc : NoCollision root) (ok : ∀ c ∈ subcells root, CellOK c) (h : root.order fuel = some ord)
    (hn : ord.length < 2 ^ 32) (hP : (payloadOf (sizeW (orderRecs ord)) (orderRecs ord)).length * 2 < 2 ^ 64) :
    ValidOrder root ord ∧ ∃ bs, root.toBoc fuel o = some bs ∧ strictFlat bs = some ⟨ord.map (cellSRec ord), [0]⟩ := by
  have vo := order_valid root fuel ord nc h
  obtain ⟨recs, bs, h1, h2, h3⟩ := order_conforms root ord o hv ok vo hn hP
  exact ⟨vo, bs, by simp [PCell.toBoc, h, h1, h2], h3⟩

/-! ### cells built from trees -/

theorem toBytesBE_one_lt (x : Nat) (bs : Bytes) (h : toBytesBE? 1 x = some bs) : x < 256 := by
  unfold toBytesBE? at h
  split at h
  · simpa using ‹x < 256 ^ 1›
  · cases h

theorem descriptors_limits (nrefs : Nat) (e : Bool) (len mask : Nat) (bs : Bytes)
    (h : descriptors nrefs e len mask = some bs) : mask ≤ 7 ∧ len ≤ 1023 := by
  unfold descriptors at h
  simp only [Option.bind_eq_bind, Option.bind_eq_some_iff] at h
  obtain ⟨d1, h1, d2, h2, _⟩ := h
  have := toBytesBE_one_lt _ _ h1
  have := toBytesBE_one_lt _ _ h2
  constructor
  · omega
  · split at this <;> omega

/-- every cell the constructor accepts is within the descriptor limits -/
theorem construct_limits (H : Bytes → Bytes) (kind : Int) (bits : Bits) (kis : List CellInfo) (i : CellInfo)
    (h : construct H kind bits kis = some i) :
    i.nrefs = kis.length ∧ i.bits = bits ∧ i.kind = kind ∧ i.bits.length ≤ 1023 ∧ i.mask ≤ 7 := by
  unfold construct at h
  simp only [Option.bind_eq_bind, Option.bind_eq_some_iff] at h
  obtain ⟨mask, _, st, _, d, hd, l, _, hi⟩ := h
  cases hi
  obtain ⟨hm, hl⟩ := descriptors_limits _ _ _ _ _ hd
  exact ⟨rfl, rfl, rfl, hl, hm⟩

mutual
  /-- input domain of the format: at most 4 references; an exotic cell's data starts with (at least) its type byte -/
  def Shape : Cell → Prop
    | .mk kind bits refs => refs.length ≤ 4 ∧ (kind ≠ kOrdinary → 8 ≤ bits.length) ∧ Shapes refs
  def Shapes : List Cell → Prop
    | [] => True
    | c :: cs => Shape c ∧ Shapes cs
end

/-- what `Cell.build` returning means at a node -/
theorem build_some {H : Bytes → Bytes} {kind : Int} {bits : Bits} {refs : List Cell} {p : PCell}
    (h : Cell.build H (.mk kind bits refs) = some p) :
    ∃ rs i, Cell.builds H refs = some rs ∧ construct H kind bits (rs.map PCell.info) = some i ∧ p = .mk i rs := by
  rw [Cell.build] at h
  simp only [Option.bind_eq_bind, Option.bind_eq_some_iff, Option.pure_def, Option.some.injEq] at h
  obtain ⟨rs, hrs, i, hi, rfl⟩ := h
  exact ⟨rs, i, hrs, hi, rfl⟩

theorem builds_cons_some {H : Bytes → Bytes} {t : Cell} {ts : List Cell} {ps : List PCell} (h : Cell.builds H (t :: ts) = some ps) :
    ∃ p ps', Cell.build H t = some p ∧ Cell.builds H ts = some ps' ∧ ps = p :: ps' := by
  rw [Cell.builds] at h
  simp only [Option.bind_eq_bind, Option.bind_eq_some_iff, Option.pure_def, Option.some.injEq] at h
  obtain ⟨p, hp, ps', hps, rfl⟩ := h
  exact ⟨p, ps', hp, hps, rfl⟩

mutual
  theorem build_ok (H : Bytes → Bytes) : ∀ (t : Cell) (p : PCell), Shape t → Cell.build H t = some p →
      ∀ c ∈ subcells p, CellOK c
    | .mk kind bits refs, p, sh, hb => by
      rw [Shape] at sh
      obtain ⟨rs, i, hrs, hi, rfl⟩ := build_some hb
      obtain ⟨h1, h2, h3, h4, h5⟩ := construct_limits H kind bits _ i hi
      have hlen := builds_length H refs rs hrs
      intro c hc
      rw [subcells] at hc
      rcases List.mem_cons.1 hc with rfl | hc
      · refine ⟨by simpa [PCell.info, PCell.refs] using h1, by simp [PCell.refs]; omega, h4, h5, ?_⟩
        intro hk
        simp only [PCell.info] at hk ⊢
        rw [h2]; rw [h3] at hk
        exact sh.2.1 hk
      · exact builds_ok H refs rs sh.2.2 hrs c hc
  theorem builds_ok (H : Bytes → Bytes) : ∀ (ts : List Cell) (ps : List PCell), Shapes ts → Cell.builds H ts = some ps →
      ∀ c ∈ subcellsList ps, CellOK c
    | [], ps, _, hb => by
      rw [Cell.builds] at hb; cases hb
      intro c hc; simp [subcellsList] at hc
    | t :: ts, ps, sh, hb => by
      rw [Shapes] at sh
      obtain ⟨p, ps', hp, hps, rfl⟩ := builds_cons_some hb
      intro c hc
      rw [subcellsList] at hc
      rcases List.mem_append.1 hc with hc | hc
      · exact build_ok H t p sh.1 hp c hc
      · exact builds_ok H ts ps' sh.2 hps c hc
  theorem builds_length (H : Bytes → Bytes) : ∀ (ts : List Cell) (ps : List PCell), Cell.builds H ts = some ps → ps.length = ts.length
    | [], ps, hb => by rw [Cell.builds] at hb; cases hb; rfl
    | t :: ts, ps, hb => by
      obtain ⟨p, ps', hp, hps, rfl⟩ := builds_cons_some hb
      simp [builds_length H ts ps' hps]
end

/-- `to_boc` on a tree of cells (`Model.Cell`, as in C01/C02): shape hypotheses instead of `CellOK` -/
theorem toBoc_conforms_tree (H : Bytes → Bytes) (t : Cell) (p : PCell) (sh : Shape t) (hb : Cell.build H t = some p)
    (nc : NoCollision p) (fuel : Nat) (ord : List PCell) (h : p.order fuel = some ord) (o : Opts) (hv : o.valid = true)
    (hn : ord.length < 2 ^ 32) (hP : (payloadOf (sizeW (orderRecs ord)) (orderRecs ord)).length * 2 < 2 ^ 64) :
    ValidOrder p ord ∧ ∃ bs, p.toBoc fuel o = some bs ∧ strictFlat bs = some ⟨ord.map (cellSRec ord), [0]⟩ :=
  toBoc_conforms p fuel ord o hv nc (build_ok H t p sh hb) h hn hP

end TonVerif.Proofs.BocEmit
