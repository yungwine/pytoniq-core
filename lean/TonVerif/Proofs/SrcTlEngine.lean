/-
The regenerated TL engine (Generated/TlEngine.lean, from pytoniq_core/tl/generator.py by harness/translate/tlengine.py)
equals the hand model Model/Tl.lean, for ALL tables, type strings, values and depth budgets.

Generation-independent part: the built-ins of PyTl.lean against the primitives of the model (`intToBytes?`, `repeatI`, `toBytesLE?`,
the framing computed step by step = `frame?`, the element loop of a vector = `serMany`, the field loop = `serBody`).
Generation-dependent part: `serialize_field_*`, `serialize_eq`, `src_serialize_rel`, `src_serialize_eq_model`, `block_*_eq` (block.py).
-/
import TonVerif.Generated.TlEngine
import TonVerif.Model.Tl
import TonVerif.Proofs.SrcTl
import TonVerif.Proofs.Tl

set_option linter.unusedSimpArgs false
set_option linter.unusedVariables false
namespace TonVerif.Proofs.SrcTlEngine
open TonVerif TonVerif.Spec.Tl TonVerif.Model.Tl TonVerif.Py.Tl TonVerif.Generated.TlEngine

/-! ### built-ins -/

theorem intToBytes_signed (w : Nat) (v : Int) : Py.Tl.intToBytes? true true w v = intToLE? w v := by
  unfold Py.Tl.intToBytes? intToLE? intLE
  by_cases h : -(2 ^ (8 * w - 1) : Int) ≤ v ∧ v < (2 ^ (8 * w - 1) : Int) <;> simp [h]

theorem intToBytes_unsigned (w : Nat) (v : Int) : Py.Tl.intToBytes? false true w v = natToLE? w v := by
  unfold Py.Tl.intToBytes? natToLE? intLE
  by_cases h : 0 ≤ v ∧ v < (2 ^ (8 * w) : Int) <;> simp [h]

theorem repeatI_zero (n : Int) : Py.Tl.repeatI [0] n = List.replicate n.toNat 0 := by
  unfold Py.Tl.repeatI
  induction n.toNat with
  | zero => rfl
  | succ k ih => simp [List.replicate_succ] at ih ⊢

theorem hexAscii_eq (b : Bytes) : Py.Tl.hexAscii b = Model.Tl.hexAscii b := rfl

/-- `n.to_bytes(w, 'little')` of a non-negative int -/
theorem toBytesLE?_eq (w n : Nat) : toBytesLE? w n = if n < 256 ^ w then some (natToLE w n) else none := by
  unfold toBytesLE? toBytesBE?
  by_cases h : n < 256 ^ w <;> simp [h, Proofs.SrcTl.natToLE_eq]

/-- the model's `to_bytes(w, 'little', signed=False)` on a non-negative int -/
theorem natToLE?_ofNat (w n : Nat) : natToLE? w (n : Int) = if n < 256 ^ w then some (natToLE w n) else none := by
  unfold natToLE? intLE
  have e0 : (256 : Nat) ^ w = 2 ^ (8 * w) := by rw [show (256 : Nat) = 2 ^ 8 by rfl, ← Nat.pow_mul]
  have e : (2 : Int) ^ (8 * w) = ((256 ^ w : Nat) : Int) := by rw [e0]; push_cast; rfl
  rw [e]
  by_cases h : n < 256 ^ w
  · have h' : (n : Int) < ((256 ^ w : Nat) : Int) := by exact_mod_cast h
    have : ((n : Int) % ((256 ^ w : Nat) : Int)).toNat = n := by
      rw [Int.emod_eq_of_lt (by omega) h']; simp
    rw [if_pos ⟨by omega, h'⟩, if_pos h, this]
  · have h' : ¬ (n : Int) < ((256 ^ w : Nat) : Int) := by intro hh; exact h (by exact_mod_cast hh)
    rw [if_neg (fun hh => h' hh.2), if_neg h]

theorem natToLE?_eq_toBytesLE? (w n : Nat) : natToLE? w (n : Int) = toBytesLE? w n := by
  rw [natToLE?_ofNat, toBytesLE?_eq]

/-- the framing as `serialize_field` computes it (the text of the regenerated code with `b` for `getBytes value`, its `let`s
unfolded; `v` is the value carried along): header by `to_bytes`, content, zero padding -/
theorem frame_core (b : Bytes) (v : Val) :
    ((if b.length ≤ 253 then (toBytesLE? 1 b.length).bind fun bytes_5 => some bytes_5
        else (toBytesLE? 3 b.length).bind fun bytes_6 => some ([254] ++ bytes_6)).bind fun x =>
      (if ¬(x ++ b).length % 4 = 0 then some (x ++ b ++ repeatI [0] (((4 : Nat) : Int) - (((x ++ b).length % 4 : Nat) : Int)))
        else some (x ++ b)).bind fun x => some (x, v)) = (frame? b).bind fun x => some (x, v) := by
  unfold frame? frame
  simp only [toBytesLE?_eq, repeatI_zero]
  by_cases h1 : b.length ≤ 253
  · have h2 : b.length < 256 ^ 1 := by omega
    have h3 : b.length < 2 ^ 24 := by omega
    have e5 : (4 - (1 + ((b.length : Nat) : Int)) % 4).toNat = 4 - (1 + b.length) % 4 := by omega
    simp [h1, h2, h3, Proofs.Tl.natToLE_length, e5]
    split <;> rfl
  · by_cases h2 : b.length < 256 ^ 3
    · have h3 : b.length < 2 ^ 24 := by omega
      have e4 : (3 + b.length + 1) % 4 = b.length % 4 := by omega
      have e5 : (4 - ((b.length : Nat) : Int) % 4).toNat = 4 - b.length % 4 := by omega
      simp [h1, h2, h3, Proofs.Tl.natToLE_length, e4, e5]
      split <;> rfl
    · have h3 : ¬ b.length < 2 ^ 24 := by omega
      simp [h1, h2, h3]

/-- respellings of the one-byte-length test -/
theorem lt_254 (n : Nat) : (n < 254) = (n ≤ 253) := by simp only [eq_iff_iff]; omega

/-- the element loop of a vector: accumulating `temp += f v` is the model's `serMany` -/
theorem foldlM_serMany (f : Val → Option Bytes) (vs : List Val) (acc : Bytes) :
    List.foldlM (m := Option) (fun (temp : Bytes) (v : Val) => (f v).bind fun c => some (temp ++ c)) acc vs =
      (serMany f vs).bind fun els => some (acc ++ els) := by
  induction vs generalizing acc with
  | nil => simp [serMany]
  | cons v vs ih =>
    simp only [List.foldlM_cons, serMany]
    cases f v with
    | none => simp
    | some b =>
      simp only [Option.bind_some, ih]
      cases serMany f vs <;> simp

/-- how the regenerated `serialize` (a `Val` for the dict, `Option Ctor` for the schema) relates to the model's `serObj` -/
def SerRel (ser : Option Ctor → Val → Bool → Option Bytes) (ser' : Ctor → Fields → Bool → Option Bytes) : Prop :=
  (∀ v b, ser none v b = none) ∧ ∀ c v b, ser (some c) v b = (objFields? c v).bind (fun fs => ser' c fs b)

/-! ### `serialize_field` -/

theorem little_id_eq (c : Ctor) : little_id (Py.Tl.idBytes c) = some (natToLE 4 c.id) := by
  simp [little_id, Py.Tl.idBytes]

theorem serialize_field_fixed (T : Table) (ser) (recf) (e : ETy) (v : Val)
    (he : e = .int ∨ e = .long ∨ e = .nat ∨ e = .int128 ∨ e = .int256 ∨ e = .bool) :
    serialize_field T ser recf (TyS.base e) v = serFixed e v := by
  rcases he with rfl | rfl | rfl | rfl | rfl | rfl <;>
  cases v <;>
  simp [serialize_field, baseKey, baseLen, TyS.base, serFixed, fixedLen, isBool, getBool, isBytes, isInt, isStr, getBytes, getInt, fromHex?,
    intToBytes_signed, intToBytes_unsigned, repeatI_zero, Py.slice, Option.bind_assoc]
  all_goals first | omega | (rename_i b; cases b <;> rfl)

/-- `bytes`/`string`: the branch of `serialize_field` for the two framed base types is selected and its framing rewritten by
`frame_core` once, while the value is still a variable; what is left per kind of value is a few `isX`/`getX` tests.  Only a dict value reaches `serialize`. -/
theorem serialize_field_bytes (T : Table) (ser) (ser') (recf) (e : ETy) (v : Val) (h : isDict v = true → SerRel ser ser')
    (he : e = .bytes ∨ e = .string) :
    serialize_field T ser recf (TyS.base e) v = serOne T ser' e v := by
  rcases he with rfl | rfl <;>
  simp only [serialize_field, baseKey, baseLen, TyS.base, Option.isNone_none, Bool.not_false, Bool.and_self, ↓reduceIte, ne_eq,
    not_true_eq_false, reduceCtorEq, false_and, or_false, true_and, TyS.mk.injEq, or_true, List.nil_append, frame_core] <;>
  cases v with
  | obj ty fs =>
    obtain ⟨h0, h1⟩ := h rfl
    cases ty with
    | none => simp [serOne, isStr, isDict, hasType, isBytes]
    | some n =>
      simp only [isStr, isDict, hasType, typeOf?, and_self, if_true, if_false, Bool.false_eq_true, Option.bind_some,
        Option.bind_assoc, decide_true, isBytes, getBytes, Option.bind_fun_some]
      cases hb : T.byName n with
      | none => simp [serOne, hb, h0]
      | some c =>
        rw [h1]
        cases hs : ser' c fs true <;> simp [serOne, hb, hs, objFields?]
  | _ =>
    simp only [isStr, isDict, isBytes, getBytes, encodeStr, Option.bind_some, Bool.false_eq_true, false_and, if_false, if_true,
      Option.bind_assoc, Option.bind_fun_some]
    rfl

theorem serialize_field_ref (T : Table) (ser) (ser') (recf) (h : SerRel ser ser') (e : ETy) (v : Val)
    (he : (∃ n, e = .bare n) ∨ (∃ cl, e = .boxed cl) ∨ e = .unsup) :
    serialize_field T ser recf (TyS.base e) v = serOne T ser' e v := by
  obtain ⟨h0, h1⟩ := h
  rcases he with ⟨n, rfl⟩ | ⟨cl, rfl⟩ | rfl
  · cases hb : T.byName n <;>
      simp [serialize_field, baseKey, TyS.base, TyS.classOf, TyS.isParen, TyS.ctorOf, serOne, hb, h0, h1, Option.bind_assoc]
  · cases hc : T.byClass cl with
    | nil => simp [serialize_field, baseKey, TyS.base, TyS.classOf, TyS.isParen, TyS.ctorOf, serOne, hc, h0]
    | cons c rest =>
      cases rest with
      | nil => simp [serialize_field, baseKey, TyS.base, TyS.classOf, TyS.isParen, TyS.ctorOf, serOne, hc, h1, Option.bind_assoc]
      | cons c2 rest =>
        cases v with
        | obj ty fs =>
          cases ty with
          | none => simp [serialize_field, baseKey, TyS.base, TyS.classOf, serOne, hc, isBytes, isDict, hasType]
          | some m =>
            cases hb : T.byName m <;>
            simp [serialize_field, baseKey, TyS.base, TyS.classOf, serOne, hc, isBytes, isDict, hasType, typeOf?, hb, h0, h1, objFields?, Option.bind_assoc]
        | _ => simp [serialize_field, baseKey, TyS.base, TyS.classOf, serOne, hc, isBytes, isDict, hasType, getBytes]
  · simp [serialize_field, baseKey, TyS.base, TyS.classOf, TyS.isParen, TyS.ctorOf, serOne, h0]

/-- `serialize_field` on a non-vector type string = the model's `serOne` (whatever it calls for vector elements) -/
theorem serialize_field_one (T : Table) (ser) (ser') (recf) (h : SerRel ser ser') (e : ETy) (v : Val) :
    serialize_field T ser recf (TyS.base e) v = serOne T ser' e v := by
  cases e with
  | bytes => exact serialize_field_bytes T ser ser' recf _ v (fun _ => h) (Or.inl rfl)
  | string => exact serialize_field_bytes T ser ser' recf _ v (fun _ => h) (Or.inr rfl)
  | bare n => exact serialize_field_ref T ser ser' recf h _ v (Or.inl ⟨n, rfl⟩)
  | boxed cl => exact serialize_field_ref T ser ser' recf h _ v (Or.inr (Or.inl ⟨cl, rfl⟩))
  | unsup => exact serialize_field_ref T ser ser' recf h _ v (Or.inr (Or.inr rfl))
  | _ => rw [serialize_field_fixed T ser recf _ v (by simp)]; simp [serOne]

/-- a vector: the count by `to_bytes(4, 'little', signed=False)`, then the loop over the elements -/
theorem serialize_field_vec (T : Table) (ser) (recf) (ty : ETy) (vs : List Val) :
    serialize_field T ser recf ⟨none, true, ty⟩ (.list vs) =
      (toBytesLE? 4 vs.length).bind fun y =>
      (List.foldlM (m := Option) (fun x v => (recf ⟨none, false, ty⟩ v).bind fun c => some (x ++ c)) y vs) := by
  simp [serialize_field, baseKey, TyS.classOf, TyS.isParen, TyS.isVector, TyS.elem, listLen?, listItems?, Option.bind_assoc]

theorem serialize_field_nonlist (T : Table) (ser) (recf) (ty : ETy) (v : Val) (hv : ∀ vs, v ≠ .list vs) :
    serialize_field T ser recf ⟨none, true, ty⟩ v = none := by
  cases v with
  | list vs => exact absurd rfl (hv vs)
  | _ => simp [serialize_field, baseKey, TyS.classOf, TyS.isParen, TyS.isVector, listLen?]

/-- `serialize_field` on the type string of a field, given that its recursive call (for the elements of a vector) is the model's
`serOne`, = the model's `serArg` -/
theorem serialize_field_arg (T : Table) (ser) (ser') (recf) (h : SerRel ser ser')
    (hel : ∀ e x, recf (TyS.base e) x = serOne T ser' e x) (a : Arg) (v : Val) :
    serialize_field T ser recf ⟨none, a.vec, a.ty⟩ v = serArg T ser' a v := by
  obtain ⟨name, cond, vec, ty⟩ := a
  cases vec with
  | false => simpa [serArg, TyS.base] using serialize_field_one T ser ser' _ h ty v
  | true =>
    cases v with
    | list vs =>
      have hel' : ∀ x, recf ⟨none, false, ty⟩ x = serOne T ser' ty x := fun x => hel ty x
      simp only [serialize_field_vec, serArg, hel', foldlM_serMany, if_true, natToLE?_eq_toBytesLE?]
      rfl
    | _ => rw [serialize_field_nonlist _ _ _ _ _ (by intro vs hh; cases hh)]; simp [serArg]

/-! ### `serialize` -/

/-- one iteration of the field loop of `serialize` as the model takes it -/
def bodyStep (T : Table) (ser' : Ctor → Fields → Bool → Option Bytes) (fs : Fields) (result : Bytes) (a : Arg) : Option Bytes :=
  match fs.lookup a.name with
  | none => if a.cond.isSome then some result else none
  | some v => (serArg T ser' a v).bind fun b => some (result ++ b)

theorem foldlM_serBody (T : Table) (ser') (fs : Fields) (step : Bytes → Arg → Option Bytes)
    (h : ∀ r a, step r a = bodyStep T ser' fs r a) (args : List Arg) (acc : Bytes) :
    List.foldlM (m := Option) step acc args = (serBody T ser' args fs).bind fun b => some (acc ++ b) := by
  induction args generalizing acc with
  | nil => simp [serBody]
  | cons a as ih =>
    simp only [List.foldlM_cons, serBody, h, bodyStep]
    cases hl : fs.lookup a.name with
    | none =>
      cases hc : a.cond.isSome with
      | false => simp
      | true => simp [ih]
    | some v =>
      simp [Option.bind_assoc, ih]

theorem foldlM_nondict {α : Type} (step : Bytes → α → Option Bytes) (h : ∀ r a, step r a = none) (args : List α) (acc : Bytes) :
    List.foldlM (m := Option) step acc args = if args.isEmpty then some acc else none := by
  cases args with
  | nil => simp
  | cons a as => simp [h]

/-- `serialize(schema, data, boxed)` = the model's `serObj` one level up, given the model's `serArg` for `serialize_field` -/
theorem serialize_eq (T : Table) (ser') (recf : TyS → Val → Option Bytes)
    (hf : ∀ (a : Arg) v, recf ⟨none, a.vec, a.ty⟩ v = serArg T ser' a v) (c : Ctor) (data : Val) (boxed : Bool) :
    Generated.TlEngine.serialize T recf (some c) data boxed =
      (objFields? c data).bind fun fs => (serBody T ser' c.args fs).map (fun b => (if boxed then natToLE 4 c.id else []) ++ b) := by
  unfold Generated.TlEngine.serialize
  cases data with
  | obj ty fs =>
    cases boxed <;>
    · simp only [little_id_eq, Option.bind_some, objFields?, if_true, if_false, Bool.false_eq_true]
      rw [foldlM_serBody T ser' fs]
      · cases serBody T ser' c.args fs <;> simp
      · intro result a
        obtain ⟨name, cond, vec, ty'⟩ := a
        cases cond with
        | none => cases hl : fs.lookup name <;>
            simp [bodyStep, TyS.isCond, TyS.ofArg, TyS.strip, dictGet?, dictItem?, hl, hf ⟨name, none, vec, ty'⟩]
        | some cb => cases hl : fs.lookup name <;>
            simp [bodyStep, TyS.isCond, TyS.ofArg, TyS.strip, dictGet?, dictItem?, hl, hf ⟨name, some cb, vec, ty'⟩]
  | _ =>
    cases boxed <;>
    · simp only [little_id_eq, Option.bind_some, objFields?, if_true, if_false, Bool.false_eq_true]
      rw [foldlM_nondict]
      · cases hargs : c.args <;> simp [serBody]
      · intro r a; simp [TyS.isCond, dictGet?, dictItem?]

theorem serialize_none (T : Table) (recf : TyS → Val → Option Bytes) (data : Val) (boxed : Bool) :
    Generated.TlEngine.serialize T recf none data boxed = none := by
  unfold Generated.TlEngine.serialize
  cases boxed <;> simp

/-- THE TIE of the serialiser: for every table and every depth budget the regenerated `serialize` (with `serialize_field` and the
recursion through both) is the hand model's `serObj` -/
theorem src_serialize_rel (T : Table) (fuel : Nat) : SerRel (serializeF T fuel) (serObj T fuel) := by
  induction fuel with
  | zero =>
    refine ⟨fun v b => rfl, fun c v b => ?_⟩
    cases objFields? c v <;> simp [serializeF, serObj]
  | succ f ih =>
    refine ⟨fun v b => serialize_none T _ v b, fun c v b => ?_⟩
    have hf : ∀ (a : Arg) x, serializeFieldAt T (serializeF T f) ⟨none, a.vec, a.ty⟩ x = serArg T (serObj T f) a x :=
      fun a x => serialize_field_arg T _ _ _ ih (fun e y => serialize_field_one T _ _ _ ih e y) a x
    simp only [serializeF, serialize_eq T (serObj T f) _ hf, serObj]

theorem src_serialize_eq_model (T : Table) (fuel : Nat) (c : Ctor) (ty : Option Nat) (fs : Fields) (boxed : Bool) :
    serializeF T fuel (some c) (.obj ty fs) boxed = serObj T fuel c fs boxed := by
  rw [(src_serialize_rel T fuel).2]; simp [objFields?]

/-! ### block.py -/

theorem intToBytes_signed_be (w : Nat) (v : Int) : Py.Tl.intToBytes? true false w v = intToBE? w v := by
  unfold Py.Tl.intToBytes? intToBE? intToLE? intLE
  by_cases h : -(2 ^ (8 * w - 1) : Int) ≤ v ∧ v < (2 ^ (8 * w - 1) : Int) <;> simp [h]

theorem intOfBytes_signed_be (bs : Bytes) : Py.Tl.intOfBytes true false bs = intOfBE bs := by
  unfold Py.Tl.intOfBytes intOfBE intOfLE
  simp

theorem block_init_eq (w s q : Int) (r f : Bytes) : Block.init w s q r f = some ⟨w, s, q, r, f⟩ := by
  simp [Block.init]

theorem block_to_bytes_eq (b : BlockIdExt) :
    Block.to_bytes b.fileHash b.rootHash b.seqno b.shard b.workchain = b.toBytes := by
  simp [Block.to_bytes, BlockIdExt.toBytes, intToBytes_signed_be]

theorem block_from_bytes_eq (d : Bytes) : Block.from_bytes d = some (BlockIdExt.fromBytes d) := by
  simp [Block.from_bytes, block_init_eq, BlockIdExt.fromBytes, intOfBytes_signed_be, Py.slice, List.take_drop]

theorem block_eq_eq (a b : BlockIdExt) :
    Block.eq b a.fileHash a.rootHash a.seqno a.shard a.workchain = some (a.pyEq b) := by
  simp only [Block.eq, BlockIdExt.pyEq, ← bne_iff_ne, ← Bool.or_eq_true, Bool.or_assoc]
  split <;> simp [*]

theorem block_hash_eq (H : Int × Int × Int × Bytes × Bytes → Int) (a : BlockIdExt) :
    Block.hash H a.fileHash a.rootHash a.seqno a.shard a.workchain = some (a.pyHash H) := rfl

/-! ### block.py: the dict forms -/

/-- the Python dict that the model's `BlockDict` stands for (str keys as the numbers of PyTl.lean; the hashes are `.hex()` strings,
absent for a `BlockId`) -/
def dictVal (d : BlockDict) : Val :=
  .obj none ([(kWorkchain, .int d.workchain), (kShard, .int d.shard), (kSeqno, .int d.seqno)] ++
    (match d.rootHash with | some r => [(kRootHash, .hex r)] | none => []) ++
    (match d.fileHash with | some f => [(kFileHash, .hex f)] | none => []))

theorem block_to_dict_eq (b : BlockIdExt) :
    Block.to_dict b.fileHash b.rootHash b.seqno b.shard b.workchain = some (dictVal b.toDict) := rfl

theorem block_from_dict_eq (d : BlockDict) : Block.from_dict (dictVal d) = BlockIdExt.fromDict d := by
  obtain ⟨w, s, q, r, f⟩ := d
  cases r <;> cases f <;> rfl

theorem blockid_to_dict_eq (s : BlockId) : BlockIdS.to_dict s.seqno s.shard s.workchain = some (dictVal s.toDict) := rfl

theorem blockid_from_dict_eq (d : BlockDict) : BlockIdS.from_dict (dictVal d) = some (BlockId.fromDict d) := by
  obtain ⟨w, s, q, r, f⟩ := d
  cases r <;> cases f <;> rfl

theorem blockid_init_eq (w s q : Int) : BlockIdS.init w s q = some ⟨w, s, q⟩ := by
  simp [BlockIdS.init]

end TonVerif.Proofs.SrcTlEngine
