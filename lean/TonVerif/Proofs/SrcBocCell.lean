/-
`Generated.BocHeader.cell_layout` (regenerated on every run from the statements of `Boc.deserialize_cell`,
pytoniq_core/boc/deserialize.py, that precede `bits = bitarray()`) equals the first part `cellLayout` of the hand model's cell
reader, and the hand model's `deserializeCell` is that first part followed by `cellRest` (Model/BocHeaderView.lean).
-/
import TonVerif.Model.BocHeaderView
import TonVerif.Proofs.SrcBytes
import TonVerif.Proofs.SrcArith

namespace TonVerif.Proofs.SrcBocCell
open TonVerif TonVerif.Model TonVerif.Model.BocParse TonVerif.Generated.BocHeader
open TonVerif.Proofs.SrcBytes

/-- the hand model's cell reader = layout part, then data bits / completion tag / exotic type / reference indices. -/
theorem deserializeCell_eq (data : Bytes) (refSize : Nat) :
    deserializeCell data refSize = (cellLayout data refSize).bind (cellRest data refSize) := by
  unfold deserializeCell cellLayout
  refine bind_eq_bind_bind fun d1 => ?_
  refine ite_rel (R := fun x (y : Option _) => x = y.bind _) Iff.rfl (fun _ => rfl) fun _ => ?_
  refine bind_eq_bind_bind fun d2 => ?_
  exact ite_rel (R := fun x (y : Option _) => x = y.bind _) Iff.rfl (fun _ => rfl) fun _ => rfl

/-- **the regenerated first part of `deserialize_cell` is the hand model's**, for every byte list and index width: the same
raise / continue decision (missing descriptor bytes, absent-cell marker, too few bytes for stored hashes + depths + data +
reference indices) and the same number of references, exotic flag, completion-tag flag, number of data bytes and start
position of the data (behind `popcount(level mask) + 1` stored hashes of 32 bytes and depths of 2 bytes, if present). -/
theorem src_cell_layout_eq (data : Bytes) (refSize : Nat) : cell_layout data refSize = cellLayout data refSize := by
  unfold cell_layout cellLayout
  refine Sim.eq (.bind_same fun d1 _ => ?_)
  have hh : decide (d1 &&& 16 ≠ 0) = (d1 / 16 % 2 == 1) := decide_eq_of_iff (and_pow_ne_zero_iff d1 4)
  have hx : decide (d1 &&& 8 ≠ 0) = (d1 / 8 % 2 == 1) := decide_eq_of_iff (and_pow_ne_zero_iff d1 3)
  simp only [hh, hx, and7, shiftRight_lit, Nat.reducePow, TonVerif.Proofs.SrcArith.py_popcount_eq]
  refine .guard (by simp) fun _ => .bind_same fun d2 _ => ?_
  have ha : decide (¬ d2 % 2 = 0) = (d2 % 2 == 1) := by
    rw [Bool.eq_iff_iff]; simp
  simp only [and1a, bne_iff_ne, ne_eq, ite_not, ha]
  refine .guard (by omega) fun _ => ?_
  cases d1 / 16 % 2 == 1 <;> exact .ret (by simp)

end TonVerif.Proofs.SrcBocCell
