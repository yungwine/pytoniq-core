/-
C01 helper: for trees of ORDINARY cells the spec collapses to the textbook representation hash
(tvm.pdf 3.1.4-3.1.5), and the model computes exactly that.
-/
import TonVerif.Model.Cell
import TonVerif.Spec.Cell
import TonVerif.Proofs.CellSpec

namespace TonVerif.Proofs.OrdCell
open TonVerif TonVerif.Model TonVerif.Proofs.CellSpec

mutual
  /-- depth of a tree: 0 without references, else 1 + the deepest child -/
  def ordDepth : Cell → Nat
    | .mk _ _ refs => if refs.isEmpty then 0 else 1 + ordDepthMax refs
  def ordDepthMax : List Cell → Nat
    | [] => 0
    | c :: cs => Nat.max (ordDepth c) (ordDepthMax cs)
end

mutual
  /-- standard representation hash of an ordinary cell:
      H( d1 d2 ++ padded data ++ depths of children (2 bytes each) ++ hashes of children ) -/
  def ordHash (H : Bytes → Bytes) : Cell → Bytes
    | .mk _ bits refs =>
      H ([Spec.d1 refs.length false 0, Spec.d2 bits.length] ++ Spec.dataBytes bits
          ++ ordDepthBytes refs ++ ordHashes H refs)
  def ordHashes (H : Bytes → Bytes) : List Cell → Bytes
    | [] => []
    | c :: cs => ordHash H c ++ ordHashes H cs
  def ordDepthBytes : List Cell → Bytes
    | [] => []
    | c :: cs => Spec.be2 (ordDepth c) ++ ordDepthBytes cs
end

mutual
  /-- every cell of the tree is ordinary and within the size limits -/
  def OrdWF : Cell → Prop
    | .mk kind bits refs => kind = -1 ∧ bits.length ≤ 1023 ∧ refs.length ≤ 4 ∧ OrdWFs refs
  def OrdWFs : List Cell → Prop
    | [] => True
    | c :: cs => OrdWF c ∧ OrdWFs cs
end

set_option linter.unusedSimpArgs false

/-- spec info `s` carries the textbook values of the ordinary tree `c` -/
def SGood (H : Bytes → Bytes) (c : Cell) (s : Spec.SInfo) : Prop :=
  s.mask = 0 ∧ ∀ l, s.hashAt l = ordHash H c ∧ s.depthAt l = ordDepth c

def Rel (H : Bytes → Bytes) : List Cell → List Spec.SInfo → Prop
  | [], [] => True
  | c :: cs, s :: ss => SGood H c s ∧ Rel H cs ss
  | _, _ => False

theorem natmax_eq (a b : Nat) : Nat.max a b = max a b := rfl

theorem Rel.length_eq (H : Bytes → Bytes) : ∀ {cs ss}, Rel H cs ss → ss.length = cs.length
  | [], [], _ => rfl
  | _ :: _, _ :: _, h => by simp [Rel.length_eq H h.2]
  | [], _ :: _, h => h.elim
  | _ :: _, [], h => h.elim

theorem Rel.mask (H : Bytes → Bytes) : ∀ {cs ss}, Rel H cs ss → ∀ s ∈ ss, s.mask = 0
  | [], [], _ => by simp
  | _ :: _, _ :: _, h => by
    intro s hs
    rcases List.mem_cons.mp hs with rfl | hs
    · exact h.1.1
    · exact Rel.mask H h.2 s hs
  | [], _ :: _, h => h.elim
  | _ :: _, [], h => h.elim

theorem Rel.foldMask (H : Bytes → Bytes) : ∀ {cs ss}, Rel H cs ss →
    ss.foldl (fun m (c : Spec.SInfo) => m ||| c.mask) 0 = 0
  | [], [], _ => rfl
  | _ :: _, _ :: _, h => by
    simp only [List.foldl_cons, h.1.1, Nat.or_zero]; exact Rel.foldMask H h.2
  | [], _ :: _, h => h.elim
  | _ :: _, [], h => h.elim

theorem Rel.childPart (H : Bytes → Bytes) (cl : Nat) : ∀ {cs ss}, Rel H cs ss →
    (ss.map (fun c => Spec.be2 (c.depthAt cl))).flatten = ordDepthBytes cs ∧
    (ss.map (fun c => c.hashAt cl)).flatten = ordHashes H cs
  | [], [], _ => by simp [ordDepthBytes, ordHashes]
  | c :: cs, s :: ss, h => by
    obtain ⟨h1, h2⟩ := Rel.childPart H cl h.2
    simp only [List.map_cons, List.flatten_cons, ordDepthBytes, ordHashes, h1, h2, (h.1.2 cl).1, (h.1.2 cl).2]
    first | exact ⟨rfl, rfl⟩ | trivial
  | [], _ :: _, h => h.elim
  | _ :: _, [], h => h.elim

theorem Rel.maxDepth (H : Bytes → Bytes) (cl : Nat) : ∀ {cs ss}, Rel H cs ss → ∀ a,
    (ss.map (fun c => c.depthAt cl)).foldl Nat.max a = max a (ordDepthMax cs)
  | [], [], _ => by intro a; simp [ordDepthMax]
  | c :: cs, s :: ss, h => by
    intro a
    simp only [List.map_cons, List.foldl_cons, ordDepthMax, Rel.maxDepth H cl h.2, (h.1.2 cl).2, natmax_eq]
    omega
  | [], _ :: _, h => h.elim
  | _ :: _, [], h => h.elim

theorem Rel.depth_le (H : Bytes → Bytes) (cl : Nat) : ∀ {cs ss}, Rel H cs ss →
    ∀ s ∈ ss, s.depthAt cl ≤ ordDepthMax cs
  | [], [], _ => by simp
  | c :: cs, s :: ss, h => by
    intro t ht
    simp only [ordDepthMax, natmax_eq]
    rcases List.mem_cons.mp ht with rfl | ht
    · rw [(h.1.2 cl).2]; omega
    · have := Rel.depth_le H cl h.2 t ht; omega
  | [], _ :: _, h => h.elim
  | _ :: _, [], h => h.elim

theorem bitLength_zero : bitLength 0 = 0 := by simp [bitLength]

/-- a cell of level 0 has one hash and one depth -/
theorem plainHashAt_zero (H : Bytes → Bytes) (k bits kids) (l : Nat) :
    Spec.plainHashAt H k bits kids 0 l = Spec.plainHashAt H k bits kids 0 0 :=
  (plainHashAt_skip H k bits kids 0).const 0 l (Nat.zero_le _) (fun _ _ _ => Nat.zero_testBit _)

theorem plainDepthAt_zero (k kids) (l : Nat) :
    Spec.plainDepthAt k kids 0 l = Spec.plainDepthAt k kids 0 0 :=
  (plainDepthAt_skip k kids 0).const 0 l (Nat.zero_le _) (fun _ _ _ => Nat.zero_testBit _)

/-- the spec node over good children is good -/
theorem node_good (H : Bytes → Bytes) (kind : Int) (bits : Bits) (refs : List Cell) (ss : List Spec.SInfo)
    (hrel : Rel H refs ss) : SGood H (.mk kind bits refs) (Spec.node H .ordinary bits ss) := by
  have hm : Spec.nodeMask .ordinary bits ss = 0 := Rel.foldMask H hrel
  have hlen := Rel.length_eq H hrel
  rw [node_plain H .ordinary bits ss (by decide), hm]
  refine ⟨rfl, ?_⟩
  intro l
  simp only
  rw [plainHashAt_zero, plainDepthAt_zero]
  obtain ⟨c1, c2⟩ := Rel.childPart H (0 + Spec.Kind.mu .ordinary) hrel
  constructor
  · simp only [Spec.plainHashAt, Spec.childPart, c1, c2, hlen, Spec.Kind.isExotic, ordHash, List.append_assoc]
  · simp only [Spec.plainDepthAt, Spec.depthOver, Spec.maxList, Rel.maxDepth H _ hrel, ordDepth]
    cases refs with
    | nil => cases ss with
      | nil => rfl
      | cons s ss => exact hrel.elim
    | cons c cs => cases ss with
      | nil => exact hrel.elim
      | cons s ss => simp

theorem node_wf (H : Bytes → Bytes) (kind : Int) (bits : Bits) (refs : List Cell) (ss : List Spec.SInfo)
    (hrel : Rel H refs ss) (hb : bits.length ≤ 1023) (hr : refs.length ≤ 4)
    (hd : ordDepth (.mk kind bits refs) ≤ 1023) : NodeWF H .ordinary bits ss where
  bitsLen := hb
  nrefs := by rw [Rel.length_eq H hrel]; exact hr
  kidsMask := by intro c hc; rw [Rel.mask H hrel c hc]; omega
  depthOk := by
    intro _ l
    rw [((node_good H kind bits refs ss hrel).2 l).2]; exact hd
  pruned := by intro h; cases h
  library := by intro h; cases h
  mproof := by intro h; cases h
  mupdate := by intro h; cases h

theorem ordDepthMax_le (kind : Int) (bits : Bits) (refs : List Cell)
    (hd : ordDepth (.mk kind bits refs) ≤ 1023) : ordDepthMax refs ≤ 1023 := by
  rw [ordDepth] at hd
  cases refs with
  | nil => simp [ordDepthMax]
  | cons c cs => simp at hd; omega

/-- one ordinary node over constructed, good children -/
theorem node_step (H : Bytes → Bytes) (kind : Int) (bits : Bits) (refs : List Cell)
    (is : List CellInfo) (ss : List Spec.SInfo)
    (hag : AllAgree is ss) (hrel : Rel H refs ss) (hb : bits.length ≤ 1023) (hr : refs.length ≤ 4)
    (hd : ordDepth (.mk kind bits refs) ≤ 1023) :
    ∃ i, construct H (-1) bits is = some i ∧ Agrees i (Spec.node H .ordinary bits ss) ∧
      i.kind = -1 ∧ i.bits = bits ∧ i.nrefs = refs.length ∧ i.mask = 0 ∧ i.hashes.length = 1 ∧
      i.hash = ordHash H (.mk kind bits refs) := by
  have wf := node_wf H kind bits refs ss hrel hb hr hd
  have hm : Spec.nodeMask .ordinary bits ss = 0 := Rel.foldMask H hrel
  obtain ⟨i, hc, hagree, hkind, hbits, hn⟩ := construct_agrees H .ordinary bits is ss hag wf
  -- with mask 0 the object caches the level-0 hash only
  have hi := construct_plain_eq H .ordinary bits is ss hag wf (by decide)
  rw [hc, hm, bitLength_zero] at hi
  cases hi
  exact ⟨_, hc, hagree, hkind, hbits, by rw [hn, hag.length_eq, Rel.length_eq H hrel], rfl, rfl,
    (construct_hash H .ordinary bits is ss hag wf _ hc).trans ((node_good H kind bits refs ss hrel).2 3).1⟩

theorem node_deep (H : Bytes → Bytes) (kind : Int) (bits : Bits) (refs : List Cell)
    (is : List CellInfo) (ss : List Spec.SInfo)
    (hag : AllAgree is ss) (hrel : Rel H refs ss)
    (hd : 1023 < ordDepth (.mk kind bits refs)) : construct H (-1) bits is = none := by
  apply construct_depth_limit H bits is ss hag
  refine ⟨0, ?_⟩
  rw [((node_good H kind bits refs ss hrel).2 0).2]; exact hd

mutual
  theorem ord_main (H : Bytes → Bytes) : ∀ (c : Cell), OrdWF c →
      (ordDepth c ≤ 1023 → ∃ i s, Cell.info H c = some i ∧ Agrees i s ∧ SGood H c s ∧ i.kind = -1 ∧
          i.hash = ordHash H c) ∧
      (1023 < ordDepth c → Cell.info H c = none)
    | .mk kind bits refs, wf => by
      rw [OrdWF] at wf
      obtain ⟨hkind, hb, hr, wfs⟩ := wf
      obtain ⟨ih1, ih2⟩ := ords_main H refs wfs
      subst hkind
      constructor
      · intro hd
        obtain ⟨is, ss, hi, hag, hrel⟩ := ih1 (ordDepthMax_le _ bits refs hd)
        obtain ⟨i, hc, hagree, hk, _, _, _, _, hh⟩ := node_step H (-1) bits refs is ss hag hrel hb hr hd
        exact ⟨i, _, by simp [Cell.info, hi, hc], hagree, node_good H (-1) bits refs ss hrel, hk, hh⟩
      · intro hd
        by_cases hmax : ordDepthMax refs ≤ 1023
        · obtain ⟨is, ss, hi, hag, hrel⟩ := ih1 hmax
          simp [Cell.info, hi, node_deep H (-1) bits refs is ss hag hrel hd]
        · simp [Cell.info, ih2 (by omega)]
  theorem ords_main (H : Bytes → Bytes) : ∀ (cs : List Cell), OrdWFs cs →
      (ordDepthMax cs ≤ 1023 → ∃ is ss, Cell.infos H cs = some is ∧ AllAgree is ss ∧ Rel H cs ss) ∧
      (1023 < ordDepthMax cs → Cell.infos H cs = none)
    | [], _ => ⟨fun _ => ⟨[], [], by simp [Cell.infos], trivial, trivial⟩, fun h => by simp [ordDepthMax] at h⟩
    | c :: cs, wf => by
      rw [OrdWFs] at wf
      obtain ⟨a1, a2⟩ := ord_main H c wf.1
      obtain ⟨b1, b2⟩ := ords_main H cs wf.2
      constructor
      · intro hd
        simp only [ordDepthMax, natmax_eq] at hd
        obtain ⟨i, s, hi, ha, hg, _⟩ := a1 (by omega)
        obtain ⟨is, ss, his, has, hrel⟩ := b1 (by omega)
        exact ⟨i :: is, s :: ss, by simp [Cell.infos, hi, his], ⟨ha, has⟩, ⟨hg, hrel⟩⟩
      · intro hd
        simp only [ordDepthMax, natmax_eq] at hd
        by_cases hc : 1023 < ordDepth c
        · simp [Cell.infos, a2 hc]
        · have := b2 (by omega)
          cases hinfo : Cell.info H c <;> simp [Cell.infos, hinfo, this]
end

theorem mapM_depth_bytes : ∀ {ks : List CellInfo} {ss : List Spec.SInfo}, AllAgree ks ss → ∀ l,
    (∀ s ∈ ss, s.depthAt l < 65536) →
    ks.mapM (fun r => (r.getDepth l).bind (toBytesBE? 2)) = some (ss.map (fun c => Spec.be2 (c.depthAt l)))
  | [], [], _, _, _ => rfl
  | i :: is, s :: ss, h, l, hb => by
    simp only [List.mem_cons, forall_eq_or_imp] at hb
    simp [List.mapM_cons, (h.1.2 l).2, toBytesBE_two _ hb.1, mapM_depth_bytes h.2 l hb.2]
  | [], _ :: _, h, _, _ => h.elim
  | _ :: _, [], h, _, _ => h.elim

/-! ### the C01 statements -/

/-- C01 (hash/depth): every ordinary tree of depth ≤ 1023 can be constructed; its mask is 0, and at EVERY
level its reported hash is the standard representation hash and its depth the standard depth. -/
theorem ord_info (H : Bytes → Bytes) (c : Cell) (wf : OrdWF c) (hd : ordDepth c ≤ 1023) :
    ∃ i, Cell.info H c = some i ∧ i.mask = 0 ∧ i.kind = -1 ∧ i.hash = ordHash H c ∧
      ∀ l, i.getHash l = some (ordHash H c) ∧ i.getDepth l = some (ordDepth c) := by
  obtain ⟨i, s, hi, hag, hg, hk, hh⟩ := (ord_main H c wf).1 hd
  refine ⟨i, hi, by rw [hag.1]; exact hg.1, hk, hh, ?_⟩
  intro l
  rw [(hag.2 l).1, (hag.2 l).2, (hg.2 l).1, (hg.2 l).2]
  exact ⟨rfl, rfl⟩

/-- C01 (depth limit): an ordinary tree deeper than 1023 cannot be constructed. -/
theorem ord_too_deep (H : Bytes → Bytes) (c : Cell) (wf : OrdWF c) (hd : 1023 < ordDepth c) :
    Cell.info H c = none :=
  (ord_main H c wf).2 hd

/-- C01 (explicit representation): `get_representation` of a constructed ordinary cell is the standard
representation, so `calculate_representation_hash()` equals the cached hash. -/
theorem ord_representation (H : Bytes → Bytes) (kind : Int) (bits : Bits) (refs : List Cell)
    (wf : OrdWF (.mk kind bits refs)) (hd : ordDepth (.mk kind bits refs) ≤ 1023) :
    ∃ i ks, Cell.info H (.mk kind bits refs) = some i ∧ Cell.infos H refs = some ks ∧
      (representation i ks).map H = some i.hash := by
  have wf' := wf
  rw [OrdWF] at wf'
  obtain ⟨hkind, hb, hr, wfs⟩ := wf'
  subst hkind
  have hmax := ordDepthMax_le _ bits refs hd
  obtain ⟨ks, ss, hi, hag, hrel⟩ := (ords_main H refs wfs).1 hmax
  obtain ⟨i, hc, hagree, hk, hbits, hn, hmask, hlen, hh⟩ := node_step H (-1) bits refs ks ss hag hrel hb hr hd
  refine ⟨i, ks, by simp [Cell.info, hi, hc], hi, ?_⟩
  have e1 : ((-1 : Int) != kOrdinary) = false := by decide
  have e2 : isMerkle (-1) = false := by decide
  have hdb : ∀ s ∈ ss, s.depthAt 0 < 65536 := by
    intro s hs
    have := Rel.depth_le H 0 hrel s hs
    omega
  obtain ⟨c1, c2⟩ := Rel.childPart H 0 hrel
  simp only [representation, hk, hbits, hn, hmask, hlen, e1, e2, bitLength_zero, Bool.false_eq_true, if_false,
    descriptors_eq refs.length false bits.length 0 hr hb (by omega), Nat.lt_irrefl,
    mapM_depth_bytes hag 0 hdb, hag.hashes, Option.bind_eq_bind, Option.bind_some, Option.pure_def, Option.map_some,
    c1, c2, hh, ordHash, dataBytes_eq]

theorem natOfBE_inj_aux : ∀ (a b : Bytes) (x y : Nat), Bytes.WF a → Bytes.WF b → a.length = b.length →
    a.foldl (fun acc b => acc * 256 + b) x = b.foldl (fun acc b => acc * 256 + b) y → x = y ∧ a = b
  | [], [], x, y, _, _, _, h => ⟨by simpa using h, rfl⟩
  | [], _ :: _, _, _, _, _, hl, _ => by simp at hl
  | _ :: _, [], _, _, _, _, hl, _ => by simp at hl
  | p :: ps, q :: qs, x, y, ha, hb, hl, h => by
    simp only [List.foldl_cons] at h
    have hp : p < 256 := ha p (by simp)
    have hq : q < 256 := hb q (by simp)
    have ha' : Bytes.WF ps := fun z hz => ha z (by simp [hz])
    have hb' : Bytes.WF qs := fun z hz => hb z (by simp [hz])
    obtain ⟨h1, h2⟩ := natOfBE_inj_aux ps qs _ _ ha' hb' (by simpa using hl) h
    have : x = y ∧ p = q := by omega
    exact ⟨this.1, by rw [this.2, h2]⟩

/-- `__hash__` (big-endian integer of the hash) is injective on 32-byte hashes -/
theorem natOfBE_inj (a b : Bytes) (ha : Bytes.WF a) (hb : Bytes.WF b) (hl : a.length = b.length)
    (h : natOfBE a = natOfBE b) : a = b :=
  (natOfBE_inj_aux a b 0 0 ha hb hl h).2

/-- C01 (equality): `==` compares the representation hashes; for `__hash__` (dict keys) see `pyHash_iff` -/
theorem pyEq_iff (a b : CellInfo) : a.pyEq b = true ↔ a.hash = b.hash := by
  simp [CellInfo.pyEq]

theorem pyHash_iff (a b : CellInfo) (ha : Bytes.WF a.hash) (hb : Bytes.WF b.hash)
    (hl : a.hash.length = b.hash.length) : a.pyHash = b.pyHash ↔ a.hash = b.hash := by
  constructor
  · intro h; exact natOfBE_inj _ _ ha hb hl h
  · intro h; simp only [CellInfo.pyHash, h]

/-! ### the byte strings of the children as flattened lists (for `c01_repr_injective`) -/

theorem ordDepthBytes_eq : ∀ (rs : List Cell), ordDepthBytes rs = (rs.map (fun c => Spec.be2 (ordDepth c))).flatten
  | [] => rfl
  | c :: cs => by simp [ordDepthBytes, ordDepthBytes_eq cs]

theorem ordHashes_eq (H : Bytes → Bytes) : ∀ (rs : List Cell), ordHashes H rs = (rs.map (ordHash H)).flatten
  | [] => rfl
  | c :: cs => by simp [ordHashes, ordHashes_eq H cs]

theorem ordHash_length (H : Bytes → Bytes) (h32 : ∀ x, (H x).length = 32) : ∀ c, (ordHash H c).length = 32
  | .mk _ _ _ => by rw [ordHash]; exact h32 _

end TonVerif.Proofs.OrdCell
